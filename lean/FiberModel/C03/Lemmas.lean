import FiberModel.C02.Link
import FiberModel.C03.Parse
/-
C03 — what the completeness induction rests on: tokens by kind (literal / parameter), the parts of
the `addParameterMetaInfo` invariant beyond C02's `MetaOK` and, drawn from them, the one relation
`Segs` between a token list and its segment list that the induction is stated over; `findParamLen`
and `paramLen` in front of a value; the configuration's normalisation (case folding,
trailing-slash step).
-/
namespace C03
open B C02

/-! The model's functions on token lists match `.lit` first and `_` after, so their equation on a
parameter token is no defining one: one lemma each, for `Pat.litParamInd`'s parameter case. -/

theorem fill_param (t : Tok) (rest : Pat) (ds : List Bytes) (ht : t.isParam = true) :
    fill (t :: rest) ds = ds.headD [] ++ fill rest ds.tail := by
  cases t <;> first | rfl | cases ht

theorem litOcc_param (K : Bytes) (t : Tok) (rest : Pat) (ht : t.isParam = true) :
    litOcc K (t :: rest) = litOcc K rest := by
  cases t <;> first | rfl | cases ht

/-- Σ `strings.Count(literal, K)` over the literals of a pattern: what `PartCount` holds -/
def litCount (K : Bytes) : Pat → Nat
  | [] => 0
  | .lit l :: rest => count l K + litCount K rest
  | _ :: rest => litCount K rest

theorem litCount_param (K : Bytes) (t : Tok) (rest : Pat) (ht : t.isParam = true) :
    litCount K (t :: rest) = litCount K rest := by
  cases t <;> first | rfl | cases ht

theorem slicesOf_param (t : Tok) (rest : Pat) (vs : List Bytes) (path : Bytes) (ht : t.isParam = true) :
    slicesOf (t :: rest) vs path =
      path.take (vs.headD []).length :: slicesOf rest vs.tail (path.drop (vs.headD []).length) := by
  cases t <;> first | rfl | cases ht

theorem cleanFillWith_param (key : Bytes → Bytes) (t : Tok) (rest : Pat) (v : Bytes) (vs : List Bytes)
    (ht : t.isParam = true) :
    cleanFillWith key (t :: rest) (v :: vs) =
      ((t.isOptional || !v.isEmpty) && (t.isGreedy || !v.contains SLASH) &&
       (match nextLit rest with
        | none => true
        | some l => indexOf (v ++ fill rest vs) (key l) == some v.length &&
            (!t.isGreedy || occ (v ++ fill rest vs) (key l) == litOcc (key l) rest)) &&
       cleanFillWith key rest vs) := by
  cases t <;> first | rfl | cases ht

theorem cleanFillWith_param_nil (key : Bytes → Bytes) (t : Tok) (rest : Pat) (ht : t.isParam = true) :
    cleanFillWith key (t :: rest) [] = false := by
  cases t <;> first | rfl | cases ht

/-- What `analyseParameterPart` makes of the parameter token `t`, before the meta information. -/
structure RawParam (t : Tok) (a : Seg) : Prop where
  isParam : a.isParam = true
  isGreedy : a.isGreedy = t.isGreedy
  isOptional : a.isOptional = t.isOptional
  constraints : a.constraints = []
  partCount : a.partCount = 0
  length : a.length = 0
  rawOK : RawOK a

theorem rawSegsOf_param (t : Tok) (rest : Pat) (wc pc : Nat) (ht : t.isParam = true) :
    ∃ a wc' pc', rawSegsOf (t :: rest) wc pc = a :: rawSegsOf rest wc' pc' ∧ RawParam t a := by
  cases t with
  | lit l => cases ht
  | named n o => exact ⟨_, wc, pc, rfl, rfl, rfl, rfl, rfl, rfl, rfl, by simp [RawOK]⟩
  | star => exact ⟨_, wc + 1, pc, rfl, rfl, rfl, rfl, rfl, rfl, rfl, by simp [RawOK]⟩
  | plus => exact ⟨_, wc, pc + 1, rfl, rfl, rfl, rfl, rfl, rfl, rfl, by simp [RawOK]⟩

/-- `IsLast` marks exactly the last segment; a parameter's `Length` is 0 when the segment behind it
    is not a non-greedy parameter (the one-character rule of `finishSeg_param` does not apply). -/
def MetaOK2 : List Seg → Prop
  | [] => True
  | s :: rest =>
    (s.isLast = true ↔ rest = []) ∧
    (s.isParam = true → nextNonGreedyParam rest = false → s.length = 0) ∧
    MetaOK2 rest

/-- third part of the `addParameterMetaInfo` invariant: a parameter with a non-empty `ComparePart`
    carries Σ `strings.Count(Const, ComparePart)` over the constants behind it. -/
def MetaOK3 : List Seg → Prop
  | [] => True
  | s :: rest =>
    (s.isParam = true → s.comparePart ≠ [] → s.partCount = partCountOf s.comparePart rest) ∧ MetaOK3 rest

/-- `MetaOK2` and `MetaOK3` read off what `addParameterMetaInfo ∘ markLast` makes of each segment
    (`C02.finish_eq`, `finishSeg_param`), for raw segments that are unmarked and whose parameters
    carry neither `Length` nor `PartCount` yet. -/
theorem finish_metaOK23 : (raw : List Seg) →
    (∀ s ∈ raw, s.isLast = false ∧ (s.isParam = true → s.length = 0) ∧ s.partCount = 0) →
    MetaOK2 (mapSuf finishSeg raw) ∧ MetaOK3 (mapSuf finishSeg raw)
  | [], _ => ⟨trivial, trivial⟩
  | s :: rest, h => by
    obtain ⟨⟨h1, h2, h3⟩, hrest⟩ := List.forall_mem_cons.mp h
    obtain ⟨ih2, ih3⟩ := finish_metaOK23 rest hrest
    -- `finishSeg` looks at the raw segments behind `s`, the invariants at the finished ones
    have hcore := mapSuf_core finishSeg_core rest
    have hnil : mapSuf finishSeg rest = [] ↔ rest = [] := by cases rest <;> simp [mapSuf]
    rw [mapSuf_cons]
    cases hp : s.isParam
    · have hp' : (finishSeg s rest).isParam = false := (finishSeg_core s rest).2.1.trans hp
      refine ⟨⟨?_, fun hh => absurd (hp' ▸ hh) (by simp), ih2⟩, fun hh => absurd (hp' ▸ hh) (by simp), ih3⟩
      rw [finishSeg_isLast, h1, hnil]
      simp
    · rw [finishSeg_param rest hp]
      refine ⟨⟨by rw [hnil]; simp [h1], fun _ hn => ?_, ih2⟩, fun _ hc => ?_, ih3⟩
      · rw [hcore.nextNonGreedyParam_eq] at hn
        simp [hn, h2 hp]
      · simp only at hc ⊢
        rw [if_neg (by simpa using hc), h3, Nat.zero_add, hcore.partCountOf_eq]

theorem rawSegsOf_raw (p : Pat) (wc pc : Nat) : ∀ s ∈ rawSegsOf p wc pc,
    RawOK s ∧ (s.isParam = true → s.length = 0) ∧ s.partCount = 0 := by
  induction p using Pat.litParamInd generalizing wc pc with
  | nil => intro s hs; cases hs
  | lit l rest ih =>
    exact List.forall_mem_cons.mpr ⟨⟨by simp [RawOK], fun h => (by cases h), rfl⟩, ih wc pc⟩
  | param t rest ht ih =>
    obtain ⟨a, wc', pc', hraw, ha⟩ := rawSegsOf_param t rest wc pc ht
    rw [hraw]
    exact List.forall_mem_cons.mpr ⟨⟨ha.rawOK, fun _ => ha.length, ha.partCount⟩, ih wc' pc'⟩

theorem segsOf_ok {p : Pat} {segs : List Seg} (h : segsOf p = some segs) :
    CoreL (rawSegsOf p 0 0) segs ∧ MetaOK segs ∧ MetaOK2 segs ∧ MetaOK3 segs := by
  have hraw := rawSegsOf_raw p 0 0
  obtain rfl := finish_some (raw := rawSegsOf p 0 0) h
  exact ⟨mapSuf_core finishSeg_core _, finish_metaOK _ (fun s hs => (hraw s hs).1),
    finish_metaOK23 _ (fun s hs => ⟨(hraw s hs).1.2.1, (hraw s hs).2⟩)⟩

theorem segsOf_partCount {p : Pat} {segs : List Seg} (h : segsOf p = some segs) : MetaOK3 segs :=
  (segsOf_ok h).2.2.2

/-- What the matcher reads of a constant segment `b` for the literal `l`. -/
structure LitSeg (l : Bytes) (b : Seg) : Prop where
  isParam : b.isParam = false
  const : b.const = l
  length : b.length = l.length

/-- What the matcher reads of a parameter segment `b` for the token `t`, in front of the segments
    `bs`: the token's flags, and what `addParameterMetaInfo` leaves there (`MetaOK`, `MetaOK2`,
    `MetaOK3` at this segment). -/
structure ParamSeg (t : Tok) (b : Seg) (bs : List Seg) : Prop where
  isParam : b.isParam = true
  isGreedy : b.isGreedy = t.isGreedy
  isOptional : b.isOptional = t.isOptional
  constraints : b.constraints = []
  isLast : b.isLast = true ↔ bs = []
  length : nextNonGreedyParam bs = false → b.length = 0
  comparePart : b.comparePart = removeEscapeChar (nextConstCmp bs)
  partCount : b.comparePart ≠ [] → b.partCount = partCountOf b.comparePart bs

/-- What the matcher reads of the segment list of a token list, token by token. Names and the
    counters behind the generated ones play no part, so the relation is the same for a token list
    and any renaming of it. -/
inductive Segs : Pat → List Seg → Prop
  | nil : Segs [] []
  | lit {l : Bytes} {rest : Pat} {b : Seg} {bs : List Seg} :
      LitSeg l b → Segs rest bs → Segs (.lit l :: rest) (b :: bs)
  | param {t : Tok} {rest : Pat} {b : Seg} {bs : List Seg} :
      t.isParam = true → ParamSeg t b bs → Segs rest bs → Segs (t :: rest) (b :: bs)

theorem segs_of_core (p : Pat) : (wc pc : Nat) → (segs : List Seg) → CoreL (rawSegsOf p wc pc) segs →
    MetaOK segs → MetaOK2 segs → MetaOK3 segs → Segs p segs := by
  induction p using Pat.litParamInd with
  | nil => intro wc pc segs hc _ _ _; cases hc; exact .nil
  | lit l rest ih =>
    intro wc pc segs hc hm hm2 hm3
    cases hc with
    | @cons a b as bs hab hrest =>
      obtain ⟨hconst, hisParam, -, -, -, -, hlength, -⟩ := hab
      exact .lit ⟨hisParam, hconst, hlength rfl⟩ (ih wc pc bs hrest hm.tail hm2.2.2 hm3.2)
  | param t rest ht ih =>
    intro wc pc segs hc hm hm2 hm3
    obtain ⟨a, wc', pc', hraw, ha⟩ := rawSegsOf_param t rest wc pc ht
    rw [hraw] at hc
    cases hc with
    | @cons _ b _ bs hab hrest =>
      obtain ⟨-, hisParam, hisGreedy, hisOptional, hconstraints, -⟩ := hab
      have hbp : b.isParam = true := hisParam.trans ha.isParam
      exact .param ht
        { isParam := hbp, isGreedy := hisGreedy.trans ha.isGreedy, isOptional := hisOptional.trans ha.isOptional,
          constraints := hconstraints.trans ha.constraints, isLast := hm2.1, length := hm2.2.1 hbp,
          comparePart := hm.2.1 hbp, partCount := hm3.1 hbp }
        (ih wc' pc' bs hrest hm.tail hm2.2.2 hm3.2)

theorem segs_of_segsOf {p : Pat} {segs : List Seg} (h : segsOf p = some segs) : Segs p segs := by
  obtain ⟨hc, hm, hm2, hm3⟩ := segsOf_ok h
  exact segs_of_core p 0 0 segs hc hm hm2 hm3

/-- a token with its user name mapped by `g`: `register` folds the names too (`prettyPat_eq`), the
    matcher does not read them (`Segs.ren`) -/
def renTok (g : Bytes → Bytes) : Tok → Tok
  | .named n o => .named (g n) o
  | t => t

theorem renTok_isParam (g : Bytes → Bytes) (t : Tok) : (renTok g t).isParam = t.isParam := by cases t <;> rfl
theorem renTok_isGreedy (g : Bytes → Bytes) (t : Tok) : (renTok g t).isGreedy = t.isGreedy := by cases t <;> rfl
theorem renTok_isOptional (g : Bytes → Bytes) (t : Tok) : (renTok g t).isOptional = t.isOptional := by cases t <;> rfl

theorem Segs.ren (g : Bytes → Bytes) {p : Pat} {segs : List Seg} (h : Segs (p.map (renTok g)) segs) :
    Segs p segs := by
  induction p using Pat.litParamInd generalizing segs with
  | nil => exact h
  | lit l rest ih =>
    change Segs (.lit l :: rest.map (renTok g)) segs at h
    cases h with
    | lit hb hr => exact .lit hb (ih hr)
    | param ht => cases ht
  | param t rest ht ih =>
    have ht' := (renTok_isParam g t).trans ht
    have hg := renTok_isGreedy g t
    have ho := renTok_isOptional g t
    rw [List.map_cons] at h
    -- `cases h` cannot split while the index is the application `renTok g t :: _`
    generalize renTok g t = t' at h ht' hg ho
    cases h with
    | lit => cases ht'
    | param _ hb hr =>
      exact .param ht { hb with isGreedy := hb.isGreedy.trans hg, isOptional := hb.isOptional.trans ho } (ih hr)

theorem Segs.partCountOf (K : Bytes) {p : Pat} {segs : List Seg} (h : Segs p segs) :
    partCountOf K segs = litCount K p := by
  induction h with
  | nil => rfl
  | lit hb _ ih => rw [C02.partCountOf, hb.isParam, hb.const, ih]; rfl
  | param ht hb _ ih =>
    rw [C02.partCountOf, hb.isParam, litCount_param _ _ _ ht, ih, if_pos rfl, Nat.zero_add]

theorem Segs.params_len {p : Pat} {segs : List Seg} (h : Segs p segs) :
    (paramNames segs).length = (p.filter (·.isParam)).length := by
  unfold paramNames
  induction h with
  | nil => rfl
  | lit hb _ ih => rw [List.filter_cons_of_neg (by rw [hb.isParam]; exact Bool.false_ne_true)]; exact ih
  | param ht hb _ ih =>
    rw [List.filter_cons_of_pos hb.isParam, List.filter_cons_of_pos (by exact ht), List.map_cons,
      List.length_cons, List.length_cons, ih]

/-- What `cleanFillWith id` (the property sentence's `CleanFill`) asks of the value `v` of the
    parameter `t`, in front of `rest` filled with `vs`. -/
structure CleanValue (t : Tok) (rest : Pat) (v : Bytes) (vs : List Bytes) : Prop where
  nonEmpty : t.isOptional = true ∨ v ≠ []
  noSlash : t.isGreedy = true ∨ v.contains SLASH = false
  first : ∀ l, nextLit rest = some l → indexOf (v ++ fill rest vs) l = some v.length
  count : ∀ l, nextLit rest = some l → t.isGreedy = true → occ (v ++ fill rest vs) l = litOcc l rest

theorem cleanValue_of {t : Tok} {rest : Pat} {v : Bytes} {vs : List Bytes} (ht : t.isParam = true)
    (h : cleanFillWith id (t :: rest) (v :: vs) = true) :
    CleanValue t rest v vs ∧ cleanFillWith id rest vs = true := by
  rw [cleanFillWith_param _ _ _ _ _ ht] at h
  simp only [Bool.and_eq_true, Bool.or_eq_true, Bool.not_eq_true', List.isEmpty_eq_false_iff] at h
  obtain ⟨⟨⟨hopt, hsl⟩, hnext⟩, hrest⟩ := h
  refine ⟨⟨hopt, hsl, fun l hl => ?_, fun l hl hg => ?_⟩, hrest⟩
  all_goals
    rw [hl] at hnext
    simp only [id_eq, Bool.and_eq_true, beq_iff_eq, Bool.or_eq_true, Bool.not_eq_true'] at hnext
  · exact hnext.1
  · exact hnext.2.resolve_left (by rw [hg]; exact fun h => Bool.noConfusion h)

def litsEscFree (p : Pat) : Prop := ∀ t ∈ p, ∀ l, t = Tok.lit l → l.contains BSL = false

theorem findParamLen_lastValue {seg : Seg} {v : Bytes} (hl : seg.isLast = true)
    (hslash : seg.isGreedy = true ∨ v.contains SLASH = false) : findParamLen v seg = v.length := by
  rw [findParamLen_last hl]
  unfold findParamLenForLastSegment
  rcases hslash with h | h
  · simp [h]
  · rw [indexByte_eq_none_iff.mpr h]; simp

/-- A parameter that is neither last nor of fixed length, in front of a value `v` behind which its
    search text `K` occurs first: `findParamLen` returns `|v|`, provided a named value holds no `/`
    and, for a greedy parameter whose search text `strings.Count` finds more than once, the
    right-to-left loop lands on `|v|` (`hgreedy`, discharged by `findGreedyParamLen_fill` on clean
    fills). -/
theorem findParamLen_value {seg : Seg} {v tail K : Bytes} (hl : seg.isLast = false) (hlen : seg.length = 0)
    (hcp : seg.comparePart = K) (hslash : seg.isGreedy = true ∨ v.contains SLASH = false)
    (hidx : indexOf (v ++ tail) K = some v.length)
    (hgreedy : seg.isGreedy = true → count (v ++ tail) K > 1 →
      findGreedyParamLen (v ++ tail) (count (v ++ tail) K) seg = v.length) :
    findParamLen (v ++ tail) seg = v.length := by
  have hlen0 : (seg.length != 0 && decide ((v ++ tail).length ≥ seg.length)) = false := by rw [hlen]; rfl
  cases hgr : (seg.isGreedy && decide (count (v ++ tail) seg.comparePart > 1))
  · rw [findParamLen_search hl hlen0 hgr, hcp, hidx]
    rcases hslash with h | h
    · simp only [h, Bool.not_true, Bool.false_and, Bool.false_eq_true, if_false]
    · simp only [List.take_left, h, Bool.and_false, Bool.false_eq_true, if_false]
  · rw [findParamLen_greedy hl hlen0 hgr, hcp]
    simp only [Bool.and_eq_true, decide_eq_true_eq, hcp] at hgr
    exact hgreedy hgr.1 hgr.2

/-- the next constant is no longer than the search text (it has no trailing slashes to lose): the
    search text stays -/
theorem paramLen_noFull {s : Bytes} {seg n : Seg} {rest' : List Seg}
    (h : ¬ n.const.length > seg.comparePart.length) : paramLen s seg (n :: rest') = findParamLen s seg := by
  by_cases hg : seg.isLast = true ∨ (seg.length ≠ 0 ∧ s.length ≥ seg.length)
  · exact paramLen_guard _ hg
  · rw [paramLen_cons hg, if_neg (fun hh => h hh.1)]

/-- the path holds the next constant in full and that is longer than the search text: the locals are
    replaced -/
theorem paramLen_full {s : Bytes} {seg n : Seg} {rest' : List Seg}
    (hl : seg.isLast = false) (hlen : seg.length = 0)
    (hlong : n.const.length > seg.comparePart.length) (hin : (indexOf s n.const).isSome = true) :
    paramLen s seg (n :: rest') =
      if seg.isGreedy then
        findGreedyParamLen s (count s n.const)
          { seg with comparePart := n.const, partCount := partCountOf n.const (n :: rest') }
      else findParamLen s { seg with comparePart := n.const, partCount := partCountOf n.const (n :: rest') } := by
  rw [paramLen_cons (not_or.mpr ⟨by rw [hl]; exact Bool.false_ne_true, fun h => h.1 hlen⟩), if_pos ⟨hlong, hin⟩]

theorem cmpOfConst_eq_of_length {l : Bytes} (h : ¬ l.length > (cmpOfConst l).length) : cmpOfConst l = l :=
  (cmpOfConst_prefix l).eq_of_length (Nat.le_antisymm (cmpOfConst_prefix l).length_le (Nat.not_lt.mp h))

/-- **On a path that holds the following constant `L`, the matcher searches for `L` itself**, with
    the `PartCount` of `L`: by the replacement of the locals when `L` is longer than `ComparePart`
    (it has trailing slashes; then a greedy parameter goes straight to the right-to-left loop), and
    because `ComparePart` is `L` and `PartCount` its count otherwise. -/
theorem paramLen_holds {s : Bytes} {seg n : Seg} {rest' : List Seg}
    (hl : seg.isLast = false) (hlen : seg.length = 0) (hcp : seg.comparePart = cmpOfConst n.const)
    (hpc : seg.comparePart ≠ [] → seg.partCount = partCountOf seg.comparePart (n :: rest'))
    (hne : n.const ≠ []) (hin : (indexOf s n.const).isSome = true) :
    paramLen s seg (n :: rest') =
      if seg.isGreedy = true ∧ n.const.length > seg.comparePart.length then
        findGreedyParamLen s (count s n.const)
          { seg with comparePart := n.const, partCount := partCountOf n.const (n :: rest') }
      else findParamLen s { seg with comparePart := n.const, partCount := partCountOf n.const (n :: rest') } := by
  by_cases hlong : n.const.length > seg.comparePart.length
  · rw [paramLen_full hl hlen hlong hin]
    cases seg.isGreedy <;> simp [hlong]
  · rw [paramLen_noFull hlong, if_neg (fun h => hlong h.2)]
    -- the locals are the segment's own fields
    have hkey : seg.comparePart = n.const := by
      rw [hcp] at hlong ⊢; exact cmpOfConst_eq_of_length hlong
    have hcount := hpc (by rw [hkey]; exact hne)
    rw [hkey] at hcount
    cases seg
    subst hkey hcount
    rfl

/-! `findParamLen` on the segment's own `ComparePart`: stages (i) and (ii-a) of DESIGN §6 C03. The
end-to-end proof does not pass through these three: the matcher runs `findParamLen` on the locals
(`paramLen_holds`), so `paramLen_fill` uses `findParamLen_lastValue` / `findParamLen_value`
directly. They are statements of their own about `C02.findParamLen`. -/

/-- `findParamLen_lastValue` and `findParamLen_value` put together for a parameter segment of a
    parsed pattern (`MetaOK`, `MetaOK2`) whose value `v` is followed by `tail` in the detection path. -/
theorem findParamLen_fill_core {seg : Seg} {rest : List Seg} {v tail : Bytes}
    (hm : MetaOK (seg :: rest)) (hm2 : MetaOK2 (seg :: rest)) (hp : seg.isParam = true)
    (hnext : nextNonGreedyParam rest = false)
    (hesc : removeEscapeChar (nextConstCmp rest) = nextConstCmp rest)
    (hslash : seg.isGreedy = true ∨ v.contains SLASH = false)
    (hlast : rest = [] → tail = [])
    (hidx : rest ≠ [] → indexOf (v ++ tail) (nextConstCmp rest) = some v.length)
    (hgreedy : rest ≠ [] → seg.isGreedy = true → count (v ++ tail) (nextConstCmp rest) > 1 →
      findGreedyParamLen (v ++ tail) (count (v ++ tail) (nextConstCmp rest)) seg = v.length) :
    findParamLen (v ++ tail) seg = v.length := by
  by_cases hl : seg.isLast = true
  · rw [hlast (hm2.1.mp hl), List.append_nil]
    exact findParamLen_lastValue hl hslash
  · have hr : rest ≠ [] := fun h => hl (hm2.1.mpr h)
    exact findParamLen_value (Bool.eq_false_iff.mpr hl) (hm2.2.1 hp hnext) ((hm.2.1 hp).trans hesc) hslash
      (hidx hr) (hgreedy hr)

/-- Stages (i) and (ii-a) alone: a greedy parameter whose search text occurs at most once
    (`strings.Count ≤ 1`, the `indexOf` branch). -/
theorem findParamLen_fill {seg : Seg} {rest : List Seg} {v tail : Bytes}
    (hm : MetaOK (seg :: rest)) (hm2 : MetaOK2 (seg :: rest)) (hp : seg.isParam = true)
    (hnext : nextNonGreedyParam rest = false)
    (hesc : removeEscapeChar (nextConstCmp rest) = nextConstCmp rest)
    (hslash : seg.isGreedy = true ∨ v.contains SLASH = false)
    (hlast : rest = [] → tail = [])
    (hidx : rest ≠ [] → indexOf (v ++ tail) (nextConstCmp rest) = some v.length)
    (honce : rest ≠ [] → seg.isGreedy = true → count (v ++ tail) (nextConstCmp rest) ≤ 1) :
    findParamLen (v ++ tail) seg = v.length :=
  findParamLen_fill_core hm hm2 hp hnext hesc hslash hlast hidx
    (fun hr hg hc => by have := honce hr hg; omega)

/-- a non-greedy parameter that is neither last nor of fixed length ends at the first occurrence of
    its search text, if the bytes before hold no slash -/
theorem findParamLen_at {seg : Seg} {v tail : Bytes} (hl : seg.isLast = false) (hlen : seg.length = 0)
    (hg : seg.isGreedy = false) (hs : v.contains SLASH = false)
    (hidx : indexOf (v ++ tail) seg.comparePart = some v.length) :
    findParamLen (v ++ tail) seg = v.length :=
  findParamLen_value hl hlen rfl (Or.inr hs) hidx (fun h => by rw [hg] at h; cases h)

def foldBytes (cfg : Config) (s : Bytes) : Bytes := if cfg.caseSensitive then s else toLower s

theorem ite_not_caseSensitive (cfg : Config) (x : Bytes) :
    (if (!cfg.caseSensitive) = true then toLower x else x) = foldBytes cfg x := by
  unfold foldBytes; cases cfg.caseSensitive <;> rfl

/-- The folding is C02's byte map `cfgFold cfg` applied to every byte. That map respects the bytes of
    the pattern syntax (`cfgFold_neutral`), and nothing else about it is used: the facts about
    folding are stated for byte maps and put together with this equation. -/
theorem foldBytes_map (cfg : Config) (s : Bytes) : foldBytes cfg s = s.map (cfgFold cfg) := by
  unfold foldBytes cfgFold toLower; cases cfg.caseSensitive <;> simp

theorem foldBytes_length (cfg : Config) (s : Bytes) : (foldBytes cfg s).length = s.length := by
  rw [foldBytes_map, List.length_map]

theorem foldBytes_ne_nil {cfg : Config} {s : Bytes} (h : s ≠ []) : foldBytes cfg s ≠ [] := fun hh =>
  h (List.map_eq_nil_iff.mp (foldBytes_map cfg s ▸ hh))

theorem map_last_slash {f : Nat → Nat} (hf : Neutral f) {s : Bytes} (h : (s.map f).getLast? = some SLASH) :
    s.getLast? = some SLASH := by
  rw [List.getLast?_map] at h
  obtain ⟨x, hx, hfx⟩ := Option.map_eq_some_iff.mp h
  rw [hx, (hf x SLASH (by decide)).mp hfx]

theorem map_slashes {f : Nat → Nat} (hf : Neutral f) (n : Nat) :
    (List.replicate n SLASH).map f = List.replicate n SLASH := by
  rw [List.map_replicate, (hf SLASH SLASH (by decide)).mpr rfl]

theorem foldBytes_last_slash {cfg : Config} {s : Bytes} (h : s.getLast? ≠ some SLASH) :
    (foldBytes cfg s).getLast? ≠ some SLASH :=
  fun hh => h (map_last_slash (cfgFold_neutral cfg) (foldBytes_map cfg s ▸ hh))

theorem foldBytes_append_slashes (cfg : Config) (s : Bytes) (n : Nat) :
    foldBytes cfg (s ++ List.replicate n SLASH) = foldBytes cfg s ++ List.replicate n SLASH := by
  rw [foldBytes_map, foldBytes_map, List.map_append, map_slashes (cfgFold_neutral cfg)]

/-- the last step of `configDependentPaths`: without StrictRouting a path of more than one byte
    loses its trailing slashes -/
def trimStep (cfg : Config) (d : Bytes) : Bytes :=
  if !cfg.strictRouting && d.length > 1 && d.getLast? == some SLASH then trimRight d SLASH else d

/-- the routing path is a function of the user-visible (decoded) path alone -/
theorem det_eq_trimStep (cfg : Config) (orig : Bytes) :
    (configDependentPaths cfg orig).2 = trimStep cfg (foldBytes cfg (configDependentPaths cfg orig).1) := by
  unfold configDependentPaths trimStep
  simp only [ite_not_caseSensitive]

/-- `register` / `RoutePatternMatch` trim without looking at the last byte: the same -/
theorem trimStep_eq (cfg : Config) (d : Bytes) :
    trimStep cfg d = if (!cfg.strictRouting && decide (d.length > 1)) = true then trimRight d SLASH else d := by
  unfold trimStep
  by_cases hl : d.getLast? = some SLASH
  · simp [hl]
  · have : (d.getLast? == some SLASH) = false := beq_eq_false_iff_ne.mpr hl
    simp only [this, Bool.and_false, Bool.false_eq_true, if_false]
    split
    · exact (trimRight_of_getLast_ne d SLASH hl).symm
    · rfl

theorem trimStep_id {cfg : Config} {d : Bytes}
    (h : cfg.strictRouting = true ∨ d.length ≤ 1 ∨ d.getLast? ≠ some SLASH) : trimStep cfg d = d := by
  unfold trimStep
  split
  · rename_i hc
    simp only [Bool.and_eq_true, Bool.not_eq_true', decide_eq_true_eq, beq_iff_eq] at hc
    rcases h with h | h | h
    · rw [h] at hc; exact absurd hc.1.1 (by simp)
    · omega
    · exact absurd hc.2 h
  · rfl

/-- the three ways a path keeps its last byte, through the case folding -/
theorem trimStep_fold_id {cfg : Config} {s : Bytes}
    (h : cfg.strictRouting = true ∨ s.length ≤ 1 ∨ s.getLast? ≠ some SLASH) :
    trimStep cfg (foldBytes cfg s) = foldBytes cfg s :=
  trimStep_id (h.imp_right (Or.imp (fun h => by rw [foldBytes_length]; exact h)
    foldBytes_last_slash))

theorem trimStep_slashes {cfg : Config} (hst : cfg.strictRouting = false) {s : Bytes} (hs : s ≠ [])
    (hl : s.getLast? ≠ some SLASH) (n : Nat) : trimStep cfg (s ++ List.replicate n SLASH) = s := by
  rw [trimStep_eq]
  split
  · rw [trimRight_append_replicate, trimRight_of_getLast_ne s SLASH hl]
  · rename_i h
    have := List.length_pos_iff.mpr hs
    simp only [hst, Bool.not_false, Bool.true_and, decide_eq_true_eq, List.length_append,
      List.length_replicate] at h
    obtain rfl : n = 0 := by omega
    rw [List.replicate_zero, List.append_nil]

/-- the request-side normalisation of a user-visible path that is, up to the case folding, a path `s`
    that keeps its last byte (`trimStep_fold_id`) -/
theorem det_of_fill {cfg : Config} {s orig : Bytes}
    (h : cfg.strictRouting = true ∨ s.length ≤ 1 ∨ s.getLast? ≠ some SLASH)
    (horig : foldBytes cfg (configDependentPaths cfg orig).1 = foldBytes cfg s) :
    (configDependentPaths cfg orig).2 = foldBytes cfg s := by
  rw [det_eq_trimStep, horig]
  exact trimStep_fold_id h

/-- the request-side normalisation without StrictRouting: a user-visible path that is, up to the
    case folding, `s` (not empty, not ending in a slash) followed by any number of slashes is routed
    as the folded `s` -/
theorem det_of_fill_slashes {cfg : Config} {s orig : Bytes} (n : Nat)
    (hst : cfg.strictRouting = false) (hne : s ≠ []) (hlast : s.getLast? ≠ some SLASH)
    (horig : foldBytes cfg (configDependentPaths cfg orig).1 = foldBytes cfg s ++ List.replicate n SLASH) :
    (configDependentPaths cfg orig).2 = foldBytes cfg s := by
  rw [det_eq_trimStep, horig]
  exact trimStep_slashes hst (foldBytes_ne_nil hne) (foldBytes_last_slash hlast) n

end C03
