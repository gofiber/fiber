import FiberModel.C03.Complete
import FiberModel.C03.Serve
import FiberModel.C03.Trim
import FiberModel.C03.Names
import FiberModel.C03.Escape
import FiberModel.C02.Locality
/-
C03 — the property theorems. All three stages of DESIGN §6 C03 are proved: (i) non-greedy and last
parameters, (ii-a) greedy parameters whose search text occurs once behind them, (ii-b) greedy
parameters whose literal re-occurs later (`findGreedyParamLen`; Greedy.lean). The occurrence
condition is the property sentence's `CleanFill` (no additional occurrence of the *literal* that
follows a parameter): `findParamLen` searches for the following constant in full whenever the path
holds it (`C02.fullConst`, the repair of former known finding K1).
-/
namespace C03
open B C02

theorem pathFor_fill (cfg : Config) (p : Pat) (vals : List Bytes) (extra : Bytes)
    (h : vals.length = (p.filter (·.isParam)).length) :
    slicesOf (foldPat cfg p) (foldVals cfg vals) (fill p vals ++ extra) = vals := by
  rw [slicesOf_fold, slicesOf_fill p vals extra h]

/-- **fill → match completeness** (all stages of DESIGN §6 C03: (i) non-greedy / last parameters,
    (ii-a) greedy parameters whose delimiter occurs once, (ii-b) greedy parameters whose delimiter
    re-occurs behind them — `findGreedyParamLen` / `PartCount`), at full strength:
    `Delimited p → CleanFill p vals → getMatch (parse p) (fill p vals) = some vals`.

    For every configuration (case folding), every token list `p` (with segment list `segs`), every
    value assignment `vals` and anything (`extra`) behind the filled path – e.g. trailing slashes
    the configuration ignores: on the case-folded fill as detection path and the fill as written as
    user path, `getMatch` succeeds and reports exactly `vals`. -/
theorem fill_match_complete {chk : Constraint → Bytes → Bool} (cfg : Config)
    {p : Pat} {vals : List Bytes} {segs : List Seg} (extra : Bytes)
    (hs : segsOf (foldPat cfg p) = some segs)
    (hd : Delimited p = true) (hesc : litsEscFree p)
    (hn : vals.length = (p.filter (·.isParam)).length)
    (hcl : CleanFill (foldPat cfg p) (foldVals cfg vals) = true) :
    getMatch chk segs (foldBytes cfg (fill p vals)) (fill p vals ++ extra) false = some vals := by
  rw [fill_fold]
  exact (getMatch_fill (segs_of_segsOf hs) _ _ (foldPat_delimited cfg hd)
    (foldPat_escFree cfg p hesc) hcl).trans (congrArg some (pathFor_fill cfg p vals extra hn))

/-- non-vacuity, stages (i)/(ii-a): `/api/:x-:y?/files/*` filled with `Ab`, ``, `a/b.txt` under the
    default (case-insensitive) configuration -/
example :
    let p : Pat := [.lit (b "/api/"), .named (b "x") false, .lit (b "-"), .named (b "y") true,
                    .lit (b "/files/"), .star]
    let vals := [b "Ab", [], b "a/b.txt"]
    (Delimited p && CleanFill (foldPat {} p) (foldVals {} vals) &&
     (match segsOf (foldPat {} p) with
      | some segs => getMatch (fun _ _ => true) segs (foldBytes {} (fill p vals)) (fill p vals) false == some vals
      | none => false)) = true := by decide +kernel

/-- non-vacuity, stage (ii-b), search text = the literal (no trailing slash): slash, star, the
    literal dash-dash, plus, the literal dash-dash-dash-x (self-overlapping search text, which
    re-occurs in the later literal twice by position, once by `strings.Count`) filled with `a-b`,
    `c/d`: the hypotheses hold, `greedyOnce` fails (the loop of `findGreedyParamLen` runs), the route
    matches with exactly these values. -/
example :
    let p : Pat := [.lit (b "/"), .star, .lit (b "--"), .plus, .lit (b "---x")]
    let vals := [b "a-b", b "c/d"]
    (Delimited p && CleanFill (foldPat {} p) (foldVals {} vals) &&
     !greedyOnce id (foldPat {} p) (foldVals {} vals) &&
     (match segsOf (foldPat {} p) with
      | some segs => getMatch (fun _ _ => true) segs (foldBytes {} (fill p vals)) (fill p vals) false == some vals
      | none => false)) = true := by decide +kernel

/-- non-vacuity, the literal has trailing slashes (the region of former known finding K1), greedy:
    slash, plus, the literal dash-slash, star, the literal dash-slash, star. The values `q`, `r`,
    `c-d` hold the slash-less search text `-` of `ComparePart` but create no occurrence of the
    literal; counting `-` lands the right-to-left loop on the second literal (the old 404), counting
    the literal in full returns the values. -/
example :
    let cfg : Config := { caseSensitive := true, strictRouting := true }
    let p : Pat := [.lit (b "/"), .plus, .lit (b "-/"), .star, .lit (b "-/"), .star]
    let vals := [b "q", b "r", b "c-d"]
    (Delimited p && CleanFill (foldPat cfg p) (foldVals cfg vals) &&
     !cleanFillWith cmpOfConst (foldPat cfg p) (foldVals cfg vals) &&
     (match segsOf (foldPat cfg p) with
      | some segs =>
        getMatch (fun _ _ => true) segs (foldBytes cfg (fill p vals)) (fill p vals) false == some vals &&
        -- without the replacement (`findParamLen` on the segment's own `ComparePart`) the first cut is wrong
        (match segs with
         | _ :: s1 :: rest => findParamLen (b "q-/r-/c-d") s1 != 1 && paramLen (b "q-/r-/c-d") s1 rest == 1
         | _ => false)
      | none => false)) = true := by decide +kernel

/-- **Letter case is ignored unless CaseSensitive, also with UnescapePath:** two requests whose
    user-visible (percent-decoded iff UnescapePath) paths differ only in letter case get the same
    detection path. -/
theorem case_ignored_decoded (cfg : Config) (hcs : cfg.caseSensitive = false) (a c : Bytes)
    (h : toLower (configDependentPaths cfg a).1 = toLower (configDependentPaths cfg c).1) :
    (configDependentPaths cfg a).2 = (configDependentPaths cfg c).2 := by
  rw [det_eq_trimStep, det_eq_trimStep cfg c]
  unfold foldBytes
  rw [hcs, if_neg Bool.false_ne_true, if_neg Bool.false_ne_true, h]

/-- **A trailing slash is ignored unless StrictRouting, also with UnescapePath:** if the user-visible
    path of `c` is that of `a` (non-empty, not ending in a slash) plus any number of slashes – written
    as `/` or, with UnescapePath, as `%2F` – both get the same detection path. -/
theorem trailing_slash_ignored_decoded (cfg : Config) (hst : cfg.strictRouting = false) (a c : Bytes) (n : Nat)
    (hne : (configDependentPaths cfg a).1 ≠ []) (hl : (configDependentPaths cfg a).1.getLast? ≠ some SLASH)
    (h : (configDependentPaths cfg c).1 = (configDependentPaths cfg a).1 ++ List.replicate n SLASH) :
    (configDependentPaths cfg c).2 = (configDependentPaths cfg a).2 := by
  rw [det_of_fill_slashes n hst hne hl (by rw [h, foldBytes_append_slashes]),
    det_of_fill_slashes 0 hst hne hl (List.append_nil _).symm]

/-- **Percent-decoding applies only with UnescapePath.** -/
theorem unescape_only_with_flag (cfg : Config) (orig : Bytes) :
    (configDependentPaths cfg orig).1 = if cfg.unescapePath then unquote orig else orig := by
  unfold configDependentPaths; rfl

theorem upath_noUnescape {cfg : Config} (hu : cfg.unescapePath = false) (orig : Bytes) :
    (configDependentPaths cfg orig).1 = orig := by
  rw [unescape_only_with_flag, hu]; rfl

/-- **Letter case is ignored unless CaseSensitive:** two request paths that differ only in letter
    case get the same detection path. -/
theorem case_ignored (cfg : Config) (hcs : cfg.caseSensitive = false) (hu : cfg.unescapePath = false)
    (a c : Bytes) (h : toLower a = toLower c) :
    (configDependentPaths cfg a).2 = (configDependentPaths cfg c).2 :=
  case_ignored_decoded cfg hcs a c (by rw [upath_noUnescape hu, upath_noUnescape hu]; exact h)

/-- **A trailing slash is ignored unless StrictRouting:** a request path that does not end in a
    slash and the same path with any number of slashes appended get the same detection path. -/
theorem trailing_slash_ignored (cfg : Config) (hst : cfg.strictRouting = false) (hu : cfg.unescapePath = false)
    (orig : Bytes) (hne : orig ≠ []) (hl : orig.getLast? ≠ some SLASH) (n : Nat) :
    (configDependentPaths cfg (orig ++ List.replicate n SLASH)).2 = (configDependentPaths cfg orig).2 :=
  trailing_slash_ignored_decoded cfg hst orig _ n (by rw [upath_noUnescape hu]; exact hne)
    (by rw [upath_noUnescape hu]; exact hl) (by rw [upath_noUnescape hu, upath_noUnescape hu])

/-- non-vacuity: UnescapePath on, `/a%2Fb` + `%2f` vs `/A/b` -/
example :
    let cfg : Config := { unescapePath := true }
    (configDependentPaths cfg (b "/A/b")).1 = b "/A/b" ∧
    (configDependentPaths cfg (b "/a%2Fb%2f")).1 = b "/a/b" ++ List.replicate 1 SLASH := by
  decide +kernel

/-- **The tree index is transparent for a single route** (uses C02's locality lemma and the repaired
    `buildTree` key): dispatching to an app that holds only `r` is `Route.match`. -/
theorem dispatch1_eq_routeMatch {chk : Constraint → Bytes → Bool} {cfg : Config} {use : Bool} {pattern : Bytes}
    {r : Route} (hr : register cfg use pattern = some r) (det path : Bytes) :
    dispatch1 chk r det path = routeMatch chk r det path := by
  unfold dispatch1
  split
  · rfl
  · rename_i hcond
    cases hm : routeMatch chk r det path with
    | none => rfl
    | some vs =>
      exfalso
      apply hcond
      simp only [Bool.or_eq_true, beq_iff_eq]
      by_cases hk : routeTreeKey r = []
      · exact Or.inl hk
      · exact Or.inr (match_bucket_of_key hr hk hm)

/-- `RoutePatternMatch` on a non-empty path, as the same Boolean over the request's normalised pair. -/
theorem routePatternMatch_eq {chk : Constraint → Bytes → Bool} {cfg : Config} {reqPath pattern : Bytes}
    {pp : Parser} (hne : reqPath ≠ [])
    (hpp : parseRouteW (prettyPattern cfg pattern)
      ((rawPattern pattern).take (prettyPattern cfg pattern).length) = some pp) :
    routePatternMatch chk cfg reqPath pattern = some
      ((prettyPattern cfg pattern == [SLASH] && (configDependentPaths cfg reqPath).2 == [SLASH]) ||
        prettyPattern cfg pattern == [SLASH, STAR] ||
        (if pp.params.length > 0 then
          (getMatch chk pp.segs (configDependentPaths cfg reqPath).2 (configDependentPaths cfg reqPath).1 false).isSome
         else removeEscapeChar (prettyPattern cfg pattern) == (configDependentPaths cfg reqPath).2)) := by
  have hne' : (if reqPath.isEmpty then [SLASH] else reqPath) = reqPath := by
    cases reqPath with
    | nil => exact absurd rfl hne
    | cons _ _ => rfl
  rw [det_eq_trimStep, trimStep_eq, unescape_only_with_flag]
  unfold routePatternMatch
  simp only [hne', hpp, ite_not_caseSensitive]
  generalize (if cfg.unescapePath = true then unquote reqPath else reqPath) = upath
  generalize (if (!cfg.strictRouting && decide ((foldBytes cfg upath).length > 1)) = true
    then trimRight (foldBytes cfg upath) SLASH else foldBytes cfg upath) = det
  -- the four exits of the if-chain, in order
  cases (prettyPattern cfg pattern == [SLASH] && det == [SLASH]) <;>
    cases (prettyPattern cfg pattern == [SLASH, STAR]) <;> by_cases hp : pp.params.length > 0 <;>
    simp only [hp, if_true, if_false, Bool.false_eq_true, Bool.or_false, Bool.false_or, Bool.true_or,
      Bool.or_true]

/-- **RoutePatternMatch answers exactly as dispatching the path to an app holding only that route**
    (for the repaired `RoutePatternMatch`, `fix:` commits a94e154 and c0ae1a8, and the repaired
    catch-all shortcut a0d0533). Hypotheses: the request path is non-empty (always true on the
    wire); the pattern as written and the configuration-normalised pattern agree on whether there
    are parameters (`harity` — the same text with CaseSensitive+StrictRouting; checked at run time
    otherwise); a pattern whose escape-free text is "/" declares no parameters (`hrootnp`, checked
    at run time); no custom constraints are registered on the app (RoutePatternMatch cannot know
    them: the same verdict function `chk` on both sides). -/
theorem rpm_eq_single_route_dispatch {chk : Constraint → Bytes → Bool} {cfg : Config} {pattern : Bytes}
    {r : Route} (hr : register cfg false pattern = some r) (reqPath : Bytes) (hne : reqPath ≠ [])
    (harity : (r.params.length > 0) ↔ (r.parser.params.length > 0))
    (hrootnp : r.root = true → ¬ (r.parser.params.length > 0)) :
    routePatternMatch chk cfg reqPath pattern =
      some (dispatch1 chk r (configDependentPaths cfg reqPath).2 (configDependentPaths cfg reqPath).1).isSome := by
  obtain ⟨_, _, _, hpp, hu, _, hpath, hstar, hroot⟩ := register_inv hr
  rw [routePatternMatch_eq hne hpp, dispatch1_eq_routeMatch hr, routeMatch_isSome hu, hpath, hstar, hroot]
  rw [hroot] at hrootnp
  simp only [harity]
  generalize (configDependentPaths cfg reqPath).2 = det
  generalize prettyPattern cfg pattern = pretty at *
  rw [Bool.beq_comm (a := det) (b := removeEscapeChar pretty)]
  by_cases hc : removeEscapeChar pretty = [SLASH]
  · -- a root route declares no parameters: both sides ask whether the path is "/"
    rw [if_neg (hrootnp (beq_iff_eq.mpr hc)), hc, Bool.beq_comm (a := det), beq_self_eq_true]
    cases pretty == [SLASH] <;> cases pretty == [SLASH, STAR] <;> cases [SLASH] == det <;> rfl
  · -- not a root route: the text is not "/" either
    rw [beq_false_of_ne hc, beq_false_of_ne fun h : pretty = [SLASH] => hc (by rw [h]; rfl)]

/-- The route `register` builds for a documented-syntax pattern, against the case-folded fill as
    detection path and an ARBITRARY user-visible path `upath`: `Route.match` succeeds; when `upath`
    has the length of the fill, the values written are its slices at the value positions. (For a
    longer `upath` – the fill plus ignored trailing slashes – `getMatch` still cuts the slices, only
    the catch-all shortcut of the pattern `/*` hands out the whole rest of the path.) Also the two
    parser facts `rpm_eq_single_route_dispatch` needs (`register_arity`). -/
theorem served_route {chk : Constraint → Bytes → Bool} (cfg : Config) {p : Pat} {vals : List Bytes}
    (hwf : WFPat p = true) (hd : Delimited p = true)
    (hn : vals.length = (p.filter (·.isParam)).length)
    (hcl : CleanFill (foldPat cfg p) (foldVals cfg vals) = true)
    (htr : trailingOK cfg p vals = true) :
    ∃ r, register cfg false (patText p) = some r ∧
      ((r.params.length > 0) ↔ (r.parser.params.length > 0)) ∧
      (r.root = true → ¬ (r.parser.params.length > 0)) ∧
      ∀ upath : Bytes, ∃ vs, routeMatch chk r (foldBytes cfg (fill p vals)) upath = some vs ∧
        (upath.length = (fill p vals).length → vs = slicesOf p vals upath) := by
  obtain ⟨hokq, hshq⟩ := prettyPat_ok cfg hwf
  obtain ⟨sr, sp, hsr, hsp, hreg⟩ := register_text hwf hokq hshq (prettyPattern_text hwf htr).symm
  refine ⟨_, hreg, (register_arity hwf hreg).1, (register_arity hwf hreg).2, fun upath => ?_⟩
  have hlenr : (paramNames sr).length = (p.filter (·.isParam)).length := segsOf_params_len hsr
  by_cases hnp : p.filter (·.isParam) = []
  · -- a single literal: the routed text is the detection path
    obtain ⟨l, rfl⟩ := wfPat_noParam hwf hnp
    have hv : vals = [] := List.eq_nil_of_length_eq_zero (by rw [hn, hnp]; rfl)
    subst hv
    have hdet : foldBytes cfg (fill [Tok.lit l] []) = patText (prettyPat cfg [Tok.lit l]) := by
      rw [patText_prettyPat]; simp [patText, Tok.text, fill]
    have hstar : (patText (prettyPat cfg [Tok.lit l]) == [SLASH, STAR]) = false := by
      rw [beq_eq_false_iff_ne, patText_prettyPat]
      intro h
      have := star_shape hwf (eq_of_foldBytes_eq_specials (by decide) h)
      simp at this
    rw [hdet]
    exact ⟨[], routeMatch_noParams hstar (List.eq_nil_of_length_eq_zero (by rw [hlenr, hnp]; rfl)) rfl upath,
      fun _ => rfl⟩
  · -- at least one parameter
    have hroot : (patText (prettyPat cfg p) == [SLASH]) = false := Bool.eq_false_iff.mpr fun h => by
      -- a root route declares no parameter
      have := congrArg List.length (root_no_params hreg h)
      rw [show (paramNames sr).length = _ from hlenr] at this
      exact hnp (List.eq_nil_of_length_eq_zero this)
    cases hstar : patText (prettyPat cfg p) == [SLASH, STAR]
    case true =>
      -- the catch-all shortcut hands out the path behind its first byte
      have hp := star_shape hwf (eq_of_foldBytes_eq_specials (by decide) (patText_prettyPat cfg p ▸ beq_iff_eq.mp hstar))
      subst hp
      refine ⟨[upath.drop 1], routeMatch_star rfl (fun h => Bool.false_ne_true (hroot ▸ h.1)) upath, fun huplen => ?_⟩
      -- `hn`: the pattern `/*` has one parameter, so there is one value
      match vals, hn, huplen with
      | [v], _, huplen =>
        simp only [fill, List.headD_cons, List.length_append, List.length_cons, List.length_nil] at huplen
        simp only [slicesOf, List.headD_cons, List.length_cons, List.length_nil]
        rw [List.take_of_length_le (by simp only [List.length_drop]; omega)]
    case false =>
      refine ⟨slicesOf p vals upath, ?_, fun _ => rfl⟩
      rw [route_match_requires_getMatch (by rw [hlenr]; exact List.length_pos_iff.mpr hnp) rfl hroot]
      -- the induction; the routed token list differs from the folded one in the names only
      rw [fill_fold, ← slicesOf_fold cfg]
      exact getMatch_fill ((segs_of_segsOf (prettyPat_eq cfg p ▸ hsp)).ren _) _ _
        (foldPat_delimited cfg hd) (foldPat_escFree cfg p (wfPat_escFree hwf)) hcl

theorem upath_nil (cfg : Config) : (configDependentPaths cfg []).1 = [] := by
  unfold configDependentPaths; simp only; split <;> simp [unquote]

/-- `served_route` behind the request normalisation: a request whose detection path is the
    case-folded fill is dispatched to the route, and `RoutePatternMatch` is true. -/
theorem served_request {chk : Constraint → Bytes → Bool} (cfg : Config) {p : Pat} {vals : List Bytes}
    (orig : Bytes) (hwf : WFPat p = true) (hd : Delimited p = true)
    (hn : vals.length = (p.filter (·.isParam)).length)
    (hcl : CleanFill (foldPat cfg p) (foldVals cfg vals) = true)
    (htr : trailingOK cfg p vals = true)
    (hdet : (configDependentPaths cfg orig).2 = foldBytes cfg (fill p vals)) :
    ∃ r vs, register cfg false (patText p) = some r ∧
      dispatch1 chk r (configDependentPaths cfg orig).2 (configDependentPaths cfg orig).1 = some vs ∧
      ((configDependentPaths cfg orig).1.length = (fill p vals).length →
        vs = slicesOf p vals (configDependentPaths cfg orig).1) ∧
      routePatternMatch chk cfg orig (patText p) = some true := by
  obtain ⟨r, hreg, harity, hrootnp, hall⟩ := served_route (chk := chk) cfg hwf hd hn hcl htr
  -- an empty request has the empty routing path, while the fill starts with `/`
  have hne : orig ≠ [] := by
    intro h
    subst h
    obtain ⟨l', rest, rfl⟩ := wfPat_head hwf
    rw [det_eq_trimStep, upath_nil, trimStep_fold_id (s := []) (Or.inr (Or.inl (Nat.zero_le 1)))]
      at hdet
    exact foldBytes_ne_nil (by simp [fill]) (hdet.symm.trans (by unfold foldBytes; split <;> rfl))
  obtain ⟨vs, hvs, hsl⟩ := hall (configDependentPaths cfg orig).1
  refine ⟨r, vs, hreg, ?_, hsl, ?_⟩
  · rw [dispatch1_eq_routeMatch hreg, hdet]
    exact hvs
  · rw [rpm_eq_single_route_dispatch hreg orig hne harity hrootnp, dispatch1_eq_routeMatch hreg, hdet, hvs]
    rfl

/-- **The filled path is served, end to end** (model of `app.Get(pattern)` + one request +
    `RoutePatternMatch`). For every configuration, every token list `p` of the documented syntax
    (`WFPat`) that is `Delimited`, every assignment `vals` that is clean in the property sentence's
    sense (`CleanFill`: no additional occurrence of a literal that follows a parameter), with
    `trailingOK` (without StrictRouting the fill does not end in a slash), and every request path
    `orig` whose user-visible form (percent-decoded iff UnescapePath) is the fill *up to the letter
    case the configuration ignores*:

    * registering the pattern text does not panic and yields a route `r`,
    * dispatching the request to an app holding only `r` (tree index, `Route.match` with its `/`,
      `/*` and parameter-free shortcuts, `getMatch`) matches and writes exactly the values as they
      stand in the request (`slicesOf`: the user-visible path cut at the value boundaries; these
      are `vals` themselves when the path is the fill as written, `fill_served_values`),
    * `RoutePatternMatch(orig, text, cfg)` is true.

    This closes the gap between the induction over segment lists (`fill_match_complete`) and
    the route the app really holds: the parser on the prettified text (`parseRoute_patText`), the
    case folding of literals and names, the trailing-slash trimming on both sides. -/
theorem fill_served {chk : Constraint → Bytes → Bool} (cfg : Config) {p : Pat} {vals : List Bytes}
    (orig : Bytes) (hwf : WFPat p = true) (hd : Delimited p = true)
    (hn : vals.length = (p.filter (·.isParam)).length)
    (hcl : CleanFill (foldPat cfg p) (foldVals cfg vals) = true)
    (htr : trailingOK cfg p vals = true)
    (horig : foldBytes cfg (configDependentPaths cfg orig).1 = foldBytes cfg (fill p vals)) :
    ∃ r, register cfg false (patText p) = some r ∧
      dispatch1 chk r (configDependentPaths cfg orig).2 (configDependentPaths cfg orig).1 =
        some (slicesOf p vals (configDependentPaths cfg orig).1) ∧
      routePatternMatch chk cfg orig (patText p) = some true := by
  obtain ⟨r, vs, h1, h2, h3, h4⟩ := served_request (chk := chk) cfg orig hwf hd hn hcl htr (det_of_fill (trailingOK_iff.mp htr) horig)
  have huplen : (configDependentPaths cfg orig).1.length = (fill p vals).length := by
    rw [← foldBytes_length cfg, horig, foldBytes_length]
  exact ⟨r, h1, by rw [h2, h3 huplen], h4⟩

/-- **The decision ignores trailing slashes unless StrictRouting, on filled paths.** Without
    StrictRouting, for a documented-syntax token list, a clean assignment whose fill does not end in
    a slash, and every request whose user-visible path (decoded iff UnescapePath) is that fill – up
    to ignored letter case – followed by ANY number of slashes: the route is registered, the request
    is dispatched to it (`Route.match` succeeds) and `RoutePatternMatch` is true. (The values are
    claimed for the fill itself, `fill_served`; behind extra slashes `getMatch` still writes the
    slices, the catch-all shortcut of `/*` the whole rest of the path.) -/
theorem fill_slashes_served {chk : Constraint → Bytes → Bool} (cfg : Config) {p : Pat} {vals : List Bytes}
    (orig : Bytes) (n : Nat) (hwf : WFPat p = true) (hd : Delimited p = true)
    (hnv : vals.length = (p.filter (·.isParam)).length)
    (hcl : CleanFill (foldPat cfg p) (foldVals cfg vals) = true)
    (hst : cfg.strictRouting = false) (hlast : (fill p vals).getLast? ≠ some SLASH)
    (horig : foldBytes cfg (configDependentPaths cfg orig).1 =
      foldBytes cfg (fill p vals) ++ List.replicate n SLASH) :
    ∃ r vs, register cfg false (patText p) = some r ∧
      dispatch1 chk r (configDependentPaths cfg orig).2 (configDependentPaths cfg orig).1 = some vs ∧
      routePatternMatch chk cfg orig (patText p) = some true := by
  have htr : trailingOK cfg p vals = true := trailingOK_iff.mpr (Or.inr (Or.inr hlast))
  have hfne : fill p vals ≠ [] := by
    obtain ⟨l', rest, rfl⟩ := wfPat_head hwf
    simp [fill]
  obtain ⟨r, vs, h1, h2, _, h4⟩ := served_request (chk := chk) cfg orig hwf hd hnv hcl htr
    (det_of_fill_slashes n hst hfne hlast horig)
  exact ⟨r, vs, h1, h2, h4⟩

/-- non-vacuity: default configuration, `/Api/:Id-*` filled with `A7`, `b/c`; the request is in
    another letter case and adds three slashes -/
example :
    let cfg : Config := {}
    let p : Pat := [.lit (b "/Api/"), .named (b "Id") false, .lit (b "-"), .star]
    let vals := [b "A7", b "b/c"]
    let orig := b "/api/a7-B/c///"
    (WFPat p && Delimited p && CleanFill (foldPat cfg p) (foldVals cfg vals) && !cfg.strictRouting &&
     ((fill p vals).getLast? != some SLASH) &&
     (foldBytes cfg (configDependentPaths cfg orig).1 == foldBytes cfg (fill p vals) ++ List.replicate 3 SLASH) &&
     (match register cfg false (patText p) with
      | some r => dispatch1 (fun _ _ => true) r (configDependentPaths cfg orig).2 (configDependentPaths cfg orig).1 ==
            some [b "a7", b "B/c"] &&
          routePatternMatch (fun _ _ => true) cfg orig (patText p) == some true
      | none => false)) = true := by decide +kernel

/-- "…and Params returns exactly those values": when the user-visible path is the fill as written,
    the values written are `vals`. -/
theorem fill_served_values {chk : Constraint → Bytes → Bool} (cfg : Config) {p : Pat} {vals : List Bytes}
    (orig : Bytes) (hwf : WFPat p = true) (hd : Delimited p = true)
    (hn : vals.length = (p.filter (·.isParam)).length)
    (hcl : CleanFill (foldPat cfg p) (foldVals cfg vals) = true)
    (htr : trailingOK cfg p vals = true)
    (horig : (configDependentPaths cfg orig).1 = fill p vals) :
    ∃ r, register cfg false (patText p) = some r ∧
      dispatch1 chk r (configDependentPaths cfg orig).2 (configDependentPaths cfg orig).1 = some vals ∧
      routePatternMatch chk cfg orig (patText p) = some true := by
  obtain ⟨r, h1, h2, h3⟩ := fill_served (chk := chk) cfg orig hwf hd hn hcl htr (by rw [horig])
  refine ⟨r, h1, ?_, h3⟩
  rw [h2, horig, ← List.append_nil (fill p vals), slicesOf_fill p vals [] hn]

/-- **Percent-decoding with UnescapePath: the filled path in ANY percent-encoding is served.** With
    UnescapePath, whichever bytes of the fill the client writes as `%XX` (hex digits in either letter
    case) – it has to encode `%` and `+`, which the decoder rewrites –, the user-visible path is the
    fill (`unquote_writePath`), so the route matches, the values come back exactly and
    `RoutePatternMatch` is true. -/
theorem fill_served_encoded {chk : Constraint → Bytes → Bool} (cfg : Config) {p : Pat} {vals : List Bytes}
    (ws : List Wr) (hwf : WFPat p = true) (hd : Delimited p = true)
    (hn : vals.length = (p.filter (·.isParam)).length)
    (hcl : CleanFill (foldPat cfg p) (foldVals cfg vals) = true)
    (htr : trailingOK cfg p vals = true)
    (hu : cfg.unescapePath = true) (hb : ∀ c ∈ fill p vals, c < 256) (hw : wrOK (fill p vals) ws = true) :
    ∃ r, register cfg false (patText p) = some r ∧
      dispatch1 chk r (configDependentPaths cfg (writePath (fill p vals) ws)).2
        (configDependentPaths cfg (writePath (fill p vals) ws)).1 = some vals ∧
      routePatternMatch chk cfg (writePath (fill p vals) ws) (patText p) = some true :=
  fill_served_values cfg _ hwf hd hn hcl htr
    (by rw [unescape_only_with_flag, hu]; exact unquote_writePath _ _ hb hw)

/-- non-vacuity: `/f/:x-*` filled with `a b`, `c/d`: the space, the dash and the second slash are sent
    percent-encoded (`%20`, `%2D`, `%2f`) -/
example :
    let cfg : Config := { unescapePath := true }
    let p : Pat := [.lit (b "/f/"), .named (b "x") false, .lit (b "-"), .star]
    let vals := [b "a b", b "c/d"]
    let ws : List Wr := [.raw, .raw, .raw, .raw, .pct false false, .raw, .pct true true, .raw, .pct false false]
    (WFPat p && Delimited p && CleanFill (foldPat cfg p) (foldVals cfg vals) && trailingOK cfg p vals &&
     decide (∀ c ∈ fill p vals, c < 256) && wrOK (fill p vals) ws &&
     (writePath (fill p vals) ws == b "/f/a%20b%2Dc%2fd")) = true := by decide +kernel

/-- non-vacuity: case-insensitive, non-strict; mixed-case pattern `/Api/:Id-*.x/+` (names and
    literals are folded by `register`; the literal `.x/` has a trailing slash), the request in yet
    another letter case: the values come back as the request wrote them -/
example :
    let cfg : Config := {}
    let p : Pat := [.lit (b "/Api/"), .named (b "Id") false, .lit (b "-"), .star, .lit (b ".x/"), .plus]
    let vals := [b "A7", b "b.c-d", b "e/F g"]
    let orig := b "/aPI/A7-b.C-d.X/e/F g"
    (WFPat p && Delimited p && CleanFill (foldPat cfg p) (foldVals cfg vals) &&
     trailingOK cfg p vals &&
     (foldBytes cfg (configDependentPaths cfg orig).1 == foldBytes cfg (fill p vals)) &&
     (match register cfg false (patText p) with
      | some r => dispatch1 (fun _ _ => true) r (configDependentPaths cfg orig).2 (configDependentPaths cfg orig).1 ==
          some [b "A7", b "b.C-d", b "e/F g"]
      | none => false)) = true := by decide +kernel

/-- **The witness of former known finding K1 is served** (strict, case-sensitive): named parameter
    followed by the literal dash-slash, value `a-b`. The fill creates no additional occurrence of the
    literal; the hypotheses of `fill_served_values` hold, the route matches, `x = a-b` comes back and
    `RoutePatternMatch` is true. (Before the repair the matcher cut the value at the first dash and
    answered 404.) -/
theorem former_K1_witness_served :
    let cfg : Config := { caseSensitive := true, strictRouting := true }
    let p : Pat := [.lit (b "/"), .named (b "x") false, .lit (b "-/")]
    let vals := [b "a-b"]
    (WFPat p && Delimited p && CleanFill (foldPat cfg p) (foldVals cfg vals) && trailingOK cfg p vals &&
     !cleanFillWith cmpOfConst (foldPat cfg p) (foldVals cfg vals) &&
     (match register cfg false (patText p) with
      | some r => routeMatch (fun _ _ => true) r (fill p vals) (fill p vals) == some vals &&
          routePatternMatch (fun _ _ => true) cfg (fill p vals) (patText p) == some true
      | none => false)) = true := by decide +kernel

/-- **`Params(name)` hands back the value written for that name** (ctx.go `Params`: first declared
    name equal to the key – exactly, or ignoring letter case unless CaseSensitive – decides): for a
    route whose declared names are pairwise distinct under that comparison, looking up every
    declared name in turn returns exactly the values `getMatch` wrote. Together with
    `fill_served` this is "Params returns exactly those values". (That the generated names
    of `*`/`+` parameters – `*1`, `*2`, `+1` … – are distinct is `declared_names_distinct` below;
    `fill_served_params` puts the two together.) -/
theorem params_return_values (cfg : Config) (names vals : List Bytes) (hlen : names.length = vals.length)
    (hdist : names.Pairwise (fun a c => nameMatch cfg a c = false)) :
    names.map (paramsLookup cfg names vals) = vals :=
  (List.map_congr_left (fun k _ => paramsLookup_eq cfg names vals k)).trans
    (lookupRec_positional cfg names vals (namesDistinct_of_pairwise names hdist) hlen.symm)

example :
    let names := [b "id", b "*1", b "+1"]
    (decide (names.Pairwise (fun a c => nameMatch {} a c = false)) &&
     names.map (paramsLookup {} names [b "7", [], b "x/y"]) == [b "7", [], b "x/y"]) = true := by decide +kernel

/-- **The names a documented-syntax route declares are pairwise distinct** under the comparison of
    `ctx.Params` as soon as the names the user wrote are: the generated names `*1, *2, … / +1, +2, …`
    (`analyseParameterPart`: `*` / `+` followed by the decimal counter) differ from each other
    (decimal rendering is injective, `natToDec_inj`; digits are not touched by case folding) and
    from every user name (those are letters, digits and `_`, `WFPat`). -/
theorem declared_names_distinct (cfg : Config) {p : Pat} {r : Route} (hwf : WFPat p = true)
    (hr : register cfg false (patText p) = some r)
    (hnames : (userNames p).Pairwise (fun a c => nameMatch cfg a c = false)) :
    r.params.Pairwise (fun a c => nameMatch cfg a c = false) := by
  obtain ⟨sr, hsr, hpar⟩ := register_params hwf hr
  rw [hpar]
  exact segsOf_names_distinct cfg hwf hsr hnames

/-- **"…and Params returns exactly those values", by name, end to end.** Under the hypotheses of
    `fill_served_values` and pairwise distinct *user* names: the route is registered, the request
    is dispatched to it, and looking up every declared name with `ctx.Params` returns the values
    that were filled in, one by one. -/
theorem fill_served_params {chk : Constraint → Bytes → Bool} (cfg : Config) {p : Pat} {vals : List Bytes}
    (orig : Bytes) (hwf : WFPat p = true) (hd : Delimited p = true)
    (hn : vals.length = (p.filter (·.isParam)).length)
    (hcl : CleanFill (foldPat cfg p) (foldVals cfg vals) = true)
    (htr : trailingOK cfg p vals = true)
    (horig : (configDependentPaths cfg orig).1 = fill p vals)
    (hnames : (userNames p).Pairwise (fun a c => nameMatch cfg a c = false)) :
    ∃ r vs, register cfg false (patText p) = some r ∧
      dispatch1 chk r (configDependentPaths cfg orig).2 (configDependentPaths cfg orig).1 = some vs ∧
      r.params.map (paramsLookup cfg r.params vs) = vals := by
  obtain ⟨r, h1, h2, _⟩ := fill_served_values (chk := chk) cfg orig hwf hd hn hcl htr horig
  obtain ⟨sr, hsr, hpar⟩ := register_params hwf h1
  exact ⟨r, vals, h1, h2, params_return_values cfg _ vals (by rw [hpar, segsOf_params_len hsr, hn])
    (declared_names_distinct cfg hwf h1 hnames)⟩

/-- non-vacuity: two wildcards, a plus and two user names that differ only beyond letter case;
    the declared names are `a`, `*1`, `+1`, `*2`, `Ab` and every one answers with its own value -/
example :
    let cfg : Config := {}
    let p : Pat := [.lit (b "/"), .named (b "a") false, .lit (b "/"), .star, .lit (b "-"), .plus, .lit (b "."),
                    .star, .lit (b "/"), .named (b "Ab") true]
    let vals := [b "x", b "p/q", b "r", [], b "Z"]
    (WFPat p && Delimited p && CleanFill (foldPat cfg p) (foldVals cfg vals) && trailingOK cfg p vals &&
     decide ((userNames p).Pairwise (fun a c => nameMatch cfg a c = false)) &&
     (match register cfg false (patText p) with
      | some r => r.params == [b "a", b "*1", b "+1", b "*2", b "Ab"] &&
          (match dispatch1 (fun _ _ => true) r (configDependentPaths cfg (fill p vals)).2 (configDependentPaths cfg (fill p vals)).1 with
           | some vs => r.params.map (paramsLookup cfg r.params vs) == vals
           | none => false)
      | none => false)) = true := by decide +kernel

/-- **RoutePatternMatch answers exactly as dispatching the path to an app holding only that route —
    for every pattern of the documented syntax, with no further hypothesis.** The two parser facts
    `rpm_eq_single_route_dispatch` assumes (the pattern as written and the routed, possibly
    slash-trimmed and case-folded pattern agree on having parameters; a root pattern declares none)
    hold for every `WFPat` token list and every configuration (`register_arity`), and registration
    does not panic (`routed_pat`, `register_text`): for every non-empty request path the two answers
    agree. (For raw pattern text outside the token syntax the two facts stay run-time validated,
    `hypViolated` in the driver.) -/
theorem rpm_eq_dispatch_documented {chk : Constraint → Bytes → Bool} (cfg : Config) {p : Pat}
    (hwf : WFPat p = true) (reqPath : Bytes) (hne : reqPath ≠ []) :
    ∃ r, register cfg false (patText p) = some r ∧
      routePatternMatch chk cfg reqPath (patText p) =
        some (dispatch1 chk r (configDependentPaths cfg reqPath).2 (configDependentPaths cfg reqPath).1).isSome := by
  obtain ⟨q, hokq, hshq, htext⟩ := routed_pat cfg hwf
  obtain ⟨sr, sp, _, _, hreg⟩ := register_text hwf hokq hshq htext
  obtain ⟨harity, hrootnp⟩ := register_arity hwf hreg
  exact ⟨_, hreg, rpm_eq_single_route_dispatch hreg reqPath hne harity hrootnp⟩

/-- non-vacuity: pattern `/Shop/:id?/` (trailing slash, optional parameter, upper case) -/
example :
    let p : Pat := [.lit (b "/Shop/"), .named (b "id") true, .lit (b "/")]
    (WFPat p && (match register {} false (patText p) with
      | some r => (routePatternMatch (fun _ _ => true) {} (b "/shop") (patText p) ==
          some (dispatch1 (fun _ _ => true) r (configDependentPaths {} (b "/shop")).2 (configDependentPaths {} (b "/shop")).1).isSome)
          && routePatternMatch (fun _ _ => true) {} (b "/shop") (patText p) == some true
      | none => false)) = true := by decide +kernel

/-- `/:x/:x/…/:x` with `n` parameters -/
def slashPat : Nat → Pat
  | 0 => []
  | n + 1 => .lit [SLASH] :: .named [120] false :: slashPat n

def strictCS : Config := { caseSensitive := true, strictRouting := true, unescapePath := false }

theorem slashPat_facts (n : Nat) :
    delimNext (slashPat n) = true ∧ Delimited (slashPat n) = true ∧ pairsOK (slashPat n) = true ∧
    (slashPat n).all (fun t => match t with
      | .lit t => !t.isEmpty && !t.any specialByte
      | .named n _ => !n.isEmpty && n.all nameByte
      | _ => true) = true ∧
    nparams (slashPat n) = n ∧ cleanFillWith id (slashPat n) (List.replicate n [97]) = true := by
  induction n with
  | zero => exact ⟨rfl, rfl, rfl, rfl, rfl, rfl⟩
  | succ n ih =>
    obtain ⟨h1, h2, h3, h4, h5, h6⟩ := ih
    refine ⟨rfl, ?_, ?_, ?_, ?_, ?_⟩
    · simp only [slashPat, Delimited, Tok.isParam, h1, h2]; rfl
    · cases n with
      | zero => rfl
      | succ m => simp only [slashPat, pairsOK] at h3 ⊢; rw [h3]; rfl
    · rw [slashPat, List.all_cons, List.all_cons, h4]; rfl
    · show ((slashPat (n + 1)).filter (·.isParam)).length = n + 1
      rw [slashPat, List.filter_cons_of_neg (by simp [Tok.isParam]), List.filter_cons_of_pos rfl, List.length_cons]
      exact congrArg (· + 1) h5
    · rw [slashPat, List.replicate_succ, cleanFillWith, cleanFillWith_param _ _ _ _ _ rfl, h6]
      cases n <;> rfl

/-- the hypotheses of `fill_served_values` on `/:x/…/:x` filled with `a`, for every number of parameters -/
theorem slashPat_hyps (n : Nat) :
    WFPat (slashPat (n + 1)) = true ∧ Delimited (slashPat (n + 1)) = true ∧
    CleanFill (foldPat strictCS (slashPat (n + 1))) (foldVals strictCS (List.replicate (n + 1) [97])) = true ∧
    trailingOK strictCS (slashPat (n + 1)) (List.replicate (n + 1) [97]) = true ∧
    nparams (slashPat (n + 1)) = n + 1 ∧
    (List.replicate (n + 1) [97]).length = ((slashPat (n + 1)).filter (·.isParam)).length := by
  obtain ⟨_, h2, h3, h4, h5, h6⟩ := slashPat_facts (n + 1)
  refine ⟨?_, h2, ?_, rfl, h5, by rw [List.length_replicate]; exact h5.symm⟩
  · unfold WFPat
    rw [Bool.and_eq_true, Bool.and_eq_true, shapeOK_eq]
    exact ⟨⟨rfl, h4⟩, h3⟩
  · rw [CleanFill, foldPat_caseSensitive rfl]
    exact h6

/-- **The completeness theorems carry no bound on the number of parameters**: for every parameter
    count the model registers the strict, case-sensitive route `/:x/:x/…/:x`, dispatches the path
    `/a/a/…/a` to it with exactly the values written and answers RoutePatternMatch with true. Real
    fiber serves such patterns up to 30 parameters and refuses to register more (`router.go`); that
    bound is therefore held by the oracle and the driver (`C03.maxParams`, every run draws patterns
    with 28, 29, 30 and 31 parameters), not by the model. -/
theorem fill_served_any_count {chk : Constraint → Bytes → Bool} (n : Nat) :
    nparams (slashPat (n + 1)) = n + 1 ∧
    ∃ r, register strictCS false (patText (slashPat (n + 1))) = some r ∧
      dispatch1 chk r (fill (slashPat (n + 1)) (List.replicate (n + 1) [97]))
        (fill (slashPat (n + 1)) (List.replicate (n + 1) [97])) = some (List.replicate (n + 1) [97]) ∧
      routePatternMatch chk strictCS (fill (slashPat (n + 1)) (List.replicate (n + 1) [97]))
        (patText (slashPat (n + 1))) = some true := by
  obtain ⟨hwf, hd, hcl, htr, hnp, hlen⟩ := slashPat_hyps n
  refine ⟨hnp, ?_⟩
  have hc : configDependentPaths strictCS (fill (slashPat (n + 1)) (List.replicate (n + 1) [97])) =
      (fill (slashPat (n + 1)) (List.replicate (n + 1) [97]), fill (slashPat (n + 1)) (List.replicate (n + 1) [97])) := by
    simp [configDependentPaths, strictCS]
  have := fill_served_values (chk := chk) strictCS (fill (slashPat (n + 1)) (List.replicate (n + 1) [97]))
    hwf hd hlen hcl htr (by rw [hc])
  rw [hc] at this
  exact this

/-- `fill_served_any_count` at the counts 1 … 41, around fiber's `maxParams` = 30; the bound plays no
    part in the proof. -/
theorem fill_served_many_params {chk : Constraint → Bytes → Bool} (n : Nat) (h : n < 41) :
    nparams (slashPat (n + 1)) = n + 1 ∧
    ∃ r, register strictCS false (patText (slashPat (n + 1))) = some r ∧
      dispatch1 chk r (fill (slashPat (n + 1)) (List.replicate (n + 1) [97]))
        (fill (slashPat (n + 1)) (List.replicate (n + 1) [97])) = some (List.replicate (n + 1) [97]) ∧
      routePatternMatch chk strictCS (fill (slashPat (n + 1)) (List.replicate (n + 1) [97]))
        (patText (slashPat (n + 1))) = some true :=
  fill_served_any_count n

/-- non-vacuity: the 30th and the 31st parameter count are among the instances -/
example : nparams (slashPat 30) = 30 ∧ nparams (slashPat 31) = 31 ∧ maxParams = 30 := by decide +kernel

end C03
