import FiberModel.C03.Model
/-
C03 — occurrences of a non-empty key `K` in a byte string, and Go's `strings.Index`,
`strings.LastIndex`, `strings.Count` and the right-to-left stripping loop of `findGreedyParamLen` in
terms of them. No patterns here; Greedy.lean applies this to filled paths. The two facts it rests
on:

  * `count_eq_cntR` — the number of non-overlapping occurrences counted from the left
    (`strings.Count`, what `PartCount` and `searchCount` are made of) equals the number of
    occurrences the loop can strip from the right (`strings.LastIndex` repeatedly) — for every
    string and key, self-overlapping keys such as `--` included;
  * `NoStradP` — "no occurrence of `K` in `a ++ b` straddles the boundary", which follows from
    `occ (a ++ b) = occ a + occ b` and makes `Count` additive.
-/
namespace C03
open B C02

def OccAt (K s : Bytes) (i : Nat) : Prop := K <+: s.drop i

theorem occAt_cons_succ (K : Bytes) (x : Nat) (xs : Bytes) (i : Nat) :
    OccAt K (x :: xs) (i + 1) ↔ OccAt K xs i := by simp [OccAt]

theorem occAt_zero (K s : Bytes) : OccAt K s 0 ↔ K.isPrefixOf s = true := by
  simp [OccAt, List.isPrefixOf_iff_prefix]

theorem occAt_bound {K s : Bytes} {i : Nat} (hK : K ≠ []) (h : OccAt K s i) : i + K.length ≤ s.length := by
  have h1 := h.length_le
  simp only [List.length_drop] at h1
  have h2 : 0 < K.length := List.length_pos_iff.mpr hK
  omega

theorem occAt_drop (K s : Bytes) (a q : Nat) : OccAt K (s.drop a) q ↔ OccAt K s (a + q) := by
  simp [OccAt, List.drop_drop]

theorem occAt_take (K s : Bytes) (a p : Nat) :
    OccAt K (s.take a) p ↔ OccAt K s p ∧ K.length ≤ a - p := by
  simp [OccAt, List.drop_take, List.prefix_take_iff]

theorem occAt_append_right (K a c : Bytes) (q : Nat) : OccAt K (a ++ c) (a.length + q) ↔ OccAt K c q := by
  unfold OccAt
  rw [← List.drop_drop, List.drop_left]

theorem not_occAt_nil {K : Bytes} (hK : K ≠ []) (i : Nat) : ¬ OccAt K [] i := by
  intro h
  have := occAt_bound hK h
  have h2 : 0 < K.length := List.length_pos_iff.mpr hK
  simp only [List.length_nil] at this; omega

theorem not_occAt_zero {K x : _} {xs : Bytes} (hp : ¬ K.isPrefixOf (x :: xs) = true) : ¬ OccAt K (x :: xs) 0 := by
  rw [occAt_zero]; exact hp

/-- from "the result is the extremal position with `P`, or there is none" to the equivalence for a position -/
theorem some_iff_of_spec {P : Nat → Prop} {R : Nat → Nat → Prop} (hR : ∀ a b, ¬ R a b → ¬ R b a → a = b)
    {o : Option Nat}
    (h : match o with
      | some i => P i ∧ ∀ p, R p i → ¬ P p
      | none => ∀ i, ¬ P i) (i : Nat) :
    o = some i ↔ P i ∧ ∀ p, R p i → ¬ P p := by
  cases o with
  | none => exact ⟨fun hh => (by cases hh), fun hh => absurd hh.1 (h i)⟩
  | some j =>
    refine ⟨fun hh => (by cases hh; exact h), fun ⟨h1, h2⟩ => ?_⟩
    rw [hR j i (fun hlt => h2 j hlt h.1) (fun hlt => h.2 i hlt h1)]

/-- `strings.Index`: the least offset at which `K` occurs, if any -/
theorem indexOf_spec {K : Bytes} (hK : K ≠ []) (s : Bytes) :
    match indexOf s K with
    | some i => OccAt K s i ∧ ∀ p, p < i → ¬ OccAt K s p
    | none => ∀ i, ¬ OccAt K s i := by
  -- cases of `indexOf`: empty string (empty key / not), `K` is a prefix here, search goes on in the tail
  fun_induction indexOf s K with
  | case1 K h => exact absurd (List.isEmpty_iff.mp h) hK
  | case2 => exact not_occAt_nil hK
  | case3 x xs K hp =>
    exact ⟨(occAt_zero K _).mpr hp, fun p hp' => absurd hp' (Nat.not_lt_zero p)⟩
  | case4 x xs K hp ih =>
    have ih := ih hK
    cases hi : indexOf xs K with
    | none =>
      rw [hi] at ih
      intro i
      cases i with
      | zero => exact not_occAt_zero hp
      | succ i => rw [occAt_cons_succ]; exact ih i
    | some j =>
      rw [hi] at ih
      refine ⟨(occAt_cons_succ K x xs j).mpr ih.1, fun p hp' => ?_⟩
      cases p with
      | zero => exact not_occAt_zero hp
      | succ p => rw [occAt_cons_succ]; exact ih.2 p (Nat.lt_of_succ_lt_succ hp')

theorem indexOf_none {K : Bytes} (hK : K ≠ []) {s : Bytes} (h : indexOf s K = none) : ∀ i, ¬ OccAt K s i := by
  have := indexOf_spec hK s
  rwa [h] at this

theorem indexOf_some_iff {K : Bytes} (hK : K ≠ []) (s : Bytes) (i : Nat) :
    indexOf s K = some i ↔ OccAt K s i ∧ ∀ p, p < i → ¬ OccAt K s p :=
  some_iff_of_spec (R := fun p i => p < i) (fun _ _ h1 h2 => by omega) (indexOf_spec hK s) i

/-- `strings.LastIndex`: the greatest offset at which `K` occurs, if any -/
theorem lastIndexOf_spec {K : Bytes} (hK : K ≠ []) (s : Bytes) :
    match lastIndexOf s K with
    | some j => OccAt K s j ∧ ∀ p, j < p → ¬ OccAt K s p
    | none => ∀ i, ¬ OccAt K s i := by
  -- cases of `lastIndexOf`: empty string (empty key / not), found in the tail, found here only, not found
  fun_induction lastIndexOf s K with
  | case1 K h => exact absurd (List.isEmpty_iff.mp h) hK
  | case2 => exact not_occAt_nil hK
  | case3 x xs K k hl ih =>
    have ih := ih hK
    rw [hl] at ih
    refine ⟨(occAt_cons_succ K x xs k).mpr ih.1, fun p hp' => ?_⟩
    cases p with
    | zero => omega
    | succ p => rw [occAt_cons_succ]; exact ih.2 p (by omega)
  | case4 x xs K hl hp ih =>
    have ih := ih hK
    rw [hl] at ih
    refine ⟨(occAt_zero K _).mpr hp, fun p hp' => ?_⟩
    cases p with
    | zero => omega
    | succ p => rw [occAt_cons_succ]; exact ih p
  | case5 x xs K hl hp ih =>
    have ih := ih hK
    rw [hl] at ih
    intro i
    cases i with
    | zero => exact not_occAt_zero hp
    | succ i => rw [occAt_cons_succ]; exact ih i

theorem lastIndexOf_none {K : Bytes} (hK : K ≠ []) {s : Bytes} (h : lastIndexOf s K = none) : ∀ i, ¬ OccAt K s i := by
  have := lastIndexOf_spec hK s
  rwa [h] at this

theorem lastIndexOf_some_iff {K : Bytes} (hK : K ≠ []) (s : Bytes) (j : Nat) :
    lastIndexOf s K = some j ↔ OccAt K s j ∧ ∀ p, j < p → ¬ OccAt K s p :=
  some_iff_of_spec (R := fun p j => j < p) (fun _ _ h1 h2 => by omega) (lastIndexOf_spec hK s) j

theorem countGo_skip (K : Bytes) : (s : Bytes) → (sk : Nat) → countGo K s sk = countGo K (s.drop sk) 0
  | [], sk => by simp [countGo]
  | x :: xs, 0 => by simp
  | x :: xs, sk + 1 => by
    rw [countGo, List.drop_succ_cons]
    exact countGo_skip K xs sk

theorem count_eq_countGo {K : Bytes} (hK : K ≠ []) (s : Bytes) : count s K = countGo K s 0 := by
  unfold count; simp [List.isEmpty_eq_false_iff.mpr hK]

theorem countGo_no_occ {K : Bytes} (s : Bytes) (sk : Nat) (h : ∀ i, ¬ OccAt K s i) : countGo K s sk = 0 := by
  -- cases of `countGo`: empty string, a byte still to be skipped, an occurrence counted here, none here
  fun_induction countGo K s sk with
  | case1 => rfl
  | case2 x xs sk ih => exact ih fun i ho => h (i + 1) ((occAt_cons_succ K x xs i).mpr ho)
  | case3 x xs hp _ => exact absurd ((occAt_zero K _).mpr hp) (h 0)
  | case4 x xs hp ih => exact ih fun i ho => h (i + 1) ((occAt_cons_succ K x xs i).mpr ho)

theorem count_none {K : Bytes} (hK : K ≠ []) {s : Bytes} (h : indexOf s K = none) : count s K = 0 := by
  rw [count_eq_countGo hK]
  exact countGo_no_occ s 0 (indexOf_none hK h)

theorem countGo_some {K : Bytes} (hK : K ≠ []) (s : Bytes) (i : Nat) (h : indexOf s K = some i) :
    countGo K s 0 = 1 + countGo K (s.drop (i + K.length)) 0 := by
  have hlen : 0 < K.length := List.length_pos_iff.mpr hK
  -- cases of `indexOf` as in `indexOf_spec`
  fun_induction indexOf s K generalizing i with
  | case1 K he => exact absurd (List.isEmpty_iff.mp he) hK
  | case2 => cases h
  | case3 x xs K hp =>
    cases h
    rw [countGo, if_pos hp, countGo_skip, show 0 + K.length = (K.length - 1) + 1 by omega, List.drop_succ_cons]
  | case4 x xs K hp ih =>
    obtain ⟨j, hj, rfl⟩ := Option.map_eq_some_iff.mp h
    rw [countGo, if_neg hp, ih hK j hj hlen, show j + 1 + K.length = (j + K.length) + 1 by omega,
      List.drop_succ_cons]

/-- `findGreedyParamLen`'s loop body, `n` times: cut the string at the last occurrence of `K`. -/
def stripR (K : Bytes) : Nat → Bytes → Bytes
  | 0, s => s
  | n + 1, s =>
    match lastIndexOf s K with
    | none => s
    | some k => stripR K n (s.take k)

theorem findGreedyLoop_eq_stripR (K : Bytes) (i sc : Nat) (s : Bytes) :
    findGreedyLoop K i sc s = stripR K (min i sc) s := by
  -- cases of `findGreedyLoop`: `PartCount` used up, `searchCount` used up, no occurrence left, one more cut
  fun_induction findGreedyLoop K i sc s with
  | case1 => simp [stripR]
  | case2 => simp [stripR]
  | case3 i sc s hl => rw [show min (i + 1) (sc + 1) = min i sc + 1 by omega, stripR, hl]
  | case4 i sc s k hl ih => rw [show min (i + 1) (sc + 1) = min i sc + 1 by omega, stripR, hl]; exact ih

theorem lastIndexOf_lt {K s : Bytes} {k : Nat} (hK : K ≠ []) (h : lastIndexOf s K = some k) : k < s.length := by
  have := occAt_bound hK ((lastIndexOf_some_iff hK s k).mp h).1
  have h2 : 0 < K.length := List.length_pos_iff.mpr hK
  omega

-- `hK` is bound for `decreasing_by` only
set_option linter.unusedVariables false in
/-- how many times the loop can strip: occurrences taken from the right, non-overlapping -/
def cntR (K : Bytes) (s : Bytes) : Nat :=
  if hK : K = [] then 0
  else
    match h : lastIndexOf s K with
    | none => 0
    | some k => 1 + cntR K (s.take k)
termination_by s.length
decreasing_by
  have := lastIndexOf_lt hK h
  simp only [List.length_take]; omega

theorem cntR_no_occ {K s : Bytes} (h : ∀ i, ¬ OccAt K s i) : cntR K s = 0 := by
  -- cases of `cntR`: empty key, no occurrence, cut at the last occurrence `k`
  fun_cases cntR K s with
  | case1 => rfl
  | case2 => rfl
  | case3 hK k hk => exact absurd ((lastIndexOf_some_iff hK s k).mp hk).1 (h k)

theorem cntR_some {K s : Bytes} {k : Nat} (hK : K ≠ []) (h : lastIndexOf s K = some k) :
    cntR K s = 1 + cntR K (s.take k) := by
  -- cases of `cntR` as in `cntR_no_occ`
  fun_cases cntR K s with
  | case1 h' => exact absurd h' hK
  | case2 _ hl => rw [h] at hl; cases hl
  | case3 _ k' hl => rw [h] at hl; cases hl; rfl

/-- the bounds `count_eq_cntR` needs for its three recursive calls; on their own so that `omega` sees
    these four hypotheses and not the whole context of that proof -/
theorem peel_bounds {ls n i j k : Nat} (hn : ls ≤ n + 1) (hk : 0 < k) (hib : i + k ≤ ls) (hjb : j + k ≤ ls) :
    ls - (i + k) ≤ n ∧ j ≤ n ∧ j - (i + k) ≤ n := by omega

/-- **Counting from the left = stripping from the right.** `strings.Count(s, K)` (greedy,
    non-overlapping, left to right) is the number of times `strings.LastIndex` finds `K` when the
    string is cut at each hit — for every string and every non-empty key, self-overlapping ones
    included. By induction on a bound `n` of the length: the first and the last occurrence are peeled
    off together, and `drop`, `take` and `take` of the `drop` are strictly shorter. -/
theorem count_eq_cntR {K : Bytes} (hK : K ≠ []) : (n : Nat) → (s : Bytes) → s.length ≤ n → countGo K s 0 = cntR K s
  | 0, s, hn => by
    have : s = [] := List.eq_nil_of_length_eq_zero (by omega)
    subst this
    rw [cntR_no_occ (not_occAt_nil hK)]
    rfl
  | n + 1, s, hn => by
    have hlen : 0 < K.length := List.length_pos_iff.mpr hK
    cases hi : indexOf s K with
    | none =>
      have hno := indexOf_none hK hi
      rw [countGo_no_occ s 0 hno, cntR_no_occ hno]
    | some i =>
      obtain ⟨i1, i2⟩ := (indexOf_some_iff hK s i).mp hi
      cases hl : lastIndexOf s K with
      | none => exact absurd i1 (lastIndexOf_none hK hl i)
      | some j =>
        obtain ⟨j1, j2⟩ := (lastIndexOf_some_iff hK s j).mp hl
        obtain ⟨b1, b2, b3⟩ := peel_bounds hn hlen (occAt_bound hK i1) (occAt_bound hK j1)
        rw [countGo_some hK s i hi, cntR_some hK hl]
        congr 1
        by_cases hij : i + K.length ≤ j
        · -- the first and the last occurrence are disjoint: peel both
          have hl2 : lastIndexOf (s.drop (i + K.length)) K = some (j - (i + K.length)) := by
            rw [lastIndexOf_some_iff hK]
            refine ⟨by rw [occAt_drop, Nat.add_sub_cancel' hij]; exact j1, fun p hp hq => ?_⟩
            rw [occAt_drop] at hq; exact j2 _ (by omega) hq
          have hi2 : indexOf (s.take j) K = some i := by
            rw [indexOf_some_iff hK]
            exact ⟨(occAt_take ..).mpr ⟨i1, by omega⟩, fun p hp hq => i2 p hp ((occAt_take ..).mp hq).1⟩
          rw [count_eq_cntR hK n _ (by rw [List.length_drop]; exact b1), cntR_some hK hl2,
            ← count_eq_cntR hK n (s.take j) (by rw [List.length_take]; exact Nat.le_trans (Nat.min_le_left _ _) b2),
            countGo_some hK _ i hi2,
            List.drop_take, count_eq_cntR hK n _ (by rw [List.length_take]; exact Nat.le_trans (Nat.min_le_left _ _) b3)]
        · -- they overlap (or coincide): no occurrence behind the first, none before the last
          rw [countGo_no_occ _ 0 ?_, cntR_no_occ ?_]
          · intro q hq; rw [occAt_take] at hq; exact i2 q (by omega) hq.1
          · intro q hq; rw [occAt_drop] at hq; exact j2 _ (by omega) hq

/-- No occurrence of `K` in `a ++ b` that starts inside `a` reaches into `b`. Recursive in `a`, so that
    `occ_append` and `countGo_append` go by the same induction; `NoStradP.occAt` is the positional
    reading. -/
def NoStradP (K : Bytes) : Bytes → Bytes → Prop
  | [], _ => True
  | x :: xs, c => (K.isPrefixOf (x :: xs ++ c) = true → K.isPrefixOf (x :: xs) = true) ∧ NoStradP K xs c

theorem isPrefixOf_append_right {K a : Bytes} (c : Bytes) (h : K.isPrefixOf a = true) : K.isPrefixOf (a ++ c) = true := by
  rw [List.isPrefixOf_iff_prefix] at h ⊢
  exact h.trans (List.prefix_append a c)

theorem occ_nil_key {K : Bytes} (hK : K ≠ []) : occ [] K = 0 := by
  simp [occ, List.isEmpty_eq_false_iff.mpr hK]

theorem occ_cons (x : Nat) (xs K : Bytes) :
    occ (x :: xs) K = (if K.isPrefixOf (x :: xs) then 1 else 0) + occ xs K := rfl

theorem occ_append {K : Bytes} (hK : K ≠ []) (c : Bytes) : (a : Bytes) →
    occ a K + occ c K ≤ occ (a ++ c) K ∧ (occ (a ++ c) K ≤ occ a K + occ c K → NoStradP K a c)
  | [] => by simp [occ_nil_key hK, NoStradP]
  | x :: xs => by
    obtain ⟨ih1, ih2⟩ := occ_append hK c xs
    rw [List.cons_append, occ_cons, occ_cons]
    by_cases h1 : K.isPrefixOf (x :: xs) = true
    · have h2 : K.isPrefixOf (x :: (xs ++ c)) = true := isPrefixOf_append_right c h1
      simp only [h1, h2, if_true]
      refine ⟨by omega, fun h => ⟨fun _ => h1, ih2 (by omega)⟩⟩
    · by_cases h2 : K.isPrefixOf (x :: (xs ++ c)) = true
      · simp only [h1, h2, if_true, Bool.false_eq_true, if_false]
        -- a straddling occurrence makes the inequality strict
        refine ⟨by omega, fun h => ?_⟩
        omega
      · simp only [h1, h2, Bool.false_eq_true, if_false]
        refine ⟨by omega, fun h => ⟨fun hh => absurd hh h2, ih2 (by omega)⟩⟩

theorem occ_zero_no_occ {K : Bytes} (hK : K ≠ []) : (s : Bytes) → occ s K = 0 → ∀ i, ¬ OccAt K s i
  | [], _ => not_occAt_nil hK
  | x :: xs, h => by
    rw [occ_cons] at h
    have hp : ¬ K.isPrefixOf (x :: xs) = true := by
      intro hp; simp [hp] at h
    have ih := occ_zero_no_occ hK xs (by omega)
    intro i
    cases i with
    | zero => exact not_occAt_zero hp
    | succ i => rw [occAt_cons_succ]; exact ih i

theorem NoStradP.occAt {K : Bytes} (c : Bytes) : (a : Bytes) → NoStradP K a c → (j : Nat) → j < a.length →
    OccAt K (a ++ c) j → OccAt K a j
  | [], _, j, hj, _ => by simp at hj
  | x :: xs, h, 0, _, ho => by
    rw [occAt_zero] at ho ⊢
    exact h.1 ho
  | x :: xs, h, j + 1, hj, ho => by
    rw [List.cons_append, occAt_cons_succ] at ho
    rw [occAt_cons_succ]
    exact NoStradP.occAt c xs h.2 j (by simpa using hj) ho

theorem countGo_append {K : Bytes} (c a : Bytes) (sk : Nat) (hsk : sk ≤ a.length) (h : NoStradP K a c) :
    countGo K (a ++ c) sk = countGo K a sk + countGo K c 0 := by
  -- cases of `countGo` on `a` as in `countGo_no_occ`
  fun_induction countGo K a sk with
  | case1 sk => rw [Nat.le_zero.mp hsk, Nat.zero_add]; rfl
  | case2 x xs sk ih =>
    rw [List.cons_append, countGo]
    exact ih (Nat.le_of_succ_le_succ hsk) h.2
  | case3 x xs hp ih =>
    have h2 : K.isPrefixOf (x :: (xs ++ c)) = true := isPrefixOf_append_right c hp
    have hb : K.length ≤ (x :: xs).length := (List.isPrefixOf_iff_prefix.mp hp).length_le
    rw [List.cons_append, countGo, if_pos h2, ih (by rw [List.length_cons] at hb; omega) h.2, Nat.add_assoc]
  | case4 x xs hp ih =>
    have h2 : ¬ K.isPrefixOf (x :: (xs ++ c)) = true := fun hh => hp (h.1 hh)
    rw [List.cons_append, countGo, if_neg h2]
    exact ih (Nat.zero_le _) h.2

theorem stripR_all {K : Bytes} (hK : K ≠ []) (f : Bytes) (hex : ∃ i, OccAt K f i) :
    ∃ j, stripR K (cntR K f) f = f.take j ∧ OccAt K f j ∧ ∀ p, ¬ OccAt K (f.take j) p := by
  -- cases of `cntR`: empty key, no occurrence, cut at the last occurrence `k`
  fun_induction cntR K f with
  | case1 _ h => exact absurd h hK
  | case2 f _ hl =>
    obtain ⟨i, hi⟩ := hex
    exact absurd hi (lastIndexOf_none hK hl i)
  | case3 f _ k hl ih =>
    obtain ⟨k1, _⟩ := (lastIndexOf_some_iff hK f k).mp hl
    rw [Nat.add_comm, stripR, hl]
    by_cases hex' : ∃ i, OccAt K (f.take k) i
    · obtain ⟨j, j1, j2, j3⟩ := ih hex'
      rw [occAt_take] at j2
      have hlen : 0 < K.length := List.length_pos_iff.mpr hK
      rw [List.take_take, Nat.min_eq_left (by omega)] at j1 j3
      exact ⟨j, j1, j2.1, j3⟩
    · have hno : ∀ i, ¬ OccAt K (f.take k) i := fun i hh => hex' ⟨i, hh⟩
      rw [cntR_no_occ hno]
      exact ⟨k, rfl, k1, hno⟩

/-- **The loop lands on the first occurrence.** If no occurrence of `K` overlaps the first one, at
    `i`, stripping every strippable occurrence leaves what stands before `i`: the cut of `stripR_all`
    is an occurrence with none before it, so it is within `|K|` of `i`. -/
theorem stripR_first {K s : Bytes} {i : Nat} (hK : K ≠ []) (hi : indexOf s K = some i)
    (hov : ∀ q, 0 < q → q < K.length → ¬ OccAt K s (i + q)) : stripR K (cntR K s) s = s.take i := by
  obtain ⟨i1, i2⟩ := (indexOf_some_iff hK s i).mp hi
  obtain ⟨j, j1, j2, j3⟩ := stripR_all hK s ⟨i, i1⟩
  have hij : i ≤ j := Nat.le_of_not_lt fun h => i2 j h j2
  have hji : j ≤ i := Nat.le_of_not_lt fun h =>
    (Nat.lt_or_ge j (i + K.length)).elim
      (fun h' => hov (j - i) (Nat.sub_pos_of_lt h) (Nat.sub_lt_left_of_lt_add hij h')
        (by rw [Nat.add_sub_cancel' hij]; exact j2))
      (fun h' => j3 i ((occAt_take K s j i).mpr ⟨i1, Nat.le_sub_of_add_le' h'⟩))
  rw [j1, Nat.le_antisymm hji hij]

end C03
