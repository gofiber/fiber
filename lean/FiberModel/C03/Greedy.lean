import FiberModel.C03.Occ
import FiberModel.C03.Lemmas
/-
C03 — stage (ii-b) of fill → match completeness: a greedy parameter (`*`, `+`) whose delimiter
re-occurs behind it (`findGreedyParamLen`, `PartCount`), on filled patterns. A clean fill holds the
literals' occurrences of the search text and no other (Occ.lean: none straddles a chunk boundary),
so `strings.Count` of it is what `PartCount` records (`count_fill`, `Segs.partCountOf`) and the loop
leaves exactly the value (`greedy_strip_key`, `findGreedyParamLen_fill`).
-/
namespace C03
open B C02

theorem litOcc_le_occ_fill {K : Bytes} (hK : K ≠ []) (p : Pat) (ds : List Bytes) :
    litOcc K p ≤ occ (fill p ds) K := by
  induction p using Pat.litParamInd generalizing ds with
  | nil => simp [litOcc]
  | lit l rest ih =>
    have := (occ_append hK (fill rest ds) l).1
    have := ih ds
    simp only [litOcc, fill]; omega
  | param t rest ht ih =>
    have := (occ_append hK (fill rest ds.tail) (ds.headD [])).1
    have := ih ds.tail
    rw [fill_param _ _ _ ht, litOcc_param _ _ _ ht]; omega

/-- A chunk `a` (a value, with `n = 0`, or a literal, with `n` its own occurrences) in front of a
    fill, the whole holding `n` occurrences plus the literals' and no more: the chunk holds `n`, the
    fill alone holds the literals' only, and none straddles the boundary. -/
theorem tight {K : Bytes} (hK : K ≠ []) (a : Bytes) (rest : Pat) (ds : List Bytes) {n : Nat}
    (hn : n ≤ occ a K) (h : occ (a ++ fill rest ds) K = n + litOcc K rest) :
    occ a K = n ∧ occ (fill rest ds) K = litOcc K rest ∧ NoStradP K a (fill rest ds) := by
  have h1 := occ_append hK (fill rest ds) a
  have h2 := litOcc_le_occ_fill hK rest ds
  exact ⟨by omega, by omega, h1.2 (by omega)⟩

/-- **`strings.Count` of a clean fill = Σ over the literals.** If the fill holds exactly the
    literals' occurrences of `K` (all positions), the non-overlapping count from the left is the sum
    of the per-literal counts. -/
theorem count_fill {K : Bytes} (hK : K ≠ []) (p : Pat) (ds : List Bytes)
    (h : occ (fill p ds) K = litOcc K p) : countGo K (fill p ds) 0 = litCount K p := by
  induction p using Pat.litParamInd generalizing ds with
  | nil => simp [fill, litCount, countGo]
  | lit l rest ih =>
    obtain ⟨_, h1, h2⟩ := tight hK l rest ds (Nat.le_refl _) h
    rw [fill, litCount, countGo_append _ l 0 (Nat.zero_le _) h2, ih ds h1, count_eq_countGo hK]
  | param t rest ht ih =>
    rw [fill_param _ _ _ ht, litOcc_param _ _ _ ht] at h
    obtain ⟨h0, h1, h2⟩ := tight hK _ rest ds.tail (Nat.zero_le _) (h.trans (Nat.zero_add _).symm)
    rw [fill_param _ _ _ ht, litCount_param _ _ _ ht, countGo_append _ _ 0 (Nat.zero_le _) h2, ih _ h1,
      countGo_no_occ _ 0 (occ_zero_no_occ hK _ h0)]
    omega

/-- **Stage (ii-b): the greedy search on a clean fill**, for any search text `K` that fits into the
    following literal `l1` and occurs in it at offset 0 only (as far as occurrences overlapping that
    one go). A value `d` followed by the fill of `lit l1 :: rest2`, the whole string holding exactly
    the literals' occurrences of `K`: `strings.Count` sees as many non-overlapping occurrences as
    `PartCount` records, and stripping that many from the right leaves exactly the value. -/
theorem greedy_strip_key {K d l1 : Bytes} {rest2 : Pat} {ds : List Bytes} (hK : K ≠ [])
    (hle : K.length ≤ l1.length) (hz : ∀ j, j < K.length → OccAt K l1 j → j = 0)
    (hidx : indexOf (d ++ fill (.lit l1 :: rest2) ds) K = some d.length)
    (hocc : occ (d ++ fill (.lit l1 :: rest2) ds) K = litOcc K (.lit l1 :: rest2)) :
    count (d ++ fill (.lit l1 :: rest2) ds) K = litCount K (.lit l1 :: rest2) ∧
    stripR K (litCount K (.lit l1 :: rest2)) (d ++ fill (.lit l1 :: rest2) ds) = d := by
  -- the value and what follows it are the fill of `* :: lit l1 :: rest2` with `d :: ds`
  have hc : countGo K (d ++ fill (.lit l1 :: rest2) ds) 0 = litCount K (.lit l1 :: rest2) :=
    count_fill hK (.star :: .lit l1 :: rest2) (d :: ds) hocc
  refine ⟨by rw [count_eq_countGo hK]; exact hc, ?_⟩
  -- no occurrence overlaps the first one: none straddles a boundary, so it would lie inside `l1`
  have hov : ∀ q, 0 < q → q < K.length → ¬ OccAt K (d ++ fill (.lit l1 :: rest2) ds) (d.length + q) := by
    intro q hq1 hq2 ho
    obtain ⟨_, h1, _⟩ := tight hK d _ ds (Nat.zero_le _) (hocc.trans (Nat.zero_add _).symm)
    rw [occAt_append_right] at ho
    obtain ⟨_, _, hns⟩ := tight hK l1 rest2 ds (Nat.le_refl _) h1
    exact Nat.ne_of_gt hq1 (hz q hq2 (hns.occAt _ l1 q (Nat.lt_of_lt_of_le hq2 hle) ho))
  rw [← hc, count_eq_cntR hK _ _ (Nat.le_refl _), stripR_first hK hidx hov, List.take_left]

/-- the search text when the path holds the literal in full: the literal itself -/
theorem greedy_strip_full {d l1 : Bytes} {rest2 : Pat} {ds : List Bytes} (hl1 : l1 ≠ [])
    (hidx : indexOf (d ++ fill (.lit l1 :: rest2) ds) l1 = some d.length)
    (hocc : occ (d ++ fill (.lit l1 :: rest2) ds) l1 = litOcc l1 (.lit l1 :: rest2)) :
    count (d ++ fill (.lit l1 :: rest2) ds) l1 = litCount l1 (.lit l1 :: rest2) ∧
    stripR l1 (litCount l1 (.lit l1 :: rest2)) (d ++ fill (.lit l1 :: rest2) ds) = d :=
  greedy_strip_key hl1 (Nat.le_refl _) (fun j _ ho => by have := occAt_bound hl1 ho; omega) hidx hocc

theorem findGreedyParamLen_fill {seg : Seg} {d l1 : Bytes} {rest2 : Pat} {ds : List Bytes} (hl1 : l1 ≠ [])
    (hcp : seg.comparePart = l1) (hpc : seg.partCount = litCount l1 (.lit l1 :: rest2))
    (hidx : indexOf (d ++ fill (.lit l1 :: rest2) ds) l1 = some d.length)
    (hocc : occ (d ++ fill (.lit l1 :: rest2) ds) l1 = litOcc l1 (.lit l1 :: rest2)) :
    findGreedyParamLen (d ++ fill (.lit l1 :: rest2) ds) (count (d ++ fill (.lit l1 :: rest2) ds) l1) seg =
      d.length := by
  obtain ⟨g1, g2⟩ := greedy_strip_full hl1 hidx hocc
  unfold findGreedyParamLen
  rw [hcp, hpc, g1, findGreedyLoop_eq_stripR, Nat.min_self, g2]

/-! The instance of `greedy_strip_key` for `ComparePart` itself (the literal minus its trailing
slashes). `getMatch_fill` does not go through it: on a filled path the matcher searches for the
literal in full (`greedy_strip_full`). -/

/-- an occurrence of `T` at an offset `0 < j < |T|` inside `T ++ slashes` would end in the slashes,
    so `T` would end in `/` -/
theorem trim_occ_zero {T sl : Bytes} {j : Nat} (hsl : ∀ x ∈ sl, x = SLASH) (hlast : T.getLast? ≠ some SLASH)
    (hj : j < T.length) (ho : OccAt T (T ++ sl) j) : j = 0 := by
  cases j with
  | zero => rfl
  | succ j =>
    have hb := ho.length_le
    rw [List.length_drop, List.length_append] at hb
    -- the last byte of the occurrence is one of the slashes
    have h1 := ho.getElem (i := T.length - 1) (by omega)
    rw [List.getElem_drop, List.getElem_append_right (by omega)] at h1
    exact absurd (by rw [List.getLast?_eq_getElem?, List.getElem?_eq_getElem (by omega), h1,
      hsl _ (List.getElem_mem _)]) hlast

/-- The search text of a literal occurs in the literal only at offset 0, as far as occurrences
    overlapping that one go (it does not end in `/` unless it is a single `/`). -/
theorem cmpOfConst_occ_zero {l : Bytes} {j : Nat} (hj : j < (cmpOfConst l).length)
    (ho : OccAt (cmpOfConst l) l j) : j = 0 := by
  revert hj ho
  -- cases of `cmpOfConst`: slashes only (one `/` is kept), trailing slashes trimmed, at most one byte (kept as it is)
  fun_cases cmpOfConst l <;> intro hj ho
  · exact Nat.lt_one_iff.mp hj
  · obtain ⟨sl, hsl, hs⟩ := trimRight_split l SLASH
    have hlast := trimRight_getLast l SLASH
    generalize trimRight l SLASH = T at *
    rw [hs] at ho
    exact trim_occ_zero hsl hlast hj ho
  · omega

theorem greedy_strip {d l1 : Bytes} {rest2 : Pat} {ds : List Bytes} (hl1 : l1 ≠ [])
    (hidx : indexOf (d ++ fill (.lit l1 :: rest2) ds) (cmpOfConst l1) = some d.length)
    (hocc : occ (d ++ fill (.lit l1 :: rest2) ds) (cmpOfConst l1) = litOcc (cmpOfConst l1) (.lit l1 :: rest2)) :
    count (d ++ fill (.lit l1 :: rest2) ds) (cmpOfConst l1) = litCount (cmpOfConst l1) (.lit l1 :: rest2) ∧
    stripR (cmpOfConst l1) (litCount (cmpOfConst l1) (.lit l1 :: rest2)) (d ++ fill (.lit l1 :: rest2) ds) = d :=
  greedy_strip_key (cmpOfConst_ne_nil hl1) (cmpOfConst_prefix l1).length_le
    (fun _ hj ho => cmpOfConst_occ_zero hj ho) hidx hocc

end C03
