import FiberModel.C03.Spec
/-
C03 — percent-encoding round trip: whatever subset of the bytes of a path a client writes as `%XX`
(upper- or lower-case hex digits, byte by byte), the model of fasthttp's `AppendUnquotedArg`
(`C02.unquote`, what `configDependentPaths` applies with UnescapePath) gives the path back – provided
the bytes written raw are neither `%` nor `+` (both are rewritten by the decoder).
-/
namespace C03
open B C02

def hexChar (upper : Bool) (n : Nat) : Nat :=
  if n < 10 then 48 + n else if upper then 55 + n else 87 + n

theorem hexNibble_hexChar (u : Bool) {n : Nat} (h : n < 16) : hexNibble (hexChar u n) = some n :=
  (by decide : ∀ (u : Bool) (n : Nat), n < 16 → hexNibble (hexChar u n) = some n) u n h

/-- how one byte of the path is written in the request target: as it is, or as `%XX` with each hex
    digit in upper or lower case -/
inductive Wr
  | raw
  | pct (u1 u2 : Bool)
  deriving DecidableEq, Repr

def writeByte (c : Nat) : Wr → Bytes
  | .raw => [c]
  | .pct u1 u2 => [PCT, hexChar u1 (c / 16), hexChar u2 (c % 16)]

/-- the request target for a path, byte by byte (bytes beyond the end of the choice list are written
    as they are) -/
def writePath : Bytes → List Wr → Bytes
  | [], _ => []
  | c :: cs, [] => c :: writePath cs []
  | c :: cs, w :: ws => writeByte c w ++ writePath cs ws

/-- the bytes written as they are, are neither `%` nor `+` -/
def wrOK : Bytes → List Wr → Bool
  | [], _ => true
  | c :: cs, [] => (c != PCT && c != PLUS) && wrOK cs []
  | c :: cs, .raw :: ws => (c != PCT && c != PLUS) && wrOK cs ws
  | _ :: cs, .pct _ _ :: ws => wrOK cs ws

theorem unquote_raw {c : Nat} (h : c ≠ PCT ∧ c ≠ PLUS) (rest : Bytes) :
    unquote (c :: rest) = c :: unquote rest := by
  have e1 : (c == PCT) = false := beq_eq_false_iff_ne.mpr h.1
  have e2 : (c == PLUS) = false := beq_eq_false_iff_ne.mpr h.2
  conv => lhs; unfold unquote
  simp only [e1, e2, Bool.false_eq_true, if_false]

theorem unquote_pct (u1 u2 : Bool) {c : Nat} (hc : c < 256) (rest : Bytes) :
    unquote (PCT :: hexChar u1 (c / 16) :: hexChar u2 (c % 16) :: rest) = c :: unquote rest := by
  have h1 : c / 16 < 16 := by omega
  have h2 : c % 16 < 16 := by omega
  conv => lhs; unfold unquote
  simp only [beq_self_eq_true, if_true, hexNibble_hexChar u1 h1, hexNibble_hexChar u2 h2]
  congr 1; omega

/-- **Percent-decoding inverts percent-encoding**, whichever bytes the client chose to encode and in
    whichever letter case it wrote the hex digits. -/
theorem unquote_writePath : (s : Bytes) → (ws : List Wr) → (∀ c ∈ s, c < 256) → wrOK s ws = true →
    unquote (writePath s ws) = s
  | [], _, _, _ => by simp [writePath, unquote]
  | c :: cs, [], hb, hw => by
    simp only [wrOK, Bool.and_eq_true, bne_iff_ne, ne_eq] at hw
    simp only [writePath]
    rw [unquote_raw hw.1, unquote_writePath cs [] (List.forall_mem_cons.mp hb).2 hw.2]
  | c :: cs, .raw :: ws, hb, hw => by
    simp only [wrOK, Bool.and_eq_true, bne_iff_ne, ne_eq] at hw
    simp only [writePath, writeByte, List.singleton_append]
    rw [unquote_raw hw.1, unquote_writePath cs ws (List.forall_mem_cons.mp hb).2 hw.2]
  | c :: cs, .pct u1 u2 :: ws, hb, hw => by
    simp only [wrOK] at hw
    simp only [writePath, writeByte, List.cons_append, List.nil_append]
    obtain ⟨hc, hbr⟩ := List.forall_mem_cons.mp hb
    rw [unquote_pct u1 u2 hc, unquote_writePath cs ws hbr hw]

-- non-vacuity: "/a b%" with the space and the percent sign encoded, the rest raw
example : writePath (b "/a b%") [.raw, .raw, .pct false false, .raw, .pct true false] = b "/a%20b%25" ∧
    wrOK (b "/a b%") [.raw, .raw, .pct false false, .raw, .pct true false] = true ∧
    unquote (b "/a%20b%25") = b "/a b%" := by
  decide +kernel

end C03
