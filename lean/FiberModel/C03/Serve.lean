import FiberModel.C03.Lemmas
import FiberModel.C02.Shortcuts
/-
C03 — the plumbing between the completeness induction (`getMatch_fill`, on a segment list) and the
route an app actually holds: `register` prettifies the pattern text (case folding, trailing
slashes), parses it, and `Route.match` has shortcuts for "/" and "/*" and for parameter-free routes.
(The request side, `configDependentPaths`, is in Lemmas.lean: `det_of_fill`.)
-/
namespace C03
open B C02

/-! A byte map applied to a token list. The configuration's case folding is the map `cfgFold cfg`:
`foldPat` applies it to the literals, `register` (which lower-cases the whole pattern text) to
literals and names. `fill` and `slicesOf` commute with any map; what is about the syntax holds for
every map that respects the syntax bytes (`C02.Neutral`). -/

def Tok.mapLit (f : Nat → Nat) : Tok → Tok
  | .lit t => .lit (t.map f)
  | t => t

def Tok.mapText (f : Nat → Nat) : Tok → Tok
  | .lit t => .lit (t.map f)
  | .named n o => .named (n.map f) o
  | t => t

theorem foldPat_map (cfg : Config) (p : Pat) : foldPat cfg p = p.map (Tok.mapLit (cfgFold cfg)) := by
  unfold foldPat
  exact List.map_congr_left fun t _ => by
    cases t <;> first | rfl | exact congrArg Tok.lit (foldBytes_map cfg _)

theorem foldVals_map (cfg : Config) (vs : List Bytes) : foldVals cfg vs = vs.map (List.map (cfgFold cfg)) := by
  unfold foldVals cfgFold toLower; cases cfg.caseSensitive <;> simp

theorem mapLit_param (f : Nat → Nat) {t : Tok} (ht : t.isParam = true) : t.mapLit f = t := by
  cases t <;> first | rfl | cases ht

theorem fill_map (f : Nat → Nat) (p : Pat) (vs : List Bytes) :
    fill (p.map (Tok.mapLit f)) (vs.map (List.map f)) = (fill p vs).map f := by
  induction p using Pat.litParamInd generalizing vs with
  | nil => rfl
  | lit l rest ih => simp only [List.map_cons, Tok.mapLit, fill, ih, List.map_append]
  | param t rest ht ih =>
    rw [List.map_cons, mapLit_param f ht, fill_param _ _ _ ht, fill_param _ _ _ ht, List.map_append,
      ← List.map_tail, ih]
    cases vs <;> rfl

/-- `slicesOf` looks at the lengths of literals and values only -/
theorem slicesOf_map (f : Nat → Nat) (p : Pat) (vs : List Bytes) (path : Bytes) :
    slicesOf (p.map (Tok.mapLit f)) (vs.map (List.map f)) path = slicesOf p vs path := by
  induction p using Pat.litParamInd generalizing vs path with
  | nil => rfl
  | lit l rest ih => simp only [List.map_cons, Tok.mapLit, slicesOf, List.length_map, ih]
  | param t rest ht ih =>
    rw [List.map_cons, mapLit_param f ht, slicesOf_param _ _ _ _ ht, slicesOf_param _ _ _ _ ht,
      ← List.map_tail, ih]
    cases vs <;> simp

theorem startsWithDelim_map {f : Nat → Nat} (hf : Neutral f) (l : Bytes) :
    startsWithDelim (l.map f) = startsWithDelim l := by
  cases l with
  | nil => rfl
  | cons c cs =>
    simp only [List.map_cons, startsWithDelim]
    rw [hf.beq (s := SLASH) (by decide), hf.beq (s := DASH) (by decide), hf.beq (s := DOT) (by decide)]

theorem specialByte_map {f : Nat → Nat} (hf : Neutral f) (c : Nat) : specialByte (f c) = specialByte c := by
  unfold specialByte
  rw [hf.beq (s := COLON) (by decide), hf.beq (s := STAR) (by decide), hf.beq (s := PLUS) (by decide),
    hf.beq (s := QMARK) (by decide), hf.beq (s := BSL) (by decide), hf.beq (s := C02.LT) (by decide),
    hf.beq (s := C02.GT) (by decide)]

theorem patText_mapText {f : Nat → Nat} (hf : Neutral f) (p : Pat) :
    patText (p.map (Tok.mapText f)) = (patText p).map f := by
  have hfix : ∀ s ∈ specials, f s = s := fun s hs => (hf s s hs).mpr rfl
  rw [patText, patText, List.flatMap_map, List.map_flatMap]
  congr 1
  funext t
  cases t with
  | lit l => rfl
  | named n o =>
    cases o <;>
      simp only [Tok.mapText, Tok.text, List.map_cons, List.map_append, List.map_nil, if_true, if_false,
        Bool.false_eq_true, hfix COLON (by decide), hfix QMARK (by decide)]
  | star => exact (congrArg (· :: []) (hfix STAR (by decide))).symm
  | plus => exact (congrArg (· :: []) (hfix PLUS (by decide))).symm

theorem tokOK_mapText {f : Nat → Nat} (hf : Neutral f) (hname : ∀ c, nameByte c = true → nameByte (f c) = true)
    {t : Tok} (h : TokOK t) : TokOK (t.mapText f) := by
  cases t with
  | lit l =>
    exact ⟨fun hh => h.1 (List.map_eq_nil_iff.mp hh),
      List.forall_mem_map.mpr fun x hx => (specialByte_map hf x).trans (h.2 x hx)⟩
  | named n o =>
    exact ⟨fun hh => h.1 (List.map_eq_nil_iff.mp hh), List.forall_mem_map.mpr fun x hx => hname x (h.2 x hx)⟩
  | star => trivial
  | plus => trivial

theorem shapeOK_mapText {f : Nat → Nat} (hf : Neutral f) (p : Pat) :
    shapeOK (p.map (Tok.mapText f)) = shapeOK p := by
  rw [shapeOK_eq, shapeOK_eq]
  exact pairsOK_map _ (fun x y => by
    cases x <;> cases y <;> simp only [Tok.mapText, okPair, startsWithDelim_map hf]) p

theorem delimited_mapLit {f : Nat → Nat} (hf : Neutral f) : (p : Pat) → Delimited (p.map (Tok.mapLit f)) = Delimited p
  | [] => rfl
  | t :: rest => by
    have h1 : (t.mapLit f).isParam = t.isParam := by cases t <;> rfl
    have h2 : delimNext (rest.map (Tok.mapLit f)) = delimNext rest := by
      cases rest with
      | nil => rfl
      | cons t2 r => cases t2 <;> first | rfl | exact startsWithDelim_map hf _
    simp only [List.map_cons, Delimited, delimited_mapLit hf rest, h1, h2]

theorem litsEscFree_mapLit {f : Nat → Nat} (hf : Neutral f) {p : Pat} (h : litsEscFree p) :
    litsEscFree (p.map (Tok.mapLit f)) := by
  refine List.forall_mem_map.mpr fun t0 ht0 l hl => ?_
  cases t0 with
  | lit l0 => cases hl; rw [hf.mapContains (by decide)]; exact h _ ht0 l0 rfl
  | named _ _ => cases hl
  | star => cases hl
  | plus => cases hl

theorem nameByte_lower {c : Nat} (h : nameByte c = true) : nameByte (lowerByte c) = true := by
  unfold lowerByte
  split
  · rename_i hu
    unfold isUpper at hu
    simp only [Bool.and_eq_true, decide_eq_true_eq] at hu
    have : isLower (c + 32) = true := by
      unfold isLower
      simp only [Bool.and_eq_true, decide_eq_true_eq]; omega
    unfold nameByte isAlpha
    simp [this]
  · exact h

theorem nameByte_cfgFold (cfg : Config) {c : Nat} (h : nameByte c = true) : nameByte (cfgFold cfg c) = true := by
  unfold cfgFold; split
  · exact h
  · exact nameByte_lower h

/-- the token list of the text `register` routes: it lower-cases the whole pattern text unless
    CaseSensitive, literals *and* names -/
def prettyPat (cfg : Config) (p : Pat) : Pat := p.map (Tok.mapText (cfgFold cfg))

theorem prettyPat_eq (cfg : Config) (p : Pat) :
    prettyPat cfg p = (foldPat cfg p).map (renTok (List.map (cfgFold cfg))) := by
  rw [foldPat_map, List.map_map]
  exact List.map_congr_left fun t _ => by cases t <;> rfl

theorem patText_prettyPat (cfg : Config) (p : Pat) : patText (prettyPat cfg p) = foldBytes cfg (patText p) := by
  rw [foldBytes_map]; exact patText_mapText (cfgFold_neutral cfg) p

theorem prettyPat_ok (cfg : Config) {p : Pat} (hwf : WFPat p = true) :
    (∀ t ∈ prettyPat cfg p, TokOK t) ∧ shapeOK (prettyPat cfg p) = true := by
  obtain ⟨hok, hsh⟩ := wfPat_tokOK hwf
  exact ⟨List.forall_mem_map.mpr fun t ht => tokOK_mapText (cfgFold_neutral cfg) (fun _ => nameByte_cfgFold cfg) (hok t ht),
    (shapeOK_mapText (cfgFold_neutral cfg) p).trans hsh⟩

theorem foldPat_delimited (cfg : Config) {p : Pat} (hd : Delimited p = true) : Delimited (foldPat cfg p) = true := by
  rw [foldPat_map, delimited_mapLit (cfgFold_neutral cfg)]; exact hd

theorem foldPat_escFree (cfg : Config) (p : Pat) (h : litsEscFree p) : litsEscFree (foldPat cfg p) := by
  rw [foldPat_map]; exact litsEscFree_mapLit (cfgFold_neutral cfg) h

/-- **normalise_commutes (letter case).** Case-folding a filled path is filling the case-folded
    pattern with the case-folded values. -/
theorem fill_fold (cfg : Config) (p : Pat) (vals : List Bytes) :
    foldBytes cfg (fill p vals) = fill (foldPat cfg p) (foldVals cfg vals) := by
  rw [foldPat_map, foldVals_map, foldBytes_map, fill_map]

theorem slicesOf_fold (cfg : Config) (p : Pat) (vals : List Bytes) (path : Bytes) :
    slicesOf (foldPat cfg p) (foldVals cfg vals) path = slicesOf p vals path := by
  rw [foldPat_map, foldVals_map, slicesOf_map]

theorem foldPat_caseSensitive {cfg : Config} (h : cfg.caseSensitive = true) (p : Pat) : foldPat cfg p = p := by
  rw [foldPat_map, show cfgFold cfg = id by unfold cfgFold; rw [if_pos h]]
  exact (List.map_congr_left fun t _ => by cases t <;> simp [Tok.mapLit]).trans (List.map_id p)

theorem nameByte_ne_slash {c : Nat} (h : nameByte c = true) : c ≠ SLASH := fun e => by
  have := (nameByte_facts h).noEnd
  rw [e] at this; cases this

theorem patText_ne_nil {p : Pat} (hok : ∀ t ∈ p, TokOK t) (hp : p ≠ []) : patText p ≠ [] := fun h => by
  obtain ⟨t, rest, rfl⟩ := List.exists_cons_of_ne_nil hp
  exact tokText_ne_nil (hok t (List.mem_cons_self ..)) (List.flatMap_eq_nil_iff.mp h t (List.mem_cons_self ..))

theorem paramText_last {t : Tok} (ht : t.isParam = true) (hok : TokOK t) : t.text.getLast? ≠ some SLASH := by
  cases t with
  | lit l => simp [Tok.isParam] at ht
  | named n o =>
    cases o
    · simp only [Tok.text, Bool.false_eq_true, if_false, List.append_nil]
      rw [getLast?_cons_of_ne_nil _ _ hok.1]
      intro h
      exact nameByte_ne_slash (hok.2 _ (List.mem_of_getLast? h)) rfl
    · simp only [Tok.text, if_true]
      have : COLON :: n ++ [QMARK] = (COLON :: n) ++ [QMARK] := rfl
      rw [this, List.getLast?_append]
      simp [QMARK, SLASH]
  | star => simp [Tok.text, STAR, SLASH]
  | plus => simp [Tok.text, PLUS, SLASH]

theorem trailingOK_iff {cfg : Config} {p : Pat} {vals : List Bytes} :
    trailingOK cfg p vals = true ↔
      cfg.strictRouting = true ∨ (fill p vals).length ≤ 1 ∨ (fill p vals).getLast? ≠ some SLASH := by
  unfold trailingOK
  simp only [Bool.or_eq_true, decide_eq_true_eq, bne_iff_ne, ne_eq, or_assoc]

/-- a pattern text ending in `/` ends in a literal, so every fill ends in `/` too -/
theorem fill_last_slash (p : Pat) (vs : List Bytes) (hok : ∀ t ∈ p, TokOK t)
    (h : (patText p).getLast? = some SLASH) : (fill p vs).getLast? = some SLASH := by
  induction p using Pat.litParamInd generalizing vs with
  | nil => simp [patText] at h
  | lit l rest ih =>
    have hokr := (List.forall_mem_cons.mp hok).2
    rw [fill, List.getLast?_append]
    by_cases hr : rest = []
    · subst hr; simpa [patText, fill, Tok.text] using h
    · rw [patText_cons, List.getLast?_append_of_ne_nil _ (patText_ne_nil hokr hr)] at h
      rw [ih vs hokr h]; rfl
  | param t rest ht ih =>
    obtain ⟨htok, hokr⟩ := List.forall_mem_cons.mp hok
    rw [fill_param _ _ _ ht, List.getLast?_append]
    by_cases hr : rest = []
    · subst hr
      rw [patText_cons, patText, List.flatMap_nil, List.append_nil] at h
      exact absurd h (paramText_last ht htok)
    · rw [patText_cons, List.getLast?_append_of_ne_nil _ (patText_ne_nil hokr hr)] at h
      rw [ih _ hokr h]; rfl

theorem text_trailing {cfg : Config} {p : Pat} {vals : List Bytes} (hwf : WFPat p = true)
    (htr : trailingOK cfg p vals = true) :
    cfg.strictRouting = true ∨ (patText p).length ≤ 1 ∨ (patText p).getLast? ≠ some SLASH := by
  obtain ⟨hok, _⟩ := wfPat_tokOK hwf
  by_cases hl : (patText p).getLast? = some SLASH
  · have hf := fill_last_slash p vals hok hl
    rcases trailingOK_iff.mp htr with h | h | h
    · exact Or.inl h
    -- the fill is the single byte `/`: so is the text, since further tokens, their text ending in
    -- `/`, would fill to something ending in `/` (`fill_last_slash`), not to nothing
    · right; left
      obtain ⟨l', rest, rfl⟩ := wfPat_head hwf
      simp only [fill, List.cons_append, List.length_cons, List.length_append] at h
      have hl' : l' = [] := List.eq_nil_of_length_eq_zero (by omega)
      have hfr : fill rest vals = [] := List.eq_nil_of_length_eq_zero (by omega)
      subst hl'
      by_cases hr : rest = []
      · subst hr; simp [patText, Tok.text]
      · exfalso
        have hokr := (List.forall_mem_cons.mp hok).2
        rw [patText_cons, List.getLast?_append_of_ne_nil _ (patText_ne_nil hokr hr)] at hl
        have := fill_last_slash rest vals hokr hl
        rw [hfr] at this; cases this
    · exact absurd hf h
  · exact Or.inr (Or.inr hl)

/-- `register`'s pattern normalisation on the text of a well-formed token list: the case folding,
    then the trailing-slash step. -/
theorem prettyPattern_patText (cfg : Config) {p : Pat} (hwf : WFPat p = true) :
    prettyPattern cfg (patText p) = trimStep cfg (patText (prettyPat cfg p)) := by
  obtain ⟨l', rest, rfl⟩ := wfPat_head hwf
  rw [trimStep_eq, patText_prettyPat]
  unfold prettyPattern
  simp only [patText_cons, Tok.text, List.cons_append, List.isEmpty_cons, Bool.false_eq_true, if_false,
    List.headD_cons, bne_self_eq_false, ite_not_caseSensitive]

theorem prettyPattern_text {cfg : Config} {p : Pat} {vals : List Bytes} (hwf : WFPat p = true)
    (htr : trailingOK cfg p vals = true) : prettyPattern cfg (patText p) = patText (prettyPat cfg p) := by
  rw [prettyPattern_patText cfg hwf, patText_prettyPat]
  exact trimStep_fold_id (text_trailing hwf htr)

theorem slicesOf_fill (p : Pat) (vals : List Bytes) (extra : Bytes)
    (h : vals.length = (p.filter (·.isParam)).length) : slicesOf p vals (fill p vals ++ extra) = vals := by
  induction p using Pat.litParamInd generalizing vals with
  | nil => rw [List.eq_nil_of_length_eq_zero h]; rfl
  | lit l rest ih =>
    simp only [slicesOf, fill, List.append_assoc, List.drop_left]
    exact ih vals h
  | param t rest ht ih =>
    rw [List.filter_cons_of_pos (by exact ht)] at h
    cases vals with
    | nil => cases h
    | cons v vs =>
      rw [slicesOf_param _ _ _ _ ht, fill_param _ _ _ ht]
      simp only [List.headD_cons, List.tail_cons, List.append_assoc, List.take_left, List.drop_left]
      rw [ih vs (Nat.succ.inj h)]

theorem segsOf_params_len {p : Pat} {segs : List Seg} (h : segsOf p = some segs) :
    (paramNames segs).length = (p.filter (·.isParam)).length :=
  (segs_of_segsOf h).params_len

theorem wfPat_escFree {p : Pat} (h : WFPat p = true) : litsEscFree p := by
  intro t ht l hl
  subst hl
  have := (wfPat_tokOK h).1 _ ht
  exact List.contains_eq_false_of_forall_ne fun x hx => (not_special_facts (this.2 x hx)).2

theorem wfPat_noParam {p : Pat} (h : WFPat p = true) (hn : p.filter (·.isParam) = []) : ∃ l, p = [.lit l] := by
  obtain ⟨l', rest, rfl⟩ := wfPat_head h
  have hsh := (wfPat_tokOK h).2
  cases rest with
  | nil => exact ⟨_, rfl⟩
  | cons t2 r =>
    -- behind a literal stands a parameter (`shapeOK_lit_next`), which the filter keeps
    rw [List.filter_cons_of_neg (by simp [Tok.isParam]), List.filter_cons_of_pos (shapeOK_lit_next hsh)] at hn
    cases hn

/-- folding cannot produce a text of syntax bytes from another one -/
theorem eq_of_foldBytes_eq_specials {cfg : Config} {s ks : Bytes} (hk : ∀ k ∈ ks, k ∈ specials)
    (h : foldBytes cfg s = ks) : s = ks :=
  map_eq_of_neutral (cfgFold_neutral cfg) s ks hk (foldBytes_map cfg s ▸ h)

/-- the catch-all shortcut `/*`: the only well-formed token list whose routed text is `/*` -/
theorem star_shape {p : Pat} (hwf : WFPat p = true) (h : patText p = [SLASH, STAR]) :
    p = [.lit [SLASH], .star] := by
  obtain ⟨hok, _⟩ := wfPat_tokOK hwf
  obtain ⟨l', rest, rfl⟩ := wfPat_head hwf
  have hstar : ∀ {l : Bytes} {r : Bytes}, (∀ c ∈ l, specialByte c = false) → l ++ r = [STAR] → l = [] := by
    intro l r hl hlr
    cases l with
    | nil => rfl
    | cons x l'' =>
      have hx := hl x (List.mem_cons_self ..)
      rw [List.head_eq_of_cons_eq hlr] at hx
      exact absurd hx (by decide)
  rw [patText_cons] at h
  simp only [Tok.text, List.cons_append, List.cons.injEq, true_and] at h
  have hl' := hstar (fun c hc => (hok _ (List.mem_cons_self ..)).2 c (List.mem_cons_of_mem _ hc)) h
  subst hl'
  rw [List.nil_append] at h
  cases rest with
  | nil => cases h
  | cons t rest2 =>
    obtain ⟨ht, hokr2⟩ := List.forall_mem_cons.mp (List.forall_mem_cons.mp hok).2
    rw [patText_cons] at h
    cases t with
    | lit l => exact absurd (hstar ht.2 h) ht.1
    | named n o => simp [Tok.text, COLON, STAR] at h
    | plus => simp [Tok.text, PLUS, STAR] at h
    | star =>
      have hr2 : rest2 = [] := by
        by_cases hr : rest2 = []
        · exact hr
        · exact absurd (List.cons.inj h).2 (patText_ne_nil hokr2 hr)
      rw [hr2]

theorem routeMatch_noParams {chk : Constraint → Bytes → Bool} {r : Route} (hs : r.star = false)
    (hp : r.params = []) (hu : r.use = false) (upath : Bytes) :
    routeMatch chk r r.path upath = some [] := by
  unfold routeMatch
  simp only [hs, hp, hu, List.length_nil, Nat.lt_irrefl, Bool.false_eq_true, if_false, beq_self_eq_true,
    if_true, ite_self]

/-- `Route.match`'s decision for a route that is not a `Use` prefix, as one Boolean: the root
    shortcut, the catch-all shortcut, then `getMatch` for a route with parameters and equality with
    the routed text for one without. -/
theorem routeMatch_isSome {chk : Constraint → Bytes → Bool} {r : Route} (hu : r.use = false) (det path : Bytes) :
    (routeMatch chk r det path).isSome =
      ((r.root && det == [SLASH]) || r.star ||
        (if r.params.length > 0 then (getMatch chk r.parser.segs det path false).isSome else det == r.path)) := by
  unfold routeMatch
  rw [hu]
  -- the four exits of the if-chain, in order
  cases (r.root && det == [SLASH]) <;> cases r.star <;> by_cases hp : r.params.length > 0 <;>
    simp only [hp, if_true, if_false, Bool.false_eq_true, Bool.or_false, Bool.false_or, Bool.true_or,
      Bool.or_true, Option.isSome_some]
  cases det == r.path <;> rfl

end C03
