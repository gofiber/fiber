import FiberModel.C03.Serve
/-
C03 — trailing-slash trimming of the pattern text (`register` / `RoutePatternMatch` without
StrictRouting) on the text of a well-formed token list: the trimmed text is again the text of a
well-formed token list with the same number of parameters, so `register` parses the routed text of
every documented-syntax pattern (`routed_pat`, `register_text`). The two parser hypotheses of
`rpm_eq_single_route_dispatch` are discharged for the documented syntax by `register_arity`.
-/
namespace C03
open B C02

/-- `pairsOK` recurses from the front, trimming works at the end: the last token is tested against
    the one before it -/
theorem pairsOK_concat : (init : Pat) → (t : Tok) →
    pairsOK (init ++ [t]) = (pairsOK init && init.getLast?.all (okPair · t))
  | [], _ => rfl
  | [x], t => by simp [pairsOK]
  | x :: y :: init, t => by
    have ih := pairsOK_concat (y :: init) t
    simp only [List.cons_append, pairsOK, List.getLast?_cons_cons] at ih ⊢
    rw [ih, Bool.and_assoc]

theorem okPair_lit_swap {l l' : Bytes} (hs : startsWithDelim l' = startsWithDelim l) :
    (okPair · (.lit l')) = (okPair · (.lit l)) :=
  funext fun t => by cases t <;> simp [okPair, hs]

theorem okPair_lit {t : Tok} {l : Bytes} (h : okPair t (.lit l) = true) : t.isParam = true := by
  cases t <;> first | rfl | cases h

theorem patText_concat (init : Pat) (t : Tok) : patText (init ++ [t]) = patText init ++ t.text := by
  simp [patText]

theorem startsWithDelim_prefix {a l : Bytes} (hp : a <+: l) (ha : a ≠ []) : startsWithDelim a = startsWithDelim l := by
  obtain ⟨r, rfl⟩ := hp
  cases a with
  | nil => exact absurd rfl ha
  | cons c cs => rfl

theorem trimRight_param_end (init : Pat) {t : Tok} (ht : t.isParam = true) (hok : TokOK t) :
    trimRight (patText (init ++ [t])) SLASH = patText (init ++ [t]) := by
  apply trimRight_of_getLast_ne
  rw [patText_concat, List.getLast?_append_of_ne_nil _ (tokText_ne_nil hok)]
  exact paramText_last ht hok

/-- **Trimming trailing slashes stays inside the documented syntax.** The text of a well-formed,
    well-shaped token list, with its trailing slashes removed, is the text of another such list
    with the same number of parameters. -/
theorem trim_text {q : Pat} (hok : ∀ t ∈ q, TokOK t) (hsh : shapeOK q = true) :
    ∃ q', (∀ t ∈ q', TokOK t) ∧ shapeOK q' = true ∧ patText q' = trimRight (patText q) SLASH ∧
      (q'.filter (·.isParam)).length = (q.filter (·.isParam)).length := by
  -- the shape as the condition on adjacent tokens, here and in the goal
  simp only [shapeOK_eq] at hsh ⊢
  rcases List.eq_nil_or_concat q with rfl | ⟨init, t, rfl⟩
  · exact ⟨[], hok, rfl, by simp [patText, trimRight], rfl⟩
  · rw [List.concat_eq_append] at hok hsh ⊢
    obtain ⟨hoki, hokt⟩ := List.forall_mem_append.mp hok
    replace hokt := List.forall_mem_singleton.mp hokt
    have ⟨hshi, hbt⟩ : pairsOK init = true ∧ init.getLast?.all (okPair · t) = true := by
      rw [← Bool.and_eq_true, ← pairsOK_concat]; exact hsh
    by_cases htp : t.isParam = true
    · -- the text ends in a parameter: nothing to trim
      exact ⟨init ++ [t], hok, hsh, (trimRight_param_end init htp hokt).symm, rfl⟩
    · -- the text ends in a literal
      obtain ⟨l, rfl⟩ : ∃ l, t = .lit l := by
        cases t with
        | lit l => exact ⟨l, rfl⟩
        | _ => exact absurd rfl htp
      rw [patText_concat, trimRight_append]
      simp only [Tok.text]
      by_cases hl' : (trimRight l SLASH).isEmpty = true
      · -- the literal is slashes only: it disappears, and what is in front ends in a parameter
        simp only [hl', if_true]
        refine ⟨init, hoki, hshi, ?_, by simp [List.filter_append, Tok.isParam]⟩
        rcases List.eq_nil_or_concat init with rfl | ⟨i0, t0, rfl⟩
        · simp [patText, trimRight]
        · rw [List.concat_eq_append] at hbt hoki ⊢
          rw [List.getLast?_append_of_ne_nil _ (List.cons_ne_nil _ _)] at hbt
          exact (trimRight_param_end i0 (okPair_lit hbt) (hoki t0 (by simp))).symm
      · -- the literal keeps a non-empty part
        simp only [hl', Bool.false_eq_true, if_false]
        have hne : trimRight l SLASH ≠ [] := by
          intro h; rw [h] at hl'; simp at hl'
        have hpre := trimRight_prefix l SLASH
        refine ⟨init ++ [.lit (trimRight l SLASH)], ?_, ?_, ?_, ?_⟩
        · exact List.forall_mem_append.mpr
            ⟨hoki, List.forall_mem_singleton.mpr ⟨hne, fun c hc => hokt.2 c (hpre.subset hc)⟩⟩
        · rw [pairsOK_concat, okPair_lit_swap (startsWithDelim_prefix hpre hne), ← pairsOK_concat]
          exact hsh
        · rw [patText_concat]; rfl
        · simp [List.filter_append, Tok.isParam]

/-- The routed (prettified) text of a documented-syntax pattern is again the text of a well-formed
    token list. -/
theorem routed_pat (cfg : Config) {p : Pat} (hwf : WFPat p = true) :
    ∃ q, (∀ t ∈ q, TokOK t) ∧ shapeOK q = true ∧ patText q = prettyPattern cfg (patText p) := by
  obtain ⟨hokq, hshq⟩ := prettyPat_ok cfg hwf
  rw [prettyPattern_patText cfg hwf, trimStep_eq]
  split
  · obtain ⟨q, h1, h2, h3, _⟩ := trim_text hokq hshq
    exact ⟨q, h1, h2, h3⟩
  · exact ⟨prettyPat cfg p, hokq, hshq, rfl⟩

/-- **What `register` stores for a documented-syntax pattern**, given the token list `q` of the
    routed text: the declared names are those of `segsOf p`, the parser is `segsOf q`. -/
theorem register_text {cfg : Config} {use : Bool} {p q : Pat} (hwf : WFPat p = true) (hokq : ∀ t ∈ q, TokOK t)
    (hshq : shapeOK q = true) (htext : patText q = prettyPattern cfg (patText p)) :
    ∃ sr sp, segsOf p = some sr ∧ segsOf q = some sp ∧
      register cfg use (patText p) = some
        { pathRaw := patText p, path := patText q, params := paramNames sr,
          parser := { segs := sp, params := paramNames sp }, use := use,
          star := patText q == [SLASH, STAR], root := patText q == [SLASH] } := by
  obtain ⟨sr, hsr⟩ := segsOf_isSome hwf
  obtain ⟨sp, hsp⟩ := segsOf_isSome' hokq
  refine ⟨sr, sp, hsr, hsp, ?_⟩
  unfold register
  simp only [rawPattern_patText hwf, ← htext, removeEscapeChar_id _ (patText_noBSL _ hokq),
    parseRouteW_noLT _ (patText_noLT _ hokq), parseRoute_patText hwf, parseRoute_patText' hokq hshq, hsr, hsp,
    Option.map_some]

/-- **The two parser facts `rpm_eq_single_route_dispatch` asks for hold for every documented-syntax
    pattern**: a text without `<` is outside the one corner in which the written and the routed
    pattern can declare different numbers of parameters (`C02.params_aligned`), and a root route
    declares none (`C02.root_no_params`). -/
theorem register_arity {cfg : Config} {use : Bool} {p : Pat} {r : Route} (hwf : WFPat p = true)
    (hr : register cfg use (patText p) = some r) :
    ((r.params.length > 0) ↔ (r.parser.params.length > 0)) ∧
    (r.root = true → ¬ (r.parser.params.length > 0)) := by
  have hlen : r.params.length = r.parser.params.length := by
    obtain ⟨sl, _, hsplit⟩ := rawPattern_split cfg (patText p)
    have hw : (writtenPattern cfg (patText p)).contains C02.LT = false :=
      contains_false_of_subset (hsplit ▸ List.subset_append_left _ sl)
        (by rw [rawPattern_patText hwf]; exact patText_noLT p (wfPat_tokOK hwf).1)
    rw [params_aligned hr (fun i => by unfold swallows; rw [contains_false_of_subset (List.drop_subset i _) hw]; rfl),
      parseRouteW_params (register_parser hr)]
    exact (List.length_map _).symm
  refine ⟨by rw [hlen], fun hroot hpar => ?_⟩
  rw [← hlen, root_no_params hr hroot] at hpar
  exact absurd hpar (Nat.lt_irrefl 0)

end C03
