import FiberModel.C03.Lemmas
import FiberModel.C02.Observe
/-
C03 — the declared parameter names of a documented-syntax pattern are pairwise distinct under the
comparison `ctx.Params` uses, as soon as the names the *user* chose are: the generated names of the
wildcard / plus parameters (`*1`, `*2`, … / `+1`, `+2`, …; path.go `analyseParameterPart`:
`ParamName + strconv.Itoa(counter)`) never collide with each other (decimal rendering is injective)
nor with a user name (those are letters, digits and `_`).
-/
namespace C03
open B C02

/-- the test `Params` applies to each declared name -/
def nameMatch (cfg : Config) (a key : Bytes) : Bool :=
  a.length == key.length && (a == key || (!cfg.caseSensitive && equalFold a key))

theorem namesDistinct_of_pairwise {cfg : Config} : (names : List Bytes) →
    names.Pairwise (fun a c => nameMatch cfg a c = false) → namesDistinct cfg names = true
  | [], _ => rfl
  | n :: ns, h => by
    rw [List.pairwise_cons] at h
    unfold namesDistinct
    rw [namesDistinct_of_pairwise ns h.2, Bool.and_true, List.all_eq_true]
    intro m hm
    show (!nameMatch cfg n m) = true
    rw [h.1 m hm]; rfl

theorem lowerByte_fix {c : Nat} (h : isUpper c = false) : lowerByte c = c := by
  unfold lowerByte; simp [h]

theorem natToDec_inj {n m : Nat} (h : natToDec n = natToDec m) : n = m :=
  B.natToDec_inj h

theorem natToDec_digit {n c : Nat} (h : c ∈ natToDec n) : isDigit c = true := by
  unfold natToDec at h
  have hn : (toString n).toList = Nat.toDigits 10 n := Nat.toList_repr
  rw [hn] at h
  obtain ⟨ch, hch, rfl⟩ := List.mem_map.mp h
  have hd := Nat.isDigit_of_mem_toDigits (b := 10) (by omega) (by omega) hch
  unfold Char.isDigit at hd
  unfold isDigit
  simp only [Bool.and_eq_true, decide_eq_true_eq, ge_iff_le] at hd ⊢
  exact hd

/-- a generated name (`*` or `+` and a decimal counter) has no letter to fold -/
theorem toLower_generated {x : Nat} (hx : x = STAR ∨ x = PLUS) (n : Nat) :
    toLower (x :: natToDec n) = x :: natToDec n := by
  refine toLower_id _ fun c hc => lowerByte_fix ?_
  rcases List.mem_cons.mp hc with rfl | hc
  · rcases hx with rfl | rfl <;> rfl
  · have hd := natToDec_digit hc
    unfold isDigit at hd
    unfold isUpper
    simp only [Bool.and_eq_true, decide_eq_true_eq] at hd
    simp only [Bool.and_eq_false_iff, decide_eq_false_iff_not]
    omega

theorem nameMatch_false_of_lower_ne (cfg : Config) {a c : Bytes} (h : toLower a ≠ toLower c) :
    nameMatch cfg a c = false := by
  unfold nameMatch
  have h1 : (a == c) = false := by
    rw [beq_eq_false_iff_ne]; intro hh; exact h (by rw [hh])
  have h2 : equalFold a c = false := by
    unfold equalFold; rw [beq_eq_false_iff_ne]; exact h
  simp [h1, h2]

theorem nameMatch_comm (cfg : Config) (a c : Bytes) : nameMatch cfg a c = nameMatch cfg c a := by
  unfold nameMatch equalFold
  rw [BEq.comm (a := a.length), BEq.comm (a := a), BEq.comm (a := toLower a)]

theorem user_ne_generated (cfg : Config) {n : Bytes} (hn : n ≠ [] ∧ ∀ c ∈ n, nameByte c = true)
    (x : Nat) (hx : x = STAR ∨ x = PLUS) (k : Nat) : nameMatch cfg n (x :: natToDec k) = false := by
  apply nameMatch_false_of_lower_ne
  rw [toLower_generated hx]
  cases n with
  | nil => exact absurd rfl hn.1
  | cons c cs =>
    intro hh
    have hcx : c = x := by
      rcases hx with rfl | rfl <;> exact (lowerByte_neutral _ _ (by decide)).mp (List.head_eq_of_cons_eq hh)
    have := (nameByte_facts (hn.2 c (List.mem_cons_self ..))).noStart
    rw [hcx] at this
    rcases hx with rfl | rfl <;> exact absurd this (by decide)

theorem generated_ne (cfg : Config) (x y : Nat) (hx : x = STAR ∨ x = PLUS) (hy : y = STAR ∨ y = PLUS)
    (i j : Nat) (h : x ≠ y ∨ i ≠ j) : nameMatch cfg (x :: natToDec i) (y :: natToDec j) = false := by
  apply nameMatch_false_of_lower_ne
  rw [toLower_generated hx, toLower_generated hy]
  intro hh
  injection hh with h1 h2
  rcases h with h | h
  · exact h h1
  · exact h (C03.natToDec_inj h2)

def userNames : Pat → List Bytes
  | [] => []
  | .named n _ :: rest => n :: userNames rest
  | _ :: rest => userNames rest

/-- where a declared name comes from, relative to the counters the parser has reached: a user name, or
    `*` / `+` followed by a counter value still to come -/
def NameIn (p : Pat) (wc pc : Nat) (x : Bytes) : Prop :=
  x ∈ userNames p ∨ ∃ g k, (g = STAR ∧ wc < k ∨ g = PLUS ∧ pc < k) ∧ x = g :: natToDec k

theorem paramNames_lit (l : Bytes) (rest : Pat) (wc pc : Nat) :
    paramNames (rawSegsOf (.lit l :: rest) wc pc) = paramNames (rawSegsOf rest wc pc) := by
  unfold paramNames; simp [rawSegsOf]

theorem paramNames_named (n : Bytes) (o : Bool) (rest : Pat) (wc pc : Nat) :
    paramNames (rawSegsOf (.named n o :: rest) wc pc) = n :: paramNames (rawSegsOf rest wc pc) := by
  unfold paramNames; simp [rawSegsOf]

theorem paramNames_star (rest : Pat) (wc pc : Nat) :
    paramNames (rawSegsOf (.star :: rest) wc pc) =
      (STAR :: natToDec (wc + 1)) :: paramNames (rawSegsOf rest (wc + 1) pc) := by
  unfold paramNames; simp [rawSegsOf]

theorem paramNames_plus (rest : Pat) (wc pc : Nat) :
    paramNames (rawSegsOf (.plus :: rest) wc pc) =
      (PLUS :: natToDec (pc + 1)) :: paramNames (rawSegsOf rest wc (pc + 1)) := by
  unfold paramNames; simp [rawSegsOf]

theorem names_in : (p : Pat) → (wc pc : Nat) → ∀ x ∈ paramNames (rawSegsOf p wc pc), NameIn p wc pc x
  | [], _, _, x, hx => nomatch hx
  | .lit l :: rest, wc, pc, x, hx => by
    rw [paramNames_lit] at hx
    exact names_in rest wc pc x hx
  | .named n o :: rest, wc, pc, x, hx => by
    rw [paramNames_named] at hx
    rcases List.mem_cons.mp hx with rfl | hx
    · exact Or.inl (List.mem_cons_self ..)
    · exact (names_in rest wc pc x hx).imp_left (List.mem_cons_of_mem _)
  | .star :: rest, wc, pc, x, hx => by
    rw [paramNames_star] at hx
    rcases List.mem_cons.mp hx with rfl | hx
    · exact Or.inr ⟨STAR, wc + 1, Or.inl ⟨rfl, Nat.lt_succ_self _⟩, rfl⟩
    · exact (names_in rest (wc + 1) pc x hx).imp_right fun ⟨g, k, hk, h⟩ =>
        ⟨g, k, hk.imp_left (And.imp_right Nat.lt_of_succ_lt), h⟩
  | .plus :: rest, wc, pc, x, hx => by
    rw [paramNames_plus] at hx
    rcases List.mem_cons.mp hx with rfl | hx
    · exact Or.inr ⟨PLUS, pc + 1, Or.inr ⟨rfl, Nat.lt_succ_self _⟩, rfl⟩
    · exact (names_in rest wc (pc + 1) x hx).imp_right fun ⟨g, k, hk, h⟩ =>
        ⟨g, k, hk.imp_right (And.imp_right Nat.lt_of_succ_lt), h⟩

def UserOK (p : Pat) : Prop := ∀ n ∈ userNames p, n ≠ [] ∧ ∀ c ∈ n, nameByte c = true

theorem userOK_of_tokOK (p : Pat) (hok : ∀ t ∈ p, TokOK t) : UserOK p := by
  unfold UserOK
  -- cases of `userNames`: no token, a named parameter in front, any other token in front
  fun_induction userNames p with
  | case1 => nofun
  | case2 m o rest ih =>
    have ⟨hm, hokr⟩ := List.forall_mem_cons.mp hok
    exact List.forall_mem_cons.mpr ⟨hm, ih hokr⟩
  | case3 t rest _ ih => exact ih (List.forall_mem_cons.mp hok).2

theorem UserOK.tail {t : Tok} {rest : Pat} (h : UserOK (t :: rest)) : UserOK rest := by
  intro n hn
  apply h
  cases t <;> simp [userNames, hn]

/-- **The declared names are pairwise distinct** under the comparison of `ctx.Params`, for any
    state of the wildcard / plus counters, provided the user's own names are. -/
theorem names_pairwise (cfg : Config) : (p : Pat) → (wc pc : Nat) → UserOK p →
    (userNames p).Pairwise (fun a c => nameMatch cfg a c = false) →
    (paramNames (rawSegsOf p wc pc)).Pairwise (fun a c => nameMatch cfg a c = false)
  | [], _, _, _, _ => by simp [paramNames, rawSegsOf]
  | .lit l :: rest, wc, pc, hu, hp => by
    rw [paramNames_lit]
    exact names_pairwise cfg rest wc pc hu.tail hp
  | .named n o :: rest, wc, pc, hu, hp => by
    rw [paramNames_named]
    simp only [userNames, List.pairwise_cons] at hp
    refine List.pairwise_cons.mpr ⟨fun x hx => ?_, names_pairwise cfg rest wc pc hu.tail hp.2⟩
    rcases names_in rest wc pc x hx with h | ⟨g, k, hg, rfl⟩
    · exact hp.1 x h
    · exact user_ne_generated cfg (hu n (List.mem_cons_self ..)) g (hg.imp And.left And.left) k
  | .star :: rest, wc, pc, hu, hp => by
    rw [paramNames_star]
    refine List.pairwise_cons.mpr ⟨fun x hx => ?_,
      names_pairwise cfg rest (wc + 1) pc hu.tail hp⟩
    rcases names_in rest (wc + 1) pc x hx with h | ⟨g, k, hg, rfl⟩
    · rw [nameMatch_comm]
      exact user_ne_generated cfg (hu x h) STAR (Or.inl rfl) _
    · exact generated_ne cfg STAR g (Or.inl rfl) (hg.imp And.left And.left) _ _
        (hg.elim (fun h => Or.inr (Nat.ne_of_lt h.2)) (fun h => Or.inl (h.1 ▸ by decide)))
  | .plus :: rest, wc, pc, hu, hp => by
    rw [paramNames_plus]
    refine List.pairwise_cons.mpr ⟨fun x hx => ?_,
      names_pairwise cfg rest wc (pc + 1) hu.tail hp⟩
    rcases names_in rest wc (pc + 1) x hx with h | ⟨g, k, hg, rfl⟩
    · rw [nameMatch_comm]
      exact user_ne_generated cfg (hu x h) PLUS (Or.inr rfl) _
    · exact generated_ne cfg PLUS g (Or.inr rfl) (hg.imp And.left And.left) _ _
        (hg.elim (fun h => Or.inl (h.1 ▸ by decide)) (fun h => Or.inr (Nat.ne_of_lt h.2)))

theorem segsOf_names_distinct (cfg : Config) {p : Pat} {segs : List Seg} (hwf : WFPat p = true)
    (hs : segsOf p = some segs)
    (hnames : (userNames p).Pairwise (fun a c => nameMatch cfg a c = false)) :
    (paramNames segs).Pairwise (fun a c => nameMatch cfg a c = false) := by
  rw [(segsOf_ok hs).1.paramNames_eq]
  exact names_pairwise cfg p 0 0 (userOK_of_tokOK p (wfPat_tokOK hwf).1) hnames

theorem register_params {cfg : Config} {use : Bool} {p : Pat} {r : Route} (hwf : WFPat p = true)
    (hr : register cfg use (patText p) = some r) :
    ∃ sr, segsOf p = some sr ∧ r.params = paramNames sr := by
  -- the declared names come from the parse of the text as written
  obtain ⟨pr, hpr, hparams, _⟩ := register_inv hr
  obtain ⟨sr, hsr⟩ := segsOf_isSome hwf
  rw [rawPattern_patText hwf, parseRoute_patText hwf, hsr] at hpr
  cases hpr
  exact ⟨sr, hsr, hparams⟩

end C03
