import FiberModel.C03.Greedy
/-
C03 — `getMatch` on a filled path: one step over a constant, one over a parameter whose length
`paramLen` finds, and the induction over the token list behind `fill_match_complete`.
-/
namespace C03
open B C02

theorem getMatch_const_fill {chk : Constraint → Bytes → Bool} {seg : Seg} {rest : List Seg}
    {l d path : Bytes} {pc : Bool} (hb : LitSeg l seg) :
    getMatch chk (seg :: rest) (l ++ d) path pc = getMatch chk rest d (path.drop l.length) pc := by
  rw [getMatch_const hb.isParam, hb.length, hb.const, if_neg, if_pos, List.drop_left]
  · simp
  · intro h
    simp only [Bool.and_eq_true, decide_eq_true_eq, beq_iff_eq, List.length_append] at h
    omega

theorem getMatch_param_fill {chk : Constraint → Bytes → Bool} {t : Tok} {seg : Seg} {rest : List Seg}
    {v d path : Bytes} {pc : Bool} (hb : ParamSeg t seg rest)
    (hlen : paramLen (v ++ d) seg rest = v.length) (hreq : t.isOptional = true ∨ v ≠ []) :
    getMatch chk (seg :: rest) (v ++ d) path pc =
      (getMatch chk rest d (path.drop v.length) pc).map (path.take v.length :: ·) := by
  rw [getMatch_param hb.isParam, hlen, hb.constraints, hb.isOptional, List.drop_left, if_neg, if_neg]
  · simp
  · rcases hreq with h | h <;> simp [h]

/-- **The parameter step.** A parameter segment `b` in front of the segments of `rest`, the detection
    path being a clean value `d` followed by the fill of `rest`: `paramLen` finds `|d|`. The next
    token is a literal `l` (or nothing); the filled path holds `l`, so the matcher searches for `l`
    itself (`paramLen_holds`), and a greedy parameter whose `l` re-occurs is cut by the right-to-left
    loop (`findGreedyParamLen_fill`). -/
theorem paramLen_fill {b : Seg} {bs : List Seg} {t : Tok} {rest : Pat} {d : Bytes} {ds : List Bytes}
    (hb : ParamSeg t b bs) (hrest : Segs rest bs) (hdn : delimNext rest = true) (hesc : litsEscFree rest)
    (hv : CleanValue t rest d ds) : paramLen (d ++ fill rest ds) b bs = d.length := by
  have hslash : b.isGreedy = true ∨ d.contains SLASH = false := hb.isGreedy ▸ hv.noSlash
  cases hrest with
  | nil =>
    rw [paramLen_nil, fill, List.append_nil]
    exact findParamLen_lastValue (hb.isLast.mpr rfl) hslash
  -- `delimNext rest = true` rules out a parameter as the next token
  | @param t2 _ _ _ ht2 => cases t2 <;> first | cases hdn | cases ht2
  | @lit l rest2 b2 bs2 hb2 hrest2 =>
    have hbl : b.isLast = false := Bool.eq_false_iff.mpr fun h => List.cons_ne_nil _ _ (hb.isLast.mp h)
    have hb0 : b.length = 0 := hb.length (by simp [nextNonGreedyParam, hb2.isParam])
    have hl : l.contains BSL = false := hesc (.lit l) (List.mem_cons_self ..) l rfl
    have hcp : b.comparePart = cmpOfConst b2.const := by
      rw [hb.comparePart, nextConstCmp, hb2.isParam, hb2.const]
      exact removeEscapeChar_id _ (contains_false_of_subset (cmpOfConst_prefix l).subset hl)
    have hlne : l ≠ [] := by
      intro hh; rw [hh] at hdn; cases hdn
    have hidx := hv.first l rfl
    -- stage (ii-b): the right-to-left loop on a clean fill, for the segment that searches for `l`
    have G : b.isGreedy = true →
        findGreedyParamLen (d ++ fill (.lit l :: rest2) ds) (count (d ++ fill (.lit l :: rest2) ds) l)
          { b with comparePart := l, partCount := partCountOf l (b2 :: bs2) } = d.length :=
      fun hg => findGreedyParamLen_fill hlne rfl ((Segs.lit hb2 hrest2).partCountOf l) hidx
        (hv.count l rfl (hb.isGreedy ▸ hg))
    rw [paramLen_holds hbl hb0 hcp hb.partCount (hb2.const ▸ hlne) (by rw [hb2.const, hidx]; rfl), hb2.const]
    split
    · rename_i hg; exact G hg.1
    · exact findParamLen_value hbl hb0 rfl hslash hidx (fun hg _ => G hg)

/-- **The completeness induction.** For the segment list of a delimited token list and a detection
    path that is the fill with clean values `ds`, `getMatch` succeeds and reports the user path cut
    at the value positions of the fill (the literal positions of the user path may differ in letter
    case, and it may be longer than the fill). -/
theorem getMatch_fill {chk : Constraint → Bytes → Bool} {p : Pat} {segs : List Seg} {pc : Bool} (h : Segs p segs)
    (ds : List Bytes) (path : Bytes) (hd : Delimited p = true) (hesc : litsEscFree p)
    (hcl : cleanFillWith id p ds = true) :
    getMatch chk segs (fill p ds) path pc = some (slicesOf p ds path) := by
  induction h generalizing ds path with
  | nil => unfold getMatch fill; simp [slicesOf]
  | @lit l rest b bs hb hrest ih =>
    rw [fill, getMatch_const_fill hb]
    -- `Delimited` and `cleanFillWith` step over a literal by their defining equations
    exact ih ds _ hd (List.forall_mem_cons.mp hesc).2 hcl
  | @param t rest b bs ht hb hrest ih =>
    cases ds with
    | nil => rw [cleanFillWith_param_nil _ _ _ ht] at hcl; cases hcl
    | cons d ds' =>
      obtain ⟨hv, hclr⟩ := cleanValue_of ht hcl
      rw [Delimited, if_pos ht, Bool.and_eq_true] at hd
      have hescr : litsEscFree rest := (List.forall_mem_cons.mp hesc).2
      rw [fill_param t rest _ ht]
      show getMatch chk (b :: bs) (d ++ fill rest ds') path pc = _
      rw [getMatch_param_fill hb (paramLen_fill hb hrest hd.1 hescr hv) hv.nonEmpty,
        ih ds' _ hd.2 hescr hclr, slicesOf_param _ _ _ _ ht]
      rfl

end C03
