import FiberModel.C08.Shape
/-
C08 — the tokens reading (`coversPat`, written from scratch in Spec) is what the code computes for
keys of the tokens fragment: plain text and whole-segment named parameters (`/:tenant`, `/:t/api`,
`/api/:id`, `/:a/:b`):

  * what fiber's parser makes of such a key is in Shape.lean (`parseRoute_frag`: alternating constant /
    parameter segments with their meta information);
  * what `getMatch` answers for those segments is what the tokens matcher answers (`getMatch_segsOf`);
  * the loop over the cuts of `mountPrefixLen` finds exactly what the tokens consume (`cover_of_segs`);
together: `modelCover_eq_coversPat_of_wf` (hypothesis: the key is spelled by well-formed pieces).
-/
namespace C08
open B C04

theorem drop_takeWhile_head (D : Bytes) :
    D.drop (D.takeWhile (· != 47)).length = [] ∨ (D.drop (D.takeWhile (· != 47)).length).head? = some 47 := by
  have := List.drop_length_takeWhile_head (· != 47) D
  cases h : D.drop (D.takeWhile (· != 47)).length with
  | nil => exact .inl rfl
  | cons x r => rw [h] at this; exact .inr (by simpa using this x rfl)

theorem indexByte_getD_length (D : Bytes) (c : Nat) :
    (indexByte D c).getD D.length = (D.takeWhile (· != c)).length := by
  induction D with
  | nil => rfl
  | cons x t ih =>
    rw [indexByte, List.takeWhile_cons]
    by_cases h : x = c
    · simp [h]
    · rw [if_neg (by simpa using h), if_pos (by simpa using h), List.length_cons, List.length_cons, ← ih]
      cases indexByte t c <;> rfl

theorem paramLen_last {D : Bytes} {seg : C02.Seg} (rest : List C02.Seg) (hl : seg.isLast = true)
    (hg : seg.isGreedy = false) : C02.paramLen D seg rest = (D.takeWhile (· != 47)).length := by
  rw [C02.paramLen_guard rest (Or.inl hl), C02.findParamLen_last hl, ← indexByte_getD_length]
  unfold C02.findParamLenForLastSegment
  rw [hg]
  cases indexByte D C02.SLASH <;> rfl

theorem take_hasslash (v rs : Bytes) (k : Nat) : (List.take (k + 1 + v.length) (v ++ 47 :: rs)).contains 47 = true := by
  simp only [List.contains_eq_any_beq, List.any_eq_true, beq_iff_eq]
  refine ⟨47, ?_, rfl⟩
  rw [List.mem_take_iff_getElem]
  refine ⟨v.length, by simp; omega, ?_⟩
  simp

/-- a parameter in the middle of a fragment key, in front of the constant `c`: the compare part
`cmp` that is searched for is a leading part of `c` and begins with a slash. What `findParamLen`
returns on a path `v ++ R` cut at its first slash: `v`, or else `c` does not follow `v` and it is 0
or everything -/
theorem findParamLen_mid (v R cmp c : Bytes) (seg : C02.Seg) (hv : ∀ x ∈ v, x ≠ 47)
    (hR : R = [] ∨ R.head? = some 47) (hc : cmp.head? = some 47) (hcc : cmp <+: c)
    (hl : seg.isLast = false) (hlen : seg.length = 0) (hg : seg.isGreedy = false) (hcp : seg.comparePart = cmp) :
    C02.findParamLen (v ++ R) seg = v.length ∨
      (c.isPrefixOf R = false ∧
        (C02.findParamLen (v ++ R) seg = 0 ∨ C02.findParamLen (v ++ R) seg = (v ++ R).length)) := by
  rw [C02.findParamLen_search hl (by rw [hlen]; rfl) (by rw [hg]; rfl), hcp, hg, Bool.not_false,
    indexOf_append_of_not_mem R hc (List.not_mem_of_forall_ne hv)]
  simp only [Bool.true_and]
  have hnot : cmp.isPrefixOf R = false → c.isPrefixOf R = false := fun h => Bool.eq_false_iff.mpr fun hh =>
    Bool.eq_false_iff.mp h (List.isPrefixOf_iff_prefix.mpr (hcc.trans (List.isPrefixOf_iff_prefix.mp hh)))
  obtain ⟨cs, rfl⟩ : ∃ cs, cmp = 47 :: cs := by
    match cmp, hc with
    | _ :: cs, hc => exact ⟨cs, by simpa using hc⟩
  rcases hR with hR | hR
  · subst hR
    exact .inr ⟨hnot rfl, .inr (by simp [indexOf])⟩
  · cases R with
    | nil => simp at hR
    | cons r rs =>
      simp only [List.head?_cons, Option.some.injEq] at hR
      subst hR
      cases hp : (47 :: cs).isPrefixOf (47 :: rs) with
      | true =>
        left
        simp only [indexOf, hp, if_true, Option.map_some, Nat.zero_add]
        rw [List.take_left' rfl, List.contains_eq_false_of_forall_ne hv]
        rfl
      | false =>
        refine .inr ⟨hnot hp, ?_⟩
        simp only [indexOf, hp, Bool.false_eq_true, if_false]
        cases hi : indexOf rs (47 :: cs) with
        | none => right; simp
        | some k =>
          left
          simp only [Option.map_some]
          rw [take_hasslash v rs k]
          simp

theorem isPrefixOf_fold_cons (cfg : Cfg) (c d : Nat) (s p : Bytes) :
    (fold cfg (c :: s)).isPrefixOf (fold cfg (d :: p)) = (decide (fb cfg c = fb cfg d) && (fold cfg s).isPrefixOf (fold cfg p)) := by
  simp only [fold, List.map_cons, List.isPrefixOf]
  by_cases h : fb cfg c = fb cfg d <;> simp [h]

theorem matchToks_lits_append (cfg : Cfg) (s : Bytes) (ts : List Tok) (p : Bytes) :
    matchToks cfg (s.map .lit ++ ts) p =
      if (fold cfg s).isPrefixOf (fold cfg p) then (matchToks cfg ts (p.drop s.length)).map (· + s.length) else none := by
  induction s generalizing p with
  | nil => simp [fold]
  | cons c t ih =>
    cases p with
    | nil => simp [matchToks, fold]
    | cons d p' =>
      simp only [List.map_cons, List.cons_append, matchToks, isPrefixOf_fold_cons, List.length_cons, List.drop_succ_cons]
      by_cases hcd : fb cfg c = fb cfg d
      · simp only [hcd, if_true, decide_true, Bool.true_and]
        rw [ih]
        by_cases hp : (fold cfg t).isPrefixOf (fold cfg p') = true
        · simp only [hp, if_true, Option.map_map]
          congr 1
        · simp [hp]
      · simp [hcd]

theorem cmpOfConst_head {c : Bytes} (h : c.head? = some 47) : (C02.cmpOfConst c).head? = some 47 := by
  obtain ⟨t, ht⟩ := C02.cmpOfConst_prefix c
  have hne := C02.cmpOfConst_ne_nil (c := c) (by rintro rfl; cases h)
  generalize C02.cmpOfConst c = u at ht hne
  subst ht
  cases u with
  | nil => exact absurd rfl hne
  | cons _ _ => exact h

/-- a required named parameter `seg` in the middle of a key, in front of the constant `c` held by `nxt` -/
structure MidParam (seg nxt : C02.Seg) (c : Bytes) : Prop where
  const : nxt.const = c
  notLast : seg.isLast = false
  len : seg.length = 0
  notGreedy : seg.isGreedy = false
  cmp : seg.comparePart = C02.cmpOfConst c

/-- what `paramLen` returns for such a parameter (`c` begins with a slash) on the folded path `P`: the
parameter takes the first segment of `P`, or else `c` does not follow that segment and it takes
nothing or everything -/
theorem paramLen_mid (cfg : Cfg) (P : Bytes) {c : Bytes} {seg nxt : C02.Seg} {rest : List C02.Seg} {pl : Nat}
    (hpl : C02.paramLen (fold cfg P) seg (nxt :: rest) = pl) (hc : c.head? = some 47) (hm : MidParam seg nxt c) :
    pl = (P.takeWhile (· != 47)).length ∨
      (c.isPrefixOf (fold cfg (P.drop (P.takeWhile (· != 47)).length)) = false ∧ (pl = 0 ∨ pl = P.length)) := by
  -- on a path `v ++ R` cut at its first slash: `v`, or else `c` does not follow `v` and it is 0 or everything
  suffices h : ∀ v R : Bytes, (∀ x ∈ v, x ≠ 47) → (R = [] ∨ R.head? = some 47) →
      C02.paramLen (v ++ R) seg (nxt :: rest) = v.length ∨
        (c.isPrefixOf R = false ∧ (C02.paramLen (v ++ R) seg (nxt :: rest) = 0 ∨
          C02.paramLen (v ++ R) seg (nxt :: rest) = (v ++ R).length)) by
    have h := h _ _ (fun x hx e => List.not_mem_takeWhile_ne 47 (fold cfg P) (by subst e; exact hx))
      (drop_takeWhile_head (fold cfg P))
    rwa [List.takeWhile_append_drop (· != 47) (fold cfg P), fold_takeWhile_length, ← fold_drop, hpl, fold_length] at h
  intro v R hv hR
  rw [C02.paramLen_cons (not_or.mpr ⟨by rw [hm.notLast]; exact Bool.false_ne_true, fun h => h.1 hm.len⟩),
    hm.notGreedy, if_neg Bool.false_ne_true]
  -- the compare part searched for is `c` itself where the path holds it in full, else `cmpOfConst c`
  split
  · exact findParamLen_mid v R c c _ hv hR hc (List.prefix_refl _) hm.notLast hm.len rfl hm.const
  · exact findParamLen_mid v R _ c seg hv hR (cmpOfConst_head hc) (C02.cmpOfConst_prefix c) hm.notLast hm.len
      hm.notGreedy hm.cmp

theorem getMatch_nil (chk : C02.Constraint → Bytes → Bool) (det path : Bytes) :
    (C02.getMatch chk [] det path false).isSome = det.isEmpty := by
  unfold C02.getMatch
  cases det <;> simp

theorem getMatch_litSeg (chk : C02.Constraint → Bytes → Bool) (c : Bytes) (lastFlag : Bool) (rest : List C02.Seg)
    (det path : Bytes) :
    C02.getMatch chk (litSeg c lastFlag :: rest) det path false =
      if c.isPrefixOf det then C02.getMatch chk rest (det.drop c.length) (path.drop c.length) false else none := by
  rw [C02.getMatch_const rfl, List.isPrefixOf_eq_take]
  simp only [litSeg, Bool.false_and, Bool.false_eq_true, if_false]
  rfl

theorem getMatch_required (chk : C02.Constraint → Bytes → Bool) (seg : C02.Seg) (rest : List C02.Seg)
    (det path : Bytes) (hp : seg.isParam = true) (ho : seg.isOptional = false) (hcs : seg.constraints = []) :
    (C02.getMatch chk (seg :: rest) det path false).isSome =
      (C02.paramLen det seg rest != 0 &&
        (C02.getMatch chk rest (det.drop (C02.paramLen det seg rest)) (path.drop (C02.paramLen det seg rest)) false).isSome) := by
  rw [C02.getMatch_param hp, ho, hcs]
  by_cases hi : C02.paramLen det seg rest = 0 <;> simp [hi]

theorem foldP_map_isEmpty (cfg : Cfg) (t : List Piece) : (t.map (foldP cfg)).isEmpty = t.isEmpty := by
  cases t <;> rfl

theorem matchToks_param (cfg : Cfg) (ts : List Tok) (P : Bytes) :
    matchToks cfg (.param :: ts) P =
      if (P.takeWhile (· != 47)).length = 0 then none
      else (matchToks cfg ts (P.drop (P.takeWhile (· != 47)).length)).map (· + (P.takeWhile (· != 47)).length) := by
  simp only [matchToks, List.isEmpty_eq_length_beq]
  by_cases h : (P.takeWhile (· != 47)).length = 0 <;> simp [h]

/-- `k` bytes, then tokens that take `x`: all of `P` is taken when `x` is all of what is left -/
theorem map_add_beq_length (x : Option Nat) {k : Nat} {P : Bytes} (hk : k ≤ P.length) :
    (x.map (· + k) == some P.length) = (x == some (P.drop k).length) := by
  cases x with
  | none => rfl
  | some m =>
    rw [Bool.eq_iff_iff]
    simp only [Option.map_some, beq_iff_eq, Option.some.injEq, List.length_drop]
    omega

/-- a parameter that takes the first segment of `P`, followed by tokens that take `x` -/
theorem first_segment_step (x : Option Nat) (P : Bytes) :
    ((P.takeWhile (· != 47)).length != 0 && (x == some (P.drop (P.takeWhile (· != 47)).length).length)) =
      ((if (P.takeWhile (· != 47)).length = 0 then none else x.map (· + (P.takeWhile (· != 47)).length)) ==
        some P.length) := by
  by_cases hv : (P.takeWhile (· != 47)).length = 0
  · rw [hv]; rfl
  · rw [if_neg hv, map_add_beq_length _ (List.takeWhile_prefix _).length_le, bne_iff_ne.mpr hv, Bool.true_and]

/-- For a well-formed fragment (from any piece on) and every path: `getMatch`, full match, on the
segments fiber's parser makes of the folded key succeeds exactly when the tokens of the key consume
the whole path. -/
theorem getMatch_segsOf (chk : C02.Constraint → Bytes → Bool) (cfg : Cfg) (f : List Piece) :
    ∀ (ap : Bool), wfFrom ap f = true → ∀ P : Bytes,
      (C02.getMatch chk (segsOf (f.map (foldP cfg))) (fold cfg P) P false).isSome =
        (matchToks cfg (toksOf f) P == some P.length) := by
  intro ap hwf
  induction ap, f, hwf using wfFrom_induct with
  | nil =>
    intro P
    simp only [List.map_nil, segsOf, getMatch_nil, toksOf, matchToks]
    cases P <;> simp [fold]
  | @lit _ s t _ _ ih =>
    intro P
    simp only [List.map_cons, foldP, segsOf, toksOf]
    rw [getMatch_litSeg, matchToks_lits_append]
    by_cases hp : (fold cfg s).isPrefixOf (fold cfg P) = true
    · have hle : s.length ≤ P.length := by simpa using (List.isPrefixOf_iff_prefix.mp hp).length_le
      rw [if_pos hp, if_pos hp, fold_length, ← fold_drop, ih, map_add_beq_length _ hle]
    · simp [hp]
  | @par _ n t _ hp ih =>
    intro P
    simp only [List.map_cons, foldP, segsOf, toksOf]
    rw [getMatch_required chk _ _ _ _ rfl rfl rfl, matchToks_param]
    generalize hpl : C02.paramLen (fold cfg P) _ _ = pl
    rw [← fold_drop, ih (P.drop pl)]
    rcases hp.next with rfl | ⟨s', t', rfl⟩
    · rw [hpl.symm.trans (paramLen_last _ rfl rfl), fold_takeWhile_length]
      exact first_segment_step _ P
    · have hnone : ∀ P', (fold cfg (47 :: s')).isPrefixOf (fold cfg P') = false →
          matchToks cfg (toksOf (.lit (47 :: s') :: t')) P' = none := fun P' h => by
        rw [toksOf, matchToks_lits_append, h]; rfl
      -- the parameter takes the first segment of the path; or the literal run does not follow that
      -- segment, the parameter takes nothing or everything, and neither side matches
      rcases paramLen_mid cfg P (c := fold cfg (47 :: s')) hpl (fold_head?_of_slash rfl) ⟨rfl, rfl, rfl, rfl, rfl⟩ with
        h | ⟨hnolit, h0 | hall⟩
      · rw [h]; exact first_segment_step _ P
      · rw [hnone _ hnolit, h0]; simp
      · rw [hnone _ hnolit, hall, List.drop_length, hnone [] rfl]; simp

theorem takeWhile_append_boundary (a b : Bytes) (hb : b = [] ∨ b.head? = some 47) :
    (a ++ b).takeWhile (· != 47) = a.takeWhile (· != 47) :=
  List.takeWhile_append_of_head a fun x hx => by
    rcases hb with rfl | hb
    · cases hx
    · rw [hb] at hx; cases hx; rfl

theorem matchToks_append (cfg : Cfg) (ts : List Tok) : ∀ (a b : Bytes), (b = [] ∨ b.head? = some 47) →
    (matchToks cfg ts (a ++ b) == some a.length) = (matchToks cfg ts a == some a.length) := by
  intro a
  -- the cases of `matchToks`: no tokens; a literal on the empty path, on a byte that agrees with it, on one that
  -- does not; a parameter on an empty first segment, on a non-empty one
  fun_induction matchToks cfg ts a <;> intro b hb
  case case1 => rfl
  case case2 =>
    cases b with
    | nil => rfl
    | cons d b' =>
      simp only [List.nil_append, matchToks]
      split
      · cases matchToks cfg _ b' <;> rfl
      · rfl
  case case3 d p h ih =>
    rw [List.cons_append, matchToks, if_pos h, map_add_beq_length (P := d :: p) _ (Nat.le_add_left 1 _),
      map_add_beq_length (P := d :: p) _ (Nat.le_add_left 1 _)]
    exact ih b hb
  case case4 h => rw [List.cons_append, matchToks, if_neg h]
  case case5 p v h => rw [matchToks_param, takeWhile_append_boundary p b hb, if_pos (by simpa using h)]
  case case6 p v h ih =>
    have hle : v.length ≤ p.length := (List.takeWhile_prefix _).length_le
    rw [matchToks_param, takeWhile_append_boundary p b hb, if_neg (by simpa using h), map_add_beq_length _ hle,
      map_add_beq_length _ hle, List.drop_append_of_le_length hle]
    exact ih b hb

theorem matchToks_le (cfg : Cfg) (ts : List Tok) : ∀ (p : Bytes) (n : Nat), matchToks cfg ts p = some n → n ≤ p.length := by
  intro p
  -- the cases of `matchToks` as in `matchToks_append`; those that return a value: no tokens (1), a literal on a byte
  -- that agrees with it (3), a parameter on a non-empty first segment (6)
  fun_induction matchToks cfg ts p <;> intro n h
  case case1 => cases h; exact Nat.zero_le _
  case case3 ih =>
    obtain ⟨m, hm, rfl⟩ := Option.map_eq_some_iff.mp h
    exact Nat.succ_le_succ (ih m hm)
  case case6 p v _ ih =>
    obtain ⟨m, hm, rfl⟩ := Option.map_eq_some_iff.mp h
    have h1 := ih m hm
    have h2 : v.length ≤ p.length := (List.takeWhile_prefix _).length_le
    rw [List.length_drop] at h1
    omega
  all_goals cases h

theorem matchToks_lit_pos (cfg : Cfg) (c : Nat) (ts : List Tok) (p : Bytes) (m : Nat)
    (h : matchToks cfg (.lit c :: ts) p = some m) : 1 ≤ m := by
  cases p with
  | nil => cases h
  | cons d p' =>
    rw [matchToks] at h
    split at h
    · obtain ⟨k, _, rfl⟩ := Option.map_eq_some_iff.mp h
      exact Nat.le_add_left 1 k
    · cases h

/-- With the segments and the tokens of a well-formed fragment key, what the loop over the cuts
finds is what the tokens reading says. -/
theorem cover_of_segs (chk : C02.Constraint → Bytes → Bool) (cfg : Cfg) (f : List Piece) (hwf : wf f = true)
    (k : Bytes) (hparse : parseKey cfg k = some (segsOf (f.map (foldP cfg))))
    (htok : tokenize false false (mountedAt k) = toksOf f) (hlast : (mountedAt k).getLast? ≠ some 47)
    (path : Bytes) :
    modelCover chk cfg k path = coversPat cfg k path := by
  obtain ⟨hwff, s, t, hf⟩ := wf_cons hwf
  unfold modelCover coversPat
  rw [hparse, htok, Option.bind_some, mountPrefixLen_detOf]
  generalize routerPath cfg path = rp
  dsimp only
  have hpred : ∀ n ∈ List.range' 1 rp.length,
      (onBoundary rp n &&
        (C02.getMatch chk (segsOf (f.map (foldP cfg))) (fold cfg (rp.take n)) (rp.take n) false).isSome) =
      (onBoundary rp n && (matchToks cfg (toksOf f) rp == some n)) := by
    intro n hn
    have hn' := List.mem_range'_start_one hn
    rw [getMatch_segsOf chk cfg f false hwff, List.length_take, Nat.min_eq_left hn'.2]
    by_cases hb : onBoundary rp n = true
    · have := matchToks_append cfg (toksOf f) (rp.take n) (rp.drop n) (by simpa [onBoundary_drop hn'.2] using hb)
      rw [List.take_append_drop, List.length_take, Nat.min_eq_left hn'.2] at this
      rw [this]
    · rw [Bool.not_eq_true] at hb
      rw [hb]; rfl
  rw [List.find?_congr_mem hpred]
  cases hn0 : matchToks cfg (toksOf f) rp with
  | none => exact List.find?_eq_none.mpr (fun a _ => by simp)
  | some m =>
    have hmle := matchToks_le cfg _ _ _ hn0
    -- the key begins with a slash
    have hm1 : 1 ≤ m := matchToks_lit_pos cfg 47 _ _ _ (hf ▸ hn0)
    have hmem : m ∈ List.range' 1 rp.length := by
      rw [List.mem_range'_1]; omega
    have h3 : ((mountedAt k).getLast? == some 47) = false := by simpa using hlast
    simp only [Option.some_beq_some]
    rw [List.find?_eq_and]
    simp only [h3, Bool.or_false, ← onBoundary_drop hmle, hmem, true_and]

example : TokenKey ⟨false, false⟩ (b "/:tenant") = true ∧ TokenKey ⟨false, false⟩ (b "/:T/Adm") = true ∧
    TokenKey ⟨true, false⟩ (b "/:T/Adm") = true ∧ TokenKey ⟨false, true⟩ (b ":x") = true ∧
    TokenKey ⟨false, false⟩ (b "/api/:id") = true ∧ TokenKey ⟨false, false⟩ (b "/:a/:b") = true ∧
    TokenKey ⟨false, false⟩ (b "/g/h/:t/api-v2/x.y/:id_2") = true ∧
    TokenKey ⟨false, false⟩ (b "/:t/") = false ∧ TokenKey ⟨false, false⟩ (b "/:a-:b") = false ∧
    TokenKey ⟨false, false⟩ (b "/*") = false ∧ TokenKey ⟨false, false⟩ (b "/:id<int>") = false ∧
    TokenKey ⟨false, false⟩ (b "/v:n") = false := by
  repeat rw [b_ofList]
  decide +kernel

/-- **Every key of the tokens shape**: if the key (leading slash added) is spelled by a well-formed
list of pieces, what the code computes for it is the tokens reading — every configuration,
constraint verdict and path. No executable test in the hypotheses. -/
theorem modelCover_eq_coversPat_of_wf (chk : C02.Constraint → Bytes → Bool) (cfg : Cfg) (k path : Bytes)
    (f : List Piece) (hwf : wf f = true) (hk : mountedAt k = render f) :
    modelCover chk cfg k path = coversPat cfg k path := by
  have hwff := (wf_cons hwf).1
  apply cover_of_segs chk cfg f hwf k
  · -- the parser made at startup
    have hkp : fold cfg (ensureSlash k) = render (f.map (foldP cfg)) := by
      rw [render_foldP, ← hk]; rfl
    have hwf' : wf (f.map (foldP cfg)) = true := by rw [wf_foldP]; exact hwf
    rw [parseKey_eq, hkp, C02.parseRouteW_noLT _ (render_noLT (wf_cons hwf').1)]
    exact parseRoute_frag _ hwf'
  all_goals obtain ⟨_, s, t, rfl⟩ := wf_cons hwf
  · rw [hk]
    exact tokenize_frag _ false false hwff fun h => h
  · rw [hk]
    exact render_getLast _ false hwff

/-- of the executable test only the syntactic part is a hypothesis: the parse, the tokens and the
last byte follow from it (`parseRoute_frag`, `tokenize_frag`, `render_getLast`) -/
theorem TokenKey.shape {cfg : Cfg} {k : Bytes} (h : TokenKey cfg k = true) :
    ∃ f : List Piece, wf f = true ∧ mountedAt k = render f := by
  unfold TokenKey at h
  simp only [Bool.and_eq_true, beq_iff_eq] at h
  obtain ⟨⟨⟨⟨hwf, hrender⟩, _⟩, _⟩, _⟩ := h
  exact ⟨_, hwf, hrender.symm⟩

/-- **The tokens reading is what the code computes**, for every key that passes the executable
test `TokenKey`, every configuration, every constraint verdict and every path. -/
theorem modelCover_eq_coversPat (chk : C02.Constraint → Bytes → Bool) (cfg : Cfg) (k path : Bytes)
    (h : TokenKey cfg k = true) : modelCover chk cfg k path = coversPat cfg k path := by
  obtain ⟨f, hwf, hk⟩ := TokenKey.shape h
  exact modelCover_eq_coversPat_of_wf chk cfg k path f hwf hk

end C08
