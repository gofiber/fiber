import FiberModel.C08.Tokens
/-
C08 — property theorems (model of the code in /repo ⊑ spec), for every configuration, every mount
table, every iteration order of the map, every path and every chain result / server error. No size
bound anywhere.

The map `appList` is a list of entries with pairwise different keys; "any iteration order" is "any
permutation of that list". Hypothesis `Nodup` wherever a table is compared with the spec or with a
permutation of itself: no two apps are registered under the same route, i.e. the keys are pairwise
different once the leading slash is added (`slashKey`: "api" and "/api" are one route; a Go map
cannot hold two apps under one key at all). Keys that differ in letter case only are told apart
(the loop is deterministic for them too).

`chk` is the verdict function of the parameter constraints (path.go CheckConstraint), universally
quantified. `K1_repaired` evaluates `selectLit` (every key compared literally) and `select` on the
witness of known finding K1 (parameterised mount prefixes, fixed in /repo by 023a967).

Readings of a prefix that is a route pattern (Spec): `coversRouter` — fiber's own matcher
(RoutePatternMatch) on the leading parts of the path, every pattern fiber accepts; `coversPat` — the
tokens reading written from scratch (whole-segment `:name`). `select_eq_spec_of_reading` is generic
in the reading; `select_eq_spec_router` instantiates the first for every table whose pattern keys
declare a parameter (`ParamKeys`), `select_eq_spec` the second for every table whose pattern keys
are whole-segment parameterised prefixes (`modelCover_eq_coversPat_of_wf`, Shape.lean + Tokens.lean:
what fiber's parser and matcher do on such a key is what the tokens do).
-/
namespace C08
open B C04

/-- Two mount prefixes of equal length that both contain the path on a segment boundary are the
same prefix: what makes a deterministic choice by length possible. -/
theorem boundary_match_unique {a b p : Bytes} (ha : containsRaw a p = true) (hb : containsRaw b p = true)
    (hl : a.length = b.length) : a = b :=
  List.prefix_eq_of_length_eq (containsRaw_prefix ha) (containsRaw_prefix hb) hl

example : containsRaw (b "/api") (b "/api/x") = true ∧ containsRaw (b "/api") (b "/api-v2/x") = false ∧
    containsRaw (b "/api-v2") (b "/api-v2/x") = true ∧ containsRaw (b "/") (b "/api") = true ∧
    containsRaw (b "/api/") (b "/api/x") = true ∧ containsRaw (b "/api") (b "/api") = true := by
  repeat rw [b_ofList]
  decide +kernel

/-- The same for keys as registered, under any configuration: equally long (as mounted) prefixes
that both contain the path are the same mount point for the router. -/
theorem boundary_match_unique_folded {cfg : Cfg} {a b p : Bytes} (ha : contains cfg a p = true)
    (hb : contains cfg b p = true) (hl : (mountedAt a).length = (mountedAt b).length) :
    fold cfg (mountedAt a) = fold cfg (mountedAt b) :=
  List.prefix_eq_of_length_eq (containsRaw_prefix ha) (containsRaw_prefix hb) (by simpa using hl)

example : contains ⟨false, false⟩ (b "/API") (b "/api/x") = true ∧ contains ⟨true, false⟩ (b "/API") (b "/api/x") = false ∧
    contains ⟨false, false⟩ (b "api") (b "/Api/x") = true ∧ contains ⟨false, false⟩ (b "/:t") (b "/acme/x") = false ∧
    coversPat ⟨false, false⟩ (b "/:t") (b "/acme/x") = some 5 ∧ coversPat ⟨false, false⟩ (b "/:t/api") (b "/acme/apix") = none ∧
    coversPat ⟨false, false⟩ (b "/:t/api") (b "/acme/API/x") = some 9 ∧ coversPat ⟨true, false⟩ (b "/:t") (b "//x") = none := by
  repeat rw [b_ofList]
  decide +kernel

/-- every key of the table that is a route pattern declares a parameter (`/:tenant`, `/*`,
`/v:n?/x`, `/:id<int>` …); outside are only keys that escape characters without declaring any
(`/a\:b`) -/
def ParamKeys (cfg : Cfg) (l : List Mounted) : Prop :=
  ∀ m ∈ l, isPattern m.pre = true → keyHasParams cfg m.pre = true

instance (cfg : Cfg) (l : List Mounted) : Decidable (ParamKeys cfg l) := by unfold ParamKeys; exact inferInstance

theorem ParamKeys.cover {cfg : Cfg} {l : List Mounted} (h : ParamKeys cfg l) (chk : C02.Constraint → Bytes → Bool)
    {path : Bytes} (hpath : path.head? = some 47) :
    ∀ m ∈ l, isPattern m.pre = true → modelCover chk cfg m.pre path = coversRouter chk cfg m.pre path :=
  fun m hm hp => modelCover_eq_coversRouter chk cfg m.pre path (h m hm hp) hpath

/-- **The router's reading.** For every configuration, every constraint verdict,
every table (plain, parameterised, wildcard, optional, constrained, mid-segment prefixes — anything
`parseRouteWritten` accepts, except a key that escapes characters and declares no parameter:
`ParamKeys`) and every path that starts with a slash: the loop returns the handler
of the innermost configured mounted app whose prefix — plain text compared as the router compares
(leading slash, letter case), a route pattern matched by fiber's own `RoutePatternMatch` on the
leading segments of the path — contains the path on a segment boundary. -/
theorem select_eq_spec_router (chk : C02.Constraint → Bytes → Bool) (cfg : Cfg) (l : List Mounted) (path : Bytes)
    (hnd : (l.map (fun m => slashKey m.pre)).Nodup) (hkeys : ParamKeys cfg l) (hpath : path.head? = some 47) :
    select chk cfg l path = selectSpec cfg (coversRouter chk cfg) l path :=
  select_eq_spec_of_reading chk cfg _ l path hnd (hkeys.cover chk hpath)

/-- a table with a parameterised, a constrained and a wildcard prefix next to plain ones (one key
without leading slash): the hypotheses hold, and the loop's choice under the real built-in
constraint check -/
def exTable : List Mounted := [⟨[], some ⟨0, false⟩⟩, ⟨b "/org/:tenant", some ⟨1, false⟩⟩, ⟨b "/acme/sub", some ⟨2, false⟩⟩,
  ⟨b "/t/:id<int>", some ⟨3, false⟩⟩, ⟨b "files/*", some ⟨4, true⟩⟩]

example : (exTable.map (fun m => slashKey m.pre)).Nodup ∧ ParamKeys ⟨false, false⟩ exTable ∧
    (b "/acme/e").head? = some 47 := by
  unfold exTable
  repeat rw [b_ofList]
  decide +kernel

example : select (C02.checkConstraint [] (fun _ _ => true)) ⟨false, false⟩ exTable (b "/org/acme/e") = some ⟨1, false⟩ ∧
    select (C02.checkConstraint [] (fun _ _ => true)) ⟨false, false⟩ exTable (b "/ACME/sub/e") = some ⟨2, false⟩ ∧
    select (C02.checkConstraint [] (fun _ _ => true)) ⟨false, false⟩ exTable (b "/t/42/e") = some ⟨3, false⟩ ∧
    select (C02.checkConstraint [] (fun _ _ => true)) ⟨false, false⟩ exTable (b "/t/ab/e") = none ∧
    select (C02.checkConstraint [] (fun _ _ => true)) ⟨false, false⟩ exTable (b "/files/a/b.txt") = some ⟨4, true⟩ ∧
    select (C02.checkConstraint [] (fun _ _ => true)) ⟨false, false⟩ exTable (b "/") = none := by
  unfold exTable
  repeat rw [b_ofList]
  decide +kernel

/-- Known finding K1 (fixed in /repo by 023a967): an app mounted at `/:tenant` with its own handler,
request `/acme/e`. The loop that compares every key literally (`selectLit`) selects none — the root's
handler runs; `select` selects handler 1, which is what the sentence designates (tokens reading and
router's reading alike). -/
theorem K1_repaired :
    selectLit ⟨false, false⟩ [⟨[], some ⟨0, false⟩⟩, ⟨b "/:tenant", some ⟨1, false⟩⟩] (b "/acme/e") = none ∧
    select (fun _ _ => true) ⟨false, false⟩ [⟨[], some ⟨0, false⟩⟩, ⟨b "/:tenant", some ⟨1, false⟩⟩] (b "/acme/e")
      = some ⟨1, false⟩ ∧
    selectSpec ⟨false, false⟩ (coversPat ⟨false, false⟩) [⟨[], some ⟨0, false⟩⟩, ⟨b "/:tenant", some ⟨1, false⟩⟩]
      (b "/acme/e") = some ⟨1, false⟩ ∧
    selectSpec ⟨false, false⟩ (coversRouter (fun _ _ => true) ⟨false, false⟩)
      [⟨[], some ⟨0, false⟩⟩, ⟨b "/:tenant", some ⟨1, false⟩⟩] (b "/acme/e") = some ⟨1, false⟩ := by
  repeat rw [b_ofList]
  decide +kernel

/-- Finding F5 (fixed in /repo by 6162d36): an app mounted at "/" inside an app mounted under `/:t`, both
with their own handler (appList keys `/:t` and `/:t/`), request `/acme/e`: both prefixes account for
the same five bytes of the path; the nested app's prefix extends the outer one's, sorts last, and
is chosen — by the loop and by the spec (router's reading; `/:t/` is outside the tokens fragment). -/
theorem F5_repaired :
    select (fun _ _ => true) ⟨false, false⟩
      (appList (some ⟨0, false⟩) [.mk [] (b "/:t") (some ⟨1, false⟩) [.mk [] (b "/") (some ⟨2, false⟩) []]]) (b "/acme/e")
      = some ⟨2, false⟩ ∧
    selectSpec ⟨false, false⟩ (coversRouter (fun _ _ => true) ⟨false, false⟩)
      (appList (some ⟨0, false⟩) [.mk [] (b "/:t") (some ⟨1, false⟩) [.mk [] (b "/") (some ⟨2, false⟩) []]]) (b "/acme/e")
      = some ⟨2, false⟩ ∧
    (appList (some ⟨0, false⟩) [.mk [] (b "/:t") (some ⟨1, false⟩) [.mk [] (b "/") (some ⟨2, false⟩) []]]).map (·.pre)
      = [[], b "/:t", b "/:t/"] := by
  repeat rw [b_ofList]
  decide +kernel

/-- every key of the table that is a route pattern lies in the tokens fragment (`TokenKey`: plain
text and whole-segment named parameters, `/:tenant`, `/:t/api`, `/api/:id`, `/:a/:b` …) -/
def TokenTable (cfg : Cfg) (l : List Mounted) : Prop :=
  ∀ m ∈ l, isPattern m.pre = true → TokenKey cfg m.pre = true

instance (cfg : Cfg) (l : List Mounted) : Decidable (TokenTable cfg l) := by unfold TokenTable; exact inferInstance

/-- every key of the table that is a route pattern has the tokens SHAPE: with the leading slash it
is spelled by a well-formed list of pieces (`wf`, Fragment.lean: plain text — letters, digits,
`/ - _ .` — and whole-segment named parameters `:name` with names of letters, digits, `_`; it begins
with a slash and does not end in one). Purely syntactic; `TokenTable` is a decidable sufficient
condition (`shapeTable_of_tokenTable`). -/
def ShapeTable (l : List Mounted) : Prop :=
  ∀ m ∈ l, isPattern m.pre = true → ∃ f : List Piece, wf f = true ∧ mountedAt m.pre = render f

theorem ShapeTable.cover {l : List Mounted} (h : ShapeTable l) (chk : C02.Constraint → Bytes → Bool) (cfg : Cfg)
    (path : Bytes) :
    ∀ m ∈ l, isPattern m.pre = true → modelCover chk cfg m.pre path = coversPat cfg m.pre path :=
  fun m hm hp => by
    obtain ⟨f, hwf, hk⟩ := h m hm hp
    exact modelCover_eq_coversPat_of_wf chk cfg m.pre path f hwf hk

theorem shapeTable_of_tokenTable {cfg : Cfg} {l : List Mounted} (h : TokenTable cfg l) : ShapeTable l :=
  fun m hm hp => TokenKey.shape (h m hm hp)

/-- **The tokens reading** (the reading written from scratch in Spec: a segment
`:name` stands for any non-empty path segment, everything else is literal). For every configuration,
constraint verdict and path, and every table whose pattern keys are whole-segment parameterised
prefixes (`ShapeTable`, a purely syntactic condition) — plain tables included —: the loop returns
the handler of the innermost configured mounted app whose prefix contains the path on a segment
boundary. Behind it: what fiber's parser makes of such a key (`parseRoute_frag`), what fiber's
matcher does with those segments (`getMatch_segsOf`), the loop over the cuts (`cover_of_segs`). -/
theorem select_eq_spec (chk : C02.Constraint → Bytes → Bool) (cfg : Cfg) (l : List Mounted) (path : Bytes)
    (hnd : (l.map (fun m => slashKey m.pre)).Nodup) (hshape : ShapeTable l) :
    select chk cfg l path = selectSpec cfg (coversPat cfg) l path :=
  select_eq_spec_of_reading chk cfg _ l path hnd (hshape.cover chk cfg path)

/-- a table with parameterised prefixes at several depths, one key without leading slash, mixed
case: the hypotheses of `select_eq_spec` hold -/
def exTokens : List Mounted := [⟨[], some ⟨0, false⟩⟩, ⟨b "/:tenant", some ⟨1, false⟩⟩, ⟨b "/:tenant/in", some ⟨2, false⟩⟩,
  ⟨b "/acme", some ⟨3, false⟩⟩, ⟨b ":T/Adm/:id", some ⟨4, true⟩⟩, ⟨b "/API", none⟩]

example : (exTokens.map (fun m => slashKey m.pre)).Nodup ∧ TokenTable ⟨false, false⟩ exTokens ∧ TokenTable ⟨true, true⟩ exTokens := by
  unfold exTokens
  repeat rw [b_ofList]
  decide +kernel

example : ShapeTable exTokens := shapeTable_of_tokenTable (cfg := ⟨false, false⟩) (by
  unfold exTokens
  repeat rw [b_ofList]
  decide +kernel)

example : selectSpec ⟨false, false⟩ (coversPat ⟨false, false⟩) exTokens (b "/zeta/e") = some ⟨1, false⟩ ∧
    selectSpec ⟨false, false⟩ (coversPat ⟨false, false⟩) exTokens (b "/zeta/IN/e") = some ⟨2, false⟩ ∧
    selectSpec ⟨false, false⟩ (coversPat ⟨false, false⟩) exTokens (b "/acme/e") = some ⟨3, false⟩ ∧
    selectSpec ⟨false, false⟩ (coversPat ⟨false, false⟩) exTokens (b "/x/adm/7/") = some ⟨4, true⟩ ∧
    selectSpec ⟨false, false⟩ (coversPat ⟨false, false⟩) exTokens (b "/") = none := by
  unfold exTokens
  repeat rw [b_ofList]
  decide +kernel

/-- **Two paths.** `mountPrefixLen` hands `getMatch` the detection path (lower-cased unless
CaseSensitive: what the pattern is matched on) AND the path as sent (what the parameter values are
cut from and the constraints are checked on) — `cutMatches … det path`, as the router does
(`Route.match(detectionPath, path, …)`), and as the spec's router reading does (`RoutePatternMatch`
lower-cases a copy, `rpm_eq_getMatch`: `getMatch chk segs (fold cfg p) p`). The two are not
interchangeable: a mount at `/:flag<bool>` (Go's ParseBool literals are case sensitive: `TRUE`,
`True`, `true`, not `tRUE`), default configuration. For `/tRUE/e` the router does not enter the
mounted app and the prefix does not contain the path; feeding the detection path twice would say
it does. For `/TRUE/e` both agree. -/
theorem constraints_checked_on_path_as_sent :
    (parseKey ⟨false, false⟩ (b "/:flag<bool>")).bind
      (fun segs => mountPrefixLen (C02.checkConstraint [] (fun _ _ => true)) segs (detOf ⟨false, false⟩ (b "/tRUE/e")) (b "/tRUE/e"))
      = none ∧
    (parseKey ⟨false, false⟩ (b "/:flag<bool>")).bind
      (fun segs => mountPrefixLen (C02.checkConstraint [] (fun _ _ => true)) segs (detOf ⟨false, false⟩ (b "/tRUE/e"))
        (detOf ⟨false, false⟩ (b "/tRUE/e")))
      = some 5 ∧
    (parseKey ⟨false, false⟩ (b "/:flag<bool>")).bind
      (fun segs => mountPrefixLen (C02.checkConstraint [] (fun _ _ => true)) segs (detOf ⟨false, false⟩ (b "/TRUE/e")) (b "/TRUE/e"))
      = some 5 ∧
    select (C02.checkConstraint [] (fun _ _ => true)) ⟨false, false⟩
      [⟨[], some ⟨0, false⟩⟩, ⟨b "/:flag<bool>", some ⟨1, false⟩⟩] (b "/tRUE/e") = none ∧
    selectSpec ⟨false, false⟩ (coversRouter (C02.checkConstraint [] (fun _ _ => true)) ⟨false, false⟩)
      [⟨[], some ⟨0, false⟩⟩, ⟨b "/:flag<bool>", some ⟨1, false⟩⟩] (b "/tRUE/e") = none ∧
    select (C02.checkConstraint [] (fun _ _ => true)) ⟨false, false⟩
      [⟨[], some ⟨0, false⟩⟩, ⟨b "/:flag<bool>", some ⟨1, false⟩⟩] (b "/TRUE/e") = some ⟨1, false⟩ := by
  repeat rw [b_ofList]
  decide +kernel

def LiteralTable (l : List Mounted) : Prop := l.all (fun m => !isPattern m.pre) = true

instance (l : List Mounted) : Decidable (LiteralTable l) := by unfold LiteralTable; exact inferInstance

theorem shapeTable_of_literal {l : List Mounted} (h : LiteralTable l) : ShapeTable l := by
  intro m hm hp
  have := List.all_eq_true.mp h m hm
  simp [hp] at this

example : LiteralTable [⟨[], none⟩, ⟨b "/api", some ⟨1, false⟩⟩, ⟨b "api-v2", some ⟨2, false⟩⟩, ⟨b "/API/v2", none⟩] := by
  repeat rw [b_ofList]
  decide +kernel

/-- The selected handler does not depend on the order in which the map is iterated — for every
table (every kind of prefix), every configuration and constraint verdict. -/
theorem select_perm_invariant {chk : C02.Constraint → Bytes → Bool} {cfg : Cfg} {l₁ l₂ : List Mounted} (path : Bytes)
    (h : l₁.Perm l₂) (hnd : (l₁.map (fun m => slashKey m.pre)).Nodup) :
    select chk cfg l₁ path = select chk cfg l₂ path :=
  congrArg Acc.own (h.foldl_eq' (fun _ hx _ hy z => step_comm (List.inj_of_nodup_map _ hnd hx hy) z) _)

example : [⟨b "/api", some ⟨1, false⟩⟩, ⟨b "/api-v2", some ⟨2, false⟩⟩].Perm
    [⟨b "/api-v2", some ⟨2, false⟩⟩, (⟨b "/api", some ⟨1, false⟩⟩ : Mounted)] :=
  List.Perm.swap _ _ _

/-- keys pairwise different as the router tells mount points apart (leading slash, letter case) are
pairwise different once the leading slash is added: `Nodup` on `slashKey` is the weaker hypothesis -/
theorem nodup_slashKey_of_normKey {cfg : Cfg} {l : List Mounted}
    (h : (l.map (fun m => normKey cfg m.pre)).Nodup) : (l.map (fun m => slashKey m.pre)).Nodup := by
  have hn : ∀ k, normKey cfg k = fold cfg (slashKey k) := fun k => by
    unfold normKey slashKey; split <;> rfl
  rw [List.Nodup, List.pairwise_map] at h ⊢
  exact h.imp fun hne e => hne (by rw [hn, hn, e])

/-- the code before the first fix: the same table, two iteration orders, two different handlers -/
theorem old_order_dependent :
    selectOld [⟨b "/api", some ⟨1, false⟩⟩, ⟨b "/api-v2", some ⟨2, false⟩⟩] (b "/api-v2/x") ≠
    selectOld [⟨b "/api-v2", some ⟨2, false⟩⟩, ⟨b "/api", some ⟨1, false⟩⟩] (b "/api-v2/x") := by
  repeat rw [b_ofList]
  decide +kernel

/-- Generic in the reading: the funnel meets the spec for EVERY iteration order of the map — the
outcome (who ran and how often, status, body) is the one the property designates. -/
theorem funnel_meets_spec_of_reading {chk : C02.Constraint → Bytes → Bool} {cfg : Cfg} {cov : Cover}
    {l l' : List Mounted} (rootOwn : Option Own) (path : Bytes)
    (chain : Option Err) (hperm : l.Perm l') (hnd : (l.map (fun m => slashKey m.pre)).Nodup)
    (hcov : ∀ m ∈ l, isPattern m.pre = true → modelCover chk cfg m.pre path = cov m.pre path)
    (left : Bytes := []) :
    funnel chk cfg l' rootOwn path chain left = expected cfg cov l rootOwn path chain left := by
  have hsel : select chk cfg l' path = selectSpec cfg cov l path := by
    rw [← select_perm_invariant path hperm hnd, select_eq_spec_of_reading chk cfg cov l path hnd hcov]
  cases chain with
  | none => rfl
  | some e =>
    -- the handler the loop's choice leads to is the designated one
    have hd : errorHandler chk cfg l' rootOwn path e = invoke (designated cfg cov l rootOwn path) e := by
      unfold errorHandler designated
      rw [hsel]
      cases selectSpec cfg cov l path <;> rfl
    simp only [funnel, expected, hd]
    cases designated cfg cov l rootOwn path with
    | none => cases e <;> rfl
    | some o =>
      simp only [invoke]
      by_cases hf : o.fails <;> simp [hf]

/-- **The router's reading**: for every configuration, constraint verdict, table,
iteration order, path (starting with a slash) and chain result the funnel's outcome is the one the
property designates. -/
theorem funnel_meets_spec_router {chk : C02.Constraint → Bytes → Bool} {cfg : Cfg} {l l' : List Mounted}
    (rootOwn : Option Own) (path : Bytes) (chain : Option Err) (hperm : l.Perm l')
    (hnd : (l.map (fun m => slashKey m.pre)).Nodup) (hkeys : ParamKeys cfg l) (hpath : path.head? = some 47)
    (left : Bytes := []) :
    funnel chk cfg l' rootOwn path chain left = expected cfg (coversRouter chk cfg) l rootOwn path chain left :=
  funnel_meets_spec_of_reading rootOwn path chain hperm hnd (hkeys.cover chk hpath) left

example : funnel (fun _ _ => true) ⟨false, false⟩ exTable (some ⟨0, false⟩) (b "/files/x") (some (.plain (b "boom")))
    = some ⟨[.custom 4], 500, b "Internal Server Error"⟩ ∧
  expected ⟨false, false⟩ (coversRouter (fun _ _ => true) ⟨false, false⟩) exTable (some ⟨0, false⟩) (b "/files/x")
    (some (.plain (b "boom"))) = some ⟨[.custom 4], 500, b "Internal Server Error"⟩ := by
  unfold exTable
  repeat rw [b_ofList]
  decide +kernel

/-- … with the tokens reading. -/
theorem funnel_meets_spec {chk : C02.Constraint → Bytes → Bool} {cfg : Cfg} {l l' : List Mounted}
    (rootOwn : Option Own) (path : Bytes) (chain : Option Err) (hperm : l.Perm l')
    (hnd : (l.map (fun m => slashKey m.pre)).Nodup) (hshape : ShapeTable l) (left : Bytes := []) :
    funnel chk cfg l' rootOwn path chain left = expected cfg (coversPat cfg) l rootOwn path chain left :=
  funnel_meets_spec_of_reading rootOwn path chain hperm hnd (hshape.cover chk cfg path) left

/-- one delivery into a response nothing is written on yet is the framework's funnel: the handler
`App.ErrorHandler` picks runs once and answers, or fails and a 500 with the status text is sent -/
theorem deliver_funnel (chk : C02.Constraint → Bytes → Bool) (cfg : Cfg) (l : List Mounted) (rootOwn : Option Own)
    (path : Bytes) (e : Err) :
    ∃ r st body, deliver chk cfg l rootOwn path e ⟨[], none⟩ = ⟨[r], some (st, body)⟩ ∧
      funnel chk cfg l rootOwn path (some e) = some ⟨[r], st, body⟩ := by
  simp only [deliver, funnel]
  rcases errorHandler chk cfg l rootOwn path e with ⟨r, _ | ⟨st, body⟩⟩
  · exact ⟨r, 500, b "Internal Server Error", rfl, rfl⟩
  · exact ⟨r, st, body, rfl, rfl⟩

/-- An error returned by the chain is delivered to exactly one handler exactly once; no error, no
call. Every table, every configuration. -/
theorem exactly_once (chk : C02.Constraint → Bytes → Bool) (cfg : Cfg) (l : List Mounted) (rootOwn : Option Own)
    (path : Bytes) :
    funnel chk cfg l rootOwn path none = none ∧
    ∀ e, ∃ o, funnel chk cfg l rootOwn path (some e) = some o ∧ o.ran.length = 1 := by
  refine ⟨rfl, fun e => ?_⟩
  obtain ⟨r, st, body, _, h⟩ := deliver_funnel chk cfg l rootOwn path e
  exact ⟨_, h, rfl⟩

/-- Under the default handler the status of a framework error value becomes the response status;
any other error gives 500; the body is the error's message. -/
theorem status_of_error (chk : C02.Constraint → Bytes → Bool) (cfg : Cfg) (l : List Mounted) (path : Bytes) (e : Err)
    (hsel : select chk cfg l path = none) :
    funnel chk cfg l none path (some e) =
      some ⟨[.default], (match e with | .fiber c _ => c | .plain _ => 500), e.msg⟩ := by
  unfold funnel errorHandler
  rw [hsel]
  cases e <;> simp [invoke, defaultHandler, Err.msg]

example : funnel (fun _ _ => true) ⟨false, false⟩ (appList none []) none (b "/x") (some (.fiber 404 (b "Cannot GET /x")))
    = some ⟨[.default], 404, b "Cannot GET /x"⟩ := by
  repeat rw [b_ofList]
  decide +kernel

/-- A failing error handler — mounted or root — yields a 500, whatever is on the response when the handler gives up: the status the route handler or the
error handler itself had set is replaced by 500, a body written before the failure (`left`) stays,
an empty one becomes the status text — exactly one invocation. -/
theorem failing_handler_500_any_response (chk : C02.Constraint → Bytes → Bool) (cfg : Cfg) (l : List Mounted)
    (rootOwn : Option Own) (path : Bytes) (e : Err) (o : Own) (left : Bytes)
    (hsel : select chk cfg l path = some o ∨ (select chk cfg l path = none ∧ rootOwn = some o)) (hf : o.fails = true) :
    funnel chk cfg l rootOwn path (some e) left =
      some ⟨[.custom o.id], 500, if left.isEmpty then b "Internal Server Error" else left⟩ := by
  unfold funnel errorHandler
  rcases hsel with hs | ⟨hs, hr⟩
  · rw [hs]; simp [invoke, hf]
  · rw [hs, hr]; simp [invoke, hf]

/-- A failing error handler — mounted or root — yields a 500. -/
theorem failing_handler_500 (chk : C02.Constraint → Bytes → Bool) (cfg : Cfg) (l : List Mounted) (rootOwn : Option Own)
    (path : Bytes) (e : Err) (o : Own)
    (hsel : select chk cfg l path = some o ∨ (select chk cfg l path = none ∧ rootOwn = some o)) (hf : o.fails = true) :
    funnel chk cfg l rootOwn path (some e) = some ⟨[.custom o.id], 500, b "Internal Server Error"⟩ :=
  failing_handler_500_any_response chk cfg l rootOwn path e o [] hsel hf

example : funnel (fun _ _ => true) ⟨false, false⟩ (appList none [.mk [] (b "/api") (some ⟨1, true⟩) []]) none (b "/api/e")
    (some (.plain (b "boom"))) (b "part") = some ⟨[.custom 1], 500, b "part"⟩ := by
  repeat rw [b_ofList]
  decide +kernel

example : funnel (fun _ _ => true) ⟨false, false⟩ (appList none [.mk [] (b "/api") (some ⟨1, true⟩) []]) none (b "/API/e")
    (some (.plain (b "boom"))) = some ⟨[.custom 1], 500, b "Internal Server Error"⟩ := by
  repeat rw [b_ofList]
  decide +kernel

theorem throughLoggers_none (chk : C02.Constraint → Bytes → Bool) (cfg : Cfg) (l : List Mounted) (rootOwn : Option Own)
    (paths : List Bytes) (p : Progress) : throughLoggers chk cfg l rootOwn paths none p = (p, none) := by
  induction paths with
  | nil => rfl
  | cons x t ih => simp [throughLoggers, ih]

/-- the path the delivery is judged on: the innermost logger's, else the request handler's -/
def deliveryPath (loggers : List Bytes) (fpath : Bytes) : Bytes := loggers.headD fpath

/-- a request through any number of loggers is the framework's funnel on the path the innermost of
them sees: that logger delivers the error that comes back to it exactly as the funnel would and
returns nil, so nobody behind it (outer loggers, the request handler) sees an error -/
theorem request_eq_funnel (chk : C02.Constraint → Bytes → Bool) (cfg : Cfg) (l : List Mounted) (rootOwn : Option Own)
    (loggers : List Bytes) (fpath : Bytes) (origin : Option Err) :
    request chk cfg l rootOwn loggers fpath origin = funnel chk cfg l rootOwn (deliveryPath loggers fpath) origin := by
  cases origin with
  | none => simp [request, throughLoggers_none, funnel]
  | some e =>
    obtain ⟨r, st, body, hd, hf⟩ := deliver_funnel chk cfg l rootOwn (deliveryPath loggers fpath) e
    rw [hf]
    cases loggers <;> simp only [request, throughLoggers, throughLoggers_none, deliveryPath, List.headD] at hd ⊢ <;>
      simp only [hd]

theorem request_nil (chk : C02.Constraint → Bytes → Bool) (cfg : Cfg) (l : List Mounted) (rootOwn : Option Own)
    (fpath : Bytes) (origin : Option Err) :
    request chk cfg l rootOwn [] fpath origin = funnel chk cfg l rootOwn fpath origin :=
  request_eq_funnel chk cfg l rootOwn [] fpath origin

theorem request_logger (chk : C02.Constraint → Bytes → Bool) (cfg : Cfg) (l : List Mounted) (rootOwn : Option Own)
    (path : Bytes) (outer : List Bytes) (fpath : Bytes) (e : Err) :
    request chk cfg l rootOwn (path :: outer) fpath (some e) = funnel chk cfg l rootOwn path (some e) :=
  request_eq_funnel chk cfg l rootOwn (path :: outer) fpath (some e)

/-- **Exactly once, whatever the chain holds**: with any number of fiber's logger middlewares on
the way back (root level, inside mounted apps, with or without a Skip predicate — each of them
calls `c.App().ErrorHandler` itself and returns nil), an error is delivered to exactly one handler
exactly once, and no error to none. -/
theorem exactly_once_through_loggers (chk : C02.Constraint → Bytes → Bool) (cfg : Cfg) (l : List Mounted)
    (rootOwn : Option Own) (loggers : List Bytes) (fpath : Bytes) :
    request chk cfg l rootOwn loggers fpath none = none ∧
    ∀ e, ∃ o, request chk cfg l rootOwn loggers fpath (some e) = some o ∧ o.ran.length = 1 := by
  simp only [request_eq_funnel]
  exact exactly_once chk cfg l rootOwn _

/-- Generic in the reading: a request whose chain holds loggers meets the spec, for every iteration
order of the map. -/
theorem request_meets_spec_of_reading {chk : C02.Constraint → Bytes → Bool} {cfg : Cfg} {cov : Cover}
    {l l' : List Mounted} (rootOwn : Option Own) (loggers : List Bytes) (fpath : Bytes) (origin : Option Err)
    (hperm : l.Perm l') (hnd : (l.map (fun m => slashKey m.pre)).Nodup)
    (hcov : ∀ m ∈ l, isPattern m.pre = true →
      modelCover chk cfg m.pre (deliveryPath loggers fpath) = cov m.pre (deliveryPath loggers fpath)) :
    request chk cfg l' rootOwn loggers fpath origin =
      expected cfg cov l rootOwn (deliveryPath loggers fpath) origin := by
  rw [request_eq_funnel]
  exact funnel_meets_spec_of_reading rootOwn _ origin hperm hnd hcov

/-- … with the router's reading. -/
theorem request_meets_spec_router {chk : C02.Constraint → Bytes → Bool} {cfg : Cfg} {l l' : List Mounted}
    (rootOwn : Option Own) (loggers : List Bytes) (fpath : Bytes) (origin : Option Err) (hperm : l.Perm l')
    (hnd : (l.map (fun m => slashKey m.pre)).Nodup) (hkeys : ParamKeys cfg l)
    (hpath : (deliveryPath loggers fpath).head? = some 47) :
    request chk cfg l' rootOwn loggers fpath origin =
      expected cfg (coversRouter chk cfg) l rootOwn (deliveryPath loggers fpath) origin :=
  request_meets_spec_of_reading rootOwn loggers fpath origin hperm hnd (hkeys.cover chk hpath)

/-- … and with the tokens reading. -/
theorem request_meets_spec {chk : C02.Constraint → Bytes → Bool} {cfg : Cfg} {l l' : List Mounted}
    (rootOwn : Option Own) (loggers : List Bytes) (fpath : Bytes) (origin : Option Err) (hperm : l.Perm l')
    (hnd : (l.map (fun m => slashKey m.pre)).Nodup) (hshape : ShapeTable l) :
    request chk cfg l' rootOwn loggers fpath origin =
      expected cfg (coversPat cfg) l rootOwn (deliveryPath loggers fpath) origin :=
  request_meets_spec_of_reading rootOwn loggers fpath origin hperm hnd (hshape.cover chk cfg _)

example : request (fun _ _ => true) ⟨false, false⟩ exTable (some ⟨0, false⟩) [b "/org/acme/e", b "/org/acme/e"] (b "/org/acme/e")
      (some (.fiber 404 (b "nope"))) = some ⟨[.custom 1], 418, b "eh1:nope"⟩ ∧
    request (fun _ _ => true) ⟨false, false⟩ exTable (some ⟨0, false⟩) [] (b "/zzz") (some (.plain (b "boom")))
      = some ⟨[.custom 0], 418, b "eh0:boom"⟩ := by
  unfold exTable
  repeat rw [b_ofList]
  decide +kernel

/-- `serverErrorHandler`'s switch is the spec's table, for every error fasthttp can hand over
(every combination of what the switch tests, every text). -/
theorem mapServerErr_eq_spec (e : SrvErr) : mapServerErr e = specServerErr e := by
  fun_cases mapServerErr e <;> simp [specServerErr, *]

/-- a server error always enters the funnel as a framework error with one of six statuses -/
theorem server_error_status (e : SrvErr) :
    ∃ c m, mapServerErr e = .fiber c m ∧ c ∈ [431, 408, 502, 413, 405, 400] := by
  fun_cases mapServerErr e <;> exact ⟨_, _, rfl, by simp⟩

/-- A server error (header too large, body too large, bad request, …) is delivered exactly once to
exactly one handler, for every table, order and configuration. -/
theorem server_exactly_once (chk : C02.Constraint → Bytes → Bool) (cfg : Cfg) (l : List Mounted) (rootOwn : Option Own)
    (path : Bytes) (e : SrvErr) :
    ∃ o, serverFunnel chk cfg l rootOwn path e = some o ∧ o.ran.length = 1 :=
  (exactly_once chk cfg l rootOwn path).2 (mapServerErr e)

/-- Generic in the reading, for every iteration order: the server-error funnel calls the handler
designated for the path the broken request's context carries, with the status/body of the spec's
table. -/
theorem server_funnel_meets_spec_of_reading {chk : C02.Constraint → Bytes → Bool} {cfg : Cfg} {cov : Cover}
    {l l' : List Mounted} (rootOwn : Option Own)
    (path : Bytes) (e : SrvErr) (hperm : l.Perm l') (hnd : (l.map (fun m => slashKey m.pre)).Nodup)
    (hcov : ∀ m ∈ l, isPattern m.pre = true → modelCover chk cfg m.pre path = cov m.pre path) :
    serverFunnel chk cfg l' rootOwn path e = expectedServer cfg cov l rootOwn path e := by
  unfold serverFunnel expectedServer
  rw [mapServerErr_eq_spec]
  exact funnel_meets_spec_of_reading rootOwn path _ hperm hnd hcov

/-- … with the router's reading. -/
theorem server_funnel_meets_spec_router {chk : C02.Constraint → Bytes → Bool} {cfg : Cfg} {l l' : List Mounted}
    (rootOwn : Option Own) (path : Bytes) (e : SrvErr) (hperm : l.Perm l')
    (hnd : (l.map (fun m => slashKey m.pre)).Nodup) (hkeys : ParamKeys cfg l) (hpath : path.head? = some 47) :
    serverFunnel chk cfg l' rootOwn path e = expectedServer cfg (coversRouter chk cfg) l rootOwn path e :=
  server_funnel_meets_spec_of_reading rootOwn path e hperm hnd (hkeys.cover chk hpath)

/-- … and with the tokens reading. -/
theorem server_funnel_meets_spec {chk : C02.Constraint → Bytes → Bool} {cfg : Cfg} {l l' : List Mounted}
    (rootOwn : Option Own) (path : Bytes) (e : SrvErr) (hperm : l.Perm l')
    (hnd : (l.map (fun m => slashKey m.pre)).Nodup) (hshape : ShapeTable l) :
    serverFunnel chk cfg l' rootOwn path e = expectedServer cfg (coversPat cfg) l rootOwn path e :=
  server_funnel_meets_spec_of_reading rootOwn path e hperm hnd (hshape.cover chk cfg path)

example : serverFunnel (fun _ _ => true) ⟨false, false⟩ (appList none [.mk [] (b "/api") (some ⟨1, false⟩) []]) none (b "/")
      ⟨true, false, false, false, false, b "small read buffer"⟩
    = some ⟨[.default], 431, b "Request Header Fields Too Large"⟩ ∧
  serverFunnel (fun _ _ => true) ⟨false, false⟩ (appList none [.mk [] (b "/:org/api") (some ⟨1, false⟩) []]) none (b "/acme/api/p")
      ⟨false, false, false, true, false, b "body size exceeds the given limit"⟩
    = some ⟨[.custom 1], 418, b "eh1:Request Entity Too Large"⟩ := by
  repeat rw [b_ofList]
  decide +kernel

/-- appList keys of a nested mount do not depend on whether the inner app was mounted before or
after the outer one: mount.go `mount` computes `getGroupPath(k1, getGroupPath(k2, k3))` (what
`nodeKeys` transcribes), `appendSubAppLists` computes `getGroupPath(getGroupPath(k1, k2), k3)` for an
app mounted late — the same key. -/
theorem appList_key_assoc (k1 k2 k3 : Bytes) :
    getGroupPath k1 (getGroupPath k2 k3) = getGroupPath (getGroupPath k1 k2) k3 :=
  (getGroupPath_assoc k1 k2 k3).symm

/-- a concrete non-trivial table (mount from a group under a group, look-alike siblings, three deep) -/
example : (appList (some ⟨0, false⟩)
      [.mk [] (b "/api") (some ⟨1, false⟩) [.mk [b "/g", b "h/"] (b "v2/") none [.mk [] (b "in") (some ⟨3, false⟩) []]],
       .mk [] (b "/api-v2") (some ⟨2, false⟩) []]).map (·.pre)
    = [[], b "/api", b "/api/g/h/v2", b "/api/g/h/v2/in", b "/api-v2"] := by
  repeat rw [b_ofList]
  decide +kernel

end C08
