import FiberModel.C08.Lemmas
import FiberModel.C02.Written
import FiberModel.BasicLemmas
/-
C08 — the code's reading of a pattern key is the router's reading (`coversRouter`): what
`mountPrefixLen` computes with the parser made at startup is the shortest leading part of the path,
ending on a segment boundary, that fiber's `RoutePatternMatch` accepts for the prefix.
-/
namespace C08
open B C04

theorem fold_trimRight (cfg : Cfg) (s : Bytes) : trimRight (fold cfg s) 47 = fold cfg (trimRight s 47) :=
  trimRight_map (fun x => by rw [← beq_iff_eq, fb_eq_slash, beq_iff_eq]) s

theorem detOf_eq_fold (cfg : Cfg) (path : Bytes) : detOf cfg path = fold cfg (routerPath cfg path) := by
  unfold detOf routerPath
  rw [← fold_eq]
  dsimp only
  rw [fold_length, fold_getLast_slash]
  split
  · exact fold_trimRight cfg path
  · rfl

/-- the pattern the parser is made from at startup -/
def kp (cfg : Cfg) (k : Bytes) : Bytes :=
  if cfg.caseSensitive then ensureSlash k else toLower (ensureSlash k)

/-- the proofs spell the startup pattern `fold cfg (ensureSlash k)` -/
theorem kp_eq_fold (cfg : Cfg) (k : Bytes) : kp cfg k = fold cfg (ensureSlash k) :=
  (fold_eq cfg _).symm

theorem kp_length (cfg : Cfg) (k : Bytes) : (kp cfg k).length = (ensureSlash k).length := by
  rw [kp_eq_fold, fold_length]

theorem parseKey_eq (cfg : Cfg) (k : Bytes) :
    parseKey cfg k = (C02.parseRouteW (fold cfg (ensureSlash k)) (ensureSlash k)).map (·.segs) := by
  rw [← kp_eq_fold]; rfl

/-- a text that begins with a slash is a pattern as `register` / `RoutePatternMatch` read it
(`C02.rawPattern_of_head`), and with StrictRouting the prettified pattern is the text, case-folded -/
theorem prettyPattern_of_head (cfg : Cfg) {p : Bytes} (h : p.head? = some 47) :
    C02.prettyPattern ⟨cfg.caseSensitive, true, false⟩ p = fold cfg p := by
  match p, h with
  | _ :: t, h =>
    cases h
    rw [fold_eq]
    cases cfg.caseSensitive <;> rfl

theorem getMatch_star (chk : C02.Constraint → Bytes → Bool) (det path : Bytes) (h : det.head? = some 47) :
    (C02.getMatch chk C02.starSegs det path false).isSome = true := by
  unfold C02.starSegs
  cases det with
  | nil => simp at h
  | cons a t =>
    simp only [List.head?_cons, Option.some.injEq] at h
    subst h
    cases t <;> simp [C02.getMatch, C02.paramLen, C02.fullConst, C02.findParamLen, C02.findParamLenForLastSegment]

/-- a key whose pattern declares at least one parameter (`/:tenant`, `/*`, `/v:n?`, …); the keys
outside are the ones that only escape characters (`/a\:b`) -/
def keyHasParams (cfg : Cfg) (k : Bytes) : Bool :=
  let pattern := ensureSlash k
  let pretty := if cfg.caseSensitive then pattern else toLower pattern
  match C02.parseRouteW pretty pattern with
  | none => true
  | some pp => pp.params.length > 0

theorem keyHasParams_eq (cfg : Cfg) (k : Bytes) :
    keyHasParams cfg k = match C02.parseRouteW (fold cfg (ensureSlash k)) (ensureSlash k) with
      | none => true
      | some pp => decide (pp.params.length > 0) := by
  rw [← kp_eq_fold]; rfl

theorem rpm_eq_getMatch (chk : C02.Constraint → Bytes → Bool) (cfg : Cfg) (k p : Bytes)
    (hparams : keyHasParams cfg k = true) (hp : p.head? = some 47) :
    (C02.routePatternMatch chk ⟨cfg.caseSensitive, true, false⟩ p (mountedAt k) == some true) =
      match parseKey cfg k with
      | none => false
      | some segs => (C02.getMatch chk segs (fold cfg p) p false).isSome := by
  have hpne : p.isEmpty = false := by cases p <;> simp at hp ⊢
  have hk : (ensureSlash k).head? = some 47 := ensureSlash_head k
  have hdet : (if (!cfg.caseSensitive) = true then toLower p else p) = fold cfg p := by
    rw [fold_eq]; cases cfg.caseSensitive <;> rfl
  unfold C02.routePatternMatch
  simp only [hpne, Bool.false_eq_true, if_false, Bool.not_true, Bool.false_and, hdet, mountedAt,
    prettyPattern_of_head cfg hk, C02.rawPattern_of_head hk, fold_length, List.take_length]
  rw [parseKey_eq]
  rw [keyHasParams_eq] at hparams
  generalize fold cfg (ensureSlash k) = K at hparams ⊢
  cases hpp : C02.parseRouteW K (ensureSlash k) with
  | none => simp
  | some pp =>
    simp only [hpp] at hparams
    have hkp : pp.params.length > 0 := by simpa using hparams
    simp only [Option.map_some]
    -- the pattern `/` declares no parameter
    have hnotroot : (K == [C02.SLASH]) = false := by
      rw [beq_eq_false_iff_ne]
      intro hb
      rw [hb, C02.parseRouteW_noLT _ (by decide)] at hpp
      have hd : (C02.parseRoute [C02.SLASH]).map (·.params.length) = some 0 := by decide
      rw [hpp, Option.map_some, Option.some.injEq] at hd
      omega
    simp only [hnotroot, Bool.false_and, Bool.false_eq_true, if_false]
    -- the pattern `/*` is answered without matching; `getMatch` agrees
    by_cases hstar : (K == [C02.SLASH, C02.STAR]) = true
    · simp only [hstar, if_true]
      have hb' := beq_iff_eq.mp hstar
      rw [hb', C02.parseRouteW_noLT _ (by decide), C02.parseRoute_star] at hpp
      simp only [Option.some.injEq] at hpp
      rw [← hpp]
      simp only [beq_self_eq_true]
      exact (getMatch_star chk (fold cfg p) p (fold_head?_of_slash hp)).symm
    · -- every other pattern with a parameter: `some (getMatch …).isSome == some true` is `(getMatch …).isSome`
      simp only [hstar, Bool.false_eq_true, if_false]
      simp only [hkp, if_true]
      cases (C02.getMatch chk pp.segs (fold cfg p) p false).isSome <;> rfl

theorem routerPath_prefix (cfg : Cfg) (path : Bytes) : routerPath cfg path <+: path := by
  unfold routerPath
  split
  · exact trimRight_prefix _ _
  · exact List.prefix_refl _

theorem routerPath_head {cfg : Cfg} {path : Bytes} (h : routerPath cfg path ≠ []) :
    (routerPath cfg path).head? = path.head? := by
  obtain ⟨t, ht⟩ := routerPath_prefix cfg path
  cases hr : routerPath cfg path with
  | nil => exact absurd hr h
  | cons a u => rw [hr] at ht; rw [← ht]; rfl

theorem mountPrefixLen_detOf (chk : C02.Constraint → Bytes → Bool) (segs : List C02.Seg) (cfg : Cfg) (path : Bytes) :
    mountPrefixLen chk segs (detOf cfg path) path =
      (List.range' 1 (routerPath cfg path).length).find? fun n =>
        onBoundary (routerPath cfg path) n &&
          (C02.getMatch chk segs (fold cfg ((routerPath cfg path).take n)) ((routerPath cfg path).take n) false).isSome := by
  unfold mountPrefixLen
  rw [detOf_eq_fold, fold_length]
  apply List.find?_congr_mem
  intro n hn
  have hpt : path.take n = (routerPath cfg path).take n := by
    obtain ⟨t, ht⟩ := routerPath_prefix cfg path
    rw [← List.take_append_of_le_length (l₂ := t) (List.mem_range'_start_one hn).2, ht]
  rw [← onBoundary_fold cfg, fold_take, ← hpt]
  rfl

/-- **The code's reading of a pattern key is the router's reading**: for every key whose pattern
declares a parameter and every path that starts with a slash, what `mountPrefixLen` finds with the
parser made at startup is the shortest leading part of the path (read as the router reads it),
ending on a segment boundary, that `RoutePatternMatch` accepts for the prefix. -/
theorem modelCover_eq_coversRouter (chk : C02.Constraint → Bytes → Bool) (cfg : Cfg) (k path : Bytes)
    (hparams : keyHasParams cfg k = true) (hpath : path.head? = some 47) :
    modelCover chk cfg k path = coversRouter chk cfg k path := by
  unfold modelCover coversRouter
  dsimp only
  -- every leading part of the router's path begins with the path's slash
  have hth : ∀ n ∈ List.range' 1 (routerPath cfg path).length, ((routerPath cfg path).take n).head? = some 47 := by
    intro n hn
    have hn' := List.mem_range'_start_one hn
    rw [List.head?_take, if_neg (by omega), routerPath_head (List.ne_nil_of_length_pos (by omega)), hpath]
  rw [List.find?_congr_mem fun n hn => by rw [rpm_eq_getMatch chk cfg k _ hparams (hth n hn)]]
  cases parseKey cfg k with
  | none => exact (List.find?_eq_none.mpr fun _ _ => by simp).symm
  | some segs => rw [Option.bind_some, mountPrefixLen_detOf]

end C08
