import FiberModel.C13.Inv
/-
C13 — the decisions of the handler are the decisions of the specification (ghost `dec`: `DecOK`, `OpenOK`, `ResetOK`);
`ThrOK`, all that the invariant says of one request, and how it fares under each kind of step; where the algorithm
weighs a window with at least the requests counted in it (`CurLeLoad`), a request's position in the abstract list is
bounded by the load it was weighed with (`IRank`).
-/
namespace C13
open Conc Spec

/-- the request passed the limiter (the handler will run / has run for it) -/
def admittedPc : Pc → Bool
  | .atHandler | .wantLock2 | .atGet2 | .atTs2 | .atSet2 | .atUnlock2 | .doneOk => true
  | _ => false

theorem hitDone_of_admitted {pc : Pc} (h : admittedPc pc = true) : hitDone pc = true := by
  revert h; cases pc <;> simp [admittedPc]

theorem admitted_of_hitDone {pc : Pc} (hd : hitDone pc = true) (hc : crit pc = false) (hr : pc ≠ .rejected) :
    admittedPc pc = true := by
  revert hd hc hr; cases pc <;> simp [admittedPc]

theorem counted_of_admitted {cfg : Cfg} {th : Thread} (ha : admittedPc th.pc = true)
    (hs : skipCond cfg th.req.status = false) (hsec : sec2 th.pc = true → skipCond cfg th.req.status = true) :
    counted cfg th = true := by
  revert ha hsec; cases hpc : th.pc <;> simp [admittedPc, counted, unhitDone, hpc, hs]

/-- the specification's verdict `x` on a counted request, and the handler's locals agree with it -/
structure Judged (x : Spec.Expect) (th : Thread) : Prop where
  limit : x.limit = th.req.max
  retry : x.retry = th.reset
  allow_iff : x.allow = true ↔ x.load ≤ x.limit
  rej : th.pc = .rejected → x.allow = false
  adm : admittedPc th.pc = true → x.allow = true
  /-- until the unlock has acted on it, the handler's `remaining` is what the verdict was computed from -/
  rem : (th.pc = .atSet ∨ th.pc = .atUnlock) → th.remaining = x.limit - x.load

/-- a counted request carries the specification's verdict `d` -/
def DecOK (d : Option Spec.Expect) (th : Thread) : Prop :=
  hitDone th.pc = true → ∃ x, d = some x ∧ Judged x th

theorem rate_eq_load {cfg : Cfg} {e' : Item} {w : Win} {now : Nat} (hv : Live cfg e' w now) (hlt : now < e'.exp) :
    rate cfg e' now = load cfg w now := by
  unfold rate load
  split
  · next hs => rw [hv.wend, hv.curr, hv.prev hlt hs]
  · exact hv.curr

namespace LStep
variable {cfg : Cfg} {now : Nat} {it : Item} {th th' : Thread} {eff : Eff}

theorem admitted (hl : LStep cfg now it th th' eff) :
    admittedPc th'.pc = true ↔ admittedPc th.pc = true ∨ (th.pc = .atUnlock ∧ 0 ≤ th.remaining) := by
  cases hl <;> simp [*, admittedPc]
  case unlockPass _ hr => omega

theorem rejected (hl : LStep cfg now it th th' eff) (h : th'.pc = .rejected) :
    th.pc = .atUnlock ∧ th.remaining < 0 := by
  cases hl <;> simp_all

/-- between the clock read and the unlock there is only `manager.set` -/
theorem open_from_atSet (hl : LStep cfg now it th th' eff) (h1 : th.pc ≠ .atTs) (h : th'.pc = .atSet ∨ th'.pc = .atUnlock) :
    th.pc = .atSet ∧ th'.remaining = th.remaining := by
  cases hl <;> simp_all

end LStep

/-- `h`: the step is not the one that counts `u` (the clock read at `atTs`) -/
theorem step_stable {cfg : Cfg} {g g' : G} {t : Tid} (hst : Step cfg g t g') (u : Tid)
    (h : u = t → (g.threads t).pc ≠ .atTs) :
    (g'.threads u).wexp = (g.threads u).wexp ∧
    (hitDone (g'.threads u).pc = true → hitDone (g.threads u).pc = true) ∧
    (admittedPc (g.threads u).pc = true → admittedPc (g'.threads u).pc = true) := by
  by_cases hu : u = t
  · subst hu
    obtain ⟨eff, hl, _⟩ := hst.lstep
    obtain ⟨hw, _, hh⟩ := hl.keeps (h rfl)
    exact ⟨hw, fun h => hh ▸ h, fun h => hl.admitted.2 (.inl h)⟩
  · rw [hst.other hu]; exact ⟨rfl, id, id⟩

/-- `Spec.load` with the time until the window ends given explicitly: `OpenOK` speaks of `resetInSec` as computed at
the clock read and has to survive clock ticks, which `wend - now` does not -/
def loadAt (cfg : Cfg) (w : Win) (reset : Nat) : Int :=
  if cfg.sliding then cfg.wt w.prev.length reset cfg.expiration + w.cur.length else w.cur.length

theorem load_eq_loadAt (cfg : Cfg) (w : Win) (now : Nat) : load cfg w now = loadAt cfg w (w.wend - now) := rfl

/-- while a request sits between its clock read and `mux.Unlock()`, the abstract window of its key is
the one it was counted in, and `remaining` is its limit minus that window's load -/
def OpenOK (cfg : Cfg) (s : Spec.State) (th : Thread) : Prop :=
  (th.pc = .atSet ∨ th.pc = .atUnlock) →
    ∃ w, s th.req.key = some w ∧ w.wend = th.wexp ∧ th.remaining = th.req.max - loadAt cfg w th.reset

/-- `resetInSec` of a counted request lies in `1 … expiration` -/
def ResetOK (cfg : Cfg) (th : Thread) : Prop :=
  hitDone th.pc = true → 1 ≤ th.reset ∧ th.reset ≤ cfg.expiration ∧ th.reset ≤ th.wexp

/-- what the invariant says of one request: its record against its key's abstract window `s` and its verdict `d`.
The first five fields are what `IReq`, `ILocal`, `IPending`, `ISec2`, `IHit` say of one request, with the clock and the
abstract state as parameters, so that the lemmas below can vary them; `All.inv` is where the two forms meet. -/
structure ThrOK (cfg : Cfg) (now : Nat) (s : Spec.State) (r : Req) (d : Option Spec.Expect) (th : Thread) : Prop where
  req : th.req = r
  loc : (th.pc = .atTs ∨ th.pc = .atTs2) → RItem cfg th.e (s th.req.key) now
  pending : (th.pc = .atSet ∨ th.pc = .atSet2) →
    th.e.exp ≠ 0 ∧ th.e.exp + gap cfg ≤ now + th.ttl ∧ RItem cfg th.e (s th.req.key) now
  sec : sec2 th.pc = true → skipCond cfg th.req.status = true
  hit : hitDone th.pc = true → th.wexp ≠ 0 ∧ ∃ w, s th.req.key = some w ∧ th.wexp ≤ w.wend
  dec : DecOK d th
  opn : OpenOK cfg s th
  rst : ResetOK cfg th

namespace ThrOK
variable {cfg : Cfg} {now now' : Nat} {s s' : Spec.State} {r : Req} {d : Option Spec.Expect} {th : Thread}

theorem tick (h : ThrOK cfg now s r d th) (hn : now ≤ now') : ThrOK cfg now' s r d th :=
  { h with
    loc := fun hp => ritem_mono (h.loc hp) hn
    pending := fun hp =>
      ⟨(h.pending hp).1, Nat.le_trans (h.pending hp).2.1 (Nat.add_le_add_right hn _), ritem_mono (h.pending hp).2.2 hn⟩ }

/-- a request outside its critical sections holds no copy of the item: all it knows of its key's window is that the
window it was counted in is not later, which survives whatever the holder of the mutex does to the window -/
theorem outside (h : ThrOK cfg now s r d th) (hc : crit th.pc = false)
    (hmono : ∀ w0, s th.req.key = some w0 → ∃ w, s' th.req.key = some w ∧ w0.wend ≤ w.wend) :
    ThrOK cfg now s' r d th where
  req := h.req
  loc hp := by rcases hp with hp | hp <;> simp [hp] at hc
  pending hp := by rcases hp with hp | hp <;> simp [hp] at hc
  sec := h.sec
  hit hp := by
    obtain ⟨h1, w0, h2, h3⟩ := h.hit hp
    obtain ⟨w, hw, hle⟩ := hmono w0 h2
    exact ⟨h1, w, hw, Nat.le_trans h3 hle⟩
  dec := h.dec
  opn hp := by rcases hp with hp | hp <;> simp [hp] at hc
  rst := h.rst

theorem quiet {it : Item} {th' : Thread} {eff : Eff} (h : ThrOK cfg now s r d th)
    (hl : LStep cfg now it th th' eff) (h1 : th.pc ≠ .atTs) (h2 : th.pc ≠ .atTs2)
    (hit : (th.pc = .atGet ∨ th.pc = .atGet2) → RItem cfg it (s th.req.key) now) : ThrOK cfg now s r d th' := by
  obtain ⟨hwx, hrs, hhd⟩ := hl.keeps h1
  have hreq := hl.req
  refine ⟨hreq.trans h.req, fun hp => ?loc, fun hp => absurd hp (hl.not_pending h1 h2), fun hp => ?sec, fun hp => ?hit,
    fun hp => ?dec, fun hp => ?opn, fun hp => ?rst⟩
  case loc =>
    obtain ⟨he, hg⟩ := hl.fetched hp
    rw [he, hreq]; exact hit hg
  case sec => rw [hreq]; exact (hl.sec2_of hp).elim h.sec id
  case hit => rw [hwx, hreq]; exact h.hit (hhd ▸ hp)
  case dec =>
    obtain ⟨x, e1, hj⟩ := h.dec (hhd ▸ hp)
    refine ⟨x, e1, hreq ▸ hj.limit, hrs ▸ hj.retry, hj.allow_iff, fun hr => ?rej, fun ha => ?adm, fun hs => ?rem⟩
    case rej =>
      obtain ⟨hu, hlt⟩ := hl.rejected hr
      exact Bool.eq_false_iff.2 fun hx =>
        Int.not_le.2 hlt (hj.rem (.inr hu) ▸ Int.sub_nonneg_of_le (hj.allow_iff.1 hx))
    case adm =>
      rcases hl.admitted.1 ha with h | ⟨hu, hge⟩
      · exact hj.adm h
      · exact hj.allow_iff.2 (Int.le_of_sub_nonneg (hj.rem (.inr hu) ▸ hge))
    case rem =>
      obtain ⟨e8, e9⟩ := hl.open_from_atSet h1 hs
      rw [e9]; exact hj.rem (.inl e8)
  case opn =>
    obtain ⟨h0, hrem⟩ := hl.open_from_atSet h1 hp
    rw [hreq, hwx, hrs, hrem]
    exact h.opn (.inl h0)
  case rst => rw [hwx, hrs]; exact h.rst (hhd ▸ hp)

theorem count (hE : 1 ≤ cfg.expiration) (t : Tid) (h : ThrOK cfg now s r d th) (hpc : th.pc = .atTs) :
    ThrOK cfg now (s.set th.req.key (Spec.hit cfg (s th.req.key) now t)) r
      (some (verdict cfg (Spec.hit cfg (s th.req.key) now t) now th.req)) (countRec cfg now th) := by
  obtain ⟨hu1, hu2, hv⟩ := upd_refines cfg hE t (h.loc (.inl hpc))
  have hrl := rate_eq_load hv hu1
  have hu3 := hv.wend
  have he0 : (upd cfg th.e now).exp ≠ 0 := Nat.ne_of_gt (Nat.lt_of_le_of_lt (Nat.zero_le _) hu1)
  refine ⟨h.req, fun hp => by simp at hp, fun _ => ?pending, fun hp => by simp at hp, fun _ => ?hit, fun _ => ?dec,
    fun _ => ?opn, fun _ => ?rst⟩
  case pending =>
    dsimp only
    rw [state_set_same]
    refine ⟨he0, ?_, .of_ne_zero he0 hu2 (fun _ => ⟨_, rfl, hv⟩)
      fun hge => absurd (Nat.le_trans (Nat.le_add_right _ _) hge) (Nat.not_le.2 hu1)⟩
    -- the TTL of the first `manager.set` keeps the entry until the window stops mattering: `expiration ≥ exp - now` (fixed),
    -- `resetInSec + expiration` (sliding, where the window is weighed for one more window)
    rcases gap_cases cfg with ⟨hs, hg⟩ | ⟨hs, hg⟩ <;> simp only [hg, ttl1, hs, if_true, Bool.false_eq_true, if_false] <;>
      omega
  case hit =>
    dsimp only
    exact ⟨he0, _, state_set_same _ _ _, Nat.le_of_eq hu3.symm⟩
  case dec =>
    -- `Judged`: limit, retry, allow_iff, rej, adm, rem
    exact ⟨_, rfl, rfl, by simp [retryAfter, hu3], by simp [admits], fun hr => by simp at hr,
      fun ha => by simp [admittedPc] at ha, fun _ => by dsimp only; rw [hrl]⟩
  case opn =>
    dsimp only
    refine ⟨_, state_set_same _ _ _, hu3, ?_⟩
    rw [hrl, load_eq_loadAt, hu3]
  case rst =>
    dsimp only
    omega

/-- the record after the take-back decision (`atSet2` with the item to write back, or `atUnlock2`), against the
window after `Spec.unhit` -/
theorem back (t : Tid) {th' : Thread} (h : ThrOK cfg now s r d th) (hpc : th.pc = .atTs2) (hreq : th'.req = th.req)
    (hwexp : th'.wexp = th.wexp) (hreset : th'.reset = th.reset) (hpc' : th'.pc = .atSet2 ∨ th'.pc = .atUnlock2)
    (hs' : s' th.req.key = unhitOpt (s th.req.key) t)
    (hpend : th'.pc = .atSet2 → th'.e.exp ≠ 0 ∧ th'.e.exp + gap cfg ≤ now + th'.ttl ∧
      RItem cfg th'.e (unhitOpt (s th.req.key) t) now) : ThrOK cfg now s' r d th' := by
  have hne : ∀ pc, pc ≠ .atSet2 → pc ≠ .atUnlock2 → th'.pc ≠ pc := fun pc a b e => by
    rcases hpc' with h | h <;> rw [h] at e
    · exact a e.symm
    · exact b e.symm
  obtain ⟨x, e1, hj⟩ := h.dec (by simp [hpc])
  refine ⟨hreq.trans h.req, fun hp => ?loc, fun hp => ?pending, fun _ => ?sec, fun _ => ?hit, fun _ => ?dec, fun hp => ?opn,
    fun _ => ?rst⟩
  case loc => rcases hp with hp | hp <;> exact absurd hp (hne _ nofun nofun)
  case pending => rw [hreq, hs']; exact hpend (hp.resolve_left (hne _ nofun nofun))
  case sec => rw [hreq]; exact h.sec (by simp [hpc])
  case hit =>
    obtain ⟨h1, w0, h2, h3⟩ := h.hit (by simp [hpc])
    exact ⟨hwexp ▸ h1, unhit w0 t, by rw [hreq, hs', h2]; rfl, by rw [hwexp]; simpa using h3⟩
  case dec =>
    -- `Judged`: limit, retry, allow_iff, rej, adm, rem
    exact ⟨x, e1, hreq ▸ hj.limit, hreset ▸ hj.retry, hj.allow_iff, fun hr => absurd hr (hne _ nofun nofun),
      fun _ => hj.adm (by simp [hpc, admittedPc]), fun hp => by rcases hp with hp | hp <;> exact absurd hp (hne _ nofun nofun)⟩
  case opn => rcases hp with hp | hp <;> exact absurd hp (hne _ nofun nofun)
  case rst => rw [hwexp, hreset]; exact h.rst (by simp [hpc])

end ThrOK

theorem suffix_erase {a b : Tid} {rest' l : List Tid} (h : (a :: rest') <:+ l.erase b) :
    ∃ rest, (a :: rest) <:+ l ∧ rest'.length ≤ rest.length := by
  induction l with
  | nil => simp at h
  | cons c l' ih =>
    rw [List.erase_cons] at h
    split at h
    · exact ⟨rest', h.trans (List.suffix_cons c l'), Nat.le_refl _⟩
    · rcases List.suffix_cons_iff.1 h with heq | hsuf
      · cases heq
        exact ⟨l', List.suffix_refl _, List.length_erase_le⟩
      · obtain ⟨rest, h1, h2⟩ := ih hsuf
        exact ⟨rest, h1.trans (List.suffix_cons c l'), h2⟩

def noSkip (cfg : Cfg) : Prop := cfg.skipFailed = false ∧ cfg.skipSuccessful = false

theorem skipCond_noSkip {cfg : Cfg} (h : noSkip cfg) (st : Nat) : skipCond cfg st = false := by
  simp [skipCond, h.1, h.2]

/-- the algorithm weighs a window with at least the requests counted in it: the fixed window, and the sliding window
with a weight that is never negative -/
def CurLeLoad (cfg : Cfg) : Prop := ∀ (w : Win) (ts : Nat), (w.cur.length : Int) ≤ load cfg w ts

theorem curLeLoad_fixed {cfg : Cfg} (hfix : cfg.sliding = false) : CurLeLoad cfg := fun w ts => by simp [load, hfix]

/-- The load a counted request of the open window was weighed with is at least its position in the window (the
requests counted before it and still counted, and itself), whenever the algorithm weighs a window with at least the
requests counted in it; a take-back only lowers positions. In the fixed window without skip options it is exactly the
position. Positions are counted from the end of the list: `Spec.hit` conses at the head, so a later count does not move
them. -/
def IRank (cfg : Cfg) (p : PS) : Prop :=
  ∀ k w, p.s k = some w → ∀ t rest, (t :: rest) <:+ w.cur → ∀ x, p.dec t = some x →
    (CurLeLoad cfg → ((rest.length + 1 : Nat) : Int) ≤ x.load) ∧
    (cfg.sliding = false → noSkip cfg → x.load = ((rest.length + 1 : Nat) : Int))

/-- the count: the new head of the list was weighed with the length of the list -/
theorem irank_count {cfg : Cfg} {p : PS} (hr : IRank cfg p) {t : Tid} {k : Key} {now : Nat} {r : Req} {g' : G}
    (hnotin : ∀ k0 w0, p.s k0 = some w0 → t ∉ w0.cur) :
    IRank cfg ⟨g', p.s.set k (hit cfg (p.s k) now t),
      fun u => if u = t then some (verdict cfg (hit cfg (p.s k) now t) now r) else p.dec u⟩ := by
  intro k' w' hw' t' rest hsuf x hx
  change (p.s.set k _) k' = some w' at hw'
  change (if t' = t then _ else _) = some x at hx
  by_cases hkk : k' = k
  · subst hkk
    simp only [state_set_same, Option.some.injEq] at hw'
    subst hw'
    obtain ⟨l, hcur, hl⟩ := hit_cur cfg (p.s k') now t
    rw [hcur] at hsuf
    rcases List.suffix_cons_iff.1 hsuf with heq | hsuf'
    · cases heq
      simp only [if_true, Option.some.injEq] at hx
      subst hx
      refine ⟨fun hpol => ?_, fun hfix _ => by simp [load, hfix, hcur]⟩
      have := hpol (hit cfg (p.s k') now t) now
      rw [hcur] at this
      simpa using this
    · rcases hl with rfl | ⟨w0, hs0, rfl⟩
      · simp at hsuf'
      · have hne : t' ≠ t := fun h => hnotin k' w0 hs0 (h ▸ List.IsSuffix.mem (List.mem_cons_self) hsuf')
        simp only [hne, if_false] at hx
        exact hr k' w0 hs0 t' rest hsuf' x hx
  · rw [state_set_ne _ _ hkk] at hw'
    have hne : t' ≠ t := fun h => hnotin k' w' hw' (h ▸ List.IsSuffix.mem (List.mem_cons_self) hsuf)
    simp only [hne, if_false] at hx
    exact hr k' w' hw' t' rest hsuf x hx

/-- the take-back: positions behind the erased request drop by one -/
theorem irank_back {cfg : Cfg} {p : PS} (hr : IRank cfg p) {t : Tid} {k : Key} {g' : G} {s' : Spec.State}
    (hs' : ∀ k', s' k' = if k' = k then unhitOpt (p.s k') t else p.s k') (hsk : noSkip cfg → False) :
    IRank cfg ⟨g', s', p.dec⟩ := by
  intro k' w' hw' t' rest hsuf x hx
  change s' k' = some w' at hw'
  rw [hs'] at hw'
  split at hw'
  · cases hs0 : p.s k' with
    | none => simp [hs0] at hw'
    | some w0 =>
      simp only [hs0, unhitOpt_some, Option.some.injEq] at hw'
      subst hw'
      by_cases hin : t ∈ w0.cur
      · rw [(unhit_cur_of_mem hin).1] at hsuf
        obtain ⟨rest0, h1, h2⟩ := suffix_erase hsuf
        have := (hr k' w0 hs0 t' rest0 h1 x hx).1
        exact ⟨fun hpol => by have := this hpol; omega, fun _ hns => (hsk hns).elim⟩
      · rw [unhit_cur_only hin] at hsuf
        exact hr k' w0 hs0 t' rest hsuf x hx
  · exact hr k' w' hw' t' rest hsuf x hx

end C13
