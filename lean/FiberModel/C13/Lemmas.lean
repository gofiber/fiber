import FiberModel.C13.Spec
/-
C13 — the step function `stepThr` split into the control flow of the thread taking the step (`LStep`) and its
effect on the shared state (`Eff`); what a step leaves alone; the mutual-exclusion invariant.
-/
namespace C13
open Conc

@[simp] theorem setThread_threads_same (g : G) (t : Tid) (th : Thread) : (g.setThread t th).threads t = th := by
  simp [G.setThread]

theorem setThread_threads (g : G) (t t' : Tid) (th : Thread) :
    (g.setThread t th).threads t' = if t' = t then th else g.threads t' := rfl

@[simp] theorem setThread_threads_ne (g : G) {t t' : Tid} (th : Thread) (h : t' ≠ t) :
    (g.setThread t th).threads t' = g.threads t' := by
  simp [G.setThread, h]

@[simp] theorem setThread_store (g : G) (t : Tid) (th : Thread) : (g.setThread t th).store = g.store := rfl
@[simp] theorem setThread_mux (g : G) (t : Tid) (th : Thread) : (g.setThread t th).mux = g.mux := rfl
@[simp] theorem setThread_now (g : G) (t : Tid) (th : Thread) : (g.setThread t th).now = g.now := rfl
@[simp] theorem setStore_threads (g : G) (k : Key) (v : Item × Nat) : (g.setStore k v).threads = g.threads := rfl
@[simp] theorem setStore_mux (g : G) (k : Key) (v : Item × Nat) : (g.setStore k v).mux = g.mux := rfl
@[simp] theorem setStore_now (g : G) (k : Key) (v : Item × Nat) : (g.setStore k v).now = g.now := rfl
@[simp] theorem setStore_store_same (g : G) (k : Key) (v : Item × Nat) : (g.setStore k v).store k = some v := by
  simp [G.setStore]
@[simp] theorem setStore_store_ne (g : G) {k k' : Key} (v : Item × Nat) (h : k' ≠ k) :
    (g.setStore k v).store k' = g.store k' := by
  simp [G.setStore, h]

theorem forall_setThread {g : G} {t : Tid} {th : Thread} {Q : Tid → Thread → Prop} (ht : Q t th)
    (h : ∀ u, u ≠ t → Q u (g.threads u)) : ∀ u, Q u ((g.setThread t th).threads u) := by
  intro u
  by_cases hu : u = t
  · subst hu; rwa [setThread_threads_same]
  · rw [setThread_threads_ne _ _ hu]; exact h u hu

inductive Eff
  | quiet | lock | unlock | set

def Eff.apply (g : G) (t : Tid) (th : Thread) : Eff → G
  | .quiet => g
  | .lock => { g with mux := some t }
  | .unlock => { g with mux := none }
  | .set => g.setStore th.req.key (th.e, g.now + th.ttl)

@[simp] theorem Eff.apply_threads (g : G) (t : Tid) (th : Thread) (eff : Eff) : (eff.apply g t th).threads = g.threads := by
  cases eff <;> rfl

@[simp] theorem Eff.apply_now (g : G) (t : Tid) (th : Thread) (eff : Eff) : (eff.apply g t th).now = g.now := by
  cases eff <;> rfl

theorem Eff.apply_store_ne (g : G) (t : Tid) (th : Thread) (eff : Eff) {k : Key}
    (h : eff = .set → k ≠ th.req.key) : (eff.apply g t th).store k = g.store k := by
  cases eff <;> first | rfl | exact setStore_store_ne _ _ (h rfl)

/-- the record of a request after its clock read at `now`: the updated item and what the handler computes from it -/
abbrev countRec (cfg : Cfg) (now : Nat) (th : Thread) : Thread :=
  { th with
    pc := .atSet, e := upd cfg th.e now, reset := (upd cfg th.e now).exp - now, wexp := (upd cfg th.e now).exp,
    remaining := th.req.max - rate cfg (upd cfg th.e now) now, ttl := ttl1 cfg ((upd cfg th.e now).exp - now) }

/-- One constructor per branch of `stepThr`: the record of the thread before and after its step and the
effect on the shared state, given the clock and what `manager.get` returns for the thread's key. -/
inductive LStep (cfg : Cfg) (now : Nat) (it : Item) (th : Thread) : Thread → Eff → Prop
  | arriveBypass (hpc : th.pc = .idle) (hb : th.req.next = true ∨ th.req.max = 0) :
      LStep cfg now it th { th with pc := .atHandlerB } .quiet
  | arrive (hpc : th.pc = .idle) (hb : ¬ (th.req.next = true ∨ th.req.max = 0)) :
      LStep cfg now it th { th with pc := .wantLock } .quiet
  | lock (hpc : th.pc = .wantLock) : LStep cfg now it th { th with pc := .atGet } .lock
  | get (hpc : th.pc = .atGet) : LStep cfg now it th { th with pc := .atTs, e := it } .quiet
  | ts (hpc : th.pc = .atTs) : LStep cfg now it th (countRec cfg now th) .quiet
  | set (hpc : th.pc = .atSet) : LStep cfg now it th { th with pc := .atUnlock } .set
  | unlockReject (hpc : th.pc = .atUnlock) (hr : th.remaining < 0) :
      LStep cfg now it th { th with pc := .rejected } .unlock
  | unlockPass (hpc : th.pc = .atUnlock) (hr : ¬ th.remaining < 0) :
      LStep cfg now it th { th with pc := .atHandler } .unlock
  | handlerBypass (hpc : th.pc = .atHandlerB) : LStep cfg now it th { th with pc := .doneBypass, ran := true } .quiet
  | handlerSkip (hpc : th.pc = .atHandler) (hk : skipCond cfg th.req.status = true) :
      LStep cfg now it th { th with pc := .wantLock2, ran := true } .quiet
  | handlerDone (hpc : th.pc = .atHandler) (hk : skipCond cfg th.req.status = false) :
      LStep cfg now it th { th with pc := .doneOk, ran := true } .quiet
  | lock2 (hpc : th.pc = .wantLock2) : LStep cfg now it th { th with pc := .atGet2 } .lock
  | get2 (hpc : th.pc = .atGet2) : LStep cfg now it th { th with pc := .atTs2, e := it } .quiet
  | ts2Some (hpc : th.pc = .atTs2) (e' : Item) (ttl : Nat) (hu : unhitItem cfg th.e th.wexp now = some (e', ttl)) :
      LStep cfg now it th { th with pc := .atSet2, e := e', ttl := ttl, remaining := th.remaining + 1 } .quiet
  | ts2None (hpc : th.pc = .atTs2) (hu : unhitItem cfg th.e th.wexp now = none) :
      LStep cfg now it th { th with pc := .atUnlock2 } .quiet
  | set2 (hpc : th.pc = .atSet2) : LStep cfg now it th { th with pc := .atUnlock2 } .set
  | unlock2 (hpc : th.pc = .atUnlock2) : LStep cfg now it th { th with pc := .doneOk } .unlock

/-- `g'` is `g` after a step of thread `t`; taking the mutex needs it free -/
def Step (cfg : Cfg) (g : G) (t : Tid) (g' : G) : Prop :=
  ∃ th' eff, LStep cfg g.now (lookup cfg g (g.threads t).req.key) (g.threads t) th' eff ∧
    (eff = .lock → g.mux = none) ∧ g' = (eff.apply g t (g.threads t)).setThread t th'

theorem stepThr_iff (cfg : Cfg) {g g' : G} {t : Tid} : stepThr cfg g t = some g' ↔ Step cfg g t g' := by
  constructor
  · -- the branches of `stepThr` in its own order; those that give `none` (a taken mutex, an answered request) close at once
    intro h
    revert h
    fun_cases stepThr cfg g t <;> intro h <;> first | obtain rfl := Option.some.inj h | cases h
    case case1 hpc hb => exact ⟨_, _, .arriveBypass hpc (by simpa using hb), nofun, rfl⟩
    case case2 hpc hb => exact ⟨_, _, .arrive hpc (by simpa using hb), nofun, rfl⟩
    case case3 hpc hm => exact ⟨_, _, .lock hpc, fun _ => hm, rfl⟩
    case case5 hpc => exact ⟨_, _, .get hpc, nofun, rfl⟩
    case case6 hpc _ _ _ => exact ⟨_, _, .ts hpc, nofun, rfl⟩
    case case7 hpc => exact ⟨_, _, .set hpc, nofun, rfl⟩
    case case8 th hpc =>
      by_cases hr : th.remaining < 0
      · exact ⟨_, _, .unlockReject hpc hr, nofun, by rw [if_pos hr]; rfl⟩
      · exact ⟨_, _, .unlockPass hpc hr, nofun, by rw [if_neg hr]; rfl⟩
    case case9 hpc => exact ⟨_, _, .handlerBypass hpc, nofun, rfl⟩
    case case10 hpc hk => exact ⟨_, _, .handlerSkip hpc hk, nofun, rfl⟩
    case case11 hpc hk => exact ⟨_, _, .handlerDone hpc (by simpa using hk), nofun, rfl⟩
    case case12 hpc hm => exact ⟨_, _, .lock2 hpc, fun _ => hm, rfl⟩
    case case14 hpc => exact ⟨_, _, .get2 hpc, nofun, rfl⟩
    case case15 hpc e' ttl hu => exact ⟨_, _, .ts2Some hpc e' ttl hu, nofun, rfl⟩
    case case16 hpc hu => exact ⟨_, _, .ts2None hpc hu, nofun, rfl⟩
    case case17 hpc => exact ⟨_, _, .set2 hpc, nofun, rfl⟩
    case case18 hpc => exact ⟨_, _, .unlock2 hpc, nofun, rfl⟩
  · rintro ⟨th', eff, hl, hm, rfl⟩
    cases hl <;> simp [stepThr, Eff.apply, *]

theorem stepThr_atTs (cfg : Cfg) {g : G} {t : Tid} (hpc : (g.threads t).pc = .atTs) :
    stepThr cfg g t = some (g.setThread t (countRec cfg g.now (g.threads t))) :=
  (stepThr_iff cfg).2 ⟨_, .quiet, .ts hpc, nofun, rfl⟩

theorem stepThr_atTs2_some (cfg : Cfg) {g : G} {t : Tid} (hpc : (g.threads t).pc = .atTs2) {e' : Item} {ttl : Nat}
    (hu : unhitItem cfg (g.threads t).e (g.threads t).wexp g.now = some (e', ttl)) :
    stepThr cfg g t = some (g.setThread t { g.threads t with
      pc := .atSet2, e := e', ttl := ttl, remaining := (g.threads t).remaining + 1 }) :=
  (stepThr_iff cfg).2 ⟨_, .quiet, .ts2Some hpc e' ttl hu, nofun, rfl⟩

theorem stepThr_atTs2_none (cfg : Cfg) {g : G} {t : Tid} (hpc : (g.threads t).pc = .atTs2)
    (hu : unhitItem cfg (g.threads t).e (g.threads t).wexp g.now = none) :
    stepThr cfg g t = some (g.setThread t { g.threads t with pc := .atUnlock2 }) :=
  (stepThr_iff cfg).2 ⟨_, .quiet, .ts2None hpc hu, nofun, rfl⟩

theorem LStep.req {cfg : Cfg} {now : Nat} {it : Item} {th th' : Thread} {eff : Eff}
    (hl : LStep cfg now it th th' eff) : th'.req = th.req := by
  cases hl <;> rfl

namespace Step
variable {cfg : Cfg} {g g' : G} {t : Tid}

theorem other (hst : Step cfg g t g') {u : Tid} (h : u ≠ t) : g'.threads u = g.threads u := by
  obtain ⟨_, _, _, _, rfl⟩ := hst
  simp [setThread_threads_ne _ _ h]

theorem now (hst : Step cfg g t g') : g'.now = g.now := by
  obtain ⟨_, _, _, _, rfl⟩ := hst
  simp

theorem req (hst : Step cfg g t g') : (g'.threads t).req = (g.threads t).req := by
  obtain ⟨_, _, hl, _, rfl⟩ := hst
  simpa using hl.req

theorem store_ne (hst : Step cfg g t g') {k : Key} (h : k ≠ (g.threads t).req.key) : g'.store k = g.store k := by
  obtain ⟨_, _, _, _, rfl⟩ := hst
  exact Eff.apply_store_ne _ _ _ _ fun _ => h

theorem forall_threads (hst : Step cfg g t g') {Q : Tid → Thread → Prop} (h : ∀ u, Q u (g.threads u))
    (ht : Q t (g'.threads t)) : ∀ u, Q u (g'.threads u) := by
  intro u
  by_cases hu : u = t
  · subst hu; exact ht
  · rw [hst.other hu]; exact h u

theorem lstep (hst : Step cfg g t g') :
    ∃ eff, LStep cfg g.now (lookup cfg g (g.threads t).req.key) (g.threads t) (g'.threads t) eff ∧
      g'.store = (eff.apply g t (g.threads t)).store := by
  obtain ⟨th', eff, hl, _, rfl⟩ := hst
  exact ⟨eff, by simpa using hl, rfl⟩

end Step

/-- the program counters between `mux.Lock()` and `mux.Unlock()` -/
def crit : Pc → Bool
  | .atGet | .atTs | .atSet | .atUnlock | .atGet2 | .atTs2 | .atSet2 | .atUnlock2 => true
  | _ => false

@[simp] theorem crit_idle : crit .idle = false := rfl
@[simp] theorem crit_wantLock : crit .wantLock = false := rfl
@[simp] theorem crit_atGet : crit .atGet = true := rfl
@[simp] theorem crit_atTs : crit .atTs = true := rfl
@[simp] theorem crit_atSet : crit .atSet = true := rfl
@[simp] theorem crit_atUnlock : crit .atUnlock = true := rfl
@[simp] theorem crit_atHandler : crit .atHandler = false := rfl
@[simp] theorem crit_atHandlerB : crit .atHandlerB = false := rfl
@[simp] theorem crit_wantLock2 : crit .wantLock2 = false := rfl
@[simp] theorem crit_atGet2 : crit .atGet2 = true := rfl
@[simp] theorem crit_atTs2 : crit .atTs2 = true := rfl
@[simp] theorem crit_atSet2 : crit .atSet2 = true := rfl
@[simp] theorem crit_atUnlock2 : crit .atUnlock2 = true := rfl
@[simp] theorem crit_rejected : crit .rejected = false := rfl
@[simp] theorem crit_doneOk : crit .doneOk = false := rfl
@[simp] theorem crit_doneBypass : crit .doneBypass = false := rfl

def Excl (g : G) : Prop := ∀ t, crit (g.threads t).pc = true ↔ g.mux = some t

theorem Excl.unique {g : G} (hex : Excl g) {t t' : Tid} (h : crit (g.threads t).pc = true)
    (h' : crit (g.threads t').pc = true) : t = t' :=
  Option.some.inj (((hex t).1 h).symm.trans ((hex t').1 h'))

theorem excl_init (reqs : Tid → Req) (t0 : Nat) : Excl (init reqs t0) := by
  intro t; simp [init, crit]

theorem LStep.crit {cfg : Cfg} {now : Nat} {it : Item} {th th' : Thread} {eff : Eff}
    (hl : LStep cfg now it th th' eff) :
    match eff with
    | .lock => crit th'.pc = true
    | .unlock => crit th.pc = true ∧ crit th'.pc = false
    | _ => crit th'.pc = crit th.pc := by
  cases hl <;> simp [*]

theorem Step.mux {cfg : Cfg} {g g' : G} {t : Tid} (hst : Step cfg g t g') :
    (g'.mux = g.mux ∧ crit (g'.threads t).pc = crit (g.threads t).pc) ∨
    (g.mux = none ∧ g'.mux = some t ∧ crit (g'.threads t).pc = true) ∨
    (crit (g.threads t).pc = true ∧ g'.mux = none ∧ crit (g'.threads t).pc = false) := by
  obtain ⟨th', eff, hl, hm, rfl⟩ := hst
  have hc := hl.crit
  cases eff <;> simp_all [Eff.apply]

theorem Step.excl {cfg : Cfg} {g g' : G} {t : Tid} (hst : Step cfg g t g') (hi : Excl g) : Excl g' := by
  intro u
  by_cases hu : u = t
  · subst hu
    rcases hst.mux with ⟨hm, hc⟩ | ⟨_, hm, hc⟩ | ⟨_, hm, hc⟩
    · rw [hm, hc]; exact hi u
    · simp [hm, hc]
    · simp [hm, hc]
  · rw [hst.other hu, hi u]
    rcases hst.mux with ⟨hm, _⟩ | ⟨h0, hm, _⟩ | ⟨hc, hm, _⟩
    · rw [hm]
    · simp [h0, hm, Ne.symm hu]
    · simp [(hi t).1 hc, hm, Ne.symm hu]

theorem excl_step (cfg : Cfg) {g g' : G} {a : Act} (hi : Excl g) (hs : step cfg g a = some g') : Excl g' := by
  cases a with
  | tick d | gc => cases hs; exact hi
  | thr t => exact ((stepThr_iff cfg).1 hs).excl hi

theorem excl_reach (cfg : Cfg) (reqs : Tid → Req) (t0 : Nat) {g : G} (h : (sys cfg).Reach (init reqs t0) g) : Excl g :=
  Conc.inv_reach (sys cfg) Excl (fun _ _ _ hi hs => excl_step cfg hi hs) (excl_init reqs t0) h

end C13
