import FiberModel.C13.Lemmas
/-
C13 — keys are independent at the level of whole schedules.
-/
namespace C13
open Conc

/-- the schedule restricted to key `k`, relative to the run from `g`: the actions of requests of other
keys are deleted, and so are the scheduler's picks of a request that cannot move at that moment (it
waits for `mux.Lock()` or is finished — a stutter of the run, `System.next`). Clock ticks and backend
garbage collections stay where they are. -/
def restrictK (cfg : Cfg) (reqs : Tid → Req) (k : Key) : G → List Act → List Act
  | _, [] => []
  | g, a :: as =>
    (match a with
     | .thr t => if (reqs t).key = k ∧ (stepThr cfg g t).isSome = true then [a] else []
     | _ => [a]) ++ restrictK cfg reqs k ((sys cfg).next g a) as

/-- what the mutex looks like when only key `k`'s requests exist -/
def muxK (reqs : Tid → Req) (k : Key) : Option Tid → Option Tid
  | some t => if (reqs t).key = k then some t else none
  | none => none

/-- `h` is `g` as seen by key `k` alone -/
structure KeyView (reqs : Tid → Req) (k : Key) (g h : G) : Prop where
  now : h.now = g.now
  store : h.store k = g.store k
  thr : ∀ t, (reqs t).key = k → h.threads t = g.threads t
  other : ∀ t, (reqs t).key ≠ k → h.threads t = { req := reqs t }
  mux : h.mux = muxK reqs k g.mux
  req : ∀ t, (g.threads t).req = reqs t
  excl : Excl g

theorem lookup_congr (cfg : Cfg) {g h : G} {k : Key} (hn : h.now = g.now) (hs : h.store k = g.store k) :
    lookup cfg h k = lookup cfg g k := by
  simp [lookup, hn, hs]

theorem keyView_init (reqs : Tid → Req) (k : Key) (t0 : Nat) : KeyView reqs k (init reqs t0) (init reqs t0) :=
  ⟨rfl, rfl, fun _ _ => rfl, fun _ _ => rfl, rfl, fun _ => rfl, excl_init reqs t0⟩

theorem keyView_other (cfg : Cfg) {reqs : Tid → Req} {k : Key} {g h g' : G} {t : Tid}
    (hv : KeyView reqs k g h) (hk : (reqs t).key ≠ k) (hs : stepThr cfg g t = some g') :
    KeyView reqs k g' h := by
  have hst := (stepThr_iff cfg).1 hs
  have hkt : k ≠ (g.threads t).req.key := by rw [hv.req t]; exact Ne.symm hk
  have hne : ∀ t', (reqs t').key = k → t' ≠ t := fun t' h1 h2 => hk (h2 ▸ h1)
  refine ⟨hv.now.trans hst.now.symm, hv.store.trans (hst.store_ne hkt).symm,
    fun t' ht' => (hv.thr t' ht').trans (hst.other (hne t' ht')).symm, hv.other, ?_,
    hst.forall_threads (Q := fun u th => th.req = reqs u) hv.req (hst.req.trans (hv.req t)),
    hst.excl hv.excl⟩
  -- the mutex: where the other key's request takes or frees it, `k` sees it free before and after
  rw [hv.mux]
  rcases hst.mux with ⟨hm, _⟩ | ⟨h0, hm, _⟩ | ⟨hc, hm, _⟩
  · rw [hm]
  · simp [h0, hm, muxK, hk]
  · simp [(hv.excl t).1 hc, hm, muxK, hk]

theorem keyView_same (cfg : Cfg) {reqs : Tid → Req} {k : Key} {g h g' : G} {t : Tid}
    (hv : KeyView reqs k g h) (hk : (reqs t).key = k) (hs : stepThr cfg g t = some g') :
    ∃ h', stepThr cfg h t = some h' ∧ KeyView reqs k g' h' := by
  have hex' : Excl g' := excl_step cfg (a := .thr t) hv.excl hs
  have hth : h.threads t = g.threads t := hv.thr t hk
  have hkt : (g.threads t).req.key = k := by rw [hv.req t]; exact hk
  have hlk : lookup cfg h (g.threads t).req.key = lookup cfg g (g.threads t).req.key := by
    rw [hkt]; exact lookup_congr cfg hv.now hv.store
  obtain ⟨th', eff, hl, hm, rfl⟩ := (stepThr_iff cfg).1 hs
  -- the thread sees the same record, clock and backend entry in `h`, so it takes the same step with the same effect
  have hst' : Step cfg h t ((eff.apply h t (g.threads t)).setThread t th') :=
    ⟨th', eff, by rw [hth, hv.now, hlk]; exact hl, fun he => by rw [hv.mux, hm he]; rfl, by rw [hth]⟩
  refine ⟨_, (stepThr_iff cfg).2 hst', by simp [hv.now], ?_, fun t' ht' => ?_, fun t' ht' => ?_, ?_,
    forall_setThread (Q := fun u th => th.req = reqs u) (hl.req.trans (hv.req t)) fun u _ => by simpa using hv.req u, hex'⟩
  · cases eff <;> simp [Eff.apply, hv.store, hv.now, hkt]
  · by_cases htt : t' = t
    · subst htt; simp
    · simp [setThread_threads_ne _ _ htt, hv.thr t' ht']
  · have htt : t' ≠ t := fun e => ht' (e ▸ hk)
    simp [setThread_threads_ne _ _ htt, hv.other t' ht']
  · cases eff <;> simp [Eff.apply, muxK, hk, hv.mux]

theorem keyView_tick {reqs : Tid → Req} {k : Key} {g h : G} (hv : KeyView reqs k g h) (d : Nat) :
    KeyView reqs k { g with now := g.now + d } { h with now := h.now + d } :=
  ⟨by simp [hv.now], hv.store, hv.thr, hv.other, hv.mux, hv.req, hv.excl⟩

theorem keyView_gc {reqs : Tid → Req} {k : Key} {g h : G} (hv : KeyView reqs k g h) :
    KeyView reqs k (gcStore g) (gcStore h) :=
  ⟨hv.now, by simp [gcStore, hv.store, hv.now], hv.thr, hv.other, hv.mux, hv.req, hv.excl⟩

theorem keyView_run (cfg : Cfg) (reqs : Tid → Req) (k : Key) (as : List Act) :
    ∀ g h, KeyView reqs k g h →
      KeyView reqs k ((sys cfg).run g as) ((sys cfg).run h (restrictK cfg reqs k g as)) := by
  induction as with
  | nil => intro g h hv; exact hv
  | cons a as ih =>
    intro g h hv
    simp only [restrictK, run_cons, run_append]
    apply ih
    cases a with
    | tick d => exact keyView_tick hv d
    | gc => exact keyView_gc hv
    | thr t =>
      cases hs : stepThr cfg g t with
      | none => simpa [System.next, sys, step, hs] using hv
      | some g' =>
        by_cases hk : (reqs t).key = k
        · obtain ⟨h', hs', hv'⟩ := keyView_same cfg hv hk hs
          simpa [System.next, sys, step, hs, hk, hs'] using hv'
        · simpa [System.next, sys, step, hs, hk] using keyView_other cfg hv hk hs

/-- For EVERY schedule `as` (any interleaving of any number of requests of any
keys, clock ticks, backend collections) and every key `k`: run the schedule restricted to `k` — the
actions of other keys' requests deleted, as well as the picks of a request that could not move at that
moment (waiting for the shared `mux`; a stutter) — from the same initial state. The two runs agree on
everything key `k` can observe: the clock, `k`'s backend entry, and the complete record of every request
of `k` (program point, item, `resetInSec` = Retry-After / X-RateLimit-Reset, `remaining`, window end,
TTL, handler-ran flag); the mutex is held by the same request of `k` or, where another key's request
held it, free; the other keys' requests have never moved. As this holds for every prefix of the
schedule (`restrictK_append`), the whole sub-trace of `k` — every decision, `remaining`, Retry-After —
is the trace `k` would have produced alone: other keys influence it only by making it wait. -/
theorem key_trace_independent (cfg : Cfg) (reqs : Tid → Req) (t0 : Nat) (k : Key) (as : List Act) :
    let g := (sys cfg).run (init reqs t0) as
    let h := (sys cfg).run (init reqs t0) (restrictK cfg reqs k (init reqs t0) as)
    h.now = g.now ∧ h.store k = g.store k ∧
    (∀ t, (reqs t).key = k → h.threads t = g.threads t) ∧
    (∀ t, (reqs t).key ≠ k → (h.threads t).pc = .idle) ∧
    h.mux = muxK reqs k g.mux := by
  have hv := keyView_run cfg reqs k as _ _ (keyView_init reqs k t0)
  exact ⟨hv.now, hv.store, hv.thr, fun t ht => by rw [hv.other t ht], hv.mux⟩

theorem restrictK_append (cfg : Cfg) (reqs : Tid → Req) (k : Key) (as bs : List Act) (g : G) :
    restrictK cfg reqs k g (as ++ bs) =
      restrictK cfg reqs k g as ++ restrictK cfg reqs k ((sys cfg).run g as) bs := by
  induction as generalizing g with
  | nil => rfl
  | cons a as ih => simp [restrictK, ih, List.append_assoc]

theorem restrictK_sublist (cfg : Cfg) (reqs : Tid → Req) (k : Key) (as : List Act) (g : G) :
    (restrictK cfg reqs k g as).Sublist as ∧
    ∀ t, Act.thr t ∈ restrictK cfg reqs k g as → (reqs t).key = k := by
  induction as generalizing g with
  | nil => exact ⟨.slnil, fun _ h => by simp [restrictK] at h⟩
  | cons a as ih =>
    obtain ⟨i1, i2⟩ := ih ((sys cfg).next g a)
    unfold restrictK
    -- the branches of `restrictK` at `a`: a request's step that is kept, one that is deleted, a tick or a collection
    split
    · split
      · next hc =>
        exact ⟨i1.cons_cons _, fun t ht => (List.mem_cons.1 ht).elim (fun e => by cases e; exact hc.1) (i2 t)⟩
      · exact ⟨i1.cons _, i2⟩
    · exact ⟨i1.cons_cons _, fun t ht => (List.mem_cons.1 ht).elim (fun e => by cases e; simp_all) (i2 t)⟩

/-- deleting the requests of all other keys from the schedule (they never arrive) changes nothing for
`k`: a request's answer is a function of its own key's history -/
theorem key_outcome_alone (cfg : Cfg) (reqs : Tid → Req) (t0 : Nat) (k : Key) (as : List Act) (t : Tid)
    (hk : (reqs t).key = k) :
    (((sys cfg).run (init reqs t0) (restrictK cfg reqs k (init reqs t0) as)).threads t) =
      (((sys cfg).run (init reqs t0) as).threads t) :=
  (key_trace_independent cfg reqs t0 k as).2.2.1 t hk

section ExamplesTrace
/-- keys 0 and 1, limit 1 each, fixed window of 2 s: thread 0 (key 0) and thread 1 (key 1) interleave at the
mutex — thread 1 is picked twice while thread 0 holds it (stutters) —, thread 1 finishes, then thread 2
(key 0) is rejected with Retry-After 1.
The schedule restricted to key 0 keeps exactly the moves of threads 0 and 2 and the tick. -/
def trCfg : Cfg := ⟨false, false, 2, false, false, fun _ _ _ => 0⟩
def trReqs : Tid → Req := fun t => if t = 1 then ⟨1, 1, 200, false⟩ else ⟨0, 1, 200, false⟩
def trSched : List Act :=
  [.thr 0, .thr 1, .thr 0, .thr 1, .thr 1, .thr 0, .thr 0, .thr 0, .thr 0, .thr 1, .tick 1, .thr 0] ++
  List.replicate 6 (.thr 1) ++ List.replicate 6 (.thr 2)

example : restrictK trCfg trReqs 0 (init trReqs 100) trSched =
    [.thr 0, .thr 0, .thr 0, .thr 0, .thr 0, .thr 0, .tick 1, .thr 0] ++ List.replicate 6 (.thr 2) := by rfl

example : let g := (sys trCfg).run (init trReqs 100) trSched
    (g.threads 0).pc = .doneOk ∧ (g.threads 1).pc = .doneOk ∧ (g.threads 2).pc = .rejected ∧
    (g.threads 2).reset = 1 := by decide +kernel
end ExamplesTrace

end C13
