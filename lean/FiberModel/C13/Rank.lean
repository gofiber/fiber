import FiberModel.C13.More
/-
C13 — counting the requests of one window, for every algorithm that weighs a window with at least the requests counted
in it (`CurLeLoad`). What `IRank` gives for the open window (`admitted_rank_le`, `open_window_bound`);
the same bound for every window, open or closed (`IBound`: a closed window gains no holder, `slot_back`); in the fixed
window without skip options and with a constant limit the load a request is weighed with is its position in the window,
hence a request is refused only when `M` other requests of the same window have passed the limiter (`IRej`). `Hist`: the
one induction over the product system (`hist_reach`).
-/
namespace C13
open Conc Spec

/-- the request passed the limiter, counted in the window of key `k` that ends at `W`, and its hit
has not been taken back by a skip option -/
structure HoldsSlot (cfg : Cfg) (th : Thread) (k : Key) (W : Nat) : Prop where
  key : th.req.key = k
  wexp : th.wexp = W
  passed : admittedPc th.pc = true
  counted : counted cfg th = true

theorem filter_len_le_of_suffix_bound (P : Tid → Bool) (M : Nat) (l : List Tid)
    (h : ∀ t rest, (t :: rest) <:+ l → P t = true → rest.length + 1 ≤ M) :
    (l.filter P).length ≤ M := by
  induction l with
  | nil => simp
  | cons a l' ih =>
    rw [List.filter_cons]
    split
    · rename_i hp
      have := h a l' (List.suffix_refl _) hp
      have := List.length_filter_le P l'
      simp; omega
    · exact ih (fun t rest hs hp => h t rest (hs.trans (List.suffix_cons a l')) hp)

theorem admitted_rank_le (cfg : Cfg) (hpol : CurLeLoad cfg) (reqs : Tid → Req) {p : PS} (ha : All cfg reqs p)
    {k : Key} {w : Win} (hw : p.s k = some w) {t : Tid} {rest : List Tid} (hsuf : (t :: rest) <:+ w.cur)
    (hadm : admittedPc (p.g.threads t).pc = true) : ((rest.length + 1 : Nat) : Int) ≤ (reqs t).max := by
  obtain ⟨x, h1, hj⟩ := (ha.thr t).dec (hitDone_of_admitted hadm)
  have h2 := hj.limit
  rw [(ha.thr t).req] at h2
  exact h2 ▸ Int.le_trans ((ha.rank k w hw t rest hsuf x h1).1 hpol) (hj.allow_iff.1 (hj.adm hadm))

theorem open_window_bound (cfg : Cfg) (hpol : CurLeLoad cfg) (reqs : Tid → Req) (M : Nat) (k : Key)
    (hM : ∀ t, (reqs t).key = k → (reqs t).max ≤ (M : Int)) {p : PS} (ha : All cfg reqs p) (w : Win)
    (hw : p.s k = some w) :
    (w.cur.filter fun t => admittedPc (p.g.threads t).pc).length ≤ M := by
  apply filter_len_le_of_suffix_bound
  intro t rest hsuf hadm
  have hkey := (((ha.mem k w hw).cur t).1 (List.IsSuffix.mem (List.mem_cons_self) hsuf)).2.1
  exact Int.ofNat_le.1 (Int.le_trans (admitted_rank_le cfg hpol reqs ha hw hsuf hadm) (hM t ((ha.thr t).req ▸ hkey)))

theorem slot_back {cfg : Cfg} {reqs : Tid → Req} {p p' : PS} {a : Act} (ha : All cfg reqs p) (h : PStep cfg p a p')
    (t' : Tid) (k : Key) (W : Nat) (hv : HoldsSlot cfg (p'.g.threads t') k W)
    (hclosed : ¬ ∃ w, p'.s k = some w ∧ w.wend = W) : HoldsSlot cfg (p.g.threads t') k W := by
  cases a with
  | tick d | gc => cases h; exact hv
  | thr t =>
    have hst := h.step
    by_cases htt : t' = t
    · subst htt
      obtain ⟨eff, hl, _⟩ := hst.lstep
      obtain ⟨hk, hW, hadm, hcnt⟩ := hv
      rcases hl.admitted.1 hadm with hadm0 | ⟨hpc, _⟩
      · -- it had passed the limiter before: the step is neither the count nor (still counted) the take-back
        have hpc : (p.g.threads t').pc ≠ .atTs := fun h => by simp [h, admittedPc] at hadm0
        have hpc2 : (p.g.threads t').pc ≠ .atTs2 := fun h => by simp [hl.uncounted h] at hcnt
        rw [hl.req] at hk
        rw [(hl.keeps hpc).1] at hW
        exact ⟨hk, hW, hadm0, hl.counted_eq hpc hpc2 (ha.thr t').sec ▸ hcnt⟩
      · -- the unlock: its window is the open one
        obtain ⟨w, hw1, hw2, _⟩ := (ha.thr t').opn (.inr hpc)
        rw [hl.req] at hk
        rw [(hl.keeps (by simp [hpc])).1] at hW
        rw [h.s_eq (by simp [hpc]) (by simp [hpc])] at hclosed
        exact absurd ⟨w, hk ▸ hw1, hw2.trans hW⟩ hclosed
    · rw [hst.other htt] at hv
      exact hv

/-- at most `M` requests hold a slot of any one window of key `k` -/
def IBound (cfg : Cfg) (M : Nat) (k : Key) (p : PS) : Prop :=
  ∀ W (l : List Tid), l.Nodup → (∀ t ∈ l, HoldsSlot cfg (p.g.threads t) k W) → l.length ≤ M

/-- a window that is open after the step is bounded by `IRank` there; a closed one gains no holder (`slot_back`) -/
theorem ibound_step {cfg : Cfg} (hpol : CurLeLoad cfg) {reqs : Tid → Req} {M : Nat} {k : Key}
    (hM : ∀ t, (reqs t).key = k → (reqs t).max ≤ (M : Int)) {p p' : PS} {a : Act} (ha : All cfg reqs p)
    (ha' : All cfg reqs p') (hb : IBound cfg M k p) (h : PStep cfg p a p') : IBound cfg M k p' := by
  intro W l hnd hl
  by_cases hopen : ∃ w, p'.s k = some w ∧ w.wend = W
  · obtain ⟨w, hw, hwW⟩ := hopen
    refine Nat.le_trans (hnd.length_le_of_subset fun t ht => ?_) (open_window_bound cfg hpol reqs M k hM ha' w hw)
    obtain ⟨h1, h2, h3, h4⟩ := hl t ht
    rw [List.mem_filter]
    exact ⟨((ha'.mem k w hw).cur t).2 ⟨h4, h1, by rw [h2, hwW]⟩, h3⟩
  · exact hb W l hnd fun t ht => slot_back ha h t k W (hl t ht) hopen

theorem last_suffixes {l : List Tid} {M : Nat} (hM : M ≤ l.length) :
    (l.drop (l.length - M)).length = M ∧
    ∀ a ∈ l.drop (l.length - M), ∃ rest, (a :: rest) <:+ l ∧ rest.length + 1 ≤ M := by
  refine ⟨by rw [List.length_drop]; omega, fun a h => ?_⟩
  obtain ⟨s1, s2, hs⟩ := List.append_of_mem h
  refine ⟨s2, (show (a :: s2) <:+ l.drop (l.length - M) from ⟨s1, hs.symm⟩).trans (List.drop_suffix _ l), ?_⟩
  have := congrArg List.length hs
  simp at this
  omega

/-- a counted request the specification refused has `M` others of its window that passed -/
def IRej (reqs : Tid → Req) (M : Nat) (k : Key) (p : PS) : Prop :=
  ∀ t, (reqs t).key = k → hitDone (p.g.threads t).pc = true → ∀ x, p.dec t = some x → x.allow = false →
    ∃ l : List Tid, l.Nodup ∧ l.length = M ∧ ∀ t' ∈ l, t' ≠ t ∧ (reqs t').key = k ∧
      (p.g.threads t').wexp = (p.g.threads t).wexp ∧ admittedPc (p.g.threads t').pc = true

theorem irej_init (M : Nat) (k : Key) (reqs : Tid → Req) (t0 : Nat) : IRej reqs M k (pinit reqs t0) := by
  intro t _ hp; simp [pinit, init] at hp

theorem irej_step {cfg : Cfg} (hfix : cfg.sliding = false) (hE : 1 ≤ cfg.expiration) {reqs : Tid → Req}
    (M : Nat) (k : Key) (hM : ∀ t, (reqs t).key = k → (reqs t).max = (M : Int)) {p p' : PS} {a : Act}
    (hns : noSkip cfg) (ha : All cfg reqs p) (hj : IRej reqs M k p) (h : PStep cfg p a p') : IRej reqs M k p' := by
  cases a with
  | tick d | gc => cases h; exact hj
  | thr t =>
    have hst := h.step
    intro u huk huh x hx hxa
    by_cases hcount : u = t ∧ (p.g.threads t).pc = .atTs
    · -- the request being counted
      obtain ⟨rfl, hpc⟩ := hcount
      cases h with
      | quiet _ h1 => exact absurd hpc h1
      | backSome hpc2 => rw [hpc] at hpc2; cases hpc2
      | backNone hpc2 => rw [hpc] at hpc2; cases hpc2
      | count =>
        have hu3 := hit_wend cfg hE u ((ha.thr u).loc (.inl hpc))
        simp only [setThread_threads_same]
        simp only [if_true, Option.some.injEq] at hx
        subst hx
        simp only [admits, decide_eq_false_iff_not, Int.not_le] at hxa
        have hmax : (p.g.threads u).req.max = (M : Int) := by
          rw [(ha.thr u).req]; exact hM u huk
        rw [hmax] at hxa
        have hnc : counted cfg (p.g.threads u) = false := counted_atTs hpc
        rcases hit_shape cfg (p.s (p.g.threads u).req.key) p.g.now u with ⟨w0, hs0, hsh⟩ | ⟨hsl, _⟩ | ⟨hsh, _⟩
        · rw [hsh] at hxa hu3
          simp [load, hfix] at hxa
          obtain ⟨n1, _, m1, _⟩ := ha.mem _ w0 hs0
          obtain ⟨hlast, hsufs⟩ := last_suffixes (Int.ofNat_le.1 (Int.le_of_lt_add_one hxa))
          refine ⟨w0.cur.drop (w0.cur.length - M), n1.sublist (List.drop_sublist _ _), hlast, ?_⟩
          intro t' ht'
          have hin : t' ∈ w0.cur := List.mem_of_mem_drop ht'
          obtain ⟨hc1, hc2, hc3⟩ := (m1 t').1 hin
          have hne : t' ≠ u := fun h => by rw [h, hnc] at hc1; cases hc1
          have hk' : (reqs t').key = k := by rw [← (ha.thr t').req, hc2, (ha.thr u).req]; exact huk
          simp only [setThread_threads_ne _ _ hne]
          refine ⟨hne, hk', by rw [hc3]; exact hu3, ?_⟩
          -- its verdict was `allow`
          obtain ⟨rest', hsuf, hlen⟩ := hsufs t' ht'
          have hhd := counted_hitDone hc1
          obtain ⟨x', h1, hj'⟩ := (ha.thr t').dec hhd
          have hload := (ha.rank _ w0 hs0 t' rest' hsuf x' h1).2 hfix hns
          have hlim : x'.limit = (M : Int) := by
            rw [hj'.limit, (ha.thr t').req]; exact hM t' hk'
          have hallow : x'.allow = true := hj'.allow_iff.2 (by rw [hload, hlim]; exact Int.ofNat_le.2 hlen)
          -- allowed, and no longer inside its critical section since `u` is: it has passed
          refine admitted_of_hitDone hhd (not_crit_of_other ha.excl (t := u) (by simp [hpc]) hne) fun h => ?_
          have := hj'.rej h; rw [hallow] at this; cases this
        · rw [hfix] at hsl; cases hsl
        · rw [hsh] at hxa
          simp [load, hfix] at hxa
          have hM0 : M = 0 := by omega
          exact ⟨[], List.nodup_nil, by simp [hM0], fun t' ht' => by cases ht'⟩
    · -- nothing the clause for `u` speaks of changes
      have hu : u = t → (p.g.threads t).pc ≠ .atTs := fun h hp => hcount ⟨h, hp⟩
      obtain ⟨s2, s3, _⟩ := step_stable hst u hu
      obtain ⟨l, hl1, hl2, hl3⟩ := hj u huk (s3 huh) x (h.dec_eq hu ▸ hx) hxa
      refine ⟨l, hl1, hl2, fun t' ht' => ?_⟩
      obtain ⟨g1, g2, g3, g4⟩ := hl3 t' ht'
      -- a member of the list has passed the limiter, so it is not the request being counted
      obtain ⟨r2, _, r4⟩ := step_stable hst t' fun h hp => by rw [h, hp] at g4; simp [admittedPc] at g4
      rw [r2, s2]
      exact ⟨g1, g2, g3, r4 g4⟩

/-- everything that is proved of the reachable product states by induction: `All`, and the two statements about
windows that may have closed, which the ghost state has forgotten -/
structure Hist (cfg : Cfg) (reqs : Tid → Req) (p : PS) : Prop where
  all : All cfg reqs p
  bound : CurLeLoad cfg → ∀ (M : Nat) k, (∀ t, (reqs t).key = k → (reqs t).max ≤ (M : Int)) → IBound cfg M k p
  rej : cfg.sliding = false → noSkip cfg → ∀ (M : Nat) k, (∀ t, (reqs t).key = k → (reqs t).max = (M : Int)) →
    IRej reqs M k p

theorem hist_step {cfg : Cfg} (hE : 1 ≤ cfg.expiration) {reqs : Tid → Req} {p p' : PS} {a : Act}
    (hh : Hist cfg reqs p) (h : PStep cfg p a p') : Hist cfg reqs p' :=
  have ha' := all_step hE hh.all h
  ⟨ha', fun hpol M k hM => ibound_step hpol hM hh.all ha' (hh.bound hpol M k hM) h,
   fun hfix hns M k hM => irej_step hfix hE M k hM hns hh.all (hh.rej hfix hns M k hM) h⟩

theorem hist_reach (cfg : Cfg) (hE : 1 ≤ cfg.expiration) (reqs : Tid → Req) (t0 : Nat) {p : PS}
    (h : (psys cfg).Reach (pinit reqs t0) p) : Hist cfg reqs p := by
  refine Conc.inv_reach (psys cfg) (Hist cfg reqs) (fun _ _ _ hh hs => hist_step hE hh (.of_pstep hs))
    ⟨all_init cfg reqs t0, fun _ M k _ W l _ hl => ?_, fun _ _ M k _ => irej_init M k reqs t0⟩ h
  cases l with
  | nil => simp
  | cons a l' =>
    have := (hl a (List.mem_cons_self)).passed
    simp [pinit, init, admittedPc] at this

theorem full_reach (cfg : Cfg) (hE : 1 ≤ cfg.expiration) (reqs : Tid → Req) (t0 : Nat) {p : PS}
    (h : (psys cfg).Reach (pinit reqs t0) p) : All cfg reqs p :=
  (hist_reach cfg hE reqs t0 h).all

theorem inv_reach (cfg : Cfg) (hE : 1 ≤ cfg.expiration) (reqs : Tid → Req) (t0 : Nat) {p : PS}
    (h : (psys cfg).Reach (pinit reqs t0) p) : Inv cfg reqs p :=
  (full_reach cfg hE reqs t0 h).inv

end C13
