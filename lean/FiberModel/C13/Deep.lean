import FiberModel.C13.Props
import FiberModel.C13.Trace
/-
C13 — the sliding window with `wt := codeWt`, the weight of the real code (whole-number arithmetic regenerated
from limiter_sliding.go, `rate_is_code` in Facts.lean), and the exactness of the X-RateLimit-* values.
-/
namespace C13
open Conc Spec

/-- for a non-negative hit count the code's `prevHits*int(resetInSec)/int(expiration)` is the natural-number
quotient `⌊prev·reset/expiration⌋` -/
theorem codeWt_nat (n r E : Nat) : codeWt (n : Int) r E = ((n * r / E : Nat) : Int) := by
  unfold codeWt
  rw [← Int.natCast_mul, Int.natCast_ediv]
  exact Int.tdiv_eq_ediv_of_nonneg (Int.natCast_nonneg _)

/-- it is the floor of the exact rational weight: `E·q ≤ prev·reset < E·(q+1)`; it never exceeds `prev`
while `reset ≤ expiration` and is all of `prev` in the first second of a window -/
theorem codeWt_floor (n r E : Nat) (hE : 1 ≤ E) (hr : r ≤ E) :
    E * (n * r / E) ≤ n * r ∧ n * r < E * (n * r / E + 1) ∧ n * r / E ≤ n ∧ n * E / E = n := by
  refine ⟨Nat.mul_div_le _ _, Nat.lt_mul_div_succ _ (by omega), ?_, Nat.mul_div_cancel n (by omega)⟩
  apply Nat.div_le_of_le_mul
  rw [Nat.mul_comm E n]
  exact Nat.mul_le_mul_left n hr

example : codeWt 22 15 22 = 15 ∧ codeWt 2 3 4 = 1 ∧ codeWt 49 1 49 = 1 ∧ codeWt 90 7 10 = 63 := by decide +kernel

/-- `sliding_weighted_le_max` for a configuration that weighs like the
code: a request passes iff `⌊|prev|·(window end − now)/expiration⌋ + |cur| ≤` its own limit. -/
theorem sliding_weighted_le_max_code (cfg : Cfg) (hc : cfg.code) (hsl : cfg.sliding = true) (hE : 1 ≤ cfg.expiration)
    (reqs : Tid → Req) (t0 : Nat) {p : PS} (h : (psys cfg).Reach (pinit reqs t0) p) (t : Tid)
    (hpc : (p.g.threads t).pc = .atTs) :
    let w := hit cfg (p.s (reqs t).key) p.g.now t
    let e' := upd cfg (p.g.threads t).e p.g.now
    (0 ≤ (reqs t).max - rate cfg e' p.g.now ↔
      ((w.prev.length * (w.wend - p.g.now) / cfg.expiration : Nat) : Int) + w.cur.length ≤ (reqs t).max) := by
  have hw : cfg.wt = codeWt := hc
  have := sliding_weighted_le_max cfg hsl hE reqs t0 h t hpc
  simp only [hw, codeWt_nat] at this
  exact this

/-- `decision_counts_real_requests` for the sliding window
with the code's weight: `remaining = MaxFunc(this request) − (⌊|prev|·resetInSec/expiration⌋ + |cur|)` over
the real, duplicate-free sets of same-key requests counted in the previous / current window and not taken
back; the weighted part is at most `|prev|`. -/
theorem sliding_decision_counts_real_requests_code (cfg : Cfg) (hc : cfg.code) (hsl : cfg.sliding = true)
    (hE : 1 ≤ cfg.expiration) (reqs : Tid → Req) (t0 : Nat) {g : G}
    (h : (sys cfg).Reach (init reqs t0) g) (t : Tid) (hpc : (g.threads t).pc = .atUnlock) :
    ∃ cur prev : List Tid, cur.Nodup ∧ prev.Nodup ∧ t ∈ cur ∧
      (∀ t', t' ∈ cur ↔ (counted cfg (g.threads t') = true ∧ (reqs t').key = (reqs t).key ∧
                          (g.threads t').wexp = (g.threads t).wexp)) ∧
      (∀ t', t' ∈ prev ↔ (counted cfg (g.threads t') = true ∧ (reqs t').key = (reqs t).key ∧
                           (g.threads t').wexp + cfg.expiration = (g.threads t).wexp)) ∧
      (g.threads t).remaining = (reqs t).max -
        (((prev.length * (g.threads t).reset / cfg.expiration : Nat) : Int) + cur.length) ∧
      prev.length * (g.threads t).reset / cfg.expiration ≤ prev.length ∧
      1 ≤ (g.threads t).reset ∧ (g.threads t).reset ≤ cfg.expiration := by
  obtain ⟨cur, prev, n1, n2, hm, m1, m2, hrem, r1, r2, _⟩ := decision_counts_real_requests cfg hE reqs t0 h t hpc
  refine ⟨cur, prev, n1, n2, hm, m1, fun t' => ?_, ?_, (codeWt_floor _ _ _ hE r2).2.2.1, r1, r2⟩
  · rw [m2 t']; simp [hsl]
  · have hw : cfg.wt = codeWt := hc
    rw [hrem]; simp only [hsl, if_true, hw, codeWt_nat]

/-- Every request that passed the limiter and was answered (`doneOk`: the
X-RateLimit-* headers are written from `maxRequests`, `remaining`, `resetInSec`,
`headers_are_model_locals` in Facts.lean): `X-RateLimit-Limit` is the value MaxFunc returned for this request and the
limit the specification judged it by; `X-RateLimit-Reset` is the specification's time until the window
it was counted in ends (the same number a rejected request gets as `Retry-After`, `retry_after_exact`), in
`1 … expiration`; and the request was within its limit. -/
theorem ratelimit_headers_exact (cfg : Cfg) (hE : 1 ≤ cfg.expiration) (reqs : Tid → Req) (t0 : Nat) {p : PS}
    (h : (psys cfg).Reach (pinit reqs t0) p) (t : Tid) (hd : (p.g.threads t).pc = .doneOk) :
    ∃ x, p.dec t = some x ∧ (p.g.threads t).req.max = (reqs t).max ∧ x.limit = (reqs t).max ∧
      (p.g.threads t).reset = x.retry ∧ 1 ≤ x.retry ∧ x.retry ≤ cfg.expiration ∧ x.load ≤ x.limit := by
  have ha := (full_reach cfg hE reqs t0 h).thr t
  obtain ⟨x, h1, hj⟩ := ha.dec (by simp [hd, hitDone])
  obtain ⟨r1, r2, _⟩ := ha.rst (by simp [hd, hitDone])
  have hreq := ha.req
  have h3 := hj.retry
  exact ⟨x, h1, by rw [hreq], by rw [hj.limit, hreq], h3.symm, by omega, by omega,
    hj.allow_iff.1 (hj.adm (by simp [hd, admittedPc]))⟩

section ExamplesDeep
/-- sliding window, expiration 4, the code's weight -/
def exCfgC : Cfg := ⟨true, false, 4, false, false, codeWt⟩
example : exCfgC.code := rfl

/- two requests in the window ending at 104; at second 105 (3 s before the next window ends) the previous
window weighs `⌊2·3/4⌋ = 1`: request 2 passes with `X-RateLimit-Remaining 0`, `X-RateLimit-Reset 3`
(hypothesis of `ratelimit_headers_exact`), request 3 is rejected with `Retry-After 3`; request 3 at `atTs` /
`atUnlock` (hypotheses of the two `_code` theorems) -/
set_option maxRecDepth 8000 in
example : let p := (psys exCfgC).run (pinit (fun _ => ⟨0, 2, 200, false⟩) 100) (runT 0 7 ++ runT 1 7 ++ [.tick 5] ++ runT 2 7 ++ runT 3 6)
    (p.g.threads 2).pc = .doneOk ∧ (p.g.threads 2).remaining = 0 ∧ (p.g.threads 2).reset = 3 ∧
    (p.g.threads 3).pc = .rejected ∧ (p.g.threads 3).reset = 3 := by decide +kernel

set_option maxRecDepth 8000 in
example : let p := (psys exCfgC).run (pinit (fun _ => ⟨0, 2, 200, false⟩) 100) (runT 0 7 ++ runT 1 7 ++ [.tick 5] ++ runT 2 7 ++ runT 3 3)
    (p.g.threads 3).pc = .atTs := by decide +kernel

set_option maxRecDepth 8000 in
example : let p := (psys exCfgC).run (pinit (fun _ => ⟨0, 2, 200, false⟩) 100) (runT 0 7 ++ runT 1 7 ++ [.tick 5] ++ runT 2 7 ++ runT 3 5)
    (p.g.threads 3).pc = .atUnlock ∧ (p.g.threads 3).remaining = -1 := by decide +kernel
end ExamplesDeep

end C13
