import FiberModel.C13.Decide
/-
C13 — the bundle `All` of everything invariant for the product system: mutual exclusion, backend against abstract
counters, the abstract lists against the real counted requests (`MemK`, with the lists after a count: `hit_members`),
`IRank`, and `ThrOK` of every request. It is carried
over one kind of step at a time (`all_tick`, `all_gc`, `all_quiet`, `all_count`, `all_back`; `all_step`). Then `IRan`
(which requests the downstream handler has run for), an invariant of the model itself.
-/
namespace C13
open Conc Spec

/-- the lists of `w` are the counted requests of key `k` in `w`'s window and the one before: what `IMem` says of one
key and window, over any table of records (`All.inv` puts it back into `IMem`) -/
structure MemK (cfg : Cfg) (ths : Tid → Thread) (k : Key) (w : Win) : Prop where
  nodup_cur : w.cur.Nodup
  nodup_prev : w.prev.Nodup
  cur : ∀ t, t ∈ w.cur ↔ (counted cfg (ths t) = true ∧ (ths t).req.key = k ∧ (ths t).wexp = w.wend)
  prev : ∀ t, t ∈ w.prev ↔ (cfg.sliding = true ∧ counted cfg (ths t) = true ∧ (ths t).req.key = k ∧
                         (ths t).wexp + cfg.expiration = w.wend)

/-- `MemK k` reads of a record of key `k` only whether it is counted and its window; other keys' records not at all -/
theorem MemK.congr {cfg : Cfg} {ths ths' : Tid → Thread} {k : Key} {w : Win} (h : MemK cfg ths k w)
    (hc : ∀ u, ((ths' u).req.key = k ∨ (ths u).req.key = k) → counted cfg (ths' u) = counted cfg (ths u) ∧
      (ths' u).req.key = (ths u).req.key ∧ (ths' u).wexp = (ths u).wexp) : MemK cfg ths' k w := by
  have key : ∀ u (P : Nat → Prop), (counted cfg (ths' u) = true ∧ (ths' u).req.key = k ∧ P (ths' u).wexp) ↔
      (counted cfg (ths u) = true ∧ (ths u).req.key = k ∧ P (ths u).wexp) := fun u P =>
    ⟨fun ⟨a, b, c⟩ => by obtain ⟨e1, e2, e3⟩ := hc u (.inl b); exact ⟨e1 ▸ a, e2 ▸ b, e3 ▸ c⟩,
     fun ⟨a, b, c⟩ => by obtain ⟨e1, e2, e3⟩ := hc u (.inr b); exact ⟨e1 ▸ a, e2 ▸ b, e3 ▸ c⟩⟩
  exact ⟨h.nodup_cur, h.nodup_prev, fun u => (h.cur u).trans (key u (· = w.wend)).symm,
    fun u => (h.prev u).trans (and_congr_right fun _ => (key u (· + cfg.expiration = w.wend)).symm)⟩

theorem MemK.setThread {cfg : Cfg} {g : G} {t : Tid} {th' : Thread} {k : Key} {w : Win}
    (n1 : w.cur.Nodup) (n2 : w.prev.Nodup)
    (hc : t ∈ w.cur ↔ (counted cfg th' = true ∧ th'.req.key = k ∧ th'.wexp = w.wend))
    (hp : t ∈ w.prev ↔ (cfg.sliding = true ∧ counted cfg th' = true ∧ th'.req.key = k ∧
      th'.wexp + cfg.expiration = w.wend))
    (hoth : ∀ u, u ≠ t →
      (u ∈ w.cur ↔ (counted cfg (g.threads u) = true ∧ (g.threads u).req.key = k ∧ (g.threads u).wexp = w.wend)) ∧
      (u ∈ w.prev ↔ (cfg.sliding = true ∧ counted cfg (g.threads u) = true ∧ (g.threads u).req.key = k ∧
        (g.threads u).wexp + cfg.expiration = w.wend))) :
    MemK cfg (g.setThread t th').threads k w :=
  ⟨n1, n2,
   forall_setThread (Q := fun u th => u ∈ w.cur ↔ (counted cfg th = true ∧ th.req.key = k ∧ th.wexp = w.wend)) hc
     fun u hu => (hoth u hu).1,
   forall_setThread (Q := fun u th => u ∈ w.prev ↔ (cfg.sliding = true ∧ counted cfg th = true ∧ th.req.key = k ∧
     th.wexp + cfg.expiration = w.wend)) hp fun u hu => (hoth u hu).2⟩

structure All (cfg : Cfg) (reqs : Tid → Req) (p : PS) : Prop where
  excl : Excl p.g
  store : IStore cfg p
  mem : ∀ k w, p.s k = some w → MemK cfg p.g.threads k w
  rank : IRank cfg p
  thr : ∀ t, ThrOK cfg p.g.now p.s (reqs t) (p.dec t) (p.g.threads t)

theorem All.inv {cfg : Cfg} {reqs : Tid → Req} {p : PS} (ha : All cfg reqs p) : Inv cfg reqs p :=
  ⟨ha.excl, fun t => (ha.thr t).req, ha.store, fun t => (ha.thr t).loc, fun t => (ha.thr t).pending,
   fun t => (ha.thr t).sec, fun t => (ha.thr t).hit,
   fun k w hw => ⟨(ha.mem k w hw).nodup_cur, (ha.mem k w hw).nodup_prev, (ha.mem k w hw).cur, (ha.mem k w hw).prev⟩⟩

/-- The lists of the window after `Spec.hit` over the records before the count: `t`, not counted so far, is new in
`cur`; everybody else is where they were (a window that is replaced was the newest any request remembers, and by `hE`
the next one ends later). -/
theorem hit_members {cfg : Cfg} (hE : 1 ≤ cfg.expiration) {reqs : Tid → Req} {p : PS} (ha : All cfg reqs p)
    {t : Tid} (hnotcounted : counted cfg (p.g.threads t) = false) (k : Key) :
    let w := hit cfg (p.s k) p.g.now t
    w.cur.Nodup ∧ w.prev.Nodup ∧ t ∈ w.cur ∧ t ∉ w.prev ∧ ∀ u, u ≠ t →
      (u ∈ w.cur ↔ (counted cfg (p.g.threads u) = true ∧ (p.g.threads u).req.key = k ∧
        (p.g.threads u).wexp = w.wend)) ∧
      (u ∈ w.prev ↔ (cfg.sliding = true ∧ counted cfg (p.g.threads u) = true ∧ (p.g.threads u).req.key = k ∧
        (p.g.threads u).wexp + cfg.expiration = w.wend)) := by
  intro w
  have hle : ∀ u, counted cfg (p.g.threads u) = true → (p.g.threads u).req.key = k →
      ∃ w0, p.s k = some w0 ∧ (p.g.threads u).wexp ≤ w0.wend := by
    intro u hc hk'
    obtain ⟨_, w0, h2, h3⟩ := (ha.thr u).hit (counted_hitDone hc)
    exact ⟨w0, hk' ▸ h2, h3⟩
  rcases hit_shape cfg (p.s k) p.g.now t with ⟨w0, hs0, hsh⟩ | ⟨hsl, w0, hs0, hsh⟩ | ⟨hsh, hdead⟩ <;>
    simp only [w, hsh]
  · -- same window, one more
    obtain ⟨n1, n2, m1, m2⟩ := ha.mem k w0 hs0
    have htn : t ∉ w0.cur := fun hin => by simp [((m1 t).1 hin).1] at hnotcounted
    have htp : t ∉ w0.prev := fun hin => by simp [((m2 t).1 hin).2.1] at hnotcounted
    exact ⟨List.nodup_cons.2 ⟨htn, n1⟩, n2, List.mem_cons_self, htp, fun u h =>
      ⟨by simp only [List.mem_cons, h, false_or]; exact m1 u, m2 u⟩⟩
  · -- sliding: the next window; what was current is previous
    obtain ⟨n1, _, m1, _⟩ := ha.mem k w0 hs0
    have htn : t ∉ w0.cur := fun hin => by simp [((m1 t).1 hin).1] at hnotcounted
    refine ⟨by simp, n1, List.mem_cons_self, htn, fun u h => ⟨?_, ?_⟩⟩
    · simp only [List.mem_cons, h, List.not_mem_nil, or_false, false_iff]
      intro ⟨hc, hk', hx⟩
      obtain ⟨w1, hs1, hle1⟩ := hle u hc hk'
      rw [hs0] at hs1; cases hs1
      exact absurd (hx ▸ hle1) (Nat.not_le.2 (Nat.lt_add_of_pos_right hE))
    · rw [m1 u]
      simp only [hsl, true_and]
      exact ⟨fun ⟨a, b, c⟩ => ⟨a, b, by omega⟩, fun ⟨a, b, c⟩ => ⟨a, b, by omega⟩⟩
  · -- a fresh window: whatever was counted before lies in a window that has stopped mattering
    refine ⟨by simp, by simp, List.mem_cons_self, by simp, fun u h => ⟨?_, ?_⟩⟩
    · simp only [List.mem_cons, h, List.not_mem_nil, or_false, false_iff]
      intro ⟨hc, hk', hx⟩
      obtain ⟨w1, hs1, hle1⟩ := hle u hc hk'
      have := hdead w1 hs1
      omega
    · simp only [List.not_mem_nil, false_iff]
      intro ⟨hsl, hc, hk', hx⟩
      obtain ⟨w1, hs1, hle1⟩ := hle u hc hk'
      have := hdead w1 hs1
      rw [gap_sliding hsl] at this
      omega

theorem All.memOK {cfg : Cfg} {reqs : Tid → Req} {p : PS} (ha : All cfg reqs p) {t : Tid}
    (hc : counted cfg (p.g.threads t) = true) :
    MemOK cfg (p.s (p.g.threads t).req.key) t (p.g.threads t).wexp := by
  intro w hw
  obtain ⟨_, _, m1, m2⟩ := ha.mem _ w hw
  exact ⟨by rw [m1 t]; simp [hc], by rw [m2 t]; simp [hc]⟩

/-- The count and the take-back decision are taken inside a critical section and rewrite the request's own record,
the abstract window of its key and its verdict. Everybody else is outside (`ThrOK.outside`), other keys are untouched:
what is left to show is about the request and its key. -/
theorem All.crit_step {cfg : Cfg} {reqs : Tid → Req} {p : PS} {t : Tid} {th' : Thread} {s' : Spec.State}
    {d' : Tid → Option Spec.Expect} (ha : All cfg reqs p) (hex : Excl (p.g.setThread t th'))
    (hcrit : crit (p.g.threads t).pc = true)
    (hs' : ∀ k', k' ≠ (p.g.threads t).req.key → s' k' = p.s k')
    (hmono : ∀ w0, p.s (p.g.threads t).req.key = some w0 →
      ∃ w, s' (p.g.threads t).req.key = some w ∧ w0.wend ≤ w.wend)
    (hd' : ∀ u, u ≠ t → d' u = p.dec u)
    (hthr : ThrOK cfg p.g.now s' (reqs t) (d' t) th')
    (hstore : th'.pc ≠ .atSet → th'.pc ≠ .atSet2 →
      RStore cfg (p.g.store (p.g.threads t).req.key) (s' (p.g.threads t).req.key) p.g.now)
    (hmem : ∀ w, s' (p.g.threads t).req.key = some w → MemK cfg (p.g.setThread t th').threads (p.g.threads t).req.key w)
    (hrank : IRank cfg ⟨p.g.setThread t th', s', d'⟩) :
    All cfg reqs ⟨p.g.setThread t th', s', d'⟩ := by
  have hreq : th'.req = (p.g.threads t).req := hthr.req.trans (ha.thr t).req.symm
  generalize hk : (p.g.threads t).req.key = k at *
  refine ⟨hex, ?_, ?_, hrank, ?_⟩
  · intro k' hc
    simp only [setThread_store, setThread_now]
    by_cases hkk : k' = k
    · subst hkk
      have := hc t (by simp [hreq, hk])
      simp only [setThread_threads_same] at this
      exact hstore this.1 this.2
    · rw [hs' k' hkk]
      exact ha.store k' (hc.of_other (fun _ => setThread_threads_ne _ _) fun hu => absurd (hk ▸ hu).symm hkk)
  · intro k' w' hw'
    change s' k' = some w' at hw'
    by_cases hkk : k' = k
    · subst hkk; exact hmem w' hw'
    · rw [hs' k' hkk] at hw'
      -- `t`'s key is `k`: it is in neither list of another key's window, whatever its record says
      refine (ha.mem k' w' hw').congr fun u hu => ?_
      by_cases h : u = t
      · subst h; simp [hreq, hk, Ne.symm hkk] at hu
      · simp [setThread_threads_ne _ _ h]
  · refine forall_setThread (Q := fun u th => ThrOK cfg p.g.now s' (reqs u) (d' u) th) hthr fun u hu => ?_
    rw [hd' u hu]
    refine (ha.thr u).outside (not_crit_of_other ha.excl hcrit hu) fun w0 h0 => ?_
    by_cases hkk : (p.g.threads u).req.key = k
    · rw [hkk] at h0 ⊢; exact hmono w0 h0
    · exact ⟨w0, by rw [hs' _ hkk]; exact h0, Nat.le_refl _⟩

theorem all_tick {cfg : Cfg} {reqs : Tid → Req} {p : PS} (d : Nat) (ha : All cfg reqs p) :
    All cfg reqs ⟨{ p.g with now := p.g.now + d }, p.s, p.dec⟩ :=
  ⟨ha.excl, fun k hc => rstore_mono (ha.store k hc) (Nat.le_add_right _ _), ha.mem, ha.rank,
   fun t => (ha.thr t).tick (Nat.le_add_right _ _)⟩

theorem all_gc {cfg : Cfg} {reqs : Tid → Req} {p : PS} (ha : All cfg reqs p) : All cfg reqs ⟨gcStore p.g, p.s, p.dec⟩ :=
  ⟨ha.excl, fun k hc => rstore_gc (ha.store k hc), ha.mem, ha.rank, ha.thr⟩

theorem all_quiet {cfg : Cfg} {reqs : Tid → Req} {p : PS} {g' : G} {t : Tid} (ha : All cfg reqs p)
    (hex : Excl g') (hst : Step cfg p.g t g') (h1 : (p.g.threads t).pc ≠ .atTs) (h2 : (p.g.threads t).pc ≠ .atTs2) :
    All cfg reqs ⟨g', p.s, p.dec⟩ := by
  obtain ⟨eff, hl, hstore⟩ := hst.lstep
  have hnow := hst.now
  refine ⟨hex, ?_, ?_, ha.rank, ?_⟩
  · intro k hc
    show RStore cfg (g'.store k) (p.s k) g'.now
    rw [hnow, hstore]
    by_cases hk : eff = .set ∧ k = (p.g.threads t).req.key
    · obtain ⟨rfl, rfl⟩ := hk
      exact (setStore_store_same p.g _ _) ▸ (ha.thr t).pending (hl.writes.1 rfl)
    · rw [Eff.apply_store_ne _ _ _ _ fun he hk' => hk ⟨he, hk'⟩]
      refine ha.store k (hc.of_other (fun _ => hst.other) fun hu => ?_)
      constructor <;> intro hp <;> exact hk ⟨hl.writes.2 (by simp [hp]), hu.symm⟩
  · intro k w hw
    exact (ha.mem k w hw).congr fun u _ => hst.forall_threads
      (Q := fun u th => counted cfg th = counted cfg (p.g.threads u) ∧ th.req.key = (p.g.threads u).req.key ∧
        th.wexp = (p.g.threads u).wexp) (fun _ => ⟨rfl, rfl, rfl⟩)
      ⟨hl.counted_eq h1 h2 (ha.thr t).sec, congrArg _ hl.req, (hl.keeps h1).1⟩ u
  · refine hst.forall_threads (Q := fun u th => ThrOK cfg g'.now p.s (reqs u) (p.dec u) th) (hnow ▸ ha.thr) ?_
    rw [hnow]
    refine (ha.thr t).quiet hl h1 h2 fun hg => ?_
    have hcrit : crit (p.g.threads t).pc = true := by rcases hg with h | h <;> simp [h]
    exact ritem_lookup (ha.store _ (clean_of_crit ha.excl hcrit (by rcases hg with h | h <;> simp [h]) _))

theorem all_count {cfg : Cfg} (hE : 1 ≤ cfg.expiration) {reqs : Tid → Req} {p : PS} {t : Tid}
    (ha : All cfg reqs p) (hpc : (p.g.threads t).pc = .atTs)
    (hex : Excl (p.g.setThread t (countRec cfg p.g.now (p.g.threads t)))) :
    All cfg reqs ⟨p.g.setThread t (countRec cfg p.g.now (p.g.threads t)),
      p.s.set (p.g.threads t).req.key (hit cfg (p.s (p.g.threads t).req.key) p.g.now t),
      fun u => if u = t then some (verdict cfg (hit cfg (p.s (p.g.threads t).req.key) p.g.now t) p.g.now
        (p.g.threads t).req) else p.dec u⟩ := by
  have hnc : counted cfg (p.g.threads t) = false := counted_atTs hpc
  refine ha.crit_step hex (by simp [hpc])
    (fun k' h => state_set_ne _ _ h) (fun w0 h0 => ?mono) (fun u hu => if_neg hu) (by rw [if_pos rfl]; exact (ha.thr t).count hE t hpc)
    (fun h => absurd rfl h) ?mem ?rank
  case mono =>
    refine ⟨_, state_set_same _ _ _, ?_⟩
    rw [h0]; exact hit_some_wend_le cfg w0 p.g.now t
  case mem =>
    have hu3 := hit_wend cfg hE t ((ha.thr t).loc (.inl hpc))
    generalize hk : (p.g.threads t).req.key = k at *
    intro w' hw'
    simp only [state_set_same, Option.some.injEq] at hw'
    subst hw'
    obtain ⟨nd1, nd2, htc, htp, hoth⟩ := hit_members hE ha hnc k
    exact .setThread nd1 nd2 ⟨fun _ => ⟨counted_atSet rfl, hk, hu3.symm⟩, fun _ => htc⟩
      ⟨fun hin => absurd hin htp, fun ⟨_, _, _, h4⟩ => by dsimp only at h4; omega⟩ hoth
  case rank =>
    exact irank_count ha.rank fun k0 w0 h0 hin => by
      have := ((ha.mem k0 w0 h0).cur t).1 hin
      rw [hnc] at this; cases this.1

theorem all_back {cfg : Cfg} (hE : 1 ≤ cfg.expiration) {reqs : Tid → Req} {p : PS} {t : Tid} {s' : Spec.State}
    {th' : Thread} (ha : All cfg reqs p) (hpc : (p.g.threads t).pc = .atTs2)
    (hex : Excl (p.g.setThread t th'))
    (hreq : th'.req = (p.g.threads t).req) (hwexp : th'.wexp = (p.g.threads t).wexp)
    (hreset : th'.reset = (p.g.threads t).reset) (hpc' : th'.pc = .atSet2 ∨ th'.pc = .atUnlock2)
    (hs' : ∀ k', s' k' = if k' = (p.g.threads t).req.key then unhitOpt (p.s k') t else p.s k')
    (hstore : th'.pc = .atUnlock2 →
      RStore cfg (p.g.store (p.g.threads t).req.key) (unhitOpt (p.s (p.g.threads t).req.key) t) p.g.now)
    (hpend : th'.pc = .atSet2 → th'.e.exp ≠ 0 ∧ th'.e.exp + gap cfg ≤ p.g.now + th'.ttl ∧
      RItem cfg th'.e (unhitOpt (p.s (p.g.threads t).req.key) t) p.g.now) :
    All cfg reqs ⟨p.g.setThread t th', s', p.dec⟩ := by
  have hnc : counted cfg th' = false := counted_taken_back hpc'
  have hmem := ha.memOK (counted_atTs2 hpc)
  have hsk : s' (p.g.threads t).req.key = unhitOpt (p.s (p.g.threads t).req.key) t := by rw [hs']; simp
  refine ha.crit_step hex (by simp [hpc]) (fun k' h => by rw [hs']; simp [h]) (fun w0 h0 => ?mono) (fun _ _ => rfl)
    ((ha.thr t).back t hpc hreq hwexp hreset hpc' hsk hpend) (fun h1 h2 => ?store) ?mem
    (irank_back ha.rank hs' fun hns => ?sk)
  case mono => exact ⟨unhit w0 t, by rw [hsk, h0]; rfl, by simp⟩
  case store => rw [hsk]; exact hstore (hpc'.resolve_left h2)
  case sk =>
    have := (ha.thr t).sec (by simp [hpc])
    rw [skipCond_noSkip hns] at this; cases this
  case mem =>
    generalize hk : (p.g.threads t).req.key = k' at *
    intro w' hw'
    rw [hsk] at hw'
    cases hs0 : p.s k' with
    | none => simp [hs0] at hw'
    | some w0 =>
      simp only [hs0, unhitOpt_some, Option.some.injEq] at hw'
      subst hw'
      obtain ⟨n1, n2, m1, m2⟩ := ha.mem k' w0 hs0
      obtain ⟨d1, d2, htc, htp, hoth⟩ := unhit_members (t := t) n1 n2 (memOK_not_both hE hmem hs0)
      exact .setThread d1 d2 (by simp [hnc, htc]) (by simp [hnc, htp]) fun u h =>
        ⟨by rw [unhit_wend]; exact (hoth u h).1.trans (m1 u), by rw [unhit_wend]; exact (hoth u h).2.trans (m2 u)⟩

theorem all_step {cfg : Cfg} (hE : 1 ≤ cfg.expiration) {reqs : Tid → Req} {p p' : PS} {a : Act}
    (ha : All cfg reqs p) (h : PStep cfg p a p') : All cfg reqs p' := by
  have hex := h.excl ha.excl
  cases h with
  | tick d => exact all_tick d ha
  | gc => exact all_gc ha
  | quiet hst h1 h2 => exact all_quiet ha hex hst h1 h2
  | count hpc => exact all_count hE ha hpc hex
  | @backSome t _ _ _ hpc hu hs' =>
    have hm := ha.memOK (t := t) (counted_atTs2 hpc)
    exact all_back hE ha hpc hex rfl rfl rfl (.inl rfl) hs' (fun h => by simp at h) fun _ =>
      unhit_some_refines cfg hE ((ha.thr t).loc (.inr hpc)) ((ha.thr t).hit (by simp [hpc])).1 hm hu
  | @backNone t _ hpc hu hs' =>
    have hm := ha.memOK (t := t) (counted_atTs2 hpc)
    exact all_back hE ha hpc hex rfl rfl rfl (.inr rfl) hs'
      (fun _ => unhit_none_refines cfg ((ha.thr t).loc (.inr hpc))
        (ha.store _ (clean_of_crit (t := t) ha.excl (by simp [hpc]) (by simp [hpc]) _)) hm hu) (fun h => by simp at h)

theorem all_init (cfg : Cfg) (reqs : Tid → Req) (t0 : Nat) : All cfg reqs (pinit reqs t0) := by
  refine ⟨excl_init reqs t0, fun k _ => rstore_none.2 (sdead_none _ _),
    fun k w hw => by simp [pinit] at hw, fun k w hw => by simp [pinit] at hw, fun t => ?_⟩
  refine ⟨rfl, ?_, ?_, ?_, ?_, ?_, ?_, ?_⟩ <;> intro hp <;> simp [pinit, init] at hp

/-- what the `ran` flag of a request says about where it is, and who bypasses the limiter -/
def RanOK (th : Thread) : Prop :=
  (th.ran = true ↔ (th.pc = .doneOk ∨ th.pc = .doneBypass ∨ sec2 th.pc = true)) ∧
  ((th.pc = .atHandlerB ∨ th.pc = .doneBypass) → (th.req.next = true ∨ th.req.max = 0))

def IRan (g : G) : Prop := ∀ t, RanOK (g.threads t)

theorem iran_init (reqs : Tid → Req) (t0 : Nat) : IRan (init reqs t0) := by
  intro t; simp [init, RanOK]

theorem LStep.ranOK {cfg : Cfg} {now : Nat} {it : Item} {th th' : Thread} {eff : Eff}
    (hl : LStep cfg now it th th' eff) (h : RanOK th) : RanOK th' := by
  unfold RanOK at *
  cases hl <;> simp_all

theorem iran_step (cfg : Cfg) {g g' : G} {a : Act} (hi : IRan g) (hs : step cfg g a = some g') : IRan g' := by
  cases a with
  | tick d | gc => cases hs; exact hi
  | thr t =>
    have hst := (stepThr_iff cfg).1 hs
    obtain ⟨eff, hl, _⟩ := hst.lstep
    exact hst.forall_threads (Q := fun _ th => RanOK th) hi (hl.ranOK (hi t))

theorem iran_reach (cfg : Cfg) (reqs : Tid → Req) (t0 : Nat) {g : G} (h : (sys cfg).Reach (init reqs t0) g) : IRan g :=
  Conc.inv_reach (sys cfg) IRan (fun _ _ _ hi hs => iran_step cfg hi hs) (iran_init reqs t0) h

end C13
