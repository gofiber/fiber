import FiberModel.C13.Rank
/-
C13 — property theorems (only). All of them quantify over every configuration with
`expiration ≥ 1` (configDefault guarantees it), every assignment of requests to threads (unboundedly
many threads, any keys, any MaxFunc values, any handler statuses), and EVERY schedule: any
interleaving of the atomic steps of the threads with clock ticks of any length and backend garbage
collections (`(sys cfg).Reach` / `(psys cfg).Reach`; `psys` is `sys` run in lock-step with the
specification's abstract counters, `psys_run_g` shows the ghost part does not influence the model).
The weight function of the sliding window (`cfg.wt`; the code's is `codeWt`, see `Deep.lean`) is arbitrary.

The second half of the file (from `decision_counts_real_requests` on) states the property without
the ghost state: over reachable states of the model itself (`(sys cfg).Reach (init reqs t0) g`) and
the real sets of requests (`counted`, `wexp` = end of the window a request was counted in).
-/
namespace C13
open Conc Spec

/-- every run of the model is the projection of a run of the product (so theorems about reachable
product states are theorems about all schedules of the model) -/
theorem model_run_is_product_run (cfg : Cfg) (reqs : Tid → Req) (t0 : Nat) (as : List Act) :
    (sys cfg).run (init reqs t0) as = ((psys cfg).run (pinit reqs t0) as).g :=
  (psys_run_g cfg (pinit reqs t0) as).symm

/-- In every reachable state the mutex is held by exactly the thread
that is between `mux.Lock()` and `mux.Unlock()`; hence at most one thread is between `manager.get`
and `manager.set`. -/
theorem crit_section_exclusive (cfg : Cfg) (reqs : Tid → Req) (t0 : Nat) {g : G}
    (h : (sys cfg).Reach (init reqs t0) g) :
    (∀ t, crit (g.threads t).pc = true ↔ g.mux = some t) ∧
    (∀ t t', crit (g.threads t).pc = true → crit (g.threads t').pc = true → t = t') := by
  have hex := excl_reach cfg reqs t0 h
  exact ⟨hex, fun _ _ => hex.unique⟩

example : ∃ g, (sys ⟨false, false, 2, false, false, fun _ _ _ => 0⟩).Reach (init (fun _ => ⟨0, 1, 200, false⟩) 100) g ∧
    crit (g.threads 0).pc = true ∧ (g.threads 1).pc = .wantLock :=
  ⟨_, ⟨[.thr 0, .thr 0, .thr 1, .thr 1], rfl⟩, by decide +kernel, by decide +kernel⟩

/-- Whenever a request is counted (its thread reads the clock inside
the critical section), under any schedule: the `remaining` the handler computes is the request's own
MaxFunc limit minus the load of the abstract window after adding the request, the `Retry-After`
value is the time until that window ends (and is positive), the second of the clock read lies inside
that window (`wend − expiration ≤ now < wend`), and the request is now a member of the abstract window
of its key. -/
theorem decision_is_spec_decision (cfg : Cfg) (hE : 1 ≤ cfg.expiration) (reqs : Tid → Req) (t0 : Nat) {p : PS}
    (h : (psys cfg).Reach (pinit reqs t0) p) (t : Tid) (hpc : (p.g.threads t).pc = .atTs) :
    let w := hit cfg (p.s (reqs t).key) p.g.now t
    let e' := upd cfg (p.g.threads t).e p.g.now
    (reqs t).max - rate cfg e' p.g.now = (reqs t).max - load cfg w p.g.now ∧
    e'.exp - p.g.now = retryAfter w p.g.now ∧ p.g.now < w.wend ∧ w.wend ≤ p.g.now + cfg.expiration ∧
    t ∈ w.cur := by
  have hf := full_reach cfg hE reqs t0 h
  have hl := (hf.thr t).loc (.inl hpc)
  rw [(hf.thr t).req] at hl
  obtain ⟨hu1, hu2, hv⟩ := upd_refines cfg hE t hl
  have hu3 := hv.wend
  intro w e'
  exact ⟨congrArg _ (rate_eq_load hv hu1), by simp only [e', w, retryAfter, hu3], hu3 ▸ hu1, hu3 ▸ hu2, hit_mem ..⟩

/-- (`fixed_refines_counter` and `sliding_refines_spec` are its two instances.) In every reachable state, for every request: if it was rejected then the specification's
counter — run on the serialisation given by the order of the clock reads inside the critical
sections — rejected it: its load exceeded the limit MaxFunc returned for *this* request, and the
`Retry-After` it carries is the specification's; if it passed the limiter then the specification
admitted it: load ≤ its own limit. -/
theorem outcome_refines_spec (cfg : Cfg) (hE : 1 ≤ cfg.expiration) (reqs : Tid → Req) (t0 : Nat) {p : PS}
    (h : (psys cfg).Reach (pinit reqs t0) p) (t : Tid) :
    ((p.g.threads t).pc = .rejected →
      ∃ x, p.dec t = some x ∧ x.allow = false ∧ x.limit < x.load ∧ x.limit = (reqs t).max ∧
           (p.g.threads t).reset = x.retry) ∧
    (admittedPc (p.g.threads t).pc = true →
      ∃ x, p.dec t = some x ∧ x.allow = true ∧ x.load ≤ x.limit ∧ x.limit = (reqs t).max) := by
  have hf := (full_reach cfg hE reqs t0 h).thr t
  have hreq := hf.req
  constructor
  · intro hr
    obtain ⟨x, h1, hj⟩ := hf.dec (by simp [hr])
    have ha := hj.rej hr
    refine ⟨x, h1, ha, ?_, by rw [hj.limit, hreq], hj.retry.symm⟩
    exact Int.not_le.1 fun hle => by have := hj.allow_iff.2 hle; rw [ha] at this; cases this
  · intro hadm
    obtain ⟨x, h1, hj⟩ := hf.dec (hitDone_of_admitted hadm)
    exact ⟨x, h1, hj.adm hadm, hj.allow_iff.1 (hj.adm hadm), by rw [hj.limit, hreq]⟩

/-- `outcome_refines_spec` for the fixed window; the hypothesis only names the algorithm -/
theorem fixed_refines_counter (cfg : Cfg) (_hfix : cfg.sliding = false) (hE : 1 ≤ cfg.expiration) (reqs : Tid → Req)
    (t0 : Nat) {p : PS} (h : (psys cfg).Reach (pinit reqs t0) p) (t : Tid) :
    ((p.g.threads t).pc = .rejected →
      ∃ x, p.dec t = some x ∧ x.allow = false ∧ x.limit < x.load ∧ x.limit = (reqs t).max ∧
           (p.g.threads t).reset = x.retry) ∧
    (admittedPc (p.g.threads t).pc = true →
      ∃ x, p.dec t = some x ∧ x.allow = true ∧ x.load ≤ x.limit ∧ x.limit = (reqs t).max) :=
  outcome_refines_spec cfg hE reqs t0 h t

/-- `outcome_refines_spec` for the sliding window; the hypothesis only names the algorithm -/
theorem sliding_refines_spec (cfg : Cfg) (_hsl : cfg.sliding = true) (hE : 1 ≤ cfg.expiration) (reqs : Tid → Req)
    (t0 : Nat) {p : PS} (h : (psys cfg).Reach (pinit reqs t0) p) (t : Tid) :
    ((p.g.threads t).pc = .rejected →
      ∃ x, p.dec t = some x ∧ x.allow = false ∧ x.limit < x.load ∧ x.limit = (reqs t).max ∧
           (p.g.threads t).reset = x.retry) ∧
    (admittedPc (p.g.threads t).pc = true →
      ∃ x, p.dec t = some x ∧ x.allow = true ∧ x.load ≤ x.limit ∧ x.limit = (reqs t).max) :=
  outcome_refines_spec cfg hE reqs t0 h t

/-- A request is rejected only if, at its turn, the load of its
key's window (itself included) exceeded its limit. -/
theorem not_rejected_under_budget (cfg : Cfg) (hE : 1 ≤ cfg.expiration) (reqs : Tid → Req) (t0 : Nat) {p : PS}
    (h : (psys cfg).Reach (pinit reqs t0) p) (t : Tid) (hr : (p.g.threads t).pc = .rejected) :
    ∃ x, p.dec t = some x ∧ x.limit < x.load := by
  obtain ⟨x, h1, _, h3, _⟩ := (outcome_refines_spec cfg hE reqs t0 h t).1 hr
  exact ⟨x, h1, h3⟩

/-- The limit every decision was taken against is the value MaxFunc returned
for that very request (never `cfg.Max`, never another request's). -/
theorem limit_is_maxfunc (cfg : Cfg) (hE : 1 ≤ cfg.expiration) (reqs : Tid → Req) (t0 : Nat) {p : PS}
    (h : (psys cfg).Reach (pinit reqs t0) p) (t : Tid) (hd : hitDone (p.g.threads t).pc = true) :
    ∃ x, p.dec t = some x ∧ x.limit = (reqs t).max ∧ (x.allow = true ↔ x.load ≤ (reqs t).max) := by
  have hf := (full_reach cfg hE reqs t0 h).thr t
  obtain ⟨x, h1, hj⟩ := hf.dec hd
  have hreq := hf.req
  exact ⟨x, h1, by rw [hj.limit, hreq], by rw [← hreq, ← hj.limit]; exact hj.allow_iff⟩

/-- A rejected request's `Retry-After` is the specification's: the end of the
window it was counted in minus the second it was counted (see `decision_is_spec_decision` for the
formula at the moment of counting; it is positive). -/
theorem retry_after_exact (cfg : Cfg) (hE : 1 ≤ cfg.expiration) (reqs : Tid → Req) (t0 : Nat) {p : PS}
    (h : (psys cfg).Reach (pinit reqs t0) p) (t : Tid) (hr : (p.g.threads t).pc = .rejected) :
    ∃ x, p.dec t = some x ∧ (p.g.threads t).reset = x.retry := by
  obtain ⟨x, h1, _, _, _, h5⟩ := (outcome_refines_spec cfg hE reqs t0 h t).1 hr
  exact ⟨x, h1, h5⟩

/-- In every reachable state the abstract window of a key lists, without
repetition, exactly the requests of that key that were counted in the window ending at `wend` and
have not been taken back by a skip option (sliding: `prev` likewise for the window before). -/
theorem window_members (cfg : Cfg) (hE : 1 ≤ cfg.expiration) (reqs : Tid → Req) (t0 : Nat) {p : PS}
    (h : (psys cfg).Reach (pinit reqs t0) p) (k : Key) (w : Win) (hw : p.s k = some w) :
    w.cur.Nodup ∧ w.prev.Nodup ∧
    (∀ t, t ∈ w.cur ↔ (counted cfg (p.g.threads t) = true ∧ (reqs t).key = k ∧ (p.g.threads t).wexp = w.wend)) ∧
    (∀ t, t ∈ w.prev ↔ (cfg.sliding = true ∧ counted cfg (p.g.threads t) = true ∧ (reqs t).key = k ∧
                         (p.g.threads t).wexp + cfg.expiration = w.wend)) := by
  have hf := full_reach cfg hE reqs t0 h
  obtain ⟨n1, n2, m1, m2⟩ := hf.mem k w hw
  refine ⟨n1, n2, fun t => ?_, fun t => ?_⟩
  · rw [m1 t, (hf.thr t).req]
  · rw [m2 t, (hf.thr t).req]

/-- Fixed window, every schedule, every tick sequence: if no request's
limit exceeds `M`, then among the requests counted in a key's open window (admissions only ever go to
the open window, `decision_is_spec_decision`) at most `M` have passed the limiter and are still
counted — without skip options these are all requests of the window that reach the handler. -/
theorem fixed_admits_at_most_max (cfg : Cfg) (hfix : cfg.sliding = false) (hE : 1 ≤ cfg.expiration)
    (reqs : Tid → Req) (t0 : Nat) (M : Nat) (hM : ∀ t, (reqs t).max ≤ (M : Int)) {p : PS}
    (h : (psys cfg).Reach (pinit reqs t0) p) (k : Key) (w : Win) (hw : p.s k = some w) :
    (w.cur.filter fun t => admittedPc (p.g.threads t).pc).length ≤ M :=
  open_window_bound cfg (curLeLoad_fixed hfix) reqs M k (fun t _ => hM t) (full_reach cfg hE reqs t0 h) w hw

/-- dynamic MaxFunc: every admitted request of the open window,
together with the requests counted before it in that window and still counted, is within its own
limit. -/
theorem fixed_admitted_rank_le_limit (cfg : Cfg) (hfix : cfg.sliding = false) (hE : 1 ≤ cfg.expiration)
    (reqs : Tid → Req) (t0 : Nat) {p : PS} (h : (psys cfg).Reach (pinit reqs t0) p)
    (k : Key) (w : Win) (hw : p.s k = some w) (t : Tid) (rest : List Tid) (hsuf : (t :: rest) <:+ w.cur)
    (hadm : admittedPc (p.g.threads t).pc = true) : ((rest.length + 1 : Nat) : Int) ≤ (reqs t).max :=
  admitted_rank_le cfg (curLeLoad_fixed hfix) reqs (full_reach cfg hE reqs t0 h) hw hsuf hadm

/-- Sliding window, every schedule: a request passes the limiter only if
`wt(|prev|, window end − now, expiration) + |cur| ≤` its own limit, where `prev`/`cur` are the
requests counted (and not taken back) in the previous/current window of its key (`window_members`),
the request itself included in `cur`. -/
theorem sliding_weighted_le_max (cfg : Cfg) (hsl : cfg.sliding = true) (hE : 1 ≤ cfg.expiration)
    (reqs : Tid → Req) (t0 : Nat) {p : PS} (h : (psys cfg).Reach (pinit reqs t0) p) (t : Tid)
    (hpc : (p.g.threads t).pc = .atTs) :
    let w := hit cfg (p.s (reqs t).key) p.g.now t
    let e' := upd cfg (p.g.threads t).e p.g.now
    (0 ≤ (reqs t).max - rate cfg e' p.g.now ↔
      cfg.wt w.prev.length (w.wend - p.g.now) cfg.expiration + w.cur.length ≤ (reqs t).max) := by
  obtain ⟨h1, _⟩ := decision_is_spec_decision cfg hE reqs t0 h t hpc
  intro w e'
  rw [show (reqs t).max - rate cfg e' p.g.now = (reqs t).max - load cfg w p.g.now from h1]
  simp only [load, hsl, if_true]
  omega

/-- A step of a request with key `k` (any step, any state) leaves the backend
entry and the abstract window of every other key untouched, as well as every other request's
record and verdict; and (`decision_is_spec_decision`) a request's verdict is a function of its own
key's window only. -/
theorem keys_independent (cfg : Cfg) {p p' : PS} {t : Tid} (hs : pstep cfg p (.thr t) = some p') :
    (∀ k', k' ≠ (p.g.threads t).req.key → p'.g.store k' = p.g.store k' ∧ p'.s k' = p.s k') ∧
    (∀ t', t' ≠ t → p'.g.threads t' = p.g.threads t' ∧ p'.dec t' = p.dec t') := by
  have h := PStep.of_pstep hs
  exact ⟨fun k' hk => ⟨h.step.store_ne hk, h.s_other hk⟩,
    fun t' ht => ⟨h.step.other ht, h.dec_eq fun e => absurd e ht⟩⟩

section Examples

def exCfg : Cfg := ⟨false, false, 2, true, false, fun _ _ _ => 0⟩
def exReqs : Tid → Req := fun t => if t = 2 then ⟨0, 1, 500, false⟩ else ⟨0, 1, 200, false⟩
def runT (t n : Nat) : List Act := List.replicate n (.thr t)

/-- two requests, limit 1: the first is admitted, the second rejected with Retry-After 2 -/
example : let p := (psys exCfg).run (pinit exReqs 100) (runT 0 7 ++ runT 1 6)
    (p.g.threads 0).pc = .doneOk ∧ (p.g.threads 1).pc = .rejected ∧ (p.g.threads 1).reset = 2 := by decide +kernel

/-- interleaved at the mutex: thread 1 has to wait, is then rejected -/
example : let p := (psys exCfg).run (pinit exReqs 100) ([.thr 0, .thr 0, .thr 1, .thr 1, .thr 1] ++ runT 0 5 ++ runT 1 5)
    (p.g.threads 0).pc = .doneOk ∧ (p.g.threads 1).pc = .rejected := by decide +kernel

/-- a failing request (thread 2, SkipFailedRequests) is taken back: the next request is admitted;
after a tick past the window end everything starts again -/
example : let p := (psys exCfg).run (pinit exReqs 100) (runT 2 12 ++ runT 0 7 ++ [.tick 2] ++ runT 1 7)
    (p.g.threads 2).pc = .doneOk ∧ (p.g.threads 0).pc = .doneOk ∧ (p.g.threads 1).pc = .doneOk := by decide +kernel

/-- sliding window, expiration 4, limit 2, weight `⌊prev·reset/expiration⌋`: two requests in the window
ending at 104; at second 105 (3 s before the next window ends) the previous window weighs
`⌊2·3/4⌋ = 1`: the third request has rate 1 + 1 = 2 ≤ 2 and passes with `remaining = 0`, the fourth has
rate 1 + 2 = 3 > 2 and is rejected with `Retry-After: 3` -/
def exCfgS : Cfg := ⟨true, false, 4, false, false, fun p r e => p * (r : Int) / (e : Int)⟩

set_option maxRecDepth 8000 in
example : let p := (psys exCfgS).run (pinit (fun _ => ⟨0, 2, 200, false⟩) 100) (runT 0 7 ++ runT 1 7 ++ [.tick 5] ++ runT 2 7 ++ runT 3 6)
    (p.g.threads 2).pc = .doneOk ∧ (p.g.threads 2).remaining = 0 ∧
    (p.g.threads 3).pc = .rejected ∧ (p.g.threads 3).reset = 3 := by decide +kernel

end Examples

/-- both algorithms, every schedule, every backend variant: When a
request is about to leave its critical section (`atUnlock`: the item is written, the next step unlocks
and either answers 429 or calls the handler), the `remaining` it computed is the limit MaxFunc
returned for THIS request minus the number of real requests counted against its key:
`cur` = the requests of the same key counted in the same window (window end `wexp`) whose hit has not
been taken back by a skip option — the request itself included —, `prev` = those of the window before
(sliding only); fixed: `|cur|`, sliding: `wt(|prev|, resetInSec, expiration) + |cur|`. Requests of
other keys do not occur. `resetInSec` (the `Retry-After` / `X-RateLimit-Reset` value) lies in
`1 … expiration`, and the next step answers 429 exactly when `remaining < 0`. -/
theorem decision_counts_real_requests (cfg : Cfg) (hE : 1 ≤ cfg.expiration) (reqs : Tid → Req) (t0 : Nat) {g : G}
    (h : (sys cfg).Reach (init reqs t0) g) (t : Tid) (hpc : (g.threads t).pc = .atUnlock) :
    ∃ cur prev : List Tid, cur.Nodup ∧ prev.Nodup ∧ t ∈ cur ∧
      (∀ t', t' ∈ cur ↔ (counted cfg (g.threads t') = true ∧ (reqs t').key = (reqs t).key ∧
                          (g.threads t').wexp = (g.threads t).wexp)) ∧
      (∀ t', t' ∈ prev ↔ (cfg.sliding = true ∧ counted cfg (g.threads t') = true ∧ (reqs t').key = (reqs t).key ∧
                           (g.threads t').wexp + cfg.expiration = (g.threads t).wexp)) ∧
      (g.threads t).remaining = (reqs t).max -
        (if cfg.sliding then cfg.wt prev.length (g.threads t).reset cfg.expiration + cur.length else cur.length) ∧
      1 ≤ (g.threads t).reset ∧ (g.threads t).reset ≤ cfg.expiration ∧
      ∃ g', stepThr cfg g t = some g' ∧
        (g'.threads t).pc = (if (g.threads t).remaining < 0 then Pc.rejected else Pc.atHandler) := by
  obtain ⟨p, hp, rfl⟩ := reach_lift cfg reqs t0 h
  have ha := full_reach cfg hE reqs t0 hp
  obtain ⟨w, hw1, hw2, hw3⟩ := (ha.thr t).opn (.inr hpc)
  rw [(ha.thr t).req] at hw1 hw3
  obtain ⟨n1, n2, m1, m2⟩ := window_members cfg hE reqs t0 hp _ w hw1
  obtain ⟨r1, r2, _⟩ := (ha.thr t).rst (by simp [hpc])
  refine ⟨w.cur, w.prev, n1, n2, ?_, fun t' => ?_, fun t' => ?_, hw3, r1, r2, ?_⟩
  · exact (m1 t).2 ⟨counted_atUnlock hpc, rfl, hw2.symm⟩
  · rw [m1 t', hw2]
  · rw [m2 t', hw2]
  · simp [stepThr, hpc]

/-- fixed window, every schedule, every tick sequence, any
number of requests; open and closed windows alike: If no limit MaxFunc returns for a request of key
`k` exceeds `M` (other keys may have any limits), then in every reachable state, for every window
(identified by its end `W`), the requests of `k` counted in that window that have passed the limiter and whose hit has not been taken back by a skip
option are at most `M`: any duplicate-free list of such requests has length ≤ `M`. -/
theorem fixed_admits_at_most_max_per_window (cfg : Cfg) (hfix : cfg.sliding = false) (hE : 1 ≤ cfg.expiration)
    (reqs : Tid → Req) (t0 : Nat) (M : Nat) (k : Key) (hM : ∀ t, (reqs t).key = k → (reqs t).max ≤ (M : Int)) {g : G}
    (h : (sys cfg).Reach (init reqs t0) g) (W : Nat) (l : List Tid) (hnd : l.Nodup)
    (hl : ∀ t ∈ l, (reqs t).key = k ∧ (g.threads t).wexp = W ∧ admittedPc (g.threads t).pc = true ∧
                   counted cfg (g.threads t) = true) :
    l.length ≤ M := by
  obtain ⟨p, hp, rfl⟩ := reach_lift cfg reqs t0 h
  have hh := hist_reach cfg hE reqs t0 hp
  refine hh.bound (curLeLoad_fixed hfix) M k hM W l hnd (fun t ht => ?_)
  obtain ⟨h1, h2, h3, h4⟩ := hl t ht
  exact ⟨by rw [(hh.all.thr t).req]; exact h1, h2, h3, h4⟩

/-- fixed window without skip options: per key and window at most
`M` requests that went through the limiter have had the protected handler executed (`ran`). -/
theorem fixed_handler_runs_at_most_max (cfg : Cfg) (hfix : cfg.sliding = false) (hns : noSkip cfg)
    (hE : 1 ≤ cfg.expiration) (reqs : Tid → Req) (t0 : Nat) (M : Nat) (k : Key)
    (hM : ∀ t, (reqs t).key = k → (reqs t).max ≤ (M : Int)) {g : G}
    (h : (sys cfg).Reach (init reqs t0) g) (W : Nat) (l : List Tid) (hnd : l.Nodup)
    (hl : ∀ t ∈ l, (reqs t).key = k ∧ (g.threads t).wexp = W ∧ (g.threads t).ran = true ∧
                   (reqs t).next = false ∧ (reqs t).max ≠ 0) :
    l.length ≤ M := by
  refine fixed_admits_at_most_max_per_window cfg hfix hE reqs t0 M k hM h W l hnd (fun t ht => ?_)
  obtain ⟨h1, h2, h3, h4, h5⟩ := hl t ht
  obtain ⟨hr1, hr2⟩ := iran_reach cfg reqs t0 h t
  obtain ⟨p, hp, rfl⟩ := reach_lift cfg reqs t0 h
  have ha := full_reach cfg hE reqs t0 hp
  have hreq := (ha.thr t).req
  have hadm : admittedPc (p.g.threads t).pc = true := by
    rcases hr1.1 h3 with hb | hb | hb
    · simp [hb, admittedPc]
    · have := hr2 (.inr hb); rw [hreq] at this; simp [h4, h5] at this
    · revert hb; cases (p.g.threads t).pc <;> simp [admittedPc]
  exact ⟨h1, h2, hadm, counted_of_admitted hadm (skipCond_noSkip hns _) (ha.thr t).sec⟩

/-- In every reachable state: the protected handler has been executed for
every request answered through the limiter or around it (`doneOk`, `doneBypass`), it has not been
executed for a rejected request, and a request bypasses the limiter only if `Next` returned true or
MaxFunc returned 0 for it. -/
theorem handler_runs_iff_passed (cfg : Cfg) (reqs : Tid → Req) (t0 : Nat) {g : G}
    (h : (sys cfg).Reach (init reqs t0) g) (t : Tid) :
    (((g.threads t).pc = .doneOk ∨ (g.threads t).pc = .doneBypass) → (g.threads t).ran = true) ∧
    ((g.threads t).pc = .rejected → (g.threads t).ran = false) ∧
    ((g.threads t).pc = .doneBypass → ((g.threads t).req.next = true ∨ (g.threads t).req.max = 0)) := by
  obtain ⟨h1, h2⟩ := iran_reach cfg reqs t0 h t
  refine ⟨fun hp => h1.2 (by rcases hp with hp | hp <;> simp [hp]), fun hp => ?_, fun hp => h2 (.inr hp)⟩
  cases hr : (g.threads t).ran with
  | false => rfl
  | true => have := h1.1 hr; simp [hp] at this

/-- The `Retry-After` of a rejected request is between 1 and `expiration`
seconds (and the window it refers to ends at `wexp`, the clock read having happened at
`wexp − Retry-After`, see `decision_is_spec_decision`). -/
theorem retry_after_in_range (cfg : Cfg) (hE : 1 ≤ cfg.expiration) (reqs : Tid → Req) (t0 : Nat) {g : G}
    (h : (sys cfg).Reach (init reqs t0) g) (t : Tid) (hr : (g.threads t).pc = .rejected) :
    1 ≤ (g.threads t).reset ∧ (g.threads t).reset ≤ cfg.expiration ∧
      (g.threads t).reset ≤ (g.threads t).wexp := by
  obtain ⟨p, hp, rfl⟩ := reach_lift cfg reqs t0 h
  exact ((full_reach cfg hE reqs t0 hp).thr t).rst (by simp [hr])

/-- the request has been answered -/
def finalPc : Pc → Bool
  | .rejected | .doneOk | .doneBypass => true
  | _ => false

/-- In every reachable state in which some request is unanswered, a thread can move:
the holder of the mutex if it is taken (it is inside a critical section, all of whose steps are always
enabled), the unanswered request itself otherwise. -/
theorem no_deadlock (cfg : Cfg) (reqs : Tid → Req) (t0 : Nat) {g : G}
    (h : (sys cfg).Reach (init reqs t0) g) (t : Tid) (hlive : finalPc (g.threads t).pc = false) :
    ∃ t', (stepThr cfg g t').isSome = true ∧ (g.mux = some t' ∨ (g.mux = none ∧ t' = t)) := by
  have hex := excl_reach cfg reqs t0 h
  cases hm : g.mux with
  | some t' =>
    refine ⟨t', ?_, .inl rfl⟩
    have hc := (hex t').2 hm
    revert hc
    -- the branches of `stepThr`: inside a critical section none of them gives `none`
    fun_cases stepThr cfg g t' <;> intro hc <;> first | rfl | simp_all +zetaDelta [crit]
  | none =>
    refine ⟨t, ?_, .inr ⟨rfl, rfl⟩⟩
    revert hlive
    -- with the mutex free only an answered request has a branch that gives `none`
    fun_cases stepThr cfg g t <;> intro hlive <;> first | rfl | simp_all +zetaDelta [finalPc]

/-- fixed window, no skip options, key `k` has the constant
limit `M`: a request of `k` is answered 429 only if `M` OTHER requests of `k` counted in the very same
window have passed the limiter — the window's budget is really used up, not merely the counter. -/
theorem fixed_rejected_only_after_max_passed (cfg : Cfg) (hfix : cfg.sliding = false) (hns : noSkip cfg)
    (hE : 1 ≤ cfg.expiration) (reqs : Tid → Req) (t0 : Nat) (M : Nat) (k : Key)
    (hM : ∀ t, (reqs t).key = k → (reqs t).max = (M : Int)) {g : G}
    (h : (sys cfg).Reach (init reqs t0) g) (t : Tid) (hk : (reqs t).key = k) (hr : (g.threads t).pc = .rejected) :
    ∃ l : List Tid, l.Nodup ∧ l.length = M ∧ ∀ t' ∈ l, t' ≠ t ∧ (reqs t').key = k ∧
      (g.threads t').wexp = (g.threads t).wexp ∧ admittedPc (g.threads t').pc = true := by
  obtain ⟨p, hp, rfl⟩ := reach_lift cfg reqs t0 h
  have hh := hist_reach cfg hE reqs t0 hp
  obtain ⟨x, h1, hj⟩ := (hh.all.thr t).dec (by simp [hr])
  exact hh.rej hfix hns M k hM t hk (by simp [hr]) x h1 (hj.rej hr)

section Examples2

def exCfg2 : Cfg := ⟨false, false, 2, false, false, fun _ _ _ => 0⟩
def exReqs2 : Tid → Req := fun _ => ⟨0, 1, 200, false⟩

/-- `atUnlock` is reachable (hypothesis of `decision_counts_real_requests`) -/
example : (((sys exCfg2).run (init exReqs2 100) (runT 0 5)).threads 0).pc = .atUnlock := by decide +kernel

/-- two requests, limit 1: request 0 holds the one slot of the window ending at 102, request 1 is
rejected with Retry-After 2 (hypotheses of `fixed_admits_at_most_max_per_window`,
`fixed_handler_runs_at_most_max`, `retry_after_in_range`, `fixed_rejected_only_after_max_passed`) -/
example : let g := (sys exCfg2).run (init exReqs2 100) (runT 0 7 ++ runT 1 6)
    (g.threads 0).wexp = 102 ∧ admittedPc (g.threads 0).pc = true ∧ counted exCfg2 (g.threads 0) = true ∧
    (g.threads 0).ran = true ∧ (g.threads 1).pc = .rejected ∧ (g.threads 1).wexp = 102 ∧ (g.threads 1).reset = 2 := by
  decide +kernel

example : noSkip exCfg2 := ⟨rfl, rfl⟩
example : ∀ t, (exReqs2 t).key = 0 → (exReqs2 t).max = ((1 : Nat) : Int) := fun _ _ => rfl

/-- a bypassing request (MaxFunc returned 0) reaches the handler although the key's budget is used up -/
def exReqs3 : Tid → Req := fun t => if t = 2 then ⟨0, 0, 200, false⟩ else ⟨0, 1, 200, false⟩
example : let g := (sys exCfg2).run (init exReqs3 100) (runT 0 7 ++ runT 1 6 ++ runT 2 2)
    (g.threads 1).pc = .rejected ∧ (g.threads 2).pc = .doneBypass ∧ (g.threads 2).ran = true := by decide +kernel

/-- a state with an unanswered request and a taken mutex (hypothesis of `no_deadlock`) -/
example : let g := (sys exCfg2).run (init exReqs2 100) [.thr 0, .thr 0, .thr 1, .thr 1]
    finalPc (g.threads 1).pc = false ∧ g.mux = some 0 := by decide +kernel

end Examples2

end C13
