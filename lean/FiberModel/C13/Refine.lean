import FiberModel.C13.Spec
/-
C13 — the relation between a stored item and the abstract window of `Spec` (`RItem`, `RStore`), and the sequential
core of the refinement: `upd` (what the handler does to the item) against `Spec.hit`, `unhitItem` against
`Spec.unhit`. No threads, no interleaving: items, windows and lists only.
-/
namespace C13
open Conc Spec

/-- how long after its end a window still matters: the sliding limiter weighs it for one more window -/
def gap (cfg : Cfg) : Nat := if cfg.sliding then cfg.expiration else 0

/-- the abstract counter of a key is of no consequence any more at `now` -/
def SDead (cfg : Cfg) (sk : Option Win) (now : Nat) : Prop := ∀ w, sk = some w → w.wend + gap cfg ≤ now

/-- item and abstract window describe the same window -/
def Live (cfg : Cfg) (it : Item) (w : Win) (now : Nat) : Prop :=
  w.wend = it.exp ∧ it.curr = w.cur.length ∧ (now < it.exp → cfg.sliding = true → it.prev = w.prev.length)

def RItem (cfg : Cfg) (it : Item) (sk : Option Win) (now : Nat) : Prop :=
  (it.exp = 0 → it = Item.zero ∧ SDead cfg sk now) ∧
  (it.exp ≠ 0 → it.exp ≤ now + cfg.expiration ∧
    (now < it.exp + gap cfg → ∃ w, sk = some w ∧ Live cfg it w now) ∧
    (it.exp + gap cfg ≤ now → SDead cfg sk now))

/-- backend entry: kept at least until the window stops mattering -/
def RStore (cfg : Cfg) (v : Option (Item × Nat)) (sk : Option Win) (now : Nat) : Prop :=
  match v with
  | none => SDead cfg sk now
  | some (it, sexp) => it.exp ≠ 0 ∧ it.exp + gap cfg ≤ sexp ∧ RItem cfg it sk now

theorem gap_fixed {cfg : Cfg} (h : cfg.sliding = false) : gap cfg = 0 := by simp [gap, h]
theorem gap_sliding {cfg : Cfg} (h : cfg.sliding = true) : gap cfg = cfg.expiration := by simp [gap, h]

theorem gap_cases (cfg : Cfg) :
    (cfg.sliding = false ∧ gap cfg = 0) ∨ (cfg.sliding = true ∧ gap cfg = cfg.expiration) := by
  cases hs : cfg.sliding
  · exact .inl ⟨rfl, gap_fixed hs⟩
  · exact .inr ⟨rfl, gap_sliding hs⟩

theorem sdead_mono {cfg : Cfg} {sk : Option Win} {now now' : Nat} (h : SDead cfg sk now) (hn : now ≤ now') :
    SDead cfg sk now' := fun w hw => Nat.le_trans (h w hw) hn

theorem sdead_none (cfg : Cfg) (now : Nat) : SDead cfg none now := fun _ h => by cases h

namespace Live
variable {cfg : Cfg} {it : Item} {w : Win} {now : Nat}

theorem wend (h : Live cfg it w now) : w.wend = it.exp := h.1
theorem curr (h : Live cfg it w now) : it.curr = w.cur.length := h.2.1
theorem prev (h : Live cfg it w now) (hlt : now < it.exp) (hs : cfg.sliding = true) : it.prev = w.prev.length :=
  h.2.2 hlt hs

end Live

namespace RItem
variable {cfg : Cfg} {it : Item} {sk : Option Win} {now : Nat}

/-- a zeroed item (nothing stored, or the entry expired) stands for a window that has stopped mattering -/
theorem of_zero (h : RItem cfg it sk now) (h0 : it.exp = 0) : it = Item.zero ∧ SDead cfg sk now := h.1 h0

theorem bound (h : RItem cfg it sk now) (h0 : it.exp ≠ 0) : it.exp ≤ now + cfg.expiration := (h.2 h0).1

/-- while the item's window matters, the abstract window is that window -/
theorem live (h : RItem cfg it sk now) (h0 : it.exp ≠ 0) (hlt : now < it.exp + gap cfg) :
    ∃ w, sk = some w ∧ Live cfg it w now := (h.2 h0).2.1 hlt

theorem dead (h : RItem cfg it sk now) (he : it.exp + gap cfg ≤ now) : SDead cfg sk now := by
  by_cases h0 : it.exp = 0
  · exact (h.of_zero h0).2
  · exact (h.2 h0).2.2 he

theorem of_ne_zero (h0 : it.exp ≠ 0) (hb : it.exp ≤ now + cfg.expiration)
    (hl : now < it.exp + gap cfg → ∃ w, sk = some w ∧ Live cfg it w now)
    (hd : it.exp + gap cfg ≤ now → SDead cfg sk now) : RItem cfg it sk now :=
  ⟨fun hz => absurd hz h0, fun _ => ⟨hb, hl, hd⟩⟩

end RItem

theorem ritem_zero {cfg : Cfg} {sk : Option Win} {now : Nat} (h : SDead cfg sk now) : RItem cfg Item.zero sk now :=
  ⟨fun _ => ⟨rfl, h⟩, fun h => absurd rfl h⟩

theorem ritem_mono {cfg : Cfg} {it : Item} {sk : Option Win} {now now' : Nat}
    (h : RItem cfg it sk now) (hn : now ≤ now') : RItem cfg it sk now' := by
  by_cases h0 : it.exp = 0
  · exact ⟨fun _ => ⟨(h.of_zero h0).1, sdead_mono (h.of_zero h0).2 hn⟩, fun h1 => absurd h0 h1⟩
  refine .of_ne_zero h0 (Nat.le_trans (h.bound h0) (Nat.add_le_add_right hn _)) (fun hlt => ?_) (fun hge => ?_)
  · obtain ⟨w, hw, hv⟩ := h.live h0 (Nat.lt_of_le_of_lt hn hlt)
    exact ⟨w, hw, hv.wend, hv.curr, fun h1 => hv.prev (Nat.lt_of_le_of_lt hn h1)⟩
  · by_cases hlt : now < it.exp + gap cfg
    · obtain ⟨w, rfl, hv⟩ := h.live h0 hlt
      intro w' hw'
      cases hw'; exact hv.wend ▸ hge
    · exact sdead_mono (h.dead (Nat.le_of_not_lt hlt)) hn

theorem rstore_none {cfg : Cfg} {sk : Option Win} {now : Nat} : RStore cfg none sk now ↔ SDead cfg sk now := Iff.rfl

theorem rstore_some {cfg : Cfg} {it : Item} {sexp : Nat} {sk : Option Win} {now : Nat} :
    RStore cfg (some (it, sexp)) sk now ↔ it.exp ≠ 0 ∧ it.exp + gap cfg ≤ sexp ∧ RItem cfg it sk now := Iff.rfl

theorem rstore_expired {cfg : Cfg} {it : Item} {sexp : Nat} {sk : Option Win} {now : Nat}
    (h : RStore cfg (some (it, sexp)) sk now) (he : sexp ≤ now) : SDead cfg sk now :=
  h.2.2.dead (Nat.le_trans h.2.1 he)

theorem rstore_mono {cfg : Cfg} {v : Option (Item × Nat)} {sk : Option Win} {now now' : Nat}
    (h : RStore cfg v sk now) (hn : now ≤ now') : RStore cfg v sk now' := by
  match v, h with
  | none, h => exact sdead_mono h hn
  | some (_, _), h => exact ⟨h.1, h.2.1, ritem_mono h.2.2 hn⟩

theorem ritem_lookup {cfg : Cfg} {g : G} {k : Key} {sk : Option Win}
    (h : RStore cfg (g.store k) sk g.now) : RItem cfg (lookup cfg g k) sk g.now := by
  -- the branches of `lookup`: an entry the backend hides as expired, an entry it shows, no entry
  fun_cases lookup cfg g k
  case case1 hv hc => rw [hv] at h; simp [expired] at hc; exact ritem_zero (rstore_expired h hc.2.2)
  case case2 hv _ => rw [hv] at h; exact h.2.2
  case case3 hv => rw [hv] at h; exact ritem_zero h

theorem rstore_gc {cfg : Cfg} {g : G} {k : Key} {sk : Option Win}
    (h : RStore cfg (g.store k) sk g.now) : RStore cfg ((gcStore g).store k) sk g.now := by
  simp only [gcStore]
  -- the branches of `gcStore` at `k`: an expired entry (dropped), a live one, none
  split
  · next hv =>
    rw [hv] at h
    split
    · next hc => simp [expired] at hc; exact rstore_expired h hc.2
    · exact h
  · next hv => rw [hv] at h; exact h

theorem hit_live (cfg : Cfg) {w0 : Win} {ts : Nat} (t : Tid) (h : ts < w0.wend) :
    hit cfg (some w0) ts t = { w0 with cur := t :: w0.cur } := by
  cases hs : cfg.sliding <;> simp [hit, hitFixed, hitSliding, hs, h]

theorem hit_next (cfg : Cfg) (hs : cfg.sliding = true) {w0 : Win} {ts : Nat} (t : Tid) (h1 : w0.wend ≤ ts)
    (h2 : ts < w0.wend + cfg.expiration) : hit cfg (some w0) ts t = ⟨w0.wend + cfg.expiration, [t], w0.cur⟩ := by
  simp [hit, hitSliding, hs, Nat.not_lt.2 h1, h2]

theorem hit_dead (cfg : Cfg) {sk : Option Win} {ts : Nat} (t : Tid) (h : SDead cfg sk ts) :
    hit cfg sk ts t = ⟨ts + cfg.expiration, [t], []⟩ := by
  cases sk with
  | none => cases hs : cfg.sliding <;> simp [hit, hitFixed, hitSliding, hs]
  | some w0 =>
    have := h w0 rfl
    rcases gap_cases cfg with ⟨hs, hg⟩ | ⟨hs, hg⟩ <;> rw [hg] at this
    · have h1 : ¬ ts < w0.wend := Nat.not_lt.2 this
      simp [hit, hitFixed, hs, h1]
    · simp [hit, hitSliding, hs, Nat.not_lt.2 this, Nat.not_lt.2 (Nat.le_trans (Nat.le_add_right _ _) this)]

theorem upd_zero (cfg : Cfg) (ts : Nat) : upd cfg Item.zero ts = ⟨1, 0, ts + cfg.expiration⟩ := by
  cases hs : cfg.sliding <;> simp [upd, updFixed, updSliding, hs, Item.zero]

theorem upd_live (cfg : Cfg) {e : Item} {ts : Nat} (h0 : e.exp ≠ 0) (h : ts < e.exp) :
    upd cfg e ts = { e with curr := e.curr + 1 } := by
  cases hs : cfg.sliding <;> simp [upd, updFixed, updSliding, hs, h0, Nat.not_le.2 h]

theorem upd_next (cfg : Cfg) (hs : cfg.sliding = true) {e : Item} {ts : Nat} (h0 : e.exp ≠ 0) (h1 : e.exp ≤ ts)
    (h2 : ts < e.exp + cfg.expiration) : upd cfg e ts = ⟨1, e.curr, e.exp + cfg.expiration⟩ := by
  have h3 : ¬ cfg.expiration ≤ ts - e.exp := by omega
  simp [upd, updSliding, hs, h0, h1, h3]
  omega

theorem upd_dead (cfg : Cfg) {e : Item} {ts : Nat} (h0 : e.exp ≠ 0) (h : e.exp + gap cfg ≤ ts) :
    upd cfg e ts = ⟨1, if cfg.sliding then 0 else e.prev, ts + cfg.expiration⟩ := by
  rcases gap_cases cfg with ⟨hs, hg⟩ | ⟨hs, hg⟩ <;> rw [hg] at h
  · have h1 : e.exp ≤ ts := by omega
    simp [upd, updFixed, hs, h0, h1]
  · have h1 : e.exp ≤ ts := by omega
    have h2 : cfg.expiration ≤ ts - e.exp := by omega
    simp [upd, updSliding, hs, h0, h1, h2]

theorem hit_shape (cfg : Cfg) (sk : Option Win) (ts : Nat) (t : Tid) :
    (∃ w0, sk = some w0 ∧ hit cfg sk ts t = { w0 with cur := t :: w0.cur }) ∨
    (cfg.sliding = true ∧ ∃ w0, sk = some w0 ∧ hit cfg sk ts t = ⟨w0.wend + cfg.expiration, [t], w0.cur⟩) ∨
    (hit cfg sk ts t = ⟨ts + cfg.expiration, [t], []⟩ ∧ SDead cfg sk ts) := by
  by_cases hd : SDead cfg sk ts
  · exact .inr (.inr ⟨hit_dead cfg t hd, hd⟩)
  · cases sk with
    | none => exact absurd (sdead_none cfg ts) hd
    | some w0 =>
      have hlt : ts < w0.wend + gap cfg := Nat.lt_of_not_le fun h => hd fun w hw => by cases hw; exact h
      by_cases h1 : ts < w0.wend
      · exact .inl ⟨w0, rfl, hit_live cfg t h1⟩
      · rcases gap_cases cfg with ⟨hs, hg⟩ | ⟨hs, hg⟩ <;> rw [hg] at hlt
        · omega
        · exact .inr (.inl ⟨hs, w0, rfl, hit_next cfg hs t (by omega) hlt⟩)

theorem hit_cur (cfg : Cfg) (sk : Option Win) (ts : Nat) (t : Tid) :
    ∃ l, (hit cfg sk ts t).cur = t :: l ∧ (l = [] ∨ ∃ w0, sk = some w0 ∧ l = w0.cur) := by
  rcases hit_shape cfg sk ts t with ⟨w0, h0, hsh⟩ | ⟨_, w0, _, hsh⟩ | ⟨hsh, _⟩ <;> rw [hsh]
  · exact ⟨w0.cur, rfl, .inr ⟨w0, h0, rfl⟩⟩
  · exact ⟨[], rfl, .inl rfl⟩
  · exact ⟨[], rfl, .inl rfl⟩

theorem hit_mem (cfg : Cfg) (sk : Option Win) (ts : Nat) (t : Tid) : t ∈ (hit cfg sk ts t).cur := by
  obtain ⟨l, hl, _⟩ := hit_cur cfg sk ts t
  rw [hl]; exact List.mem_cons_self

theorem hit_some_wend_le (cfg : Cfg) (w0 : Win) (ts : Nat) (t : Tid) :
    w0.wend ≤ (hit cfg (some w0) ts t).wend := by
  rcases hit_shape cfg (some w0) ts t with ⟨w, hw, hsh⟩ | ⟨_, w, hw, hsh⟩ | ⟨hsh, hd⟩
  · cases hw; rw [hsh]; exact Nat.le_refl _
  · cases hw; rw [hsh]; exact Nat.le_add_right _ _
  · have := hd w0 rfl
    rw [hsh]; exact Nat.le_trans (Nat.le_add_right _ _) (Nat.le_trans this (Nat.le_add_right _ _))

/-- What the handler does to the item between `manager.get` and `manager.set` is what the
specification does to the abstract window. -/
theorem upd_refines (cfg : Cfg) (hE : 1 ≤ cfg.expiration) {e : Item} {sk : Option Win} {now : Nat} (t : Tid)
    (h : RItem cfg e sk now) :
    let e' := upd cfg e now
    now < e'.exp ∧ e'.exp ≤ now + cfg.expiration ∧ Live cfg e' (hit cfg sk now t) now := by
  intro e'
  by_cases h0 : e.exp = 0
  · -- fresh item: the abstract counter is dead, both sides start a new window
    obtain ⟨rfl, hd⟩ := h.of_zero h0
    simp only [e', upd_zero, hit_dead cfg t hd]
    simp [Live]; omega
  · by_cases hlive : now < e.exp
    · -- inside the current window: count one more
      obtain ⟨w0, rfl, hv⟩ := h.live h0 (Nat.lt_of_lt_of_le hlive (Nat.le_add_right _ _))
      have hwe := hv.wend
      simp only [e', upd_live cfg h0 hlive, hit_live cfg t (hwe ▸ hlive)]
      exact ⟨hlive, h.bound h0, hwe, by simp [hv.curr], fun _ => hv.prev hlive⟩
    · by_cases hgap : now < e.exp + gap cfg
      · -- sliding: the next window, the current one becomes the previous one
        obtain ⟨w0, rfl, hv⟩ := h.live h0 hgap
        have hwe := hv.wend
        rcases gap_cases cfg with ⟨hs, hg⟩ | ⟨hs, hg⟩ <;> rw [hg] at hgap
        · exact absurd hgap hlive
        · have hle := Nat.le_of_not_lt hlive
          simp only [e', upd_next cfg hs h0 hle hgap, hit_next cfg hs t (hwe ▸ hle) (hwe ▸ hgap)]
          simp [Live, hwe, hv.curr]; omega
      · -- the window has ended (sliding: a whole window ago): everything is forgotten
        have hge : e.exp + gap cfg ≤ now := Nat.le_of_not_lt hgap
        simp only [e', upd_dead cfg h0 hge, hit_dead cfg t (h.dead hge)]
        simp [Live]; exact ⟨by omega, fun _ hs => by simp [hs]⟩

theorem hit_wend (cfg : Cfg) (hE : 1 ≤ cfg.expiration) {e : Item} {sk : Option Win} {now : Nat} (t : Tid)
    (h : RItem cfg e sk now) : (hit cfg sk now t).wend = (upd cfg e now).exp :=
  (upd_refines cfg hE t h).2.2.wend

/-- what the abstract window knows about request `t`, counted in the window ending at `wexp` -/
def MemOK (cfg : Cfg) (sk : Option Win) (t : Tid) (wexp : Nat) : Prop :=
  ∀ w, sk = some w → (t ∈ w.cur ↔ wexp = w.wend) ∧
    (t ∈ w.prev ↔ (cfg.sliding = true ∧ wexp + cfg.expiration = w.wend))

def unhitOpt (sk : Option Win) (t : Tid) : Option Win := sk.map (fun w => unhit w t)

@[simp] theorem unhitOpt_none (t : Tid) : unhitOpt none t = none := rfl
@[simp] theorem unhitOpt_some (w : Win) (t : Tid) : unhitOpt (some w) t = some (unhit w t) := rfl

/-- a window lasts at least a second, so a request is not in both lists of one window -/
theorem memOK_not_both {cfg : Cfg} (hE : 1 ≤ cfg.expiration) {sk : Option Win} {t : Tid} {wexp : Nat} {w : Win}
    (hm : MemOK cfg sk t wexp) (hsk : sk = some w) : ¬ (t ∈ w.cur ∧ t ∈ w.prev) := by
  obtain ⟨hc, hp⟩ := hm w hsk
  intro ⟨a, b⟩
  have h1 : wexp = w.wend := hc.1 a
  have h2 : wexp + cfg.expiration = w.wend := (hp.1 b).2
  omega

@[simp] theorem unhit_wend (w : Win) (t : Tid) : (unhit w t).wend = w.wend := by
  unfold unhit; split <;> rfl

theorem sdead_unhit {cfg : Cfg} {sk : Option Win} {now : Nat} (t : Tid) (h : SDead cfg sk now) :
    SDead cfg (unhitOpt sk t) now := by
  intro w hw
  cases sk with
  | none => simp at hw
  | some w0 =>
    simp at hw
    subst hw
    simpa using h w0 rfl

theorem length_erase_int {l : List Tid} {t : Tid} (h : t ∈ l) : ((l.erase t).length : Int) = (l.length : Int) - 1 := by
  have h1 := List.length_erase_of_mem h
  have h2 := List.length_pos_of_mem h
  omega

theorem unhitItem_fixed {cfg : Cfg} (hs : cfg.sliding = false) (e : Item) (wexp ts : Nat) :
    unhitItem cfg e wexp ts =
      if e.exp = wexp then some ({ e with curr := e.curr - 1 }, cfg.expiration) else none := by
  simp [unhitItem, hs]

theorem unhitItem_sliding {cfg : Cfg} (hs : cfg.sliding = true) (e : Item) (wexp ts : Nat) :
    unhitItem cfg e wexp ts =
      if ts < e.exp + cfg.expiration then
        if e.exp = wexp then some ({ e with curr := e.curr - 1 }, e.exp + cfg.expiration - ts)
        else if e.exp = wexp + cfg.expiration then some ({ e with prev := e.prev - 1 }, e.exp + cfg.expiration - ts)
        else none
      else none := by
  simp [unhitItem, hs]

theorem unhit_cur_of_mem {w : Win} {t : Tid} (h : t ∈ w.cur) :
    (unhit w t).cur = w.cur.erase t ∧ (unhit w t).prev = w.prev := by
  unfold unhit; simp [h]

theorem unhit_prev_of_not_mem {w : Win} {t : Tid} (h : t ∉ w.cur) :
    (unhit w t).cur = w.cur ∧ (unhit w t).prev = w.prev.erase t := by
  unfold unhit; simp [h]

theorem unhit_cur_only {w : Win} {t : Tid} (h1 : t ∉ w.cur) : (unhit w t).cur = w.cur :=
  (unhit_prev_of_not_mem h1).1

theorem unhit_members {w0 : Win} {t : Tid} (n1 : w0.cur.Nodup) (n2 : w0.prev.Nodup)
    (hnot : ¬ (t ∈ w0.cur ∧ t ∈ w0.prev)) :
    (unhit w0 t).cur.Nodup ∧ (unhit w0 t).prev.Nodup ∧ t ∉ (unhit w0 t).cur ∧ t ∉ (unhit w0 t).prev ∧
    ∀ u, u ≠ t → (u ∈ (unhit w0 t).cur ↔ u ∈ w0.cur) ∧ (u ∈ (unhit w0 t).prev ↔ u ∈ w0.prev) := by
  by_cases hin : t ∈ w0.cur
  · obtain ⟨e1, e2⟩ := unhit_cur_of_mem hin
    rw [e1, e2]
    exact ⟨n1.erase t, n2, fun h => (n1.mem_erase_iff.1 h).1 rfl, fun h => hnot ⟨hin, h⟩,
      fun u hu => ⟨List.mem_erase_of_ne hu, Iff.rfl⟩⟩
  · obtain ⟨e1, e2⟩ := unhit_prev_of_not_mem hin
    rw [e1, e2]
    exact ⟨n1, n2.erase t, hin, fun h => (n2.mem_erase_iff.1 h).1 rfl,
      fun u hu => ⟨Iff.rfl, List.mem_erase_of_ne hu⟩⟩

theorem unhitItem_some {cfg : Cfg} {e e' : Item} {wexp ts ttl : Nat} (hu : unhitItem cfg e wexp ts = some (e', ttl)) :
    e'.exp = e.exp ∧ (e.exp ≤ ts + cfg.expiration → e.exp + gap cfg ≤ ts + ttl) ∧
    ((e.exp = wexp ∧ e'.curr = e.curr - 1 ∧ e'.prev = e.prev) ∨
     (cfg.sliding = true ∧ e.exp = wexp + cfg.expiration ∧ e'.curr = e.curr ∧ e'.prev = e.prev - 1)) := by
  revert hu
  -- the branches of `unhitItem`: sliding (counted in the current window, the previous one, neither, too late), fixed (current, not)
  fun_cases unhitItem cfg e wexp ts <;> intro hu <;> cases hu
  case case1 hs _ he => exact ⟨rfl, fun _ => by rw [gap_sliding hs]; omega, .inl ⟨he, rfl, rfl⟩⟩
  case case2 hs _ _ he => exact ⟨rfl, fun _ => by rw [gap_sliding hs]; omega, .inr ⟨hs, he, rfl, rfl⟩⟩
  case case5 hs he => exact ⟨rfl, by simp [gap, hs], .inl ⟨he, rfl, rfl⟩⟩

theorem unhitItem_none {cfg : Cfg} {e : Item} {wexp ts : Nat} (hu : unhitItem cfg e wexp ts = none)
    (hlt : ts < e.exp + gap cfg) : e.exp ≠ wexp ∧ (cfg.sliding = true → e.exp ≠ wexp + cfg.expiration) := by
  revert hu
  -- the branches of `unhitItem` that give `none`: sliding and counted in neither window (3), sliding and too late (4), fixed and
  -- not the current window (6)
  fun_cases unhitItem cfg e wexp ts <;> intro hu <;> cases hu
  case case3 h1 h2 => exact ⟨h1, fun _ => h2⟩
  case case4 hs h => exact absurd (gap_sliding hs ▸ hlt) h
  case case6 hs h => exact ⟨h, fun h' => absurd h' hs⟩

/-- the converse reading of `RItem`: a window that still matters is the item's window -/
theorem ritem_live {cfg : Cfg} {e : Item} {w0 : Win} {now : Nat} (h : RItem cfg e (some w0) now)
    (hlt : now < w0.wend + gap cfg) : Live cfg e w0 now := by
  have hnd : ¬ SDead cfg (some w0) now := fun hd => Nat.not_le.2 hlt (hd w0 rfl)
  by_cases h0 : e.exp = 0
  · exact absurd (h.of_zero h0).2 hnd
  · by_cases hx : now < e.exp + gap cfg
    · obtain ⟨w, hw, hv⟩ := h.live h0 hx
      cases hw; exact hv
    · exact absurd (h.dead (Nat.le_of_not_lt hx)) hnd

theorem ritem_unhit {cfg : Cfg} {e e' : Item} {sk : Option Win} {now : Nat} (t : Tid) (h : RItem cfg e sk now)
    (he : e'.exp = e.exp) (h0 : e.exp ≠ 0)
    (hlive : ∀ w0, sk = some w0 → now < e.exp + gap cfg → Live cfg e w0 now → Live cfg e' (unhit w0 t) now) :
    RItem cfg e' (unhitOpt sk t) now := by
  refine .of_ne_zero (he ▸ h0) (he ▸ h.bound h0) (fun hlt => ?_) (fun hge => sdead_unhit t (h.dead (he ▸ hge)))
  obtain ⟨w0, rfl, hw⟩ := h.live h0 (he ▸ hlt)
  exact ⟨unhit w0 t, rfl, hlive w0 rfl (he ▸ hlt) hw⟩

/-- The skip branch writes back an item that describes the abstract window after `Spec.unhit`. -/
theorem unhit_some_refines (cfg : Cfg) (hE : 1 ≤ cfg.expiration) {e e' : Item} {sk : Option Win} {now wexp ttl : Nat}
    {t : Tid} (h : RItem cfg e sk now) (hw0 : wexp ≠ 0) (hm : MemOK cfg sk t wexp)
    (hu : unhitItem cfg e wexp now = some (e', ttl)) :
    e'.exp ≠ 0 ∧ e'.exp + gap cfg ≤ now + ttl ∧ RItem cfg e' (unhitOpt sk t) now := by
  obtain ⟨he1, httl, hcase⟩ := unhitItem_some hu
  have he0 : e.exp ≠ 0 := by rcases hcase with ⟨h1, _⟩ | ⟨_, h1, _⟩ <;> omega
  refine ⟨he1 ▸ he0, he1 ▸ httl (h.bound he0), ritem_unhit t h he1 he0 fun w0 hsk _ hv => ?_⟩
  have hwe := hv.wend
  have hc := hv.curr
  have hp := hv.prev
  obtain ⟨hmc, hmp⟩ := hm w0 hsk
  rcases hcase with ⟨h1, h2, h3⟩ | ⟨hs, h1, h2, h3⟩
  · -- counted in the current window
    have hin : t ∈ w0.cur := hmc.2 (h1.symm.trans hwe.symm)
    obtain ⟨hc1, hc2⟩ := unhit_cur_of_mem hin
    exact ⟨by rw [unhit_wend, hwe, he1], by rw [h2, hc1, length_erase_int hin, hc],
      fun a b => by rw [h3, hc2]; exact hp (he1 ▸ a) b⟩
  · -- counted in the previous window
    have hin : t ∈ w0.prev := hmp.2 ⟨hs, h1.symm.trans hwe.symm⟩
    have hnc : t ∉ w0.cur := fun hc' => memOK_not_both hE hm hsk ⟨hc', hin⟩
    obtain ⟨hc1, hc2⟩ := unhit_prev_of_not_mem hnc
    exact ⟨by rw [unhit_wend, hwe, he1], by rw [h2, hc1, hc],
      fun a b => by rw [h3, hc2, length_erase_int hin, hp (he1 ▸ a) b]⟩

/-- When the skip branch finds nothing to take back, the abstract window (restricted to what still
matters) does not change either. -/
theorem unhit_none_refines (cfg : Cfg) {e : Item} {v : Option (Item × Nat)} {sk : Option Win}
    {now wexp : Nat} {t : Tid} (h : RItem cfg e sk now) (hv : RStore cfg v sk now)
    (hm : MemOK cfg sk t wexp) (hu : unhitItem cfg e wexp now = none) :
    RStore cfg v (unhitOpt sk t) now := by
  match v, hv with
  | none, hv => exact sdead_unhit t hv
  | some (it, sexp), hv =>
    obtain ⟨hi0, hsx, hri⟩ := rstore_some.1 hv
    refine rstore_some.2 ⟨hi0, hsx, ritem_unhit t hri rfl hi0 fun w0 hsk hlt hl => ?_⟩
    have hwe := hl.wend
    have hc := hl.curr
    have hp := hl.prev
    subst hsk
    obtain ⟨hmc, hmp⟩ := hm w0 rfl
    -- `e` describes the same live window, so `t` is in neither list that matters
    have hee : w0.wend = e.exp := (ritem_live h (hwe ▸ hlt)).wend
    obtain ⟨hn1, hn2⟩ := unhitItem_none hu (hee ▸ hwe ▸ hlt)
    have hnc : t ∉ w0.cur := fun hc' => hn1 (hee.symm.trans (hmc.1 hc').symm)
    obtain ⟨hc1, hc2⟩ := unhit_prev_of_not_mem hnc
    refine ⟨by rw [unhit_wend, hwe], by rw [hc1, hc], fun a hs => ?_⟩
    have hnp : t ∉ w0.prev := fun hp' => hn2 hs (hee.symm.trans (hmp.1 hp').2.symm)
    rw [hc2, List.erase_of_not_mem hnp]; exact hp a hs

end C13
