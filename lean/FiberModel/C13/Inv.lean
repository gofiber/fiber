import FiberModel.C13.Lemmas
import FiberModel.C13.Refine
/-
C13 — the product system: the model run in lock-step with the abstract window counters of `Spec` (ghost state), its
two bridges to the model (`psys_run_g`, `reach_lift`), and what one action does to it (`PStep`). Then where a request
is (`hitDone`, `sec2`, `counted`), the refinement invariant `Inv`, and what a request's own step keeps (flow lemmas on
`LStep`; `LStep.req` and `LStep.crit` stand with `Step` in Lemmas.lean, those about `admittedPc` in Decide.lean,
`LStep.ranOK` with `RanOK` in More.lean).
-/
namespace C13
open Conc Spec

structure PS where
  g : G
  s : Spec.State                     -- ghost: the abstract counters
  dec : Tid → Option Spec.Expect     -- ghost: what the specification decided for each request

/-- ghost update: a request is counted the moment the handler reads the clock inside its first
critical section (`atTs`), and taken back when the skip branch decides (`atTs2`) -/
def ghost (cfg : Cfg) (p : PS) : Act → Spec.State × (Tid → Option Spec.Expect)
  | .thr t =>
    let th := p.g.threads t
    match th.pc with
    | .atTs =>
      let w := Spec.hit cfg (p.s th.req.key) p.g.now t
      (p.s.set th.req.key w,
       fun t' => if t' = t then some { allow := admits cfg w p.g.now th.req.max, retry := retryAfter w p.g.now,
                                       limit := th.req.max, load := load cfg w p.g.now } else p.dec t')
    | .atTs2 =>
      match p.s th.req.key with
      | some w => (p.s.set th.req.key (Spec.unhit w t), p.dec)
      | none => (p.s, p.dec)
    | _ => (p.s, p.dec)
  | _ => (p.s, p.dec)

def pstep (cfg : Cfg) (p : PS) (a : Act) : Option PS :=
  match step cfg p.g a with
  | some g' => some ⟨g', (ghost cfg p a).1, (ghost cfg p a).2⟩
  | none => none

def psys (cfg : Cfg) : System PS Act := ⟨pstep cfg⟩

def pinit (reqs : Tid → Req) (t0 : Nat) : PS := ⟨init reqs t0, fun _ => none, fun _ => none⟩

/-- the ghost state does not influence the model: projecting a run of the product gives the run of
the model -/
theorem psys_run_g (cfg : Cfg) (p : PS) (as : List Act) :
    ((psys cfg).run p as).g = (sys cfg).run p.g as := by
  induction as generalizing p with
  | nil => rfl
  | cons a as ih =>
    simp only [run_cons]
    rw [ih]
    congr 1
    simp only [System.next, psys, sys, pstep]
    cases step cfg p.g a <;> rfl

theorem reach_lift (cfg : Cfg) (reqs : Tid → Req) (t0 : Nat) {g : G} (h : (sys cfg).Reach (init reqs t0) g) :
    ∃ p, (psys cfg).Reach (pinit reqs t0) p ∧ p.g = g := by
  obtain ⟨as, rfl⟩ := h
  exact ⟨(psys cfg).run (pinit reqs t0) as, ⟨as, rfl⟩, psys_run_g cfg (pinit reqs t0) as⟩

@[simp] theorem state_set_same (s : Spec.State) (k : Key) (w : Win) : (s.set k w) k = some w := by simp [State.set]
theorem state_set_ne (s : Spec.State) {k k' : Key} (w : Win) (h : k' ≠ k) : (s.set k w) k' = s k' := by simp [State.set, h]

theorem pstep_eq_some {cfg : Cfg} {p p' : PS} {a : Act} (h : pstep cfg p a = some p') :
    ∃ g', step cfg p.g a = some g' ∧ p' = ⟨g', (ghost cfg p a).1, (ghost cfg p a).2⟩ := by
  revert h
  fun_cases pstep cfg p a <;> intro h <;> cases h
  exact ⟨_, ‹_›, rfl⟩

theorem ghost_other {cfg : Cfg} {p : PS} {t : Tid} (h1 : (p.g.threads t).pc ≠ .atTs) (h2 : (p.g.threads t).pc ≠ .atTs2) :
    ghost cfg p (.thr t) = (p.s, p.dec) := by
  unfold ghost
  split <;> simp_all

theorem ghost_ts2 {cfg : Cfg} {p : PS} {t : Tid} (h : (p.g.threads t).pc = .atTs2) :
    (∀ k, (ghost cfg p (.thr t)).1 k =
      if k = (p.g.threads t).req.key then unhitOpt (p.s k) t else p.s k) ∧
    (ghost cfg p (.thr t)).2 = p.dec := by
  simp only [ghost, h]
  cases hk : p.s (p.g.threads t).req.key <;> refine ⟨fun k => ?_, rfl⟩ <;>
    by_cases hkk : k = (p.g.threads t).req.key <;> simp [hkk, hk, State.set]

/-- the specification's verdict on request `r`, counted at `now` into the window `w` -/
abbrev verdict (cfg : Cfg) (w : Win) (now : Nat) (r : Req) : Spec.Expect :=
  { allow := admits cfg w now r.max, retry := retryAfter w now, limit := r.max, load := load cfg w now }

/-- What one action does to the product: the clock, the collector, the count (`atTs`), the take-back decision
(`atTs2`, which finds something to take back or not), and every other step of a request, which leaves the ghost
state alone. -/
inductive PStep (cfg : Cfg) (p : PS) : Act → PS → Prop
  | tick (d : Nat) : PStep cfg p (.tick d) ⟨{ p.g with now := p.g.now + d }, p.s, p.dec⟩
  | gc : PStep cfg p .gc ⟨gcStore p.g, p.s, p.dec⟩
  | quiet {t : Tid} {g' : G} (hst : Step cfg p.g t g') (h1 : (p.g.threads t).pc ≠ .atTs)
      (h2 : (p.g.threads t).pc ≠ .atTs2) : PStep cfg p (.thr t) ⟨g', p.s, p.dec⟩
  | count {t : Tid} (hpc : (p.g.threads t).pc = .atTs) :
      PStep cfg p (.thr t) ⟨p.g.setThread t (countRec cfg p.g.now (p.g.threads t)),
        p.s.set (p.g.threads t).req.key (hit cfg (p.s (p.g.threads t).req.key) p.g.now t),
        fun u => if u = t then some (verdict cfg (hit cfg (p.s (p.g.threads t).req.key) p.g.now t) p.g.now
          (p.g.threads t).req) else p.dec u⟩
  | backSome {t : Tid} {e' : Item} {ttl : Nat} {s' : Spec.State} (hpc : (p.g.threads t).pc = .atTs2)
      (hu : unhitItem cfg (p.g.threads t).e (p.g.threads t).wexp p.g.now = some (e', ttl))
      (hs' : ∀ k, s' k = if k = (p.g.threads t).req.key then unhitOpt (p.s k) t else p.s k) :
      PStep cfg p (.thr t) ⟨p.g.setThread t { p.g.threads t with
        pc := .atSet2, e := e', ttl := ttl, remaining := (p.g.threads t).remaining + 1 }, s', p.dec⟩
  | backNone {t : Tid} {s' : Spec.State} (hpc : (p.g.threads t).pc = .atTs2)
      (hu : unhitItem cfg (p.g.threads t).e (p.g.threads t).wexp p.g.now = none)
      (hs' : ∀ k, s' k = if k = (p.g.threads t).req.key then unhitOpt (p.s k) t else p.s k) :
      PStep cfg p (.thr t) ⟨p.g.setThread t { p.g.threads t with pc := .atUnlock2 }, s', p.dec⟩

namespace PStep
variable {cfg : Cfg} {p p' : PS} {a : Act} {t : Tid}

theorem of_pstep (h : pstep cfg p a = some p') : PStep cfg p a p' := by
  obtain ⟨g', hraw, rfl⟩ := pstep_eq_some h
  cases a with
  | tick d => cases hraw; exact .tick d
  | gc => cases hraw; exact .gc
  | thr t =>
    by_cases hpc : (p.g.threads t).pc = .atTs
    · obtain rfl := Option.some.inj (hraw.symm.trans (stepThr_atTs cfg hpc))
      simp only [ghost, hpc]
      exact .count hpc
    · by_cases hpc2 : (p.g.threads t).pc = .atTs2
      · rw [(ghost_ts2 hpc2).2]
        cases hu : unhitItem cfg (p.g.threads t).e (p.g.threads t).wexp p.g.now with
        | some v =>
          obtain rfl := Option.some.inj (hraw.symm.trans (stepThr_atTs2_some cfg hpc2 hu))
          exact .backSome hpc2 hu (ghost_ts2 hpc2).1
        | none =>
          obtain rfl := Option.some.inj (hraw.symm.trans (stepThr_atTs2_none cfg hpc2 hu))
          exact .backNone hpc2 hu (ghost_ts2 hpc2).1
      · rw [ghost_other hpc hpc2]
        exact .quiet ((stepThr_iff cfg).1 hraw) hpc hpc2

theorem step (h : PStep cfg p (.thr t) p') : Step cfg p.g t p'.g := by
  cases h with
  | quiet hst => exact hst
  | count hpc => exact (stepThr_iff cfg).1 (stepThr_atTs cfg hpc)
  | backSome hpc hu => exact (stepThr_iff cfg).1 (stepThr_atTs2_some cfg hpc hu)
  | backNone hpc hu => exact (stepThr_iff cfg).1 (stepThr_atTs2_none cfg hpc hu)

theorem s_other (h : PStep cfg p (.thr t) p') {k' : Key} (hk : k' ≠ (p.g.threads t).req.key) : p'.s k' = p.s k' := by
  cases h with
  | quiet => rfl
  | count => exact state_set_ne _ _ hk
  | backSome _ _ hs' => exact (hs' k').trans (if_neg hk)
  | backNone _ _ hs' => exact (hs' k').trans (if_neg hk)

theorem dec_eq (h : PStep cfg p (.thr t) p') {u : Tid} (hu : u = t → (p.g.threads t).pc ≠ .atTs) :
    p'.dec u = p.dec u := by
  cases h with
  | count hpc => exact if_neg fun e => hu e hpc
  | quiet | backSome | backNone => rfl

theorem s_eq (h : PStep cfg p (.thr t) p') (h1 : (p.g.threads t).pc ≠ .atTs) (h2 : (p.g.threads t).pc ≠ .atTs2) :
    p'.s = p.s := by
  cases h with
  | quiet => rfl
  | count hpc => exact absurd hpc h1
  | backSome hpc | backNone hpc => exact absurd hpc h2

theorem excl (h : PStep cfg p a p') (hex : Excl p.g) : Excl p'.g := by
  cases a with
  | tick d | gc => cases h; exact hex
  | thr t => exact h.step.excl hex

end PStep

/-- the request has been counted (its first critical section passed the clock read) -/
def hitDone : Pc → Bool
  | .idle => false
  | .wantLock => false
  | .atGet => false
  | .atTs => false
  | .atSet => true
  | .atUnlock => true
  | .atHandler => true
  | .atHandlerB => false
  | .wantLock2 => true
  | .atGet2 => true
  | .atTs2 => true
  | .atSet2 => true
  | .atUnlock2 => true
  | .rejected => true
  | .doneOk => true
  | .doneBypass => false

@[simp] theorem hitDone_idle : hitDone .idle = false := rfl
@[simp] theorem hitDone_wantLock : hitDone .wantLock = false := rfl
@[simp] theorem hitDone_atGet : hitDone .atGet = false := rfl
@[simp] theorem hitDone_atTs : hitDone .atTs = false := rfl
@[simp] theorem hitDone_atSet : hitDone .atSet = true := rfl
@[simp] theorem hitDone_atUnlock : hitDone .atUnlock = true := rfl
@[simp] theorem hitDone_atHandler : hitDone .atHandler = true := rfl
@[simp] theorem hitDone_atHandlerB : hitDone .atHandlerB = false := rfl
@[simp] theorem hitDone_wantLock2 : hitDone .wantLock2 = true := rfl
@[simp] theorem hitDone_atGet2 : hitDone .atGet2 = true := rfl
@[simp] theorem hitDone_atTs2 : hitDone .atTs2 = true := rfl
@[simp] theorem hitDone_atSet2 : hitDone .atSet2 = true := rfl
@[simp] theorem hitDone_atUnlock2 : hitDone .atUnlock2 = true := rfl
@[simp] theorem hitDone_rejected : hitDone .rejected = true := rfl
@[simp] theorem hitDone_doneOk : hitDone .doneOk = true := rfl
@[simp] theorem hitDone_doneBypass : hitDone .doneBypass = false := rfl

/-- the request is in the skip branch (second critical section) -/
def sec2 : Pc → Bool
  | .idle => false
  | .wantLock => false
  | .atGet => false
  | .atTs => false
  | .atSet => false
  | .atUnlock => false
  | .atHandler => false
  | .atHandlerB => false
  | .wantLock2 => true
  | .atGet2 => true
  | .atTs2 => true
  | .atSet2 => true
  | .atUnlock2 => true
  | .rejected => false
  | .doneOk => false
  | .doneBypass => false

@[simp] theorem sec2_idle : sec2 .idle = false := rfl
@[simp] theorem sec2_wantLock : sec2 .wantLock = false := rfl
@[simp] theorem sec2_atGet : sec2 .atGet = false := rfl
@[simp] theorem sec2_atTs : sec2 .atTs = false := rfl
@[simp] theorem sec2_atSet : sec2 .atSet = false := rfl
@[simp] theorem sec2_atUnlock : sec2 .atUnlock = false := rfl
@[simp] theorem sec2_atHandler : sec2 .atHandler = false := rfl
@[simp] theorem sec2_atHandlerB : sec2 .atHandlerB = false := rfl
@[simp] theorem sec2_wantLock2 : sec2 .wantLock2 = true := rfl
@[simp] theorem sec2_atGet2 : sec2 .atGet2 = true := rfl
@[simp] theorem sec2_atTs2 : sec2 .atTs2 = true := rfl
@[simp] theorem sec2_atSet2 : sec2 .atSet2 = true := rfl
@[simp] theorem sec2_atUnlock2 : sec2 .atUnlock2 = true := rfl
@[simp] theorem sec2_rejected : sec2 .rejected = false := rfl
@[simp] theorem sec2_doneOk : sec2 .doneOk = false := rfl
@[simp] theorem sec2_doneBypass : sec2 .doneBypass = false := rfl

/-- the request has been taken back (or the skip branch decided there was nothing to take back) -/
def unhitDone (cfg : Cfg) (th : Thread) : Bool :=
  match th.pc with
  | .atSet2 | .atUnlock2 => true
  | .doneOk => skipCond cfg th.req.status
  | _ => false

def counted (cfg : Cfg) (th : Thread) : Bool := hitDone th.pc && !unhitDone cfg th

section
variable {cfg : Cfg} {th : Thread}

theorem counted_hitDone (h : counted cfg th = true) : hitDone th.pc = true := by
  simp only [counted, Bool.and_eq_true] at h; exact h.1

theorem counted_atTs (h : th.pc = .atTs) : counted cfg th = false := by simp [counted, h]
theorem counted_atSet (h : th.pc = .atSet) : counted cfg th = true := by simp [counted, unhitDone, h]
theorem counted_atUnlock (h : th.pc = .atUnlock) : counted cfg th = true := by simp [counted, unhitDone, h]
theorem counted_atTs2 (h : th.pc = .atTs2) : counted cfg th = true := by simp [counted, unhitDone, h]
theorem counted_taken_back (h : th.pc = .atSet2 ∨ th.pc = .atUnlock2) : counted cfg th = false := by
  rcases h with h | h <;> simp [counted, unhitDone, h]

end

def IReq (reqs : Tid → Req) (p : PS) : Prop := ∀ t, (p.g.threads t).req = reqs t

/-- no thread is between computing an update and writing it for key `k` -/
def Clean (g : G) (k : Key) : Prop :=
  ∀ t, (g.threads t).req.key = k → (g.threads t).pc ≠ .atSet ∧ (g.threads t).pc ≠ .atSet2

/-- backend and abstract counters agree wherever no write is pending -/
def IStore (cfg : Cfg) (p : PS) : Prop :=
  ∀ k, Clean p.g k → RStore cfg (p.g.store k) (p.s k) p.g.now

/-- the item a thread holds between `get` and the decision agrees with the abstract counter -/
def ILocal (cfg : Cfg) (p : PS) : Prop :=
  ∀ t, ((p.g.threads t).pc = .atTs ∨ (p.g.threads t).pc = .atTs2) →
    RItem cfg (p.g.threads t).e (p.s (p.g.threads t).req.key) p.g.now

/-- a pending write agrees with the abstract counter and will be kept long enough -/
def IPending (cfg : Cfg) (p : PS) : Prop :=
  ∀ t, ((p.g.threads t).pc = .atSet ∨ (p.g.threads t).pc = .atSet2) →
    (p.g.threads t).e.exp ≠ 0 ∧ (p.g.threads t).e.exp + gap cfg ≤ p.g.now + (p.g.threads t).ttl ∧
    RItem cfg (p.g.threads t).e (p.s (p.g.threads t).req.key) p.g.now

/-- only requests whose status triggers a skip option enter the second critical section -/
def ISec2 (cfg : Cfg) (p : PS) : Prop :=
  ∀ t, sec2 (p.g.threads t).pc = true → skipCond cfg (p.g.threads t).req.status = true

/-- a counted request remembers a window end that is not later than its key's abstract window -/
def IHit (p : PS) : Prop :=
  ∀ t, hitDone (p.g.threads t).pc = true →
    (p.g.threads t).wexp ≠ 0 ∧ ∃ w, p.s (p.g.threads t).req.key = some w ∧ (p.g.threads t).wexp ≤ w.wend

/-- the abstract lists are exactly the counted requests of the window (and the one before) -/
def IMem (cfg : Cfg) (p : PS) : Prop :=
  ∀ k w, p.s k = some w → w.cur.Nodup ∧ w.prev.Nodup ∧
    (∀ t, t ∈ w.cur ↔ (counted cfg (p.g.threads t) = true ∧ (p.g.threads t).req.key = k ∧ (p.g.threads t).wexp = w.wend)) ∧
    (∀ t, t ∈ w.prev ↔ (cfg.sliding = true ∧ counted cfg (p.g.threads t) = true ∧ (p.g.threads t).req.key = k ∧
                         (p.g.threads t).wexp + cfg.expiration = w.wend))

structure Inv (cfg : Cfg) (reqs : Tid → Req) (p : PS) : Prop where
  excl : Excl p.g
  req : IReq reqs p
  store : IStore cfg p
  loc : ILocal cfg p
  pending : IPending cfg p
  sec : ISec2 cfg p
  hit : IHit p
  mem : IMem cfg p

namespace LStep
variable {cfg : Cfg} {now : Nat} {it : Item} {th th' : Thread} {eff : Eff}

theorem keeps (hl : LStep cfg now it th th' eff) (h1 : th.pc ≠ .atTs) :
    th'.wexp = th.wexp ∧ th'.reset = th.reset ∧ hitDone th'.pc = hitDone th.pc := by
  cases hl <;> first | contradiction | simp [*]

theorem not_pending (hl : LStep cfg now it th th' eff) (h1 : th.pc ≠ .atTs) (h2 : th.pc ≠ .atTs2) :
    ¬ (th'.pc = .atSet ∨ th'.pc = .atSet2) := by
  cases hl <;> first | contradiction | simp [*]

/-- the local item is replaced only by `manager.get` -/
theorem fetched (hl : LStep cfg now it th th' eff) (h : th'.pc = .atTs ∨ th'.pc = .atTs2) :
    th'.e = it ∧ (th.pc = .atGet ∨ th.pc = .atGet2) := by
  cases hl <;> simp_all

theorem writes (hl : LStep cfg now it th th' eff) : eff = .set ↔ (th.pc = .atSet ∨ th.pc = .atSet2) := by
  cases hl <;> simp [*]

theorem sec2_of (hl : LStep cfg now it th th' eff) (h : sec2 th'.pc = true) :
    sec2 th.pc = true ∨ skipCond cfg th.req.status = true := by
  cases hl <;> simp_all

theorem counted_eq (hl : LStep cfg now it th th' eff) (h1 : th.pc ≠ .atTs) (h2 : th.pc ≠ .atTs2)
    (hs : sec2 th.pc = true → skipCond cfg th.req.status = true) : counted cfg th' = counted cfg th := by
  cases hl <;> first | contradiction | simp_all [counted, unhitDone]

theorem uncounted (hl : LStep cfg now it th th' eff) (h : th.pc = .atTs2) : counted cfg th' = false := by
  cases hl <;> simp_all [counted, unhitDone]

end LStep

theorem not_crit_of_other {g : G} (hex : Excl g) {t t' : Tid} (hc : crit (g.threads t).pc = true) (hne : t' ≠ t) :
    crit (g.threads t').pc = false :=
  Bool.eq_false_iff.2 fun hc' => hne (hex.unique hc' hc)

/-- `Clean g k` reads of a record only whether a request of key `k` is about to write -/
theorem Clean.of_other {g g' : G} {k : Key} {t : Tid} (hc : Clean g' k) (hoth : ∀ u, u ≠ t → g'.threads u = g.threads u)
    (ht : (g.threads t).req.key = k → (g.threads t).pc ≠ .atSet ∧ (g.threads t).pc ≠ .atSet2) : Clean g k := by
  intro u hu
  by_cases h : u = t
  · subst h; exact ht hu
  · rw [← hoth u h] at hu ⊢; exact hc u hu

theorem clean_of_crit {g : G} (hex : Excl g) {t : Tid} (hc : crit (g.threads t).pc = true)
    (hne : (g.threads t).pc ≠ .atSet ∧ (g.threads t).pc ≠ .atSet2) (k : Key) : Clean g k := by
  intro t' _
  by_cases h : t' = t
  · subst h; exact hne
  · have := not_crit_of_other hex hc h
    constructor <;> intro hp <;> simp [hp] at this

end C13
