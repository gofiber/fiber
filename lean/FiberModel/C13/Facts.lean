import FiberModel.C13.Model
import FiberModel.Generated.C13Facts
/-
C13 — the model against the facts regenerated from /repo on every check run
(`translator/c13` → `FiberModel/Generated/C13Facts.lean`): the order of the shared-state accesses in
the two handler closures and every arithmetic / comparison expression a decision is made of. The
theorems below say that `Model.lean` computes exactly these expressions; if one of them changes in
/repo the regenerated definition changes, the proof below breaks, and the check goes looking for a
failing input.
-/
namespace C13
open Facts

/-- limiter_fixed.go performs its shared-state accesses in the order of the model's program points:
`idle` (MaxFunc, Next check → bypass handler | KeyGenerator), `wantLock`, `atGet`, `atTs` (clock, roll-over
reset of currHits, currHits++, remaining), `atSet`, `atUnlock`, then LimitReached | `atHandler`, and the skip
branch `wantLock2`, `atGet2`, `atTs2` (currHits--), `atSet2`, `atUnlock2`. -/
theorem fixed_order_is_model_order :
    Facts.fixedOrder =
      ["maxfunc", "nextcheck", "handler", "key", "lock", "get", "clock", "assign-currHits", "inc-currHits",
       "remaining", "set", "unlock", "reject", "handler", "lock", "get", "dec-currHits", "set", "unlock"] :=
  rfl

/-- limiter_sliding.go likewise (roll-over: prevHits := currHits, currHits := 0, idle gap: prevHits := 0;
skip branch: clock read, then currHits-- + set | prevHits-- + set). -/
theorem sliding_order_is_model_order :
    Facts.slidingOrder =
      ["maxfunc", "nextcheck", "handler", "key", "lock", "get", "clock", "assign-prevHits", "assign-currHits",
       "assign-prevHits", "inc-currHits", "remaining", "set", "unlock", "reject", "handler", "lock", "get",
       "clock", "dec-currHits", "set", "dec-prevHits", "set", "unlock"] :=
  rfl

theorem updFixed_is_code (cfg : Cfg) (e : Item) (ts : Nat) :
    updFixed cfg e ts =
      (let e1 : Item :=
        if e.exp = 0 then { e with exp := fixedFreshExp ts cfg.expiration }
        else if fixedRollCond ts e.exp = true then { e with curr := 0, exp := fixedRollExp ts cfg.expiration }
        else e
       { e1 with curr := e1.curr + 1 }) := by
  simp [updFixed, fixedFreshExp, fixedRollCond, fixedRollExp]

theorem updSliding_is_code (cfg : Cfg) (e : Item) (ts : Nat) :
    updSliding cfg e ts =
      (let e1 : Item :=
        if e.exp = 0 then { e with exp := slidingFreshExp ts cfg.expiration }
        else if slidingRollCond ts e.exp = true then
          if slidingGapCond (slidingElapsed ts e.exp) cfg.expiration = true then
            { curr := 0, prev := 0, exp := slidingGapExp ts cfg.expiration }
          else { curr := 0, prev := e.curr, exp := slidingAlignedExp ts cfg.expiration (slidingElapsed ts e.exp) }
        else e
       { e1 with curr := e1.curr + 1 }) := by
  simp [updSliding, slidingFreshExp, slidingRollCond, slidingGapCond, slidingElapsed, slidingGapExp, slidingAlignedExp]

theorem count_step_is_code (cfg : Cfg) (g : G) (t : Tid) (hpc : (g.threads t).pc = .atTs) :
    let th := g.threads t
    let e' := upd cfg th.e g.now
    stepThr cfg g t = some (g.setThread t { th with
      pc := .atSet, e := e', wexp := e'.exp,
      reset := if cfg.sliding then slidingReset e'.exp g.now else fixedReset e'.exp g.now,
      remaining := if cfg.sliding then slidingRemaining th.req.max (rate cfg e' g.now)
                   else fixedRemaining th.req.max e'.curr,
      ttl := if cfg.sliding then slidingTtl (slidingReset e'.exp g.now) cfg.expiration else fixedTtl cfg.expiration }) := by
  by_cases hs : cfg.sliding = true
  · simp [stepThr, hpc, hs, slidingReset, slidingRemaining, slidingTtl, ttl1]
  · have hs' : cfg.sliding = false := by simpa using hs
    simp [stepThr, hpc, hs', fixedReset, fixedRemaining, fixedTtl, ttl1, rate]

/-- the unlock step answers 429 exactly when the code's reject test holds (same test in both files) -/
theorem unlock_step_is_code (cfg : Cfg) (g : G) (t : Tid) (hpc : (g.threads t).pc = .atUnlock) :
    (∀ r : Int, fixedRejectCond r = slidingRejectCond r) ∧
    stepThr cfg g t = some ({ g with mux := none }.setThread t { g.threads t with
      pc := if fixedRejectCond (g.threads t).remaining = true then .rejected else .atHandler }) := by
  refine ⟨fun r => rfl, ?_⟩
  simp [stepThr, hpc, fixedRejectCond]

theorem skipCond_is_code (cfg : Cfg) (status : Nat) :
    skipCond cfg status = fixedSkipCond cfg.skipSuccessful status cfg.skipFailed ∧
    skipCond cfg status = slidingSkipCond cfg.skipSuccessful status cfg.skipFailed := by
  simp [skipCond, fixedSkipCond, slidingSkipCond]

theorem unhitItem_is_code (cfg : Cfg) (e : Item) (wexp ts : Nat) :
    unhitItem cfg e wexp ts =
      if cfg.sliding then
        if slidingUnhitGuard ts e.exp cfg.expiration = true then
          if slidingUnhitCurCase e.exp wexp = true then
            some ({ e with curr := e.curr - 1 }, slidingUnhitTtl e.exp cfg.expiration ts)
          else if slidingUnhitPrevCase e.exp wexp cfg.expiration = true then
            some ({ e with prev := e.prev - 1 }, slidingUnhitTtl e.exp cfg.expiration ts)
          else none
        else none
      else if fixedUnhitGuard e.exp wexp = true then some ({ e with curr := e.curr - 1 }, fixedTtl cfg.expiration)
      else none := by
  simp [unhitItem, slidingUnhitGuard, slidingUnhitCurCase, slidingUnhitPrevCase, slidingUnhitTtl, fixedUnhitGuard, fixedTtl]

/-- the sliding window's `rate` is the regenerated whole-number expression of limiter_sliding.go
(`e.prevHits*int(resetInSec)/int(expiration) + e.currHits`, `/` truncating toward zero): for a configuration
that weighs like the code (`Cfg.code`) the weight is this expression, not a parameter. A `float64` in that
expression makes the translator fail (unsupported call), which breaks this obligation. -/
theorem rate_is_code (cfg : Cfg) (hc : cfg.code) (e : Item) (ts : Nat) :
    rate cfg e ts = if cfg.sliding then slidingRate e.prev (slidingReset e.exp ts) cfg.expiration e.curr else e.curr := by
  unfold rate
  rw [hc]
  rfl

/-- `codeWt` is literally the previous-window summand of the regenerated expression -/
theorem codeWt_is_code (prev : Int) (reset expiration : Nat) :
    codeWt prev reset expiration = slidingRate prev reset expiration 0 := by
  simp [codeWt, slidingRate]

/-- which local each response header prints, in both files: `Retry-After` (429 only) and `X-RateLimit-Reset`
print `resetInSec` (model: `Thread.reset`), `X-RateLimit-Limit` prints `maxRequests` (MaxFunc's value for this
request, model: `Thread.req.max`), `X-RateLimit-Remaining` prints `remaining` (model: `Thread.remaining`) -/
theorem headers_are_model_locals :
    Facts.fixedHeaders = ["fiber.HeaderRetryAfter=resetInSec", "xRateLimitLimit=maxRequests",
                          "xRateLimitRemaining=remaining", "xRateLimitReset=resetInSec"] ∧
    Facts.slidingHeaders = Facts.fixedHeaders :=
  ⟨rfl, rfl⟩

end C13
