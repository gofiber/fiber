import FiberModel.C19.Spec
import FiberModel.C19.UrlLemmas
/-
C19 — property theorems about the handler, relative to what the constructor stored; also what
`subdomain.match` means.
Quantified over every constructor state, every `AllowOriginsFunc` (panicking or not), every `Next`,
every request, every `Vary` an earlier middleware left and every `c.Vary` of the downstream handler.
The step from the constructor state to the configuration TEXT is `Origin.lean`; the main theorem
over the text, `handle_meets_spec`, is in `Main.lean`.
-/
namespace C19
open B

/-- The branches of the handler, each with the reply it writes: what `Next` lets through, no
    `Origin`, `OPTIONS` without `Access-Control-Request-Method`, a panicking allow function, a simple
    request, a preflight. -/
theorem handle_cases (bt : Built) (q : Request) (P : Response → Prop)
    (skip : skipped bt.cfg q = true →
      P { next := true, status204 := false, vary := appendAll q.priorVary q.afterVary })
    (noOrigin : skipped bt.cfg q = false → toLower q.origin = [] →
      P { next := true, status204 := false,
          vary := appendAll (if bt.allowAll then q.priorVary else appendOne q.priorVary vOrigin) q.afterVary })
    (options : skipped bt.cfg q = false → toLower q.origin ≠ [] → q.method = OPTIONS → q.acrMethod = [] →
      P { next := true, status204 := false, vary := appendAll (appendOne q.priorVary vOrigin) q.afterVary })
    (panic : skipped bt.cfg q = false → toLower q.origin ≠ [] → ¬ (q.method = OPTIONS ∧ q.acrMethod = []) →
      allowOrigin bt (toLower q.origin) = none →
      P { next := false, status204 := false, panicked := true, vary := q.priorVary })
    (simple : skipped bt.cfg q = false → toLower q.origin ≠ [] → q.method ≠ OPTIONS →
      ∀ allow, allowOrigin bt (toLower q.origin) = some allow →
      P { next := true, status204 := false,
          vary := appendAll (if bt.allowAll then q.priorVary else appendOne q.priorVary vOrigin) q.afterVary,
          acao := (simpleAcao bt.cfg allow).1, acac := (simpleAcao bt.cfg allow).2,
          maxAge := simpleMaxAge bt.cfg, expose := simpleExpose bt.cfg })
    (preflight : skipped bt.cfg q = false → toLower q.origin ≠ [] → q.method = OPTIONS → q.acrMethod ≠ [] →
      ∀ allow, allowOrigin bt (toLower q.origin) = some allow →
      -- the private-network flag as a variable with its equation, so that a user can split on it
      ∀ pn, pn = (bt.cfg.privateNetwork && decide (q.acrPrivate = b "true")) →
      P { next := false, status204 := true,
          vary := appendOne (appendAll q.priorVary ([vACRM, vACRH] ++ (if pn then [vACRPN] else []))) vOrigin,
          privateNet := pn,
          acao := (simpleAcao bt.cfg allow).1, acac := (simpleAcao bt.cfg allow).2,
          maxAge := simpleMaxAge bt.cfg, expose := simpleExpose bt.cfg,
          allowMethods := if bt.cfg.allowMethods.isEmpty then none
                          else some (join bt.cfg.allowMethods (b ", ")),
          allowHeaders := if bt.cfg.allowHeaders.isEmpty then
                            (if q.acrHeaders = [] then none else some q.acrHeaders)
                          else some (join bt.cfg.allowHeaders (b ", ")) }) :
    P (handle bt q) := by
  fun_cases handle bt q
  case case1 h0 => exact skip h0
  case case2 h0 h1 => exact noOrigin (Bool.eq_false_iff.mpr h0) h1
  case case3 h0 h1 h2 => exact options (Bool.eq_false_iff.mpr h0) h1 h2.1 h2.2
  case case4 h0 h1 h2 h3 => exact panic (Bool.eq_false_iff.mpr h0) h1 h2 h3
  case case5 h0 h1 h2 allow h3 h4 => exact simple (Bool.eq_false_iff.mpr h0) h1 h4 allow h3
  case case6 h0 h1 h2 allow h3 h4 pn =>
    have h4 := Decidable.not_not.mp h4
    exact preflight (Bool.eq_false_iff.mpr h0) h1 h4 (fun e => h2 ⟨h4, e⟩) allow h3 pn rfl

theorem allowOrigin_inv (bt : Built) (o : Bytes) (ho : o ≠ []) : ∀ {r}, allowOrigin bt o = r →
    match r with
    | none => bt.allowAll = false ∧ listAllows bt o = false ∧ ∃ f, bt.cfg.allowFunc = some f ∧ f o = none
    | some a => (bt.allowAll = true ∧ a = b "*") ∨
        (bt.allowAll = false ∧ a = o ∧ permittedW (listAllows bt) bt.cfg o = true) ∨
        (bt.allowAll = false ∧ a = [] ∧ permittedW (listAllows bt) bt.cfg o = false) := by
  rintro _ rfl
  unfold allowOrigin permittedW listAllows
  cases hA : bt.allowAll
  case true => exact Or.inl ⟨rfl, rfl⟩
  -- a list entry matches: the origin itself; otherwise the function decides
  cases hO : bt.origins.contains o
  case true => simp [ho]
  cases hS : bt.subs.any (·.match o)
  case true => simp [ho]
  cases hf : bt.cfg.allowFunc with
  | none => simp
  | some f => rcases hfo : f o with _ | _ | _ <;> simp [hfo, ho]

theorem star_ne_nil : b "*" ≠ [] := by decide

theorem simpleAcao_eq (cfg : Config) (a : Bytes) :
    simpleAcao cfg a = if a = [] then (none, false) else (some a, cfg.credentials && a != b "*") := by
  unfold simpleAcao
  by_cases h3 : a = []
  · simp [h3, star_ne_nil]
  · by_cases h1 : cfg.credentials = true
    · by_cases h2 : a = b "*" <;> simp [h1, h2, h3, star_ne_nil]
    · simp [h1, h3]

theorem handle_acao (bt : Built) (q : Request) :
    ((handle bt q).acao = none ∧ (handle bt q).acac = false) ∨
    (∃ a, toLower q.origin ≠ [] ∧ allowOrigin bt (toLower q.origin) = some a ∧
      (handle bt q).acao = (simpleAcao bt.cfg a).1 ∧ (handle bt q).acac = (simpleAcao bt.cfg a).2) := by
  apply handle_cases bt q (fun r => (r.acao = none ∧ r.acac = false) ∨
    ∃ a, toLower q.origin ≠ [] ∧ allowOrigin bt (toLower q.origin) = some a ∧
      r.acao = (simpleAcao bt.cfg a).1 ∧ r.acac = (simpleAcao bt.cfg a).2)
  case simple => exact fun _ h1 _ a ha => Or.inr ⟨a, h1, ha, rfl, rfl⟩
  case preflight => exact fun _ h1 _ _ a ha _ _ => Or.inr ⟨a, h1, ha, rfl, rfl⟩
  -- the other four branches write neither header
  all_goals intros; exact Or.inl ⟨rfl, rfl⟩

/-- clause `acao-only-if-allowed` for the model -/
theorem acao_only_if_allowed (bt : Built) (q : Request) :
    acaoOK bt.allowAll (listAllows bt) bt.cfg q (handle bt q) = true := by
  unfold acaoOK
  rcases handle_acao bt q with ⟨h, _⟩ | ⟨a, hne0, ha, h, _⟩
  · simp [h]
  · rw [h, simpleAcao_eq]
    -- the decision: `*`, the permitted origin itself, or none
    rcases allowOrigin_inv bt (toLower q.origin) hne0 ha with ⟨hA, rfl⟩ | ⟨hA, rfl, hp⟩ | ⟨_, rfl, _⟩
    · simp [hA, star_ne_nil]
    · simp [hA, hne0, hp]
    · rfl

/-- clause `never-star-with-credentials` for the model: `Access-Control-Allow-Credentials` is never paired with `*` -/
theorem never_star_with_credentials (bt : Built) (q : Request) : credsOK bt.cfg (handle bt q) = true := by
  unfold credsOK
  rcases handle_acao bt q with ⟨_, h⟩ | ⟨a, _, _, h, h'⟩
  · simp [h]
  · rw [h, h', simpleAcao_eq]
    split
    · rfl
    · cases bt.cfg.credentials <;> by_cases h2 : a = b "*" <;> simp [h2]

/-- clause `next-skips-middleware` for the model -/
theorem next_skips_middleware (bt : Built) (q : Request) : skipOK bt.cfg q (handle bt q) = true := by
  apply handle_cases bt q (skipOK bt.cfg q · = true)
  case skip => intro h; simp [skipOK, h]
  -- elsewhere `skipped = false` switches the clause off
  all_goals intro h; intros; simp [skipOK, h]

/-- clause `preflight` for the model -/
theorem preflight_204_configured (bt : Built) (q : Request) : preflightOK bt.cfg q (handle bt q) = true := by
  apply handle_cases bt q (preflightOK bt.cfg q · = true)
  case panic => intros; rfl
  case preflight => intros; simp [preflightOK, isPreflight, *]
  -- the other branches are no preflight (skipped, no Origin, no `OPTIONS` with a request method) and
  -- reach the handler
  all_goals intros; simp [preflightOK, isPreflight, *]

/-- clause `func-panic` for the model: the handler dies only inside an allow function that was due and panics -/
theorem func_panic_only_when_due (bt : Built) (q : Request) :
    panicOK bt.allowAll (listAllows bt) bt.cfg q (handle bt q) = true := by
  apply handle_cases bt q (panicOK bt.allowAll (listAllows bt) bt.cfg q · = true)
  case panic =>
    intro k0 k1 k2 k3
    obtain ⟨hA, hl, f, hf, hfo⟩ := allowOrigin_inv bt (toLower q.origin) k1 k3
    have k2' : (decide (q.method = OPTIONS) && decide (q.acrMethod = [])) = false := by
      simpa using k2
    simp [panicOK, k0, k1, k2', hA, hl, hf, hfo]
  all_goals intros; rfl

theorem not_panicked_of_skipped (bt : Built) (q : Request) (h : skipped bt.cfg q = true) :
    (handle bt q).panicked = false := by
  unfold handle; simp [h]

/-- utils.go `subdomain.match` on the three texts, the form `affix_iff` and `match_ser` speak of (and the
    one `entryPermits` spells out) -/
theorem Subdomain.match_eq (s : Subdomain) (o : Bytes) :
    s.match o = (decide (o.length ≥ s.pre.length + s.suf.length) && hasPrefix o s.pre && hasSuffix o s.suf) := rfl

theorem subdomain_match_iff (s : Subdomain) (o : Bytes) : s.match o = true ↔ ∃ mid, o = s.pre ++ mid ++ s.suf := by
  rw [Subdomain.match_eq]; exact affix_iff s.pre s.suf o

/-- `subdomain.match` is sound: the origin starts with the entry's `scheme://` and ends with its
    `.domain` suffix, the two not overlapping. -/
theorem subdomain_match_sound (s : Subdomain) (o : Bytes) (h : s.match o = true) :
    ∃ mid, o = s.pre ++ mid ++ s.suf :=
  (subdomain_match_iff s o).mp h

theorem subdomain_match_complete (s : Subdomain) (mid : Bytes) : s.match (s.pre ++ mid ++ s.suf) = true :=
  (subdomain_match_iff s _).mpr ⟨mid, rfl⟩

end C19
