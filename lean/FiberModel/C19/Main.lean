import FiberModel.C19.Origin
import FiberModel.C19.Vary
/-
C19 — the main theorem, on the configuration as the user wrote it.
-/
namespace C19
open B

/-- The handler meets every clause relative to what the constructor stored, for every constructor
    state (any origin lists, any allow function, any `Next`) and every request. -/
theorem handle_meets_specBuilt (bt : Built) (q : Request) : specBuilt bt q (handle bt q) = none := by
  unfold specBuilt specViolationW
  simp [next_skips_middleware, acao_only_if_allowed, never_star_with_credentials, vary_origin_when_varies,
    preflight_204_configured, func_panic_only_when_due]

/-- the clauses consult the list decision only when not all origins are allowed -/
theorem specViolationW_congr {a : Bool} {lp lp' : Bytes → Bool} (h : a = false → lp = lp') (cfg : Config)
    (q : Request) (r : Response) : specViolationW a lp cfg q r = specViolationW a lp' cfg q r := by
  cases a
  · rw [h rfl]
  · unfold specViolationW panicOK acaoOK
    simp

/-- **Main theorem.** For every configuration `cors.New` accepts (any `AllowOrigins` texts, any
    `AllowOriginsFunc` — panicking or not —, any `Next`, credentials, max-age, private network), and
    every request (any Origin text, method, preflight headers, any well-formed `Vary` left by an
    earlier middleware, any `c.Vary` by the downstream handler), the handler's response violates no
    clause of the property as read off the configuration TEXT: ACAO only if an entry of
    `AllowOrigins` denotes the origin / a wildcard entry covers it by scheme and dot-separated host
    suffix / the function says yes, and then it is the lower-cased origin, or `*` iff `*` is listed
    or nothing is configured; never Allow-Credentials with `*`; `Vary` lists `Origin` when the reply
    varies; a preflight gets 204 with the configured methods/headers/max-age/private-network and
    does not reach the handler, everything else does; `Next` makes the middleware add nothing; the
    request dies only inside a panicking `AllowOriginsFunc` that was due. -/
theorem handle_meets_spec (cfg : Config) (dm : List Bytes) (bt : Built) (h : build cfg dm = some bt)
    (q : Request) : specViolation bt.cfg q (handle bt q) = none := by
  unfold specViolation
  rw [← build_allowAll cfg dm bt h,
    specViolationW_congr fun hA => funext fun o => ((build_spec h).listAllows_eq hA o).symm]
  exact handle_meets_specBuilt bt q

/-- A configuration that is served never asks for credentials while allowing all origins (read off
    the configuration text). -/
theorem served_config_never_pairs_credentials_with_all (cfg : Config) (dm : List Bytes) (bt : Built)
    (h : build cfg dm = some bt) : ctorViolation bt.cfg true = none := by
  exact if_neg (by simpa using (build_spec h).refuses)

/-! Statelessness (the hypothesis the history cases check on the real code): in the model the reply
to a request is the handler's answer to that request alone, whatever was served before on the same
app, connection or request context. The harness serves generated histories (same-length origins of
alternating verdicts on one reused `fasthttp.RequestCtx`) and every position is compared with, and
judged as, the single request. -/

theorem replyAfter_eq_handle (bt : Built) (pre : List Request) (q : Request) :
    replyAfter bt pre q = handle bt q := by
  unfold replyAfter serve
  simp [List.getLastD_eq_getLast?]

theorem reply_is_function_of_config_and_request (bt : Built) (pre pre' : List Request) (q : Request) :
    replyAfter bt pre q = replyAfter bt pre' q := by
  rw [replyAfter_eq_handle, replyAfter_eq_handle]

theorem history_meets_spec (cfg : Config) (dm : List Bytes) (bt : Built) (h : build cfg dm = some bt)
    (pre : List Request) (q : Request) : specViolation bt.cfg q (replyAfter bt pre q) = none := by
  rw [replyAfter_eq_handle]; exact handle_meets_spec cfg dm bt h q

/-- Non-vacuity: a configuration with upper case, blanks, userinfo, a port, a wildcard entry and an
    IPv6 literal is accepted by `New`; the origins the texts denote are allowed, a look-alike host,
    an origin with a path and an origin with userinfo are not. -/
example :
    (build { allowOrigins := [b "  HTTPS://*.Example.com:8443/", b "http://user:pw@A.io?", b "http://[::1]:3000"],
             allowFunc := none, allowMethods := [], allowHeaders := [], exposeHeaders := [], maxAge := 0,
             credentials := true, privateNetwork := false } [b "GET"]).map
      (fun bt => [b "https://x.example.com:8443", b "https://xexample.com:8443", b "http://a.io",
                  b "http://[::1]:3000", b "http://a.io/", b "http://user:pw@a.io"].map (allowOrigin bt))
      = some [some (b "https://x.example.com:8443"), some [], some (b "http://a.io"),
              some (b "http://[::1]:3000"), some [], some []] := by
  repeat rw [b_ofList]
  decide +kernel

/-- … and entries the constructor must refuse are refused: a path, a query, a fragment, no host,
    `null`, a wildcard in front of the userinfo (its host would lose the dot). -/
example :
    [b "http://a.io/x", b "http://a.io?q=1", b "http://a.io#f", b "http://", b "null",
     b "https://*.user@example.com", b "http://*.*.example.com"].map
      (fun e => (buildLoop [e] [] []).isSome) = [false, false, false, false, false, false, false] := by
  repeat rw [b_ofList]
  decide +kernel

end C19
