import FiberModel.C19.Reject
import FiberModel.C19.Wildcard
/-
(The two imports are not used below: the audit of `./check C19` imports this module, `Main` and `Defaults`
only, and reaches the theorems of `Reject.lean` and `Wildcard.lean` through it.)

C19 — the constructor as a whole: exactly which configurations `cors.New` refuses (panics on), read
off the configuration text; and two consequences for what the lists can ever permit.
-/
namespace C19
open B Url

/-- `New` does not panic: every entry it looks at denotes something, and credentials are not
    combined with "all origins" -/
def ctorAccepts (cfg : Config) : Bool :=
  (liveEntries cfg.allowOrigins).all entryValid && !(cfg.credentials && cfgAllowsAll cfg)

theorem buildCore_isSome (cfg : Config) : (buildCore cfg).isSome = ctorAccepts cfg := by
  rw [buildCore_eq, ctorAccepts, ← (buildLoop_spec cfg.allowOrigins [] []).1]
  cases buildLoop cfg.allowOrigins [] [] with
  | none => rfl
  | some r => cases (cfg.credentials && cfgAllowsAll cfg) <;> rfl

/-- **Exactly which configurations the constructor refuses.** `cors.New(cfg)` returns a handler iff
    every `AllowOrigins` entry in front of the first `*` denotes an origin (or, with `://*.`, a
    scheme and a dot-led host suffix) and `AllowCredentials` is not combined with "all origins". -/
theorem build_isSome_iff (cfg : Config) (dm : List Bytes) : (build cfg dm).isSome = ctorAccepts cfg := by
  -- the AllowMethods defaulting touches nothing the constructor decides on
  unfold build
  rw [buildCore_isSome]
  split <;> rfl

/-- what a list entry permits always has a scheme separator: `null`, a bare host name, the empty
    text are never permitted by `AllowOrigins` (only `AllowOriginsFunc` can let them through) -/
theorem entryPermits_has_sep (e o : Bytes) (h : entryPermits e o = true) : ∃ s r, o = s ++ b "://" ++ r := by
  revert h
  fun_cases entryPermits e o <;> intro h
  case case1 pre suf hw =>
    rw [wildcardOfText_eq] at hw
    obtain ⟨p, _, hw⟩ := Option.bind_eq_some_iff.mp hw
    obtain ⟨mid, hm⟩ := (affix_iff pre suf o).mp h
    split at hw
    · cases hw; exact ⟨toLower p.1, mid ++ toLower p.2, by rw [hm]; simp⟩
    · cases hw
  case case2 => cases h
  case case3 =>
    rw [originOfText_eq, beq_iff_eq, Option.map_eq_some_iff] at h
    obtain ⟨p, _, rfl⟩ := h
    exact ⟨_, _, rfl⟩

/-- **`null` is never permitted by the lists.** For every configuration the constructor accepts that
    does not allow all origins, the handler's list decision refuses the origin `null` (and any other
    text without `://`). -/
theorem null_never_listed (cfg : Config) (dm : List Bytes) (bt : Built) (h : build cfg dm = some bt)
    (hA : bt.allowAll = false) : listAllows bt (b "null") = false := by
  rw [(build_spec h).listAllows_eq hA]
  unfold cfgListPermits
  rw [List.any_eq_false]
  intro e _ hp
  obtain ⟨s, r, hs⟩ := entryPermits_has_sep e _ hp
  have : (58 : Nat) ∈ b "null" := by rw [hs]; simp [b]
  revert this; decide

/-- Non-vacuity of `build_isSome_iff`, both ways. -/
example : ctorAccepts { allowOrigins := [b "https://a.io", b " http://*.b.io/ "], allowFunc := none, allowMethods := [],
                        allowHeaders := [], exposeHeaders := [], maxAge := 0, credentials := true,
                        privateNetwork := false } = true ∧
          ctorAccepts { allowOrigins := [b "https://a.io", b "*"], allowFunc := none, allowMethods := [],
                        allowHeaders := [], exposeHeaders := [], maxAge := 0, credentials := true,
                        privateNetwork := false } = false ∧
          ctorAccepts { allowOrigins := [b "https://a.io/x"], allowFunc := none, allowMethods := [],
                        allowHeaders := [], exposeHeaders := [], maxAge := 0, credentials := false,
                        privateNetwork := false } = false := by
  repeat rw [b_ofList]
  decide +kernel

end C19
