import FiberModel.C19.Shapes
import FiberModel.C19.Props
/-
C19 — what the written forms of an origin normalise to, and what a wildcard-subdomain entry means,
derived from the constructor model over the `net/url` transcription.
-/
namespace C19
open B Url

/-- **A registered-name / IPv4 origin as written.** `scheme://[userinfo@]host[:port][/]` with a
    scheme `[a-zA-Z][a-zA-Z0-9+.-]*`, a non-empty host of bytes `url.Parse` passes (letters of
    either case, digits, `-._~`, the sub-delims, `] < > "` and bytes beyond ASCII; no `%`, `:`, `*`, `[`),
    digits as port:
    `normalizeOrigin` answers `lower(scheme)://lower(host)[:port]`. The userinfo and the root path
    are dropped; the port stays whether default or not; a trailing dot stays. -/
theorem normalizeOrigin_serialized (S U H P T : Bytes) (hS : schemeShaped S = true) (hU : userShaped U)
    (hH : H.all regByte = true) (hHne : H ≠ []) (hP : portShaped P) (hT : T = [] ∨ T = [47]) :
    normalizeOrigin (S ++ b "://" ++ U ++ H ++ P ++ T) = some (toLower S ++ b "://" ++ toLower H ++ P) := by
  have := normalizeOrigin_written S U (H ++ P) T hS hU (regport_hostBytes hH hP) (by simp [hHne])
    (parseHost_regname H P hH hP) hT
  rw [toLower_append, hP.lower] at this
  simpa only [List.append_assoc] using this

/-- **An IPv6 origin as written.** `scheme://[userinfo@][v6][:port][/]` (hex digits, `:` and `.`
    between the brackets) normalises to `lower(scheme)://[lower(v6)][:port]`. -/
theorem normalizeOrigin_ipv6 (S U A P T : Bytes) (hS : schemeShaped S = true) (hU : userShaped U)
    (hA : A.all v6Byte = true) (hP : portShaped P) (hT : T = [] ∨ T = [47]) :
    normalizeOrigin (S ++ b "://" ++ U ++ 91 :: (A ++ 93 :: P) ++ T)
      = some (toLower S ++ b "://" ++ 91 :: (toLower A ++ 93 :: P)) := by
  rw [normalizeOrigin_written S U (91 :: (A ++ 93 :: P)) T hS hU (v6host_hostBytes hA hP) (by simp)
    (parseHost_v6 A P hA hP) hT]
  have h1 : toLower (91 :: (A ++ 93 :: P)) = 91 :: (toLower A ++ 93 :: toLower P) := by
    simp [toLower, lowerByte, isUpper]
  rw [h1, hP.lower]

theorem normalizeOrigin_simple (S H : Bytes) (hS : schemeShaped S = true) (hH : H ≠ [])
    (hHc : H.all regByte = true) :
    normalizeOrigin (S ++ b "://" ++ H) = some (toLower (S ++ b "://" ++ H)) := by
  have := normalizeOrigin_serialized S [] H [] [] hS (Or.inl rfl) hHc hH (Or.inl rfl) (Or.inl rfl)
  simp only [List.append_nil] at this
  rw [this, toLower_append, toLower_append]
  rfl

/-- a text whose normal form is `s://.r` is split behind that `://`: the scheme holds no colon -/
theorem wildcardSplit_of_normalized {t s r : Bytes} (hs : 58 ∉ s)
    (h : normalizeOrigin t = some (s ++ b "://" ++ 46 :: r)) : wildcardSplit t = some (s ++ b "://", 46 :: r) := by
  obtain ⟨h1, h2, h3⟩ := ser_split (46 :: r) hs
  unfold wildcardSplit
  simp only [h, h1, h2, h3, List.head?_cons, if_true]

/-- What an entry whose first colon starts `://*.` stands for: the star is cut out, the rest trimmed and read
    as a wildcard text. -/
theorem entryStored_wildcard (X R : Bytes) (hX : 58 ∉ X) :
    entryStored (X ++ b "://*." ++ R) =
      (wildcardOfText (trim (X ++ 58 :: 47 :: 47 :: 46 :: R) 32)).map fun p => .inr ⟨p.1, p.2⟩ := by
  have hcut : (X ++ b "://*." ++ R).take (X.length + 3) ++ (X ++ b "://*." ++ R).drop (X.length + 4)
      = X ++ 58 :: 47 :: 47 :: 46 :: R := by
    rw [List.append_assoc, List.take_length_add_append, List.drop_length_add_append]
    simp [b]
  unfold entryStored
  rw [indexOf_append_append_of_not_mem R (by decide) hX]
  simp only
  rw [hcut]

/-- **What the constructor stores for a wildcard entry.** For `S ++ "://*." ++ D ++ port ++ tail`
    (scheme `S`, domain bytes `D` as in `normalizeOrigin_serialized`, optional port, optional `/`),
    blanks in front and behind allowed, the loop of `New` appends exactly the subdomain entry
    (`lower(S)://`, `.lower(D)[:port]`). -/
theorem buildLoop_wildcard (n m : Nat) (S D P T : Bytes) (rest : List Bytes) (os : List Bytes) (ss : List Subdomain)
    (hS : schemeShaped S = true) (hD : D.all regByte = true) (hP : portShaped P) (hT : T = [] ∨ T = [47]) :
    buildLoop ((List.replicate n 32 ++ (S ++ b "://*." ++ D ++ P ++ T) ++ List.replicate m 32) :: rest) os ss =
      buildLoop rest os (ss ++ [{ pre := toLower S ++ b "://", suf := 46 :: toLower D ++ P }]) := by
  have hSb := (schemeShaped_clean hS).2
  have hDall : (46 :: D).all regByte = true := by
    simp only [List.all_cons, hD, Bool.and_true]; decide
  have h32 := (hostBytes_clean_noAt_noBlank fun x hx => (regport_hostBytes hDall hP x hx).1).2.2
  -- the entry without the star and without the blanks around: `S://.D[:port][/]`
  have hblank : 32 ∉ S ++ 58 :: 47 :: 47 :: ((46 :: D ++ P) ++ T) := by
    intro m
    rcases List.mem_append.mp m with m | m
    · exact hSb m
    rcases List.mem_append.mp (show 32 ∈ [58, 47, 47] ++ ((46 :: D ++ P) ++ T) from m) with m | m
    · exact absurd m (by decide)
    rcases List.mem_append.mp m with m | m
    · exact h32 m
    · rcases hT with rfl | rfl <;> exact absurd m (by decide)
  have hfree : 58 ∉ List.replicate n 32 ++ S := by
    intro m
    rcases List.mem_append.mp m with h | h
    · exact absurd (List.eq_of_mem_replicate h) (by decide)
    · exact schemeShaped_no_colon hS h
  have hstar : (List.replicate n 32 ++ S) ++ b "://*." ++ (D ++ P ++ T ++ List.replicate m 32) ≠ b "*" :=
    fun h => absurd (h ▸ (by simp [b]) : 58 ∈ b "*") (by decide)
  -- that text is an origin as written, with host `.D`: what it normalises to is cut behind `://`
  have hn := normalizeOrigin_serialized S [] (46 :: D) P T hS (Or.inl rfl) hDall (List.cons_ne_nil _ _) hP hT
  rw [List.append_assoc (toLower S ++ b "://")] at hn
  -- the round reads the entry; with the star cut out and the blanks trimmed the entry is that text
  rw [show List.replicate n 32 ++ (S ++ b "://*." ++ D ++ P ++ T) ++ List.replicate m 32
      = (List.replicate n 32 ++ S) ++ b "://*." ++ (D ++ P ++ T ++ List.replicate m 32) by
    simp only [List.append_assoc],
    buildLoop_cons _ _ _ _ hstar, entryStored_wildcard _ _ hfree,
    show (List.replicate n 32 ++ S) ++ 58 :: 47 :: 47 :: 46 :: (D ++ P ++ T ++ List.replicate m 32)
      = List.replicate n 32 ++ (S ++ 58 :: 47 :: 47 :: ((46 :: D ++ P) ++ T)) ++ List.replicate m 32 by
    simp only [List.append_assoc, List.cons_append],
    trim_replicate 32 n m _ (by simp) hblank, ← wildcardSplit_eq_wildcardOfText,
    wildcardSplit_of_normalized (r := toLower D ++ P) (toLower_no_colon _ (schemeShaped_no_colon hS))
      ((congrArg normalizeOrigin (by simp [b])).trans hn)]
  rfl

/-- **Meaning of a wildcard entry.** The stored entry accepts an origin iff the origin is the
    lower-cased scheme, `://`, any (possibly empty) label text, a DOT, and the lower-cased `D`
    (everything behind the dot, port included; `buildLoop_wildcard` stores `46 :: toLower D ++ P`,
    and a port is its own lower case): scheme equality and a dot-separated host suffix. A look-alike
    host that merely ends in the domain's characters without the dot is not accepted. -/
theorem wildcard_entry_meaning (S D o : Bytes) :
    ({ pre := toLower (S ++ b "://"), suf := toLower (46 :: D) } : Subdomain).match o = true ↔
      ∃ mid, o = toLower S ++ b "://" ++ mid ++ (46 :: toLower D) := by
  have hpre : toLower (S ++ b "://") = toLower S ++ b "://" := by rw [toLower_append]; rfl
  rw [subdomain_match_iff, hpre]
  exact Iff.rfl

/-- **A wildcard entry against a serialized origin.** For an origin `S' ++ "://" ++ HP'` (no colon
    in `S'`) the stored entry (`scheme://`, `suffix`) matches iff the schemes are equal and the
    host-and-port ends in the suffix — which starts with the dot. -/
theorem wildcard_match_serialized (sch suf S' HP' : Bytes) (h1 : 58 ∉ sch) (h2 : 58 ∉ S') :
    ({ pre := sch ++ b "://", suf := suf } : Subdomain).match (S' ++ b "://" ++ HP') = true ↔
      S' = sch ∧ ∃ mid, HP' = mid ++ suf := by
  rw [Subdomain.match_eq]; exact match_ser sch suf S' HP' h1 h2

/-- Non-vacuity / the look-alike case, concretely: `https://*.example.com` accepts
    `https://a.example.com` and refuses `https://evilexample.com`; written with blanks, upper case,
    a port and a trailing slash it is the same entry with the port. -/
example :
    (buildLoop [b "https://*.example.com", b "  HTTPS://*.Example.COM:8443/ "] [] []).map
      (fun r => (r.2.1, r.2.1.map (·.match (b "https://a.example.com")), r.2.1.map (·.match (b "https://evilexample.com"))))
      = some ([{ pre := b "https://", suf := b ".example.com" }, { pre := b "https://", suf := b ".example.com:8443" }],
              [true, false], [false, false]) := by
  repeat rw [b_ofList]
  decide +kernel

/-- the hypotheses of `normalizeOrigin_serialized` are met by ordinary origins -/
example : schemeShaped (b "HTTPS") = true ∧ (b "Example.COM.").all regByte = true ∧
    (b "xn--bcher-kva.example").all regByte = true ∧ validUserinfo (b "user:pw") = true ∧
    (b "::FFFF:1.2.3.4").all v6Byte = true := by
  repeat rw [b_ofList]
  decide +kernel

end C19
