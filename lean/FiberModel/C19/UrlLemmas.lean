import FiberModel.C19.Url
import FiberModel.BasicLemmas
import FiberModel.ListLemmas
/-
C19 — facts about byte texts (splitting at a delimiter) and about the `net/url`
transcription (`Url.lean`): `cut`, `cutLast`, `getScheme`, `unescape`; at the end, texts of the form
`scheme://rest` with a colon-free scheme (a serialized origin: `ser_…`), and `subdomain.match` on them (C16 uses
these as well). The two byte classes these lemmas are stated with are defined here, `schemeShaped` (over
`isSchemeByte`) before the `getScheme` lemmas and `hostByte` before `unescape_host_plain`; the classes of a written
origin that build on them (`clean`, `regByte`, `v6Byte`, `portShaped`, `userShaped`) are in `Shapes.lean`.
-/
namespace C19.Url
open B

theorem cut_spec (s : Bytes) (c : Nat) :
    c ∉ (cut s c).1 ∧ s = (cut s c).1 ++ match (cut s c).2 with | none => [] | some r => c :: r := by
  fun_induction cut s c with
  | case1 => exact ⟨List.not_mem_nil, rfl⟩
  | case2 => exact ⟨List.not_mem_nil, rfl⟩
  | case3 x xs c hx ih => exact ⟨List.not_mem_cons_of_ne_of_not_mem (Ne.symm hx) ih.1, congrArg (x :: ·) ih.2⟩

theorem cut_not_mem {s : Bytes} {x : Nat} (c : Nat) (h : x ∉ s) : x ∉ (cut s c).1 ∧ x ∉ (cut s c).2.getD [] := by
  rw [(cut_spec s c).2, List.mem_append, not_or] at h
  refine ⟨h.1, ?_⟩
  cases h2 : (cut s c).2 with
  | none => exact List.not_mem_nil
  | some r => rw [h2] at h; exact fun m => h.2 (List.mem_cons_of_mem c m)

theorem cut_of_not_mem {a : Bytes} {c : Nat} (h : c ∉ a) : cut a c = (a, none) := by
  fun_induction cut a c with
  | case1 => rfl
  | case2 => exact absurd List.mem_cons_self h
  | case3 x xs c _ ih => rw [ih fun m => h (List.mem_cons_of_mem x m)]

theorem cut_append {a : Bytes} {c : Nat} (r : Bytes) (h : c ∉ a) : cut (a ++ c :: r) c = (a, some r) := by
  induction a with
  | nil => simp [cut]
  | cons x xs ih =>
    have hx : x ≠ c := fun e => h (by simp [e])
    have := ih (fun m => h (by simp [m]))
    simp only [List.cons_append]
    unfold cut; simp [hx, this]

/-- a marker: a lone `c` at the end of the text, or nothing (the optional `/`, `?`, `#` behind an authority, which
    `normalizeOrigin` lets pass) -/
theorem cut_marker {s : Bytes} {c : Nat} (h : (cut s c).2.getD [] = []) :
    c ∉ (cut s c).1 ∧ ∃ M, (M = [] ∨ M = [c]) ∧ s = (cut s c).1 ++ M := by
  obtain ⟨h1, e⟩ := cut_spec s c
  refine ⟨h1, _, ?_, e⟩
  cases h2 : (cut s c).2 with
  | none => exact Or.inl rfl
  | some r => rw [h2] at h; exact Or.inr (congrArg (c :: ·) h)

theorem cut_marker_eq {r M : Bytes} {c : Nat} (h : c ∉ r) (hM : M = [] ∨ M = [c]) :
    (cut (r ++ M) c).1 = r ∧ (cut (r ++ M) c).2.getD [] = [] := by
  rcases hM with rfl | rfl
  · rw [List.append_nil, cut_of_not_mem h]; exact ⟨rfl, rfl⟩
  · rw [cut_append [] h]; exact ⟨rfl, rfl⟩

/-- The model keeps no `ForceQuery`, so the special case for a single trailing `?` answers what the
    cut at the first `?` answers. -/
theorem splitQuery_eq (r : Bytes) : splitQuery r = ((cut r 63).1, (cut r 63).2.getD []) := by
  unfold splitQuery
  split
  · rename_i hc
    simp only [Bool.and_eq_true, decide_eq_true_eq] at hc
    obtain ⟨ys, e⟩ := List.getLast?_eq_some_iff.mp hc.1
    subst e
    have h63 : 63 ∉ ys := by
      have := hc.2
      simp only [countByte, List.count_append, List.count_singleton_self] at this
      exact List.count_eq_zero.mp (by omega)
    rw [List.dropLast_concat, cut_append [] h63]
    rfl
  · rfl

theorem cutLast_spec (s : Bytes) (c : Nat) :
    match cutLast s c with
    | none => c ∉ s
    | some (a, r) => s = a ++ c :: r ∧ c ∉ r := by
  fun_induction cutLast s c with
  | case1 => exact List.not_mem_nil
  | case2 x xs c a r h ih => rw [h] at ih; exact ⟨congrArg (x :: ·) ih.1, ih.2⟩
  | case3 xs c h ih => rw [h] at ih; exact ⟨rfl, ih⟩
  | case4 x xs c h hx ih => rw [h] at ih; exact List.not_mem_cons_of_ne_of_not_mem (Ne.symm hx) ih

theorem cutLast_some {s : Bytes} {c : Nat} {a r : Bytes} (h : cutLast s c = some (a, r)) :
    s = a ++ c :: r ∧ c ∉ r := by
  have := cutLast_spec s c
  rwa [h] at this

theorem cutLast_of_not_mem {s : Bytes} {c : Nat} (h : c ∉ s) : cutLast s c = none := by
  have := cutLast_spec s c
  split at this
  · assumption
  · exact absurd (this.1 ▸ List.mem_append_right _ List.mem_cons_self) h

theorem cutLast_append {c : Nat} (a r : Bytes) (h : c ∉ r) : cutLast (a ++ c :: r) c = some (a, r) := by
  induction a with
  | nil =>
    simp only [List.nil_append]
    unfold cutLast; simp [cutLast_of_not_mem h]
  | cons x xs ih =>
    simp only [List.cons_append]
    unfold cutLast; simp [ih]

/-- the bytes `getScheme` lets through behind the first letter -/
def isSchemeByte (c : Nat) : Bool := isAlpha c || isDigit c || c == 43 || c == 45 || c == 46

/-- `[a-zA-Z][a-zA-Z0-9+.-]*` -/
def schemeShaped : Bytes → Bool
  | [] => false
  | a :: t => isAlpha a && t.all isSchemeByte

theorem isSchemeByte_ne_colon {c : Nat} (h : isSchemeByte c = true) : c ≠ 58 := by
  intro e; subst e; simp [isSchemeByte, isAlpha, isUpper, isLower, isDigit] at h

theorem schemeShaped_bytes {S : Bytes} (h : schemeShaped S = true) :
    S ≠ [] ∧ ∀ x ∈ S, isSchemeByte x = true := by
  cases S with
  | nil => simp [schemeShaped] at h
  | cons a t =>
    simp only [schemeShaped, Bool.and_eq_true, List.all_eq_true] at h
    refine ⟨List.cons_ne_nil a t, fun x hx => ?_⟩
    rcases List.mem_cons.mp hx with e | e
    · subst e; simp [isSchemeByte, h.1]
    · exact h.2 x e

theorem schemeShaped_no_colon {S : Bytes} (h : schemeShaped S = true) : 58 ∉ S :=
  fun m => isSchemeByte_ne_colon ((schemeShaped_bytes h).2 58 m) rfl

theorem getSchemeLoop_cons (raw : Bytes) (i c : Nat) (cs : Bytes) :
    getSchemeLoop raw i (c :: cs) =
      if isSchemeByte c = true ∧ (i ≠ 0 ∨ isAlpha c = true) then getSchemeLoop raw (i + 1) cs
      else if c = 58 then (if i = 0 then none else some (raw.take i, cs))
      else some ([], raw) := by
  rw [getSchemeLoop]
  by_cases ha : isAlpha c = true
  · simp [isSchemeByte, ha]
  · by_cases hd : (isDigit c || c = 43 || c = 45 || c = 46) = true
    · have hs : isSchemeByte c = true := by simpa [isSchemeByte, ha] using hd
      have h58 := isSchemeByte_ne_colon hs
      by_cases hi : i = 0 <;> simp [ha, hd, hs, hi, h58]
    · have hs : isSchemeByte c = false := by simpa [isSchemeByte, ha] using hd
      simp [ha, hd, hs]

theorem getSchemeLoop_run (raw : Bytes) (t rest : Bytes) (i : Nat) (hi : i ≠ 0)
    (ht : t.all isSchemeByte = true) :
    getSchemeLoop raw i (t ++ 58 :: rest) = some (raw.take (i + t.length), rest) := by
  induction t generalizing i with
  | nil => rw [List.nil_append, getSchemeLoop_cons, if_neg (fun h => absurd h.1 (by decide)), if_pos rfl, if_neg hi]; rfl
  | cons c cs ih =>
    rw [List.all_cons, Bool.and_eq_true] at ht
    rw [List.cons_append, getSchemeLoop_cons, if_pos ⟨ht.1, Or.inl hi⟩, ih (i + 1) (by omega) ht.2,
      List.length_cons, Nat.add_assoc, Nat.add_comm 1]

theorem getScheme_shaped (S rest : Bytes) (h : schemeShaped S = true) :
    getScheme (S ++ 58 :: rest) = some (S, rest) := by
  cases S with
  | nil => simp [schemeShaped] at h
  | cons a t =>
    simp only [schemeShaped, Bool.and_eq_true] at h
    unfold getScheme
    rw [List.cons_append, getSchemeLoop_cons, if_pos ⟨by simp [isSchemeByte, h.1], Or.inr h.1⟩,
      getSchemeLoop_run _ t rest 1 (by omega) h.2, Nat.add_comm, ← List.length_cons (a := a),
      ← List.cons_append]
    exact congrArg (fun l => some (l, rest)) List.take_left

theorem getScheme_slash (r : Bytes) : getScheme (47 :: r) = some ([], 47 :: r) := by
  unfold getScheme
  rw [getSchemeLoop_cons, if_neg (fun h => absurd h.1 (by decide)), if_neg (by decide)]

theorem getScheme_inv {raw S rest : Bytes} (h : getScheme raw = some (S, rest)) :
    (S = [] ∧ rest = raw) ∨ (schemeShaped S = true ∧ raw = S ++ 58 :: rest) := by
  -- the loop stands before `s` with `pre` read: nothing yet, or a scheme so far
  suffices ∀ s pre, raw = pre ++ s → pre = [] ∨ schemeShaped pre = true →
      getSchemeLoop raw pre.length s = some (S, rest) →
      (S = [] ∧ rest = raw) ∨ (schemeShaped S = true ∧ raw = S ++ 58 :: rest) from this raw [] rfl (Or.inl rfl) h
  intro s
  induction s with
  | nil => intro pre _ _ h; rw [getSchemeLoop] at h; cases h; exact Or.inl ⟨rfl, rfl⟩
  | cons c cs ih =>
    intro pre hraw hpre h
    rw [getSchemeLoop_cons] at h
    by_cases hc : isSchemeByte c = true ∧ (pre.length ≠ 0 ∨ isAlpha c = true)
    · rw [if_pos hc] at h
      refine ih (pre ++ [c]) (by rw [hraw]; simp) (Or.inr ?_) (by simpa using h)
      cases pre with
      | nil => simpa [schemeShaped] using hc.2
      | cons a t =>
        have hp : schemeShaped (a :: t) = true := hpre.resolve_left (List.cons_ne_nil a t)
        simp only [schemeShaped, Bool.and_eq_true] at hp
        simp [schemeShaped, List.all_append, hp.1, hp.2, hc.1]
    · rw [if_neg hc] at h
      by_cases h58 : c = 58
      · rw [if_pos h58] at h
        by_cases h0 : pre.length = 0
        · rw [if_pos h0] at h; cases h
        · rw [if_neg h0] at h
          cases h
          have hp : schemeShaped pre = true := hpre.resolve_left (fun e => h0 (e ▸ rfl))
          rw [hraw, List.take_left, h58]
          exact Or.inr ⟨hp, rfl⟩
      · rw [if_neg h58] at h; cases h; exact Or.inl ⟨rfl, rfl⟩

theorem unescape_cons_plain {m : Mode} {c : Nat} {rest r : Bytes} (hc : c ≠ 37)
    (h : unescape m (c :: rest) = some r) : ∃ t, unescape m rest = some t ∧ r = c :: t := by
  unfold unescape at h
  rw [if_neg hc, Option.ite_none_left_eq_some, Option.map_eq_some_iff] at h
  obtain ⟨_, t, ht, e⟩ := h
  exact ⟨t, ht, e.symm⟩

theorem unescape_ne_nil {m : Mode} {s r : Bytes} (hs : s ≠ []) (h : unescape m s = some r) : r ≠ [] := by
  revert h
  fun_cases unescape m s <;> intro h
  case case1 => exact absurd rfl hs
  -- every successful branch puts a byte in front of the decoded rest
  case case5 | case8 =>
    obtain ⟨t, _, e⟩ := Option.map_eq_some_iff.mp h
    exact e ▸ List.cons_ne_nil _ t
  all_goals cases h

theorem unescape_noescape (m : Mode) (s r : Bytes) (hp : 37 ∉ s) (h : unescape m s = some r) : r = s := by
  induction s generalizing r with
  | nil => unfold unescape at h; exact (Option.some.inj h).symm
  | cons c rest ih =>
    obtain ⟨t, ht, e⟩ := unescape_cons_plain (fun e => hp (e ▸ List.mem_cons_self)) h
    rw [e, ih t (fun m' => hp (List.mem_cons_of_mem c m')) ht]

theorem unescape_other_plain (s : Bytes) (hp : 37 ∉ s) : unescape .other s = some s := by
  induction s with
  | nil => rfl
  | cons c rest ih =>
    have hc : c ≠ 37 := fun e => hp (by simp [e])
    unfold unescape
    simp [hc, ih (fun m' => hp (by simp [m']))]

/-- a byte the host may carry as it stands -/
def hostByte (c : Nat) : Bool := c != 37 && !(decide (c < 128) && shouldEscapeHost c)

theorem unescape_host_plain {m : Mode} (s : Bytes) (h : ∀ x ∈ s, hostByte x = true) : unescape m s = some s := by
  induction s with
  | nil => rfl
  | cons c rest ih =>
    obtain ⟨hb, hr⟩ := List.forall_mem_cons.mp h
    simp only [hostByte, Bool.and_eq_true, bne_iff_ne, Bool.not_eq_true'] at hb
    unfold unescape
    rw [if_neg hb.1, ih hr, Bool.and_assoc, hb.2, Bool.and_false]
    rfl

end C19.Url

namespace C19
open B

theorem ser_split {s : Bytes} (h : Bytes) (hs : 58 ∉ s) :
    indexOf (s ++ b "://" ++ h) (b "://") = some s.length ∧
    (s ++ b "://" ++ h).take (s.length + 3) = s ++ b "://" ∧ (s ++ b "://" ++ h).drop (s.length + 3) = h :=
  have hlen : s.length + 3 = (s ++ b "://").length := by simp [b]
  ⟨indexOf_append_append_of_not_mem h (by decide) hs, by rw [hlen]; exact List.take_left' rfl,
    by rw [hlen]; exact List.drop_left' rfl⟩

theorem ser_inj {s s' h h' : Bytes} (hs : 58 ∉ s) (hs' : 58 ∉ s')
    (e : s ++ b "://" ++ h = s' ++ b "://" ++ h') : s = s' ∧ h = h' := by
  have e' : s ++ 58 :: (47 :: 47 :: h) = s' ++ 58 :: (47 :: 47 :: h') := by simpa [b] using e
  obtain ⟨e1, e2⟩ := List.append_cons_inj_of_not_mem hs hs' e'
  exact ⟨e1, (List.cons.inj (List.cons.inj e2).2).2⟩

/-- utils.go `subdomain.match`, on the three texts: the origin is the prefix, anything, the suffix,
    the two not overlapping. -/
theorem affix_iff (pre suf o : Bytes) :
    (decide (o.length ≥ pre.length + suf.length) && hasPrefix o pre && hasSuffix o suf) = true ↔
      ∃ mid, o = pre ++ mid ++ suf := by
  unfold hasPrefix hasSuffix
  simp only [Bool.and_eq_true, decide_eq_true_eq, List.isPrefixOf_iff_prefix, List.isSuffixOf_iff_suffix]
  constructor
  · rintro ⟨⟨hl, t, rfl⟩, hs⟩
    have hsuf : suf <:+ t :=
      List.suffix_of_suffix_length_le hs (List.suffix_append _ _) (by simp at hl; omega)
    obtain ⟨m, rfl⟩ := hsuf
    exact ⟨m, by simp⟩
  · rintro ⟨mid, rfl⟩
    exact ⟨⟨by simp, mid ++ suf, by simp⟩, pre ++ mid, by simp⟩

theorem match_ser (sch suf S' HP' : Bytes) (h1 : 58 ∉ sch) (h2 : 58 ∉ S') :
    (decide ((S' ++ b "://" ++ HP').length ≥ (sch ++ b "://").length + suf.length) &&
      hasPrefix (S' ++ b "://" ++ HP') (sch ++ b "://") && hasSuffix (S' ++ b "://" ++ HP') suf) = true ↔
      S' = sch ∧ ∃ mid, HP' = mid ++ suf := by
  rw [affix_iff]
  constructor
  · rintro ⟨mid, hm⟩
    obtain ⟨e1, e2⟩ := ser_inj h2 h1 (hm.trans (List.append_assoc _ _ _))
    exact ⟨e1, mid, e2⟩
  · rintro ⟨rfl, mid, rfl⟩
    exact ⟨mid, by simp⟩

end C19
