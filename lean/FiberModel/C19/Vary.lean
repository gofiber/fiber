import FiberModel.C19.Props
/-
C19 — `Vary`: fiber's `Ctx.Append` (which `Ctx.Vary` is) adds a field name unless it finds it by
text; so `Vary: Origin` is listed after the middleware ran whatever list of field names an earlier
middleware had left, and stays listed whatever the downstream handler appends.
-/
namespace C19
open B

theorem splitComma_eq (s : Bytes) : splitComma s = s.splitOn 44 := by
  fun_induction splitComma s with
  | case1 => rfl
  | case2 cs ih => rw [List.splitOn_cons_eq_if_modifyHead, ← ih]; simp
  | case3 c cs hc h ih => exact absurd (ih.symm.trans h) (List.splitOn_ne_nil 44 cs)
  | case4 c cs hc p ps h ih => rw [List.splitOn_cons_eq_if_modifyHead, ← ih, h]; simp [hc]

theorem splitComma_append_comma (a c : Bytes) : splitComma (a ++ 44 :: c) = splitComma a ++ splitComma c := by
  simp only [splitComma_eq, List.splitOn_append_cons_self]

theorem splitComma_nocomma {a : Bytes} (h : 44 ∉ a) : splitComma a = [a] := by
  rw [splitComma_eq, List.splitOn_eq_singleton h]

theorem trimOWS_cons_ows (c : Nat) (s : Bytes) (h : isOWS c = true) : trimOWS (c :: s) = trimOWS s := by
  unfold trimOWS; simp [List.dropWhile, h]

theorem trimOWS_of_ends {l : Bytes} (h1 : ∀ a, l.head? = some a → isOWS a = false)
    (h2 : ∀ a, l.getLast? = some a → isOWS a = false) : trimOWS l = l := by
  rw [trimOWS, List.dropWhile_of_head h1, List.reverse_dropWhile_reverse_of_getLast h2]

/-- a header field name as `Append` gets it: not empty, no comma, no blank -/
def fieldName (v : Bytes) : Prop := v ≠ [] ∧ ∀ y ∈ v, y ≠ 44 ∧ isOWS y = false

theorem fieldName.no_blank {v : Bytes} (hv : fieldName v) : 32 ∉ v :=
  fun m => absurd (hv.2 32 m).2 (by decide)

theorem fieldName.no_comma {v : Bytes} (hv : fieldName v) : 44 ∉ v :=
  fun m => (hv.2 44 m).1 rfl

theorem fieldName.trim {v : Bytes} (hv : fieldName v) (l : Bytes) (hl : ∀ a, l.head? = some a → isOWS a = false) :
    trimOWS (l ++ v) = l ++ v := by
  apply trimOWS_of_ends
  · intro a h
    cases l with
    | nil => exact (hv.2 a (List.mem_of_head? h)).2
    | cons c t => exact hl a h
  · intro a h
    rw [List.getLast?_append] at h
    cases hl : v.getLast? with
    | none => exact absurd (List.getLast?_eq_none_iff.mp hl) hv.1
    | some z =>
      rw [hl, Option.some_or, Option.some.injEq] at h
      exact h ▸ (hv.2 z (List.mem_of_getLast? hl)).2

theorem fieldName.trim_eq {v : Bytes} (hv : fieldName v) : trimOWS v = v :=
  hv.trim [] (fun _ h => nomatch h)

theorem fieldName.piece {v : Bytes} (hv : fieldName v) (x : Bytes)
    (h : (trimOWS (x ++ 32 :: v)).contains 32 = false) : trimOWS (x ++ 32 :: v) = v := by
  induction x with
  | nil => rw [List.nil_append, trimOWS_cons_ows 32 v rfl, hv.trim_eq]
  | cons c cs ih =>
    rw [List.cons_append] at h ⊢
    cases hc : isOWS c with
    | true => rw [trimOWS_cons_ows c _ hc] at h ⊢; exact ih h
    | false =>
      rw [show c :: (cs ++ 32 :: v) = (c :: (cs ++ [32])) ++ v by simp,
        hv.trim (c :: (cs ++ [32])) (fun a h => Option.some.inj h ▸ hc)] at h
      simp at h

theorem fieldName.wf {v : Bytes} (hv : fieldName v) : varyWF v = true ∧ varyWF (32 :: v) = true := by
  unfold varyWF
  rw [splitComma_nocomma hv.no_comma, splitComma_nocomma (a := 32 :: v) (by simp [hv.no_comma])]
  simp [trimOWS_cons_ows 32 v rfl, hv.trim_eq, hv.no_blank]

theorem fieldName_consts : fieldName vOrigin ∧ fieldName vACRM ∧ fieldName vACRH ∧ fieldName vACRPN := by
  unfold fieldName vOrigin vACRM vACRH vACRPN
  repeat rw [b_ofList]
  decide +kernel

theorem fieldName_vOrigin : fieldName vOrigin := fieldName_consts.1

theorem toLower_vOrigin : toLower vOrigin = b "origin" := by
  unfold vOrigin
  repeat rw [b_ofList]
  decide +kernel

theorem appendOne_cases (h v : Bytes) :
    (h = [] ∧ appendOne h v = v) ∨ appendOne h v = h ++ 44 :: 32 :: v ∨
    (appendOne h v = h ∧
      (h = v ∨ (∃ t, h = v ++ 44 :: t) ∨ (∃ t, h = t ++ 32 :: v) ∨ ∃ pre post, h = (pre ++ 32 :: v) ++ 44 :: post)) := by
  fun_cases appendOne h v
  -- no header yet; none of the searches finds `v`; one does
  case case1 h0 => exact Or.inl ⟨h0, rfl⟩
  case case2 => exact Or.inr (Or.inl (by simp))
  case case3 hc =>
    refine Or.inr (Or.inr ⟨rfl, ?_⟩)
    by_cases h1 : h = v
    · exact Or.inl h1
    by_cases h2 : hasPrefix h (v ++ [44]) = true
    · obtain ⟨t, ht⟩ := List.isPrefixOf_iff_prefix.mp h2
      exact Or.inr (Or.inl ⟨t, by rw [← ht]; simp⟩)
    by_cases h3 : hasSuffix h (32 :: v) = true
    · obtain ⟨t, ht⟩ := List.isSuffixOf_iff_suffix.mp h3
      exact Or.inr (Or.inr (Or.inl ⟨t, ht.symm⟩))
    by_cases h4 : (indexOf h (32 :: v ++ [44])).isSome = true
    · obtain ⟨i, hi⟩ := Option.isSome_iff_exists.mp h4
      obtain ⟨pre, post, e, _⟩ := indexOf_split hi
      exact Or.inr (Or.inr (Or.inr ⟨pre, post, by rw [e]; simp⟩))
    · exact absurd (by simpa [h1, h2, h3] using h4) hc

theorem varyHasOrigin_comma (a c : Bytes) :
    varyHasOrigin (a ++ 44 :: c) = (varyHasOrigin a || varyHasOrigin c) := by
  unfold varyHasOrigin; rw [splitComma_append_comma, List.any_append]

theorem varyWF_comma (a c : Bytes) : varyWF (a ++ 44 :: c) = (varyWF a && varyWF c) := by
  unfold varyWF; rw [splitComma_append_comma, List.all_append]

/-- once listed, `Origin` stays listed: `Append` only ever adds behind a comma -/
theorem varyHasOrigin_appendOne (h v : Bytes) (hh : varyHasOrigin h = true) :
    varyHasOrigin (appendOne h v) = true := by
  rcases appendOne_cases h v with ⟨h0, _⟩ | e | ⟨e, _⟩
  · subst h0; exact absurd hh (by decide)
  · rw [e, varyHasOrigin_comma, hh]; rfl
  · rw [e]; exact hh

theorem varyHasOrigin_appendAll (vs : List Bytes) (h : Bytes) (hh : varyHasOrigin h = true) :
    varyHasOrigin (appendAll h vs) = true :=
  List.foldlRecOn (motive := (varyHasOrigin · = true)) vs appendOne hh fun h hh v _ => varyHasOrigin_appendOne h v hh

theorem varyHasOrigin_vOrigin : varyHasOrigin vOrigin = true := by
  unfold varyHasOrigin
  rw [splitComma_nocomma fieldName_vOrigin.no_comma]
  simp [fieldName_vOrigin.trim_eq, toLower_vOrigin]

theorem varyHasOrigin_of_suffix (t : Bytes) (hw : varyWF (t ++ 32 :: vOrigin) = true) :
    varyHasOrigin (t ++ 32 :: vOrigin) = true := by
  -- the last member is `x ++ " Origin"`, `x` the text behind the last comma (`Url.cutLast` splits at the
  -- last occurrence of a byte)
  have last : ∀ x : Bytes, 44 ∉ x → varyWF (x ++ 32 :: vOrigin) = true →
      varyHasOrigin (x ++ 32 :: vOrigin) = true := by
    intro x hx hw
    have e := splitComma_nocomma (a := x ++ 32 :: vOrigin) (by simp [hx, fieldName_vOrigin.no_comma])
    unfold varyWF at hw
    unfold varyHasOrigin
    rw [e] at hw ⊢
    have hp : (trimOWS (x ++ 32 :: vOrigin)).contains 32 = false := by simpa using hw
    simp [fieldName_vOrigin.piece x hp, toLower_vOrigin]
  have hc := Url.cutLast_spec t 44
  split at hc
  · exact last t hc hw
  · rename_i a r _
    rw [hc.1, List.append_assoc, List.cons_append] at hw ⊢
    rw [varyWF_comma] at hw
    rw [varyHasOrigin_comma, last r hc.2 ((Bool.and_eq_true _ _).mp hw).2, Bool.or_true]

/-- **`Vary: Origin` after `c.Vary("Origin")`**, whatever list of field names was there before. -/
theorem varyHasOrigin_appendOne_origin (h : Bytes) (hw : varyWF h = true) :
    varyHasOrigin (appendOne h vOrigin) = true := by
  rcases appendOne_cases h vOrigin with ⟨_, e⟩ | e | ⟨e, c⟩
  · rw [e]; exact varyHasOrigin_vOrigin
  · rw [e, varyHasOrigin_comma, show varyHasOrigin (32 :: vOrigin) = true from
      varyHasOrigin_of_suffix [] fieldName_vOrigin.wf.2, Bool.or_true]
  · rw [e]
    rcases c with c | ⟨t, c⟩ | ⟨t, c⟩ | ⟨pre, post, c⟩
    · rw [c]; exact varyHasOrigin_vOrigin
    · rw [c, varyHasOrigin_comma, varyHasOrigin_vOrigin]; rfl
    · rw [c] at hw ⊢; exact varyHasOrigin_of_suffix t hw
    · rw [c] at hw ⊢
      rw [varyWF_comma] at hw
      rw [varyHasOrigin_comma, varyHasOrigin_of_suffix pre ((Bool.and_eq_true _ _).mp hw).1]
      rfl

theorem varyWF_appendOne (h v : Bytes) (hw : varyWF h = true) (hv : fieldName v) :
    varyWF (appendOne h v) = true := by
  rcases appendOne_cases h v with ⟨_, e⟩ | e | ⟨e, _⟩
  · rw [e]; exact hv.wf.1
  · rw [e, varyWF_comma, hw, hv.wf.2]; rfl
  · rw [e]; exact hw

theorem varyWF_appendAll (vs : List Bytes) (h : Bytes) (hw : varyWF h = true) (hv : ∀ v ∈ vs, fieldName v) :
    varyWF (appendAll h vs) = true :=
  List.foldlRecOn (motive := (varyWF · = true)) vs appendOne hw fun h hw v hm => varyWF_appendOne h v hw (hv v hm)

/-- clause `vary-origin` for the model -/
theorem vary_origin_when_varies (bt : Built) (q : Request) :
    varyOK bt.allowAll bt.cfg q (handle bt q) = true := by
  cases hA : bt.allowAll
  case true => simp [varyOK]
  cases hW : varyWF q.priorVary
  case false => simp [varyOK, hW]
  -- the clause is on: `Origin` is listed once `c.Vary("Origin")` ran on a list of names, and stays listed
  have all := varyHasOrigin_appendAll q.afterVary _ (varyHasOrigin_appendOne_origin _ hW)
  apply handle_cases bt q (varyOK false bt.cfg q · = true)
  case skip => intro h; simp [varyOK, h]
  case panic => intros; rfl
  case options => intros; simp [varyOK, all]
  case noOrigin | simple => intros; simp [varyOK, hA, all]
  case preflight =>
    intro _ _ _ _ _ _ pn _
    obtain ⟨_, h1, h2, h3⟩ := fieldName_consts
    have := varyHasOrigin_appendOne_origin _ (varyWF_appendAll ([vACRM, vACRH] ++ if pn then [vACRPN] else []) _ hW
      (by cases pn <;> simp [h1, h2, h3]))
    simp only [varyOK, this, Bool.or_true]

end C19
