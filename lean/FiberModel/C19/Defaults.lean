import FiberModel.C19.Spec
import FiberModel.Generated.C19Facts
/-
C19 — obligations over `Generated/C19Facts.lean` (cors.ConfigDefault).
`cors.New()` without arguments uses exactly this configuration.
-/
namespace C19
open B

/-- cors.ConfigDefault, from the translator. -/
def defaultConfig : Config :=
  { allowOrigins := Facts.defaultAllowOrigins,
    allowFunc := none,
    allowMethods := Facts.defaultAllowMethods,
    allowHeaders := Facts.defaultAllowHeaders,
    exposeHeaders := Facts.defaultExposeHeaders,
    maxAge := Facts.defaultMaxAge,
    credentials := Facts.defaultCredentials,
    privateNetwork := Facts.defaultPrivateNetwork }

/-- The default configuration is accepted by the constructor (it does not panic), has no allow
    function, and never pairs credentials with the wildcard. -/
theorem default_config_is_accepted_and_safe :
    Facts.defaultAllowFuncIsNil = true ∧
    (build defaultConfig Facts.defaultAllowMethods).isSome = true ∧
    (build defaultConfig Facts.defaultAllowMethods).map (fun bt => bt.cfg.credentials && bt.allowAll)
      = some false := by
  decide

/-- The default list of methods used when `AllowMethods` is left empty is non-empty (so a preflight
    always names methods). -/
theorem default_methods_nonempty : Facts.defaultAllowMethods ≠ [] := by decide

end C19
