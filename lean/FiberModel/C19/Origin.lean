import FiberModel.C19.UrlLemmas
import FiberModel.C19.Spec
/-
C19 — from the constructor's state to the configuration TEXT. The code's and the spec's readers of a
text (`normalizeOrigin`, `wildcardSplit`; `originOfText`, `wildcardOfText`) are images of one
function, `originParts`: scheme and host of a parsed URL that is nothing but an origin. So what the
constructor stored permits exactly what the entries denote.
-/
namespace C19
open B Url

theorem parseRest_inv {scheme rest rq : Bytes} {u : URL} (h : parseRest scheme rest rq = some u) :
    u.scheme = scheme ∧ u.rawQuery = rq ∧
    (u.host ≠ [] → ∃ r2, rest = 47 :: 47 :: r2 ∧ parseAuthority (cut r2 47).1 = some u.host ∧
      unescape .other (match (cut r2 47).2 with | some p => 47 :: p | none => []) = some u.path) := by
  revert h
  -- opaque (no `/` behind a scheme); colon in the first segment; `//authority`: refused, read; path only
  fun_cases parseRest scheme rest rq <;> intro h
  case case1 => cases h; exact ⟨rfl, rfl, fun hh => absurd rfl hh⟩
  case case4 hc auth path host hpa =>
    obtain ⟨r2, hr⟩ := List.isPrefixOf_iff_prefix.mp ((Bool.and_eq_true _ _).mp hc).2
    obtain ⟨a, ha, rfl⟩ := Option.map_eq_some_iff.mp h
    subst hr
    exact ⟨rfl, rfl, fun _ => ⟨r2, rfl, hpa, ha⟩⟩
  case case5 =>
    obtain ⟨p, _, rfl⟩ := Option.map_eq_some_iff.mp h
    exact ⟨rfl, rfl, fun hh => absurd rfl hh⟩
  all_goals cases h

theorem parseNoFrag_inv {raw : Bytes} {u : URL} (h : parseNoFrag raw = some u) :
    containsCTL raw = false ∧ (u = { path := b "*" } ∨ ∃ sch rest0, getScheme raw = some (sch, rest0) ∧
      parseRest (toLower sch) (cut rest0 63).1 ((cut rest0 63).2.getD []) = some u) := by
  revert h
  fun_cases parseNoFrag raw <;> intro h
  case case2 hc _ => exact ⟨by simpa using hc, Or.inl (Option.some.inj h).symm⟩
  case case4 hc _ sch rest0 hg =>
    simp only [splitQuery_eq] at h
    exact ⟨by simpa using hc, Or.inr ⟨sch, rest0, hg, h⟩⟩
  all_goals cases h

theorem parse_inv {t : Bytes} {u : URL} (h : parse t = some u) :
    ∃ u0, parseNoFrag (cut t 35).1 = some u0 ∧ u.scheme = u0.scheme ∧
      (u.fragment = [] → u = u0 ∧ (cut t 35).2.getD [] = []) := by
  revert h
  fun_cases parse t <;> intro h
  case case1 => cases h
  case case2 u0 h0 hn | case3 u0 h0 hn => cases h; exact ⟨u, h0, rfl, fun _ => ⟨rfl, by rw [hn]; rfl⟩⟩
  case case4 u0 h0 frag _ he =>
    obtain ⟨f, hu, rfl⟩ := Option.map_eq_some_iff.mp h
    exact ⟨u0, h0, rfl, fun hfe => absurd hfe (unescape_ne_nil he hu)⟩

theorem toLower_no_colon (s : Bytes) (h : 58 ∉ s) : 58 ∉ toLower s := by
  intro m
  obtain ⟨y, hy, e⟩ := List.mem_map.mp m
  exact h ((lowerByte_eq_iff y 58 (by decide) (by decide)).mp e ▸ hy)

theorem scheme_no_colon (t : Bytes) (u : URL) (h : parse t = some u) : 58 ∉ u.scheme := by
  obtain ⟨u0, h0, hs, _⟩ := parse_inv h
  rw [hs]
  rcases (parseNoFrag_inv h0).2 with e | ⟨sch, rest, hg, hr⟩
  · rw [e]; simp
  · rw [(parseRest_inv hr).1]
    apply toLower_no_colon
    rcases getScheme_inv hg with ⟨e0, _⟩ | ⟨hsh, _⟩
    · rw [e0]; simp
    · exact schemeShaped_no_colon hsh

/-- what `normalizeOrigin` asks of a parsed URL: a host without `*`, nothing behind it but a root path -/
abbrev bareOrigin (u : URL) : Prop :=
  u.host ≠ [] ∧ ¬ u.host.contains 42 ∧ (u.path = [] ∨ u.path = b "/") ∧ u.rawQuery = [] ∧ u.fragment = []

/-- the refusals of utils.go `normalizeOrigin`, one `if` after the other, against the one test (any answer `v`:
    C16's reader of a trusted origin makes the same refusals with an answer of its own) -/
theorem normalizeOrigin_refusals {α : Type} (u : URL) (v : α) :
    (if u.host.contains 42 = true then none
     else if (u.host = [] || (u.path ≠ [] && u.path ≠ b "/") || u.rawQuery ≠ [] || u.fragment ≠ []) = true then none
     else some v) = if bareOrigin u then some v else none := by
  by_cases h2 : u.host.contains 42 = true
  · rw [if_pos h2, if_neg (fun h => h.2.1 h2)]
  rw [if_neg h2]
  by_cases hc : (u.host = [] || (u.path ≠ [] && u.path ≠ b "/") || u.rawQuery ≠ [] || u.fragment ≠ []) = true
  · rw [if_pos hc, if_neg]
    rintro ⟨h1, _, h3, h4, h5⟩
    rcases h3 with e | e <;> simp [h1, e, h4, h5] at hc
  · rw [if_neg hc, if_pos]
    simp only [Bool.or_eq_true, Bool.and_eq_true, decide_eq_true_eq, not_or, not_and, ne_eq,
      Decidable.not_not] at hc
    exact ⟨hc.1.1.1, h2, (Decidable.em (u.path = [])).imp_right hc.1.1.2, hc.1.2, hc.2⟩

/-- scheme and host, as `url.Parse` reports them, of a text that denotes an origin -/
def originParts (t : Bytes) : Option (Bytes × Bytes) :=
  match parse t with
  | none => none
  | some u => if bareOrigin u then some (u.scheme, u.host) else none

theorem originOfText_eq (t : Bytes) :
    originOfText t = (originParts t).map fun p => toLower p.1 ++ b "://" ++ toLower p.2 := by
  unfold originOfText originParts
  cases parse t with
  | none => rfl
  | some u => simp only; split <;> rfl

theorem normalizeOrigin_eq (t : Bytes) :
    normalizeOrigin t = (originParts t).map fun p => toLower p.1 ++ b "://" ++ toLower p.2 := by
  unfold normalizeOrigin originParts
  cases parse t with
  | none => rfl
  | some u =>
    simp only
    rw [normalizeOrigin_refusals]
    split
    · simp only [Option.map_some, toLower_append]; rfl
    · rfl

theorem wildcardOfText_eq (t : Bytes) :
    wildcardOfText t = (originParts t).bind fun p =>
      if p.2.head? = some 46 then some (toLower p.1 ++ b "://", toLower p.2) else none := by
  unfold wildcardOfText originParts
  cases parse t with
  | none => rfl
  | some u =>
    simp only
    by_cases hb : bareOrigin u
    · rw [if_pos hb, Option.bind_some]
      by_cases hd : u.host.head? = some 46
      · rw [if_pos hd, if_pos ⟨hd, hb.2⟩]
      · rw [if_neg hd, if_neg (fun h => hd h.1)]
    · rw [if_neg hb, if_neg]
      · rfl
      · exact fun h => hb ⟨fun e => (by rw [e] at h; exact nomatch h.1), h.2⟩

theorem originParts_eq_some_iff {t : Bytes} {p : Bytes × Bytes} :
    originParts t = some p ↔ ∃ u, parse t = some u ∧ bareOrigin u ∧ p = (u.scheme, u.host) := by
  unfold originParts
  cases parse t with
  | none => simp
  | some u => simp [eq_comm]

theorem originParts_no_colon {t : Bytes} {p : Bytes × Bytes} (h : originParts t = some p) : 58 ∉ p.1 := by
  obtain ⟨u, hp, _, rfl⟩ := originParts_eq_some_iff.mp h
  exact scheme_no_colon t u hp

theorem normalizeOrigin_eq_originOfText (t : Bytes) : normalizeOrigin t = originOfText t := by
  rw [normalizeOrigin_eq, originOfText_eq]

theorem head?_toLower_dot (s : Bytes) : (toLower s).head? = some 46 ↔ s.head? = some 46 := by
  cases s with
  | nil => simp [toLower]
  | cons a t =>
    simp only [toLower, List.map_cons, List.head?_cons, Option.some.injEq]
    exact lowerByte_eq_iff a 46 (by decide) (by decide)

theorem wildcardSplit_eq_wildcardOfText (t : Bytes) : wildcardSplit t = wildcardOfText t := by
  unfold wildcardSplit
  rw [normalizeOrigin_eq, wildcardOfText_eq]
  cases hp : originParts t with
  | none => rfl
  | some p =>
    -- the normalised origin is cut behind its first `://`: the scheme holds no colon
    obtain ⟨h1, h2, h3⟩ := ser_split (toLower p.2) (toLower_no_colon _ (originParts_no_colon hp))
    simp only [Option.map_some, Option.bind_some, h1, h2, h3, head?_toLower_dot]

/-- the entries `New` looks at: everything in front of the first `*` -/
def liveEntries : List Bytes → List Bytes
  | [] => []
  | e :: rest => if e = b "*" then [] else e :: liveEntries rest

/-- the entry denotes something: an origin, or (wildcard entry) a scheme and a dot-led host suffix -/
def entryValid (e : Bytes) : Bool :=
  match indexOf e (b "://*.") with
  | some i => (wildcardOfText (trim (e.take (i + 3) ++ e.drop (i + 4)) 32)).isSome
  | none => (originOfText (trim e 32)).isSome

/-- What one `AllowOrigins` entry (not `*`) stands for, read off its text: an origin for the exact
    list, a (prefix, suffix) pair for the wildcard list, or nothing. -/
def entryStored (e : Bytes) : Option (Bytes ⊕ Subdomain) :=
  match indexOf e (b "://*.") with
  | some i => (wildcardOfText (trim (e.take (i + 3) ++ e.drop (i + 4)) 32)).map fun p => .inr ⟨p.1, p.2⟩
  | none => (originOfText (trim e 32)).map .inl

theorem buildLoop_cons (e : Bytes) (rest os : List Bytes) (ss : List Subdomain) (he : e ≠ b "*") :
    buildLoop (e :: rest) os ss =
      match entryStored e with
      | none => none
      | some (.inl n) => buildLoop rest (os ++ [n]) ss
      | some (.inr sd) => buildLoop rest os (ss ++ [sd]) := by
  rw [buildLoop, if_neg he]
  unfold entryStored
  cases indexOf e (b "://*.") with
  | some i =>
    simp only [wildcardSplit_eq_wildcardOfText]
    cases wildcardOfText (trim (e.take (i + 3) ++ e.drop (i + 4)) 32) <;> rfl
  | none =>
    simp only [normalizeOrigin_eq_originOfText]
    cases originOfText (trim e 32) <;> rfl

theorem entryPermits_eq (e o : Bytes) :
    entryPermits e o =
      match entryStored e with
      | none => false
      | some (.inl n) => n == o
      | some (.inr sd) => sd.match o := by
  unfold entryPermits entryStored
  cases indexOf e (b "://*.") with
  -- `entryPermits` spells out the test that `Subdomain.match` is
  | some i => simp only; cases wildcardOfText (trim (e.take (i + 3) ++ e.drop (i + 4)) 32) <;> rfl
  | none => simp only; cases originOfText (trim e 32) <;> rfl

theorem entryValid_eq (e : Bytes) : entryValid e = (entryStored e).isSome := by
  unfold entryValid entryStored
  cases indexOf e (b "://*.") <;> simp only [Option.isSome_map]

/-- Invariant of the loop in `New`: it succeeds iff every entry in front of the first `*` stands for
    something; it reports `*` iff `*` is listed; without `*` the stored exact and wildcard entries
    permit exactly what was stored before plus what the entries denote. -/
theorem buildLoop_spec (es : List Bytes) (os : List Bytes) (ss : List Subdomain) :
    (buildLoop es os ss).isSome = (liveEntries es).all entryValid ∧
    ∀ os' ss' star, buildLoop es os ss = some (os', ss', star) →
      star = es.contains (b "*") ∧
      (star = false → ∀ o, (os'.contains o || ss'.any (·.match o)) =
        (os.contains o || ss.any (·.match o) || es.any (entryPermits · o))) := by
  induction es generalizing os ss with
  | nil =>
    refine ⟨rfl, fun os' ss' star h => ?_⟩
    cases h
    simp
  | cons e rest ih =>
    by_cases hs : e = b "*"
    · subst hs
      refine ⟨by simp [buildLoop, liveEntries], fun os' ss' star h => ?_⟩
      rw [buildLoop, if_pos rfl] at h
      cases h
      simp
    · have hs' : (b "*" == e) = false := beq_false_of_ne fun x => hs x.symm
      rw [buildLoop_cons e rest os ss hs, liveEntries, if_neg hs, List.all_cons, entryValid_eq]
      simp only [List.contains_cons, hs', Bool.false_or, List.any_cons, entryPermits_eq e]
      rcases entryStored e with _ | st
      · exact ⟨rfl, nofun⟩
      -- an origin for the exact list or a pair for the wildcard list: the round appends it there
      cases st <;> (
        refine ⟨by simpa using (ih _ _).1, fun os' ss' star h => ?_⟩
        obtain ⟨h1, h2⟩ := (ih _ _).2 os' ss' star h
        refine ⟨h1, fun hst o => ?_⟩
        rw [h2 hst o]
        simp only [List.contains_append, List.contains_cons, List.contains_nil, List.any_append, List.any_cons,
          List.any_nil, Bool.or_false, Bool.or_assoc, Bool.or_left_comm, Bool.beq_comm (a := o)])

/-- What `New` hands to the handler: the configuration `cfg` it worked with, and a state that agrees with the
    text of that configuration. -/
structure BuiltSpec (cfg : Config) (bt : Built) : Prop where
  cfg_eq : bt.cfg = cfg
  allowAll_eq : bt.allowAll = cfgAllowsAll bt.cfg
  listAllows_eq : bt.allowAll = false → ∀ o, listAllows bt o = cfgListPermits bt.cfg o
  refuses : ¬ (bt.cfg.credentials = true ∧ cfgAllowsAll bt.cfg = true)

theorem buildCore_eq (cfg : Config) :
    buildCore cfg = (buildLoop cfg.allowOrigins [] []).bind fun r =>
      if cfg.credentials && cfgAllowsAll cfg then none
      else some { origins := r.1, subs := r.2.1, allowAll := cfgAllowsAll cfg, cfg := cfg } := by
  unfold buildCore cfgAllowsAll
  cases hl : buildLoop cfg.allowOrigins [] [] with
  | none => rfl
  | some r => rw [← ((buildLoop_spec _ _ _).2 _ _ _ hl).1]; rfl

theorem buildCore_spec {cfg : Config} {bt : Built} (h : buildCore cfg = some bt) : BuiltSpec cfg bt := by
  rw [buildCore_eq, Option.bind_eq_some_iff] at h
  obtain ⟨⟨os, ss, star⟩, hl, h⟩ := h
  split at h
  · cases h
  · rename_i hc
    cases h
    obtain ⟨h1, h2⟩ := (buildLoop_spec _ _ _).2 _ _ _ hl
    refine ⟨rfl, rfl, fun hA o => ?_, by simpa using hc⟩
    simpa [listAllows, cfgListPermits] using h2 (h1.trans (Bool.or_eq_false_iff.mp hA).1) o

/-- `New` works with the user's configuration after the `AllowMethods` defaulting: that is `bt.cfg`. -/
theorem build_spec {cfg : Config} {dm : List Bytes} {bt : Built} (h : build cfg dm = some bt) :
    BuiltSpec (if cfg.allowMethods.isEmpty then { cfg with allowMethods := dm } else cfg) bt := by
  unfold build at h
  exact buildCore_spec h

/-- **`New` reports "all origins allowed" iff the configuration says so** (`*` listed, or nothing
    configured at all). -/
theorem build_allowAll (cfg : Config) (dm : List Bytes) (bt : Built) (h : build cfg dm = some bt) :
    bt.allowAll = cfgAllowsAll bt.cfg :=
  (build_spec h).allowAll_eq

theorem build_refuses_star_with_credentials (cfg : Config) (dm : List Bytes) (bt : Built)
    (h : build cfg dm = some bt) : ¬ (bt.cfg.credentials = true ∧ bt.allowAll = true) := by
  rw [(build_spec h).allowAll_eq]
  exact (build_spec h).refuses

/-- **What the constructor stored permits an origin iff an entry of the configuration denotes it**:
    for every configuration `New` accepts that does not allow all origins, and every origin text,
    the handler's list decision (`allowOrigins` by equality, then `allowSOrigins` by
    `subdomain.match`) equals the reading of the `AllowOrigins` texts — an exact entry permits the
    origin `url.Parse` reads off it (scheme and host in lower case; blanks around, userinfo, a root
    path, an empty `?`/`#` dropped; anything else makes it denote nothing), a wildcard entry permits
    `scheme://` ++ anything ++ `.domain[:port]`. -/
theorem origin_permitted_iff (cfg : Config) (dm : List Bytes) (bt : Built) (h : build cfg dm = some bt)
    (hA : bt.allowAll = false) (o : Bytes) :
    permitted bt o = permittedW (cfgListPermits bt.cfg) bt.cfg o := by
  unfold permitted permittedW
  rw [(build_spec h).listAllows_eq hA o]

end C19
