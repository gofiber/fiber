import FiberModel.C19.Shapes
/-
C19 — the converse: whatever text denotes an origin has the shape `[scheme:]//authority` followed by
nothing but an optional root path, an optional empty query marker and an optional empty fragment
marker. With `Shapes.lean` that is exactly the set of accepted texts, and a text has that shape in
one way only; so the constructor strips `/`, `?`, `#` markers (and the userinfo, inside the
authority) and refuses everything else.
-/
namespace C19
open B Url

theorem unescape_slash_only (p : Bytes) (h : unescape .other (47 :: p) = some [47]) : p = [] := by
  obtain ⟨t, ht, e⟩ := unescape_cons_plain (by decide) h
  cases e
  exact Decidable.byContradiction fun hp => unescape_ne_nil hp ht rfl

/-- **The texts that denote an origin**, exactly: `[S ":"] "//" A T` with `S` a scheme
    `[a-zA-Z][a-zA-Z0-9+.-]*` (or no scheme at all), an authority `A` free of `/ ? #` and control bytes
    whose host (`parseAuthority`) is non-empty and free of `*`, and a tail `T` among
    `"" "/" "?" "/?" "#" "/#" "?#" "/?#"`; scheme and host are reported as `url.Parse` does. -/
theorem originParts_iff {x s host : Bytes} :
    originParts x = some (s, host) ↔
      ∃ S A T, Splits x S A T ∧ T ∈ acceptedTails ∧ parseAuthority A = some host ∧ host ≠ [] ∧ 42 ∉ host ∧
        s = toLower S := by
  refine ⟨fun h => ?_,
    fun ⟨_, _, _, hsp, hT, hpa, hne, hstar, e⟩ => e ▸ originParts_of_splits hsp hT hpa hne hstar⟩
  obtain ⟨u, hp, ⟨hhost, hstar, hpath, hq, hf⟩, e⟩ := originParts_eq_some_iff.mp h
  obtain ⟨rfl, rfl⟩ := Prod.mk.inj e
  -- the text is: front ++ fragment marker; front = [scheme:] rest0; rest0 = //r2 ++ query marker;
  -- r2 = authority ++ path marker
  obtain ⟨u0, h0, _, hfr⟩ := parse_inv hp
  obtain ⟨hu, hcutF⟩ := hfr hf
  subst hu
  obtain ⟨h35, F, hF, e3⟩ := cut_marker hcutF
  obtain ⟨hctl, e | ⟨sch, rest0, hg, hpr⟩⟩ := parseNoFrag_inv h0
  · rw [e] at hhost; exact absurd rfl hhost
  obtain ⟨hsch, hrq, hh⟩ := parseRest_inv hpr
  obtain ⟨r2, hr, hpa, hup⟩ := hh hhost
  obtain ⟨hq63, Q, hQ, e2⟩ := cut_marker (s := rest0) (c := 63) (hrq ▸ hq)
  rw [hr] at hq63 e2
  obtain ⟨h47, T0, hT0, e1⟩ := cut_marker (s := r2) (c := 47) (by
    cases h2 : (cut r2 47).2 with
    | none => rfl
    | some p =>
      rw [h2] at hup
      have hp1 : u.path = [47] := hpath.resolve_left (unescape_ne_nil (by simp) hup)
      rw [hp1] at hup
      exact unescape_slash_only p hup)
  generalize (cut r2 47).1 = A at *
  subst e1
  have hmem : T0 ++ Q ++ F ∈ acceptedTails := mem_acceptedTails.mpr ⟨T0, Q, F, hT0, hQ, hF, rfl⟩
  obtain ⟨pfx, hfront, hpfx⟩ : ∃ pfx, (cut x 35).1 = pfx ++ rest0 ∧
      ((sch = [] ∧ pfx = []) ∨ (schemeShaped sch = true ∧ pfx = sch ++ [58])) := by
    rcases getScheme_inv hg with ⟨es, e⟩ | ⟨hs, e⟩
    · exact ⟨[], e.symm, Or.inl ⟨es, rfl⟩⟩
    · exact ⟨sch ++ [58], by rw [e]; simp, Or.inr ⟨hs, rfl⟩⟩
  refine ⟨sch, A, T0 ++ Q ++ F, ⟨?_, ?_, fun y hy => acceptedTails_delim hmem y (List.mem_of_head? hy)⟩,
    hmem, hpa, hhost, by simpa using hstar, hsch⟩
  · have hx : x = pfx ++ 47 :: 47 :: (A ++ (T0 ++ Q ++ F)) := by rw [e3, hfront, e2]; simp
    rcases hpfx with ⟨es, rfl⟩ | ⟨hs, rfl⟩
    · exact Or.inl ⟨es, hx⟩
    · exact Or.inr ⟨hs, by rw [hx]; simp⟩
  · -- the authority sits inside rest0, inside the front, which holds no `#` and no control byte
    have hfr : ∀ c ∈ A, c ∈ (cut x 35).1 := fun c hc => by rw [hfront, e2]; simp [hc]
    exact clean.intro (fun m => h35 (hfr _ m)) h47 (fun m => hq63 (by simp [m]))
      (fun c hc => by simpa using List.any_eq_false.mp hctl c (hfr c hc))

theorem Splits.unique {x S A T S' A' T' : Bytes} (h : Splits x S A T) (h' : Splits x S' A' T') :
    S = S' ∧ A = A' ∧ T = T' := by
  obtain ⟨P, e, hP, hS⟩ := h.prefix
  obtain ⟨P', e', hP', hS'⟩ := h'.prefix
  -- the first `/` ends the prefix, the first of `/ ? #` behind `//` ends the authority
  obtain ⟨eP, eR⟩ := List.append_inj_of_stop (P := (· = 47)) (t := 47 :: 47 :: (A ++ T))
    (t' := 47 :: 47 :: (A' ++ T')) (fun y hy e => hP.not_mem (.inl rfl) (e ▸ hy)) (fun y hy e => hP'.not_mem (.inl rfl) (e ▸ hy))
    (fun y hy => (Option.some.inj hy).symm) (fun y hy => (Option.some.inj hy).symm) (e.symm.trans e')
  obtain ⟨eA, eT⟩ := List.append_inj_of_stop h.auth.no_delim h'.auth.no_delim h.tail h'.tail
    (List.cons.inj (List.cons.inj eR).2).2
  refine ⟨?_, eA, eT⟩
  rcases hS with ⟨e1, e2⟩ | ⟨_, e2⟩ <;> rcases hS' with ⟨e1', e2'⟩ | ⟨_, e2'⟩
  · rw [e1, e1']
  · rw [e2, e2'] at eP; exact absurd eP.symm (by simp)
  · rw [e2, e2'] at eP; exact absurd eP (by simp)
  · rw [e2, e2'] at eP; exact List.append_cancel_right eP

/-- **Whatever `normalizeOrigin` accepts.** If `normalizeOrigin x = some n` then
    `x = [S ":"] "//" A T` with `S` a scheme `[a-zA-Z][a-zA-Z0-9+.-]*` (or no scheme at all), an
    authority `A` free of `/ ? #`, whose host (`parseAuthority`) is non-empty and free of `*`, a tail
    `T` among `"" "/" "?" "/?" "#" "/#" "?#" "/?#"`, and `n = lower(S)://lower(host)`. -/
theorem normalizeOrigin_some_shape (x n : Bytes) (h : normalizeOrigin x = some n) :
    ∃ S A T host,
      ((S = [] ∧ x = 47 :: 47 :: (A ++ T)) ∨ (schemeShaped S = true ∧ x = S ++ 58 :: 47 :: 47 :: (A ++ T))) ∧
      T ∈ acceptedTails ∧ 47 ∉ A ∧ 63 ∉ A ∧ 35 ∉ A ∧
      parseAuthority A = some host ∧ host ≠ [] ∧ 42 ∉ host ∧
      n = toLower S ++ b "://" ++ toLower host := by
  rw [normalizeOrigin_eq, Option.map_eq_some_iff] at h
  obtain ⟨⟨s, host⟩, hp, rfl⟩ := h
  obtain ⟨S, A, T, hsp, hT, hpa, hne, hstar, rfl⟩ := originParts_iff.mp hp
  exact ⟨S, A, T, host, hsp.text, hT, hsp.auth.not_mem (.inl rfl), hsp.auth.not_mem (.inr (.inl rfl)),
    hsp.auth.not_mem (.inr (.inr rfl)), hpa, hne, hstar, by rw [toLower_idem]⟩

/-- In particular a path beyond `/`, a non-empty query or a non-empty fragment behind `S://A` is
    refused. -/
theorem normalizeOrigin_rejects (S A : Bytes) (hS : schemeShaped S = true) (hA : clean A) (extra : Bytes)
    (hextra : extra ≠ []) (hx : clean extra) :
    normalizeOrigin (S ++ b "://" ++ A ++ 47 :: extra) = none ∧
    normalizeOrigin (S ++ b "://" ++ A ++ 63 :: extra) = none ∧
    normalizeOrigin (S ++ b "://" ++ A ++ 35 :: extra) = none := by
  have key : ∀ c : Nat, delim c → normalizeOrigin (S ++ b "://" ++ A ++ c :: extra) = none := by
    intro c hc
    rw [normalizeOrigin_eq, Option.map_eq_none_iff, Option.eq_none_iff_forall_ne_some]
    rintro ⟨s, host⟩ hn
    -- the text splits in one way only, and `c :: extra` is no accepted tail: `extra` holds no delimiter
    obtain ⟨S', A', T', hsp, hT', _⟩ := originParts_iff.mp hn
    have hsp0 : Splits (S ++ b "://" ++ A ++ c :: extra) S A (c :: extra) :=
      ⟨Or.inr ⟨hS, by simp [b]⟩, hA, fun y hy => Option.some.inj hy ▸ hc⟩
    obtain ⟨d, ds, rfl⟩ := List.exists_cons_of_ne_nil hextra
    refine hx.no_delim d List.mem_cons_self (acceptedTails_delim hT' d ?_)
    rw [← (hsp0.unique hsp).2.2]
    simp
  exact ⟨key 47 (.inl rfl), key 63 (.inr (.inl rfl)), key 35 (.inr (.inr rfl))⟩

end C19
