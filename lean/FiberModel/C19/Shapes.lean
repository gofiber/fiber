import FiberModel.C19.Origin
/-
C19 — what `url.Parse` (hence `normalizeOrigin`) answers on the shapes an origin can be written in:
`scheme://[userinfo@]host[:port][/]` with a registered name, an IPv4 or a bracketed IPv6 literal as
host — upper case, ports (default or not), trailing dot, punycode labels are just bytes here.
The grammar of the texts that denote an origin (`Splits`, `acceptedTails`) is stated here with the
direction "such a text is accepted" (`parse_of_splits`); `Reject.lean` has the converse.
-/
namespace C19
open B Url

/-- no URL delimiter (`#`, `/`, `?`) and no control byte -/
def clean (s : Bytes) : Prop := ∀ x ∈ s, x ≠ 35 ∧ x ≠ 47 ∧ x ≠ 63 ∧ isCTL x = false

theorem clean.append {s t : Bytes} (hs : clean s) (ht : clean t) : clean (s ++ t) :=
  List.forall_mem_append.mpr ⟨hs, ht⟩

theorem clean.cons {c : Nat} {t : Bytes} (hc : c ≠ 35 ∧ c ≠ 47 ∧ c ≠ 63 ∧ isCTL c = false) (ht : clean t) :
    clean (c :: t) :=
  List.forall_mem_cons.mpr ⟨hc, ht⟩

/-- `/`, `?`, `#`: the bytes that end an authority -/
def delim (y : Nat) : Prop := y = 47 ∨ y = 63 ∨ y = 35

instance : DecidablePred delim := fun y => by unfold delim; infer_instance

theorem clean.intro {s : Bytes} (h35 : 35 ∉ s) (h47 : 47 ∉ s) (h63 : 63 ∉ s) (hctl : ∀ x ∈ s, isCTL x = false) :
    clean s :=
  fun x hx => ⟨fun e => h35 (e ▸ hx), fun e => h47 (e ▸ hx), fun e => h63 (e ▸ hx), hctl x hx⟩

theorem clean.no_delim {s : Bytes} (h : clean s) : ∀ y ∈ s, ¬ delim y := by
  rintro y hy (rfl | rfl | rfl)
  · exact (h _ hy).2.1 rfl
  · exact (h _ hy).2.2.1 rfl
  · exact (h _ hy).1 rfl

theorem clean.not_mem {s : Bytes} (h : clean s) {c : Nat} (hc : delim c) : c ∉ s :=
  fun m => h.no_delim c m hc

theorem clean.ctl {s : Bytes} (h : clean s) : ∀ x ∈ s, isCTL x = false :=
  fun x hx => (h x hx).2.2.2

theorem containsCTL_false {s : Bytes} (h : ∀ x ∈ s, isCTL x = false) : containsCTL s = false :=
  List.any_eq_false.mpr fun x hx => by simp [h x hx]

theorem containsCTL_false_of_clean {s : Bytes} (h : clean s) : containsCTL s = false :=
  containsCTL_false h.ctl

/-- a byte of a registered name / IPv4 host as written (anything `url.Parse` passes in a host,
    except `%`, `:`, `*`, `[`) -/
def regByte (c : Nat) : Bool := hostByte c && c != 58 && c != 42 && c != 91

/-- a byte inside an IPv6 literal: hex digit, `:` or `.` -/
def v6Byte (c : Nat) : Bool := ishex c || c == 58 || c == 46

/-- a port as written: nothing, or `:` and digits -/
def portShaped (P : Bytes) : Prop := P = [] ∨ ∃ ds, P = 58 :: ds ∧ ds.all isDigit = true

/-- a userinfo prefix as written: nothing, or userinfo bytes (no `%`) and `@` -/
def userShaped (U : Bytes) : Prop := U = [] ∨ ∃ I, U = I ++ [64] ∧ validUserinfo I = true ∧ 37 ∉ I

theorem isAlnum_hostByte {c : Nat} (h : isAlnum c = true) : hostByte c = true := by
  have h37 : c ≠ 37 := by intro e; subst e; cases h
  unfold hostByte shouldEscapeHost
  rw [h, Bool.true_or, Bool.true_or, Bool.not_true, Bool.and_false, Bool.not_false, Bool.and_true]
  exact bne_iff_ne.mpr h37

/-- url.go `shouldEscape` in host mode read backwards: a host byte is beyond ASCII, a letter or
    digit, or one of the listed marks — never a delimiter, a control byte, `@` or a blank. -/
theorem hostByte_clean {c : Nat} (h : hostByte c = true) :
    (c ≠ 35 ∧ c ≠ 47 ∧ c ≠ 63 ∧ isCTL c = false) ∧ c ≠ 64 ∧ c ≠ 32 := by
  simp only [hostByte, shouldEscapeHost, Bool.and_eq_true, Bool.not_eq_true', Bool.and_eq_false_iff,
    decide_eq_false_iff_not, Bool.not_eq_false', Bool.or_eq_true, List.contains_iff_mem] at h
  rcases h.2 with h | (h | h) | h
  · simp only [isCTL, Bool.or_eq_false_iff, decide_eq_false_iff_not, beq_eq_false_iff_ne]
    omega
  · simp only [isAlnum, isAlpha, isUpper, isLower, isDigit, Bool.or_eq_true, Bool.and_eq_true,
      decide_eq_true_eq] at h
    simp only [isCTL, Bool.or_eq_false_iff, decide_eq_false_iff_not, beq_eq_false_iff_ne]
    omega
  -- the two lists of marks in `shouldEscapeHost`, as tables
  all_goals exact (by decide +kernel : ∀ k ∈ _, (k ≠ 35 ∧ k ≠ 47 ∧ k ≠ 63 ∧ isCTL k = false) ∧ k ≠ 64 ∧ k ≠ 32) c h

theorem hostByte_ne_percent {c : Nat} (h : hostByte c = true) : c ≠ 37 := by
  simp only [hostByte, Bool.and_eq_true, bne_iff_ne] at h
  exact h.1

theorem isSchemeByte_hostByte {c : Nat} (h : isSchemeByte c = true) : hostByte c = true := by
  simp only [isSchemeByte, Bool.or_eq_true, beq_iff_eq] at h
  rcases h with ((h | h) | h) | h
  · exact isAlnum_hostByte (by simp [isAlnum, h])
  · subst h; decide
  · subst h; decide
  · subst h; decide

theorem v6Byte_hostByte {c : Nat} (h : v6Byte c = true) : (hostByte c = true ∧ c ≠ 42) ∧ c ≠ 93 := by
  simp only [v6Byte, Bool.or_eq_true, beq_iff_eq] at h
  rcases h with (h | h) | h
  · simp only [ishex, Bool.or_eq_true, Bool.and_eq_true, decide_eq_true_eq] at h
    refine ⟨⟨isAlnum_hostByte ?_, by omega⟩, by omega⟩
    simp only [isAlnum, isAlpha, isUpper, isLower, isDigit, Bool.or_eq_true, Bool.and_eq_true, decide_eq_true_eq]
    omega
  · subst h; decide
  · subst h; decide

theorem validUserinfoByte_clean {c : Nat} (h : validUserinfoByte c = true) :
    c ≠ 35 ∧ c ≠ 47 ∧ c ≠ 63 ∧ isCTL c = false := by
  simp only [validUserinfoByte, Bool.or_eq_true, List.contains_iff_mem] at h
  rcases h with h | h
  · exact (hostByte_clean (isAlnum_hostByte h)).1
  · exact (by decide +kernel : ∀ k ∈ _, k ≠ 35 ∧ k ≠ 47 ∧ k ≠ 63 ∧ isCTL k = false) c h

theorem regBytes_hostBytes {H : Bytes} (h : H.all regByte = true) :
    ∀ x ∈ H, (hostByte x = true ∧ x ≠ 42) ∧ x ≠ 58 ∧ x ≠ 91 := by
  intro x hx
  have := List.all_eq_true.mp h x hx
  simp only [regByte, Bool.and_eq_true, bne_iff_ne, ne_eq] at this
  exact ⟨⟨this.1.1.1, this.1.2⟩, this.1.1.2, this.2⟩

theorem hostBytes_clean_noAt_noBlank {s : Bytes} (h : ∀ x ∈ s, hostByte x = true) : clean s ∧ 64 ∉ s ∧ 32 ∉ s :=
  ⟨fun x hx => (hostByte_clean (h x hx)).1, fun m => (hostByte_clean (h 64 m)).2.1 rfl,
    fun m => (hostByte_clean (h 32 m)).2.2 rfl⟩

theorem schemeShaped_clean {S : Bytes} (h : schemeShaped S = true) : clean S ∧ 32 ∉ S :=
  have hb := hostBytes_clean_noAt_noBlank fun x hx => isSchemeByte_hostByte ((schemeShaped_bytes h).2 x hx)
  ⟨hb.1, hb.2.2⟩

theorem userShaped_clean {U : Bytes} (hU : userShaped U) : clean U := by
  rcases hU with rfl | ⟨I, rfl, hI, _⟩
  · nofun
  · exact clean.append (fun x hx => validUserinfoByte_clean (List.all_eq_true.mp hI x hx)) (clean.cons (by decide) nofun)

theorem portShaped.bytes {P : Bytes} (hP : portShaped P) : ∀ x ∈ P, x = 58 ∨ (48 ≤ x ∧ x ≤ 57) := by
  rcases hP with rfl | ⟨ds, rfl, hd⟩
  · nofun
  · intro x hx
    rcases List.mem_cons.mp hx with e | e
    · exact Or.inl e
    · exact Or.inr (by simpa [isDigit] using List.all_eq_true.mp hd x e)

theorem portShaped.valid {P : Bytes} (hP : portShaped P) : validOptionalPort P = true := by
  rcases hP with rfl | ⟨ds, rfl, hd⟩
  · rfl
  · simp [validOptionalPort, hd]

/-- `:` and digits are among the bytes of an IPv6 literal: what holds of those (`v6Byte_hostByte`) holds
    of a port -/
theorem portShaped.v6Bytes {P : Bytes} (hP : portShaped P) : ∀ x ∈ P, v6Byte x = true := by
  intro x hx
  rcases hP.bytes x hx with rfl | h
  · decide
  · simp only [v6Byte, ishex, Bool.or_eq_true, Bool.and_eq_true, decide_eq_true_eq, beq_iff_eq]
    omega

theorem portShaped.lower {P : Bytes} (hP : portShaped P) : toLower P = P := by
  refine (List.map_congr_left fun x hx => ?_).trans (List.map_id _)
  rcases hP.bytes x hx with rfl | h
  · rfl
  · have hu : isUpper x = false := by
      simp only [isUpper, Bool.and_eq_false_iff, decide_eq_false_iff_not]; omega
    simp [lowerByte, hu]

theorem parseAuthority_userShaped (U HP host : Bytes) (hU : userShaped U) (hHP : 64 ∉ HP)
    (hh : parseHost HP = some host) : parseAuthority (U ++ HP) = some host := by
  unfold parseAuthority
  rcases hU with rfl | ⟨I, rfl, hI, hIp⟩
  · rw [List.nil_append, cutLast_of_not_mem hHP]; exact hh
  rw [List.append_assoc, List.singleton_append, cutLast_append I HP hHP]
  simp only [hh, hI, Bool.not_true, Bool.false_eq_true, ite_false]
  by_cases hc : I.contains 58 = true
  · simp only [hc, Bool.not_true, Bool.false_eq_true, ite_false]
    rw [unescape_other_plain _ (cut_not_mem 58 hIp).1, unescape_other_plain _ (cut_not_mem 58 hIp).2]
  · simp only [hc, Bool.not_false, ite_true]
    rw [unescape_other_plain _ hIp]; rfl

/-- `x` is `[S ":"] "//" A T`, cut where the authority ends: `S` a scheme or nothing, `A` free of
    `/ ? #` and control bytes, `T` empty or led by one of `/ ? #`. -/
structure Splits (x S A T : Bytes) : Prop where
  text : (S = [] ∧ x = 47 :: 47 :: (A ++ T)) ∨ (schemeShaped S = true ∧ x = S ++ 58 :: 47 :: 47 :: (A ++ T))
  auth : clean A
  tail : ∀ y, T.head? = some y → delim y

/-- the same with the scheme and its colon as one prefix, which is clean as the authority is -/
theorem Splits.prefix {x S A T : Bytes} (h : Splits x S A T) :
    ∃ P, x = P ++ 47 :: 47 :: (A ++ T) ∧ clean P ∧ ((S = [] ∧ P = []) ∨ (schemeShaped S = true ∧ P = S ++ [58])) := by
  rcases h.text with ⟨e, ex⟩ | ⟨hs, ex⟩
  · exact ⟨[], ex, nofun, Or.inl ⟨e, rfl⟩⟩
  · exact ⟨S ++ [58], by rw [ex]; simp, (schemeShaped_clean hs).1.append (clean.cons (by decide) nofun),
      Or.inr ⟨hs, rfl⟩⟩

/-- what may follow the authority of a text that denotes an origin: an optional `/`, an optional
    `?`, an optional `#` -/
def acceptedTails : List Bytes :=
  [[], [47]].flatMap fun T0 => [[], [63]].flatMap fun Q => [[], [35]].map fun F => T0 ++ Q ++ F

theorem mem_acceptedTails {T : Bytes} :
    T ∈ acceptedTails ↔
      ∃ T0 Q F, (T0 = [] ∨ T0 = [47]) ∧ (Q = [] ∨ Q = [63]) ∧ (F = [] ∨ F = [35]) ∧ T0 ++ Q ++ F = T := by
  simp only [acceptedTails, List.mem_flatMap, List.mem_map, List.mem_cons, List.not_mem_nil, or_false]
  constructor
  · rintro ⟨T0, h0, Q, hQ, F, hF, e⟩; exact ⟨T0, Q, F, h0, hQ, hF, e⟩
  · rintro ⟨T0, Q, F, h0, hQ, hF, e⟩; exact ⟨T0, h0, Q, hQ, F, hF, e⟩

theorem acceptedTails_delim {T : Bytes} (hT : T ∈ acceptedTails) : ∀ y ∈ T, delim y :=
  (by decide : ∀ T ∈ acceptedTails, ∀ y ∈ T, delim y) T hT

theorem root_tail {T : Bytes} (hT : T = [] ∨ T = [47]) : T ∈ acceptedTails ∧ ∀ y, T.head? = some y → delim y := by
  rcases hT with rfl | rfl <;> exact ⟨by decide, by simp [delim]⟩

theorem parse_marker {front F : Bytes} (h : 35 ∉ front) (hF : F = [] ∨ F = [35]) :
    parse (front ++ F) = parseNoFrag front := by
  unfold parse
  rcases hF with rfl | rfl
  · rw [List.append_nil, cut_of_not_mem h]; cases parseNoFrag front <;> rfl
  · rw [cut_append [] h]; cases parseNoFrag front <;> rfl

theorem parseNoFrag_of_scheme {front S rest0 : Bytes} (hctl : containsCTL front = false) (hne : front ≠ b "*")
    (hg : getScheme front = some (S, rest0)) :
    parseNoFrag front = parseRest (toLower S) (cut rest0 63).1 ((cut rest0 63).2.getD []) := by
  unfold parseNoFrag
  rw [hctl, if_neg (by decide), if_neg hne, hg]
  simp only [splitQuery_eq]

/-- `parse`, the branch for `//authority[/]`: behind a scheme, or without one when the authority is
    not empty (`///` is a path) -/
theorem parseRest_authority (sch A T rq host : Bytes) (hs : sch ≠ [] ∨ A ≠ []) (hA : 47 ∉ A) (hT : T = [] ∨ T = [47])
    (hpa : parseAuthority A = some host) :
    parseRest sch (47 :: 47 :: (A ++ T)) rq = some { scheme := sch, host := host, path := T, rawQuery := rq } := by
  have h3 : sch ≠ [] ∨ hasPrefix (47 :: 47 :: (A ++ T)) (b "///") = false := by
    refine hs.imp_right fun hne => ?_
    cases A with
    | nil => exact absurd rfl hne
    | cons a t =>
      have ha : a ≠ 47 := fun e => hA (e ▸ List.mem_cons_self)
      simp [hasPrefix, b, List.isPrefixOf, Ne.symm ha]
  unfold parseRest
  rw [if_neg (by simp), if_neg (by simp), if_pos (by simpa [hasPrefix, b, List.isPrefixOf] using h3)]
  rcases hT with rfl | rfl
  · simp only [List.drop_succ_cons, List.drop_zero, List.append_nil, cut_of_not_mem hA, hpa]
    rfl
  · simp only [List.drop_succ_cons, List.drop_zero, cut_append [] hA, hpa]
    rfl

/-- **`url.Parse` on `[scheme ":"] "//" authority ["/"] ["?"] ["#"]`**: the scheme in lower case, the
    host `parseAuthority` reads, the path as written, no query, no fragment. -/
theorem parse_of_splits {x S A T0 Q F host : Bytes} (h : Splits x S A (T0 ++ Q ++ F))
    (hT0 : T0 = [] ∨ T0 = [47]) (hQ : Q = [] ∨ Q = [63]) (hF : F = [] ∨ F = [35])
    (hSA : S ≠ [] ∨ A ≠ []) (hpa : parseAuthority A = some host) :
    parse x = some { scheme := toLower S, host := host, path := T0 } := by
  obtain ⟨P, ex, hPc, hP⟩ := h.prefix
  -- the front of the text, up to the fragment marker: clean pieces, `/` and `?`
  have ex' : x = ((P ++ 47 :: 47 :: (A ++ T0)) ++ Q) ++ F := by rw [ex]; simp
  have hfront : ∀ y ∈ (P ++ 47 :: 47 :: (A ++ T0)) ++ Q, y ≠ 35 ∧ isCTL y = false := by
    have hc {s : Bytes} (hs : clean s) (y : Nat) (hy : y ∈ s) : y ≠ 35 ∧ isCTL y = false := ⟨(hs y hy).1, hs.ctl y hy⟩
    simp only [List.forall_mem_append, List.forall_mem_cons]
    refine ⟨⟨hc hPc, by decide, by decide, hc h.auth, ?_⟩, ?_⟩
    · rcases hT0 with rfl | rfl <;> simp [isCTL]
    · rcases hQ with rfl | rfl <;> simp [isCTL]
  have h63 : 63 ∉ 47 :: 47 :: (A ++ T0) := by
    have := h.auth.not_mem (c := 63) (.inr (.inl rfl))
    rcases hT0 with rfl | rfl <;> simp [this]
  have hne : (P ++ 47 :: 47 :: (A ++ T0)) ++ Q ≠ b "*" := by
    intro e
    have := congrArg List.length e
    simp [b] at this
    omega
  have hg : getScheme ((P ++ 47 :: 47 :: (A ++ T0)) ++ Q) = some (S, 47 :: 47 :: (A ++ T0) ++ Q) := by
    rcases hP with ⟨rfl, rfl⟩ | ⟨hS, rfl⟩
    · exact getScheme_slash _
    · rw [List.append_assoc, List.append_assoc, List.singleton_append]; exact getScheme_shaped S _ hS
  obtain ⟨hcut1, hcut2⟩ := cut_marker_eq h63 hQ
  rw [ex', parse_marker (fun m => (hfront 35 m).1 rfl) hF,
    parseNoFrag_of_scheme (containsCTL_false fun y hy => (hfront y hy).2) hne hg, hcut1, hcut2,
    parseRest_authority (toLower S) A T0 [] host (hSA.imp_left fun hS e => hS (List.map_eq_nil_iff.mp e))
      (h.auth.not_mem (.inl rfl)) hT0 hpa]

theorem parse_authority_form (S A T host : Bytes) (hS : schemeShaped S = true) (hA : clean A)
    (hT : T = [] ∨ T = [47]) (hpa : parseAuthority A = some host) :
    parse (S ++ 58 :: 47 :: 47 :: (A ++ T)) = some { scheme := toLower S, host := host, path := T } :=
  parse_of_splits (Q := []) (F := [])
    ⟨Or.inr ⟨hS, by simp⟩, hA, by simpa using (root_tail hT).2⟩ hT (Or.inl rfl) (Or.inl rfl)
    (Or.inl (schemeShaped_bytes hS).1) hpa

theorem originParts_of_splits {x S A T host : Bytes} (h : Splits x S A T) (hT : T ∈ acceptedTails)
    (hpa : parseAuthority A = some host) (hne : host ≠ []) (hstar : 42 ∉ host) :
    originParts x = some (toLower S, host) := by
  obtain ⟨T0, Q, F, hT0, hQ, hF, rfl⟩ := mem_acceptedTails.mp hT
  refine originParts_eq_some_iff.mpr ⟨_,
    parse_of_splits h hT0 hQ hF (Or.inr (by rintro rfl; exact hne (Option.some.inj hpa).symm)) hpa,
    ⟨hne, by simpa using hstar, ?_, rfl, rfl⟩, rfl⟩
  rcases hT0 with rfl | rfl <;> simp [b]

/-- **An origin as written**: `scheme://[userinfo@]hostport[/]` whose host-and-port `parseHost` passes
    unchanged normalises to `lower(scheme)://lower(hostport)`. -/
theorem normalizeOrigin_written (S U HP T : Bytes) (hS : schemeShaped S = true) (hU : userShaped U)
    (hb : ∀ x ∈ HP, hostByte x = true ∧ x ≠ 42) (hne : HP ≠ []) (hph : parseHost HP = some HP)
    (hT : T = [] ∨ T = [47]) :
    normalizeOrigin (S ++ b "://" ++ U ++ HP ++ T) = some (toLower S ++ b "://" ++ toLower HP) := by
  obtain ⟨hc, h64, _⟩ := hostBytes_clean_noAt_noBlank fun x hx => (hb x hx).1
  have hsp : Splits (S ++ b "://" ++ U ++ HP ++ T) S (U ++ HP) T :=
    ⟨Or.inr ⟨hS, by simp [b]⟩, (userShaped_clean hU).append hc, (root_tail hT).2⟩
  rw [normalizeOrigin_eq, originParts_of_splits hsp (root_tail hT).1
    (parseAuthority_userShaped U HP HP hU h64 hph) hne fun m => (hb 42 m).2 rfl]
  simp [toLower_idem]

theorem regport_hostBytes {H P : Bytes} (hH : H.all regByte = true) (hP : portShaped P) :
    ∀ x ∈ H ++ P, hostByte x = true ∧ x ≠ 42 := by
  intro x hx
  rcases List.mem_append.mp hx with h | h
  · exact (regBytes_hostBytes hH x h).1
  · exact (v6Byte_hostByte (hP.v6Bytes x h)).1

theorem v6host_hostBytes {A P : Bytes} (hA : A.all v6Byte = true) (hP : portShaped P) :
    ∀ x ∈ 91 :: (A ++ 93 :: P), hostByte x = true ∧ x ≠ 42 := by
  intro x hx
  simp only [List.mem_cons, List.mem_append] at hx
  rcases hx with rfl | h | rfl | h
  · decide
  · exact (v6Byte_hostByte (List.all_eq_true.mp hA x h)).1
  · decide
  · exact (v6Byte_hostByte (hP.v6Bytes x h)).1

theorem parseHost_regname (H P : Bytes) (hH : H.all regByte = true) (hP : portShaped P) :
    parseHost (H ++ P) = some (H ++ P) := by
  have hHb := regBytes_hostBytes hH
  have hPv := hP.v6Bytes
  have hvp := hP.valid
  have hall := fun x hx => (regport_hostBytes hH hP x hx).1
  have hhead : (H ++ P).head? ≠ some 91 := by
    intro h
    rcases List.mem_append.mp (List.mem_of_head? h) with m | m
    · exact (hHb 91 m).2.2 rfl
    · exact absurd (hPv 91 m) (by decide)
  unfold parseHost
  rw [if_neg hhead]
  rcases hP with e | ⟨ds, e, hd⟩
  · subst e
    rw [List.append_nil] at hall ⊢
    rw [cutLast_of_not_mem (fun m => (hHb 58 m).2.1 rfl)]
    exact unescape_host_plain H hall
  · subst e
    have hds : 58 ∉ ds := fun m => absurd (List.all_eq_true.mp hd 58 m) (by decide)
    rw [cutLast_append H ds hds]
    simp only [hvp, Bool.not_true, Bool.false_eq_true, ite_false]
    exact unescape_host_plain _ hall

theorem parseHost_v6 (A P : Bytes) (hA : A.all v6Byte = true) (hP : portShaped P) :
    parseHost (91 :: (A ++ 93 :: P)) = some (91 :: (A ++ 93 :: P)) := by
  have hPv := hP.v6Bytes
  have hvp := hP.valid
  have hAb := fun x hx => v6Byte_hostByte (List.all_eq_true.mp hA x hx)
  have hPb := fun x hx => v6Byte_hostByte (hPv x hx)
  have h93 : 93 ∉ P := fun m => (hPb 93 m).2 rfl
  have h37 : 37 ∉ 91 :: A := by
    intro m
    rcases List.mem_cons.mp m with e | e
    · cases e
    · exact hostByte_ne_percent (hAb 37 e).1.1 rfl
  have hall := fun x hx => (v6host_hostBytes hA hP x hx).1
  unfold parseHost
  simp only [List.head?_cons, ite_true]
  rw [show 91 :: (A ++ 93 :: P) = (91 :: A) ++ 93 :: P by simp, cutLast_append _ _ h93]
  simp only [hvp, Bool.not_true, Bool.false_eq_true, ite_false]
  rw [indexOf_eq_none_of_not_mem (by decide) h37]
  simp only
  rw [show (91 :: A) ++ 93 :: P = 91 :: (A ++ 93 :: P) by simp]
  exact unescape_host_plain _ hall

end C19
