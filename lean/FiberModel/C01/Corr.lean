import FiberModel.C01.Sim
/-
C01 — what `register`/`addRoute` build (`build`) corresponds to the list of
registrations (`CorrI`, with the ghost registration indices), and the scan of the method stacks by
registration index (`linM`) equals the specification `linearFrom`.
-/
namespace C01
variable {π α : Type}

/-- well-formed registration: no method listed twice, at least one handler (router.go `register`
panics otherwise), ghost seam marks unset -/
structure WFReg (g : Reg α) : Prop where
  nodup : g.methods.Nodup
  hne : g.handlers ≠ []
  noseam : ∀ h ∈ g.handlers, h.seam = false

/-- what the matcher reads of a route of method `m` is that of `g`. (`addRoute` also compares `pathOrig == ""`; the
correspondence does not depend on that test.) -/
structure RouteOf (m : Nat) (r : Route α) (g : Reg α) : Prop where
  raw : r.raw = g.raw
  use : r.use = g.use
  m : r.m = m

/-- `rs` is what `addRoute` makes of the registrations `gs` (numbered from `b`) that list method `m` -/
inductive CorrI (m : Nat) : Nat → List (Route α) → List (Reg α) → Prop
  | nil {b} : CorrI m b [] []
  | skip {b rs gs g} : m ∉ g.methods → CorrI m (b + 1) rs gs → CorrI m b rs (g :: gs)
  | one {b r rs g gs} : m ∈ g.methods → RouteOf m r g → r.handlers = g.handlers →
      r.first = b → r.last = b → r.key = g.key → CorrI m (b + 1) rs gs → CorrI m b (r :: rs) (g :: gs)
  | merged {b r r' rs g gs} : m ∈ g.methods → RouteOf m r g → RouteOf m r' g →
      r.handlers = g.handlers ++ markSeam r'.handlers → r.first = b → r.last = r'.last → r.key = g.key →
      CorrI m (b + 1) (r' :: rs) gs → CorrI m b (r :: rs) (g :: gs)

variable (E : Env π α) (S : Stacks α)

theorem corrI_bounds {m b : Nat} {rs : List (Route α)} {gs : List (Reg α)} (hc : CorrI m b rs gs) :
    ∀ x ∈ rs, b ≤ x.first ∧ x.first ≤ x.last := by
  induction hc with
  | nil => exact fun _ => nofun
  | skip _ _ ih => exact fun x hx => ⟨Nat.le_of_succ_le (ih x hx).1, (ih x hx).2⟩
  | one _ _ _ hf hl _ _ ih =>
    exact List.forall_mem_cons.mpr ⟨⟨Nat.le_of_eq hf.symm, Nat.le_of_eq (hf.trans hl.symm)⟩,
      fun x hx => ⟨Nat.le_of_succ_le (ih x hx).1, (ih x hx).2⟩⟩
  | merged _ _ _ _ hf hl _ _ ih =>
    obtain ⟨h', iht⟩ := List.forall_mem_cons.mp ih
    exact List.forall_mem_cons.mpr
      ⟨⟨Nat.le_of_eq hf.symm, by rw [hf, hl]; exact Nat.le_trans (Nat.le_of_succ_le h'.1) h'.2⟩,
      fun x hx => ⟨Nat.le_of_succ_le (iht x hx).1, (iht x hx).2⟩⟩

/-- a route that holds a merged registration spans more than one registration index -/
theorem corrI_merged_lt {m b : Nat} {r r' : Route α} {rs : List (Route α)} {gs : List (Reg α)}
    (hc : CorrI m (b + 1) (r' :: rs) gs) (hf : r.first = b) (hl : r.last = r'.last) : r.first < r.last := by
  have := corrI_bounds hc r' List.mem_cons_self
  omega

theorem chainBy_stepM_spec {E : Env π α} {r : Route α} {hs : List (Handler α)} {m : Nat} {p : π} {c : Nat}
    {x : List Nat × ChainEnd π} (h : chainBy (stepM E r) hs m p c = .ok x) :
    specChain E hs m p = (x.1, x.2.mapCur fun _ => 0) := by
  have := chainBy_sim (step' := fun h m p _ => .ok (specStep E h m p)) (fun _ => 0) hs
    (fun h _ m p c e hst => by rw [stepM_ok hst, specStep]; cases h.script <;> rfl) m p c x.1 x.2 h
  rw [specChain_eq] at this
  exact Except.ok.inj this

theorem stepM_congr {m : Nat} {r r' : Route α} {g : Reg α} (ho : RouteOf m r g) (ho' : RouteOf m r' g) :
    stepM E r = stepM E r' := by
  -- `stepM` reads of the route only `m`, `raw` and `use`: what `RouteOf` fixes
  have h1 := ho.m.trans ho'.m.symm
  have h2 := ho.raw.trans ho'.raw.symm
  have h3 := ho.use.trans ho'.use.symm
  cases r; cases r'; cases h1; cases h2; cases h3; rfl

theorem chainBy_stepM_markSeam {E : Env π α} {r : Route α} {hs : List (Handler α)} (hne : hs ≠ []) {m : Nat} {p : π}
    {c : Nat} {x : List Nat × ChainEnd π} (h : chainBy (stepM E r) (markSeam hs) m p c = .ok x) :
    (m == r.m && r.matches E p) = true ∧ chainBy (stepM E r) hs m p c = .ok x := by
  cases hs with
  | nil => exact absurd rfl hne
  | cons h0 t =>
    rw [markSeam, chainBy, stepM, Bool.true_and] at h
    rw [chainBy, stepM]
    cases hc : (m == r.m && r.matches E p)
    · rw [hc] at h; cases h
    · rw [hc, Bool.not_true, if_neg Bool.false_ne_true] at h
      rw [Bool.not_true, Bool.and_false, if_neg Bool.false_ne_true]
      exact ⟨rfl, h⟩

def afterSpec (all rest : List (Reg α)) (matched : Bool) (tr : List Nat) : ChainEnd π → Obs
  | .stop => { trace := tr, fin := .stop }
  | .fail c => { trace := tr, fin := .fail c }
  | .fall m' p' _ => (linearFrom E all rest m' p' matched).prepend tr

theorem afterSpec_prepend (all rest : List (Reg α)) (matched : Bool) (t1 t2 : List Nat)
    (e : ChainEnd π) : (afterSpec E all rest matched t2 e).prepend t1 = afterSpec E all rest matched (t1 ++ t2) e := by
  cases e <;> simp [afterSpec, Obs.prepend, List.append_assoc]

theorem corrI_head_ne (m : Nat) {b : Nat} {r : Route α} {rs : List (Route α)} {gs : List (Reg α)}
    (hc : CorrI m b (r :: rs) gs) (hwf : ∀ g ∈ gs, WFReg g) : r.handlers ≠ [] := by
  generalize hrs : r :: rs = l at hc
  induction hc generalizing r rs with
  | nil => cases hrs
  | skip _ _ ih => exact ih (List.forall_mem_cons.mp hwf).2 hrs
  | one _ _ hh _ _ _ _ _ => cases hrs; rw [hh]; exact (hwf _ List.mem_cons_self).hne
  | merged _ _ _ hh _ _ _ _ _ =>
    cases hrs; rw [hh]; exact fun h => (hwf _ List.mem_cons_self).hne (List.append_eq_nil_iff.mp h).1

theorem RouteOf.matches {m : Nat} {r : Route α} {g : Reg α} (ho : RouteOf m r g) (p : π) :
    r.matches E p = g.matches E p := by
  rw [Route.matches, Reg.matches, ho.raw, ho.use]

theorem linearFrom_cons (all : List (Reg α)) (g : Reg α) (rest : List (Reg α)) (m : Nat) (p : π)
    (matched : Bool) :
    linearFrom E all (g :: rest) m p matched =
      if g.methods.contains m && g.matches E p then
        afterSpec E all rest (matched || !g.use) (specChain E g.handlers m p).1 (specChain E g.handlers m p).2
      else linearFrom E all rest m p matched := by
  rw [linearFrom]
  generalize (g.methods.contains m && g.matches E p) = c
  cases c
  · rfl
  · generalize specChain E g.handlers m p = x
    obtain ⟨tr, e⟩ := x
    cases e <;> rfl

theorem corrI_any (m : Nat) {b : Nat} {rs : List (Route α)} {gs : List (Reg α)} (hc : CorrI m b rs gs)
    (f : Bytes → Bool → Bool) :
    (rs.any fun r => f r.raw r.use) = gs.any fun g => g.methods.contains m && f g.raw g.use := by
  induction hc with
  | nil => rfl
  | skip hm _ ih =>
    simp only [List.any_cons, List.contains_eq_false_of_not_mem hm, Bool.false_and, Bool.false_or]
    exact ih
  | one h1 ho _ _ _ _ _ ih =>
    simp only [List.any_cons, List.contains_iff_mem.mpr h1, Bool.true_and, ho.raw, ho.use, ih]
  | merged h1 ho ho' _ _ _ _ _ ih =>
    simp only [List.any_cons, List.contains_iff_mem.mpr h1, Bool.true_and, ho.raw, ho.use] at ih ⊢
    rw [← ih, ho'.raw, ho'.use]
    cases f _ _ <;> simp

theorem linearFrom_none (all gs : List (Reg α)) (m : Nat) (p : π) (matched : Bool)
    (h : (gs.any fun g => g.methods.contains m && g.matches E p) = false) :
    linearFrom E all gs m p matched = { trace := [], fin := specEnding E all m p matched } := by
  induction gs with
  | nil => rfl
  | cons g gs ih =>
    rw [List.any_cons, Bool.or_eq_false_iff] at h
    rw [linearFrom_cons, h.1, if_neg Bool.false_ne_true, ih h.2]

theorem corrI_none (all : List (Reg α)) (m : Nat) {b : Nat} {rs : List (Route α)}
    {gs : List (Reg α)} (hc : CorrI m b rs gs) (p : π) (matched : Bool)
    (h : rs.find? (fun r => r.matches E p) = none) :
    linearFrom E all gs m p matched = { trace := [], fin := specEnding E all m p matched } :=
  linearFrom_none E all gs m p matched
    ((corrI_any m hc fun raw use => E.M raw use p).symm.trans (List.any_eq_false.mpr (List.find?_eq_none.mp h)))

/-- the first matching route of the (remaining) stack and its handlers against the registrations: the
specification runs the same handlers and goes on behind the route's last registration -/
theorem corrI_some (all : List (Reg α)) (m : Nat) {b : Nat}
    {rs : List (Route α)} {gs : List (Reg α)} (hc : CorrI m b rs gs) (hwf : ∀ g ∈ gs, WFReg g) :
    ∀ {p : π} {c : Nat} (matched : Bool) {r : Route α} {tr : List Nat} {e : ChainEnd π},
      rs.find? (fun r => r.matches E p) = some r →
      chainBy (stepM E r) r.handlers m p c = .ok (tr, e) →
      ∃ d, b + d = r.last + 1 ∧
        linearFrom E all gs m p matched = afterSpec E all (gs.drop d) (matched || !r.use) tr e := by
  induction hc with
  | nil => intro p c matched r tr e h; cases h
  | @skip b rs gs g hm hc' ih =>
    intro p c matched r tr e h hch
    obtain ⟨d, hd, heq⟩ := ih (List.forall_mem_cons.mp hwf).2 matched h hch
    refine ⟨d + 1, (Nat.add_right_comm b d 1).trans hd, ?_⟩
    simp only [linearFrom_cons, List.contains_eq_false_of_not_mem hm, Bool.false_and, Bool.false_eq_true, ↓reduceIte]
    exact heq
  | @one b r0 rs g gs hm ho hh hfirst hlast _ hc' ih =>
    intro p c matched r tr e h hch
    have hwf' : ∀ g ∈ gs, WFReg g := (List.forall_mem_cons.mp hwf).2
    rw [List.find?_cons] at h
    rw [linearFrom_cons, List.contains_iff_mem.mpr hm, Bool.true_and, ← ho.matches E]
    cases hr : r0.matches E p with
    | true =>
      rw [hr] at h
      cases h
      rw [hh] at hch
      rw [if_pos rfl, chainBy_stepM_spec hch, ho.use]
      exact ⟨1, by rw [hlast], by cases e <;> rfl⟩
    | false =>
      rw [hr] at h
      obtain ⟨d, hd, heq⟩ := ih hwf' matched h hch
      exact ⟨d + 1, (Nat.add_right_comm b d 1).trans hd, by rw [if_neg Bool.false_ne_true]; exact heq⟩
  | @merged b r0 r' rs g gs hm ho ho' hh hfirst hlast _ hc' ih =>
    intro p c matched r tr e h hch
    have hwf' : ∀ g ∈ gs, WFReg g := (List.forall_mem_cons.mp hwf).2
    have hmatch' : ∀ q, r'.matches E q = r0.matches E q := fun q => by
      rw [ho'.matches E, ho.matches E]
    rw [List.find?_cons] at h
    rw [linearFrom_cons, List.contains_iff_mem.mpr hm, Bool.true_and, ← ho.matches E]
    cases hr : r0.matches E p with
    | true =>
      rw [hr] at h
      cases h
      have hb' := corrI_bounds hc' r' List.mem_cons_self
      obtain ⟨d0, hd0⟩ := Nat.le.dest (show b ≤ r0.last + 1 by omega)
      rw [hh, chainBy_append] at hch
      change chainThen _ (chainBy (stepM E r0) g.handlers m p c) = _ at hch
      cases hc1 : chainBy (stepM E r0) g.handlers m p c with
      | error e1 => rw [hc1] at hch; cases hch
      | ok x =>
        obtain ⟨tr1, e1⟩ := x
        rw [hc1] at hch
        rw [if_pos rfl, chainBy_stepM_spec hc1]
        cases e1 with
        | stop => cases hch; exact ⟨d0, hd0, rfl⟩
        | fail c => cases hch; exact ⟨d0, hd0, rfl⟩
        | fall m1 p1 c1 =>
          -- at the seam the merged handlers run only if the route still matches: then they are the next
          -- registration's route `r'`, found first in the rest of the stack
          obtain ⟨⟨tr2, e2⟩, hr2, heq⟩ := map_ok_inv hch
          cases heq
          obtain ⟨hck, hr2⟩ := chainBy_stepM_markSeam (corrI_head_ne m hc' hwf') hr2
          rw [Bool.and_eq_true, beq_iff_eq] at hck
          cases hck.1.trans ho.m
          have hfind : (r' :: rs).find? (fun r => r.matches E p1) = some r' := by
            rw [List.find?_cons, hmatch', hck.2]
          rw [stepM_congr E ho ho'] at hr2
          obtain ⟨d, hd, heq⟩ := ih hwf' (matched || !g.use) hfind hr2
          refine ⟨d + 1, by rw [hlast]; exact (Nat.add_right_comm b d 1).trans hd, ?_⟩
          show Obs.prepend tr1 (linearFrom E all gs _ p1 (matched || !g.use)) = _
          rw [heq, afterSpec_prepend, ho'.use, ho.use, Bool.or_assoc, Bool.or_self]
          rfl
    | false =>
      rw [hr] at h
      have hfind : (r' :: rs).find? (fun r => r.matches E p) = some r := by
        rw [List.find?_cons, hmatch', hr]; exact h
      obtain ⟨d, hd, heq⟩ := ih hwf' matched hfind hch
      exact ⟨d + 1, (Nat.add_right_comm b d 1).trans hd, by rw [if_neg Bool.false_ne_true]; exact heq⟩

/-- no route was created before registration `k` and holds handlers of registration `k` or later. Mind the shift
against the model's test: `straddles S m k = false` is `NoStraddle (S.stack m) (k + 1)`. -/
def NoStraddle (st : List (Route α)) (k : Nat) : Prop := ∀ x ∈ st, ¬ (x.first < k ∧ k ≤ x.last)

theorem filter_first_cons_neg {r : Route α} {rs : List (Route α)} {k : Nat} (h : r.first < k) :
    (r :: rs).filter (fun x => k ≤ x.first) = rs.filter (fun x => k ≤ x.first) :=
  List.filter_cons_of_neg (by rw [decide_eq_true_eq]; exact Nat.not_le_of_gt h)

theorem corrI_split (m : Nat) (d : Nat) : ∀ {b : Nat} {rs : List (Route α)} {gs : List (Reg α)},
    CorrI m b rs gs → NoStraddle rs (d + b) →
    CorrI m (d + b) (rs.filter (fun x => d + b ≤ x.first)) (gs.drop d) := by
  induction d with
  | zero =>
    intro b rs gs hc _
    rw [Nat.zero_add, List.filter_eq_self.mpr fun x hx => decide_eq_true (corrI_bounds hc x hx).1]
    exact hc
  | succ d ih =>
    intro b rs gs hc hns
    rw [Nat.succ_add_eq_add_succ] at hns ⊢
    cases hc with
    | nil => exact CorrI.nil
    | skip _ hc' => exact ih hc' hns
    | one _ _ _ hfirst _ _ hc' =>
      rw [filter_first_cons_neg (by omega)]
      exact ih hc' (List.forall_mem_cons.mp hns).2
    | @merged _ r r' _ _ _ _ _ _ _ hfirst hlast _ hc' =>
      -- `r` does not straddle the index: all of its registrations, also those of `r'`, are in front of it
      have hb' := corrI_bounds hc' r' List.mem_cons_self
      have hrl : r.last < d + (b + 1) := by have := hns r List.mem_cons_self; omega
      have := ih hc' (List.forall_mem_cons.mpr ⟨by omega, (List.forall_mem_cons.mp hns).2⟩)
      rw [filter_first_cons_neg (by omega)] at this
      rw [filter_first_cons_neg (by omega)]
      exact this

theorem noStraddle_of_not_straddles (m k : Nat) (h : straddles S m k = false) :
    NoStraddle (S.stack m) (k + 1) := by
  intro x hx hcon
  unfold straddles at h
  rw [List.any_eq_false] at h
  have := h x hx
  simp only [Bool.and_eq_true, decide_eq_true_eq, not_and] at this
  omega

theorem noStraddle_own {st : List (Route α)} (hf : FSorted st) {r : Route α} (hr : r ∈ st) :
    NoStraddle st (r.last + 1) := by
  intro x hx hcon
  have h1 := hf.2 r hr
  have h2 := hf.2 x hx
  rcases List.pairwise_total hf.1 hr hx with rfl | h | h <;> omega

/-- **The scan of the stacks by registration index is the specification.** `hcorr`: every stack
corresponds to the registrations; `hmono`: positions grow with the registration index across stacks
(this bounds the number of steps by `routesCount`). -/
theorem linM_linear (regs : List (Reg α))
    (fin : Nat → π → Bool → End) (hfin : ∀ m p matched, fin m p matched = specEnding E regs m p matched)
    (hwf : ∀ g ∈ regs, WFReg g)
    (hcorr : ∀ i, CorrI i 0 (S.stack i) regs)
    (hf : ∀ i, FSorted (S.stack i))
    (hbound : ∀ i, ∀ x ∈ S.stack i, x.pos ≤ S.count)
    (hmono : ∀ i j, ∀ x ∈ S.stack i, ∀ y ∈ S.stack j, x.first < y.first → x.pos < y.pos) :
    ∀ (fuel k q m : Nat) (p : π) (matched : Bool) (o : Obs),
      NoStraddle (S.stack m) k →
      (∀ i, ∀ x ∈ S.stack i, k ≤ x.first → q < x.pos) →
      S.count - q < fuel →
      linM E S fin fuel k m p matched = .ok o →
      linearFrom E regs (regs.drop k) m p matched = o := by
  intro fuel
  induction fuel with
  | zero => intro k q m p matched o _ _ hlen; omega
  | succ fuel ih =>
    intro k q m p matched o hns hq hlen h
    simp only [linM] at h
    have hsplit : CorrI m k _ _ := corrI_split m k (hcorr m) hns
    have hwfd : ∀ g ∈ regs.drop k, WFReg g := fun g hg => hwf g (List.mem_of_mem_drop hg)
    cases hfind : ((S.stack m).filter (fun x => k ≤ x.first)).find? (fun r => r.matches E p) with
    | none =>
      simp only [hfind, Except.ok.injEq] at h
      subst h
      rw [corrI_none E regs m hsplit p matched hfind, hfin]
    | some r =>
      simp only [hfind] at h
      have hrf := List.mem_of_find?_eq_some hfind
      have hrst : r ∈ S.stack m := (List.mem_filter.mp hrf).1
      have hkr : k ≤ r.first := by simpa using (List.mem_filter.mp hrf).2
      have hrl : r.first ≤ r.last := (hf m).2 r hrst
      generalize hch : chainBy (stepM E r) r.handlers m p 0 = x at h
      revert h
      -- `afterChain`'s cases: aborted, stop, fail, every handler called `Next`
      fun_cases afterChain _ x <;> intro h
      · cases h
      all_goals
        obtain ⟨d, hd, hstep⟩ := corrI_some E regs m hsplit hwfd matched hfind hch
        rw [List.drop_drop, hd] at hstep
        rw [hstep]
      · cases h; rfl
      · cases h; rfl
      · next tr m' p' c' =>
          obtain ⟨o', ho', heq⟩ := map_ok_inv h
          subst heq
          cases hck : (m' != m && straddles S m' r.last) with
          | true => rw [hck, if_pos rfl] at ho'; cases ho'
          | false =>
            rw [hck, if_neg Bool.false_ne_true] at ho'
            have hns' : NoStraddle (S.stack m') (r.last + 1) := by
              rcases Bool.and_eq_false_iff.mp hck with h1 | h1
              · rw [bne_eq_false_iff_eq.mp h1]; exact noStraddle_own (hf m) hrst
              · exact noStraddle_of_not_straddles S m' r.last h1
            have hq' : ∀ i, ∀ x ∈ S.stack i, r.last + 1 ≤ x.first → r.pos < x.pos := by
              intro i x hx hle
              exact hmono m i r hrst x hx (by omega)
            have hrq : q < r.pos := hq m r hrst hkr
            have hrc : r.pos ≤ S.count := hbound m r hrst
            have := ih (r.last + 1) r.pos m' p' (matched || !r.use) o' hns' hq' (by omega) ho'
            simp only [afterSpec, this]

end C01
