import FiberModel.C01.Lemmas
/-
C01 — the handlers of one route, one handler at a time. `runChain` is `chainBy runStep`: the recursion
over the handlers is stated once (`chainBy`). A step is what the handler does (`effect`) unless the
instrumentation finds something (`blocked`); `Moves` lists the transitions it lets through.
-/
namespace C01
variable {π α : Type}

theorem Except.map_map' {ε β γ δ : Type} (x : Except ε β) (f : β → γ) (g : γ → δ) :
    (x.map f).map g = x.map (fun a => g (f a)) := by
  cases x <;> rfl

theorem map_ok_inv {ε β γ : Type} {x : Except ε β} {f : β → γ} {y : γ} (h : x.map f = .ok y) :
    ∃ b, x = .ok b ∧ f b = y := by
  cases x with
  | error e => cases h
  | ok b => exact ⟨b, rfl, Except.ok.inj h⟩

def ChainEnd.mapCur (f : Nat → Nat) : ChainEnd π → ChainEnd π
  | .fall m p c => .fall m p (f c)
  | x => x

theorem ChainEnd.mapCur_id (e : ChainEnd π) : e.mapCur id = e := by cases e <;> rfl

def stepThen (hid : Nat) (k : Nat → π → Nat → Except Known (List Nat × ChainEnd π)) :
    Except Known (ChainEnd π) → Except Known (List Nat × ChainEnd π)
  | .error e => .error e
  | .ok (.fall m p c) => (k m p c).map fun x => (hid :: x.1, x.2)
  | .ok e => .ok ([hid], e)

def chainBy (step : Handler α → Nat → π → Nat → Except Known (ChainEnd π)) :
    List (Handler α) → Nat → π → Nat → Except Known (List Nat × ChainEnd π)
  | [], m, p, c => .ok ([], .fall m p c)
  | h :: hs, m, p, c => stepThen h.hid (chainBy step hs) (step h m p c)

theorem stepThen_ok {hid : Nat} {k : Nat → π → Nat → Except Known (List Nat × ChainEnd π)}
    {x : Except Known (ChainEnd π)} {tr : List Nat} {e : ChainEnd π} (h : stepThen hid k x = .ok (tr, e)) :
    (∃ m p c t, x = .ok (.fall m p c) ∧ k m p c = .ok (t, e) ∧ tr = hid :: t) ∨
      (x = .ok e ∧ tr = [hid] ∧ ∀ m p c, e ≠ .fall m p c) := by
  revert h
  -- the step was aborted; it called `Next`; it ended the chain
  fun_cases stepThen hid k x <;> intro h
  · cases h
  · obtain ⟨⟨t, e'⟩, hk, heq⟩ := map_ok_inv h
    cases heq
    exact .inl ⟨_, _, _, t, rfl, hk, rfl⟩
  · next hne => cases h; exact .inr ⟨rfl, rfl, hne⟩

section generic
variable {step step' : Handler α → Nat → π → Nat → Except Known (ChainEnd π)}

theorem chainBy_fall {I : Nat → π → Nat → Prop} (hs : List (Handler α))
    (hstep : ∀ h ∈ hs, ∀ m p c m' p' c', I m p c → step h m p c = .ok (.fall m' p' c') → I m' p' c') :
    ∀ m p c tr m' p' c', I m p c → chainBy step hs m p c = .ok (tr, .fall m' p' c') → I m' p' c' := by
  induction hs with
  | nil => intro m p c tr m' p' c' hI h; cases h; exact hI
  | cons h0 hs ih =>
    intro m p c tr m' p' c' hI h
    rcases stepThen_ok h with ⟨m1, p1, c1, t, hst, hk, _⟩ | ⟨_, _, hne⟩
    · exact ih (List.forall_mem_cons.mp hstep).2 m1 p1 c1 t m' p' c'
        (hstep h0 List.mem_cons_self m p c m1 p1 c1 hI hst) hk
    · exact absurd rfl (hne m' p' c')

theorem chainBy_ok {I : Nat → π → Nat → Prop} (hs : List (Handler α))
    (hstep : ∀ h ∈ hs, ∀ m p c, I m p c →
      ∃ e, step h m p c = .ok e ∧ ∀ m' p' c', e = .fall m' p' c' → I m' p' c') :
    ∀ m p c, I m p c →
      ∃ x, chainBy step hs m p c = .ok x ∧ ∀ tr m' p' c', x = (tr, .fall m' p' c') → I m' p' c' := by
  induction hs with
  | nil => intro m p c hI; exact ⟨_, rfl, fun _ _ _ _ he => by cases he; exact hI⟩
  | cons h0 hs ih =>
    intro m p c hI
    obtain ⟨e, hst, hI'⟩ := hstep h0 List.mem_cons_self m p c hI
    simp only [chainBy, hst]
    cases e with
    | stop => exact ⟨_, rfl, fun _ _ _ _ he => by cases he⟩
    | fail a => exact ⟨_, rfl, fun _ _ _ _ he => by cases he⟩
    | fall m1 p1 c1 =>
      obtain ⟨x, hx, hI''⟩ := ih (List.forall_mem_cons.mp hstep).2 m1 p1 c1 (hI' m1 p1 c1 rfl)
      refine ⟨(h0.hid :: x.1, x.2), by simp only [stepThen, hx]; rfl, ?_⟩
      intro tr m' p' c' he
      exact hI'' x.1 m' p' c' (by rw [← (Prod.mk.inj he).2])

theorem chainBy_sim (f : Nat → Nat) (hs : List (Handler α))
    (hstep : ∀ h ∈ hs, ∀ m p c e, step h m p c = .ok e → step' h m p (f c) = .ok (e.mapCur f)) :
    ∀ m p c tr e, chainBy step hs m p c = .ok (tr, e) → chainBy step' hs m p (f c) = .ok (tr, e.mapCur f) := by
  induction hs with
  | nil => intro m p c tr e h; cases h; rfl
  | cons h0 hs ih =>
    intro m p c tr e h
    have ih' := ih (List.forall_mem_cons.mp hstep).2
    simp only [chainBy]
    rcases stepThen_ok h with ⟨m1, p1, c1, t, hst, hk, rfl⟩ | ⟨hst, rfl, hne⟩
    · rw [hstep h0 List.mem_cons_self m p c _ hst]
      simp only [ChainEnd.mapCur, stepThen, ih' m1 p1 c1 t e hk]
      rfl
    · rw [hstep h0 List.mem_cons_self m p c _ hst]
      cases e with
      | fall m' p' c' => exact absurd rfl (hne m' p' c')
      | stop => rfl
      | fail a => rfl

def chainThen (k : Nat → π → Nat → Except Known (List Nat × ChainEnd π)) :
    Except Known (List Nat × ChainEnd π) → Except Known (List Nat × ChainEnd π)
  | .error e => .error e
  | .ok (tr, .fall m p c) => (k m p c).map fun x => (tr ++ x.1, x.2)
  | .ok (tr, e) => .ok (tr, e)

theorem chainBy_append (hs1 hs2 : List (Handler α)) :
    chainBy step (hs1 ++ hs2) = fun m p c => chainThen (chainBy step hs2) (chainBy step hs1 m p c) := by
  induction hs1 with
  | nil =>
    funext m p c
    simp only [List.nil_append, chainBy, chainThen]
    cases chainBy step hs2 m p c <;> rfl
  | cons h hs ih =>
    funext m p c
    simp only [List.cons_append, chainBy, ih]
    cases step h m p c with
    | error k => rfl
    | ok e =>
      cases e with
      | stop => rfl
      | fail a => rfl
      | fall m1 p1 c1 =>
        simp only [stepThen]
        cases chainBy step hs m1 p1 c1 with
        | error k => rfl
        | ok x =>
          obtain ⟨tr, e⟩ := x
          cases e with
          | stop => rfl
          | fail a => rfl
          | fall m2 p2 c2 => exact Except.map_map' _ _ _

end generic

/-- ctx.go for one handler `h` of route `r` (un-instrumented): how it ends, with the method, path and cursor it
hands on when it calls `Next` -/
def effect (E : Env π α) (S : Stacks α) (r : Route α) (h : Handler α) (m : Nat) (p : π) (cur : Nat) :
    ChainEnd π :=
  match h.script with
  | .stop => .stop
  | .fail c => .fail c
  | .next => .fall m p cur
  | .setPath o =>
    match E.setp p o with
    | none => .fall m p cur
    | some p' => .fall m p' (pathCursor E S r m p')
  | .setMethod m' => if m' == m then .fall m p cur else .fall m' p (methodCursor E S r m m' p cur)

/-- with `chk`, the recorded situation the instrumentation finds at handler `h`, if any. The tests are those of
`runChain`, letter for letter (`chk` in every one), so that `runChain_eq` can take each test as a whole. -/
def blocked (E : Env π α) (S : Stacks α) (chk : Bool) (r : Route α) (h : Handler α) (m : Nat) (p : π) (cur : Nat) :
    Option Known :=
  if chk && h.seam && !(m == r.m && r.matches E p) then some .k2
  else
    match h.script with
    | .setPath o =>
      match E.setp p o with
      | none => none
      | some p' => if chk && m != r.m && misaligned E S r m p' (pathCursor E S r m p') then some .k1 else none
    | .setMethod m' =>
      if m' == m then none
      else if chk && misaligned E S r m' p (methodCursor E S r m m' p cur) then some .k1
      else if chk && straddles S m' r.last then some .k2
      else none
    | _ => none

def guardBy {β : Type} (b : Option Known) (x : β) : Except Known β :=
  match b with
  | some k => .error k
  | none => .ok x

theorem guardBy_ok {β : Type} {b : Option Known} {x y : β} : guardBy b x = .ok y ↔ b = none ∧ y = x := by
  cases b with
  | none => exact ⟨fun h => ⟨rfl, (Except.ok.inj h).symm⟩, fun h => h.2 ▸ rfl⟩
  | some k => exact ⟨nofun, fun h => nomatch h.1⟩

/-- ctx.go `Next` for one handler (the body of `runChain`'s recursion): what the handler does, unless the
instrumentation finds something. Proofs use it through `guardBy_ok`. -/
def runStep (E : Env π α) (S : Stacks α) (chk : Bool) (r : Route α) (h : Handler α) (m : Nat) (p : π)
    (cur : Nat) : Except Known (ChainEnd π) :=
  guardBy (blocked E S chk r h m p cur) (effect E S r h m p cur)

/-- after this `runChain` is never unfolded: everything is said about `chainBy`, `effect` and `blocked` -/
theorem runChain_eq (E : Env π α) (S : Stacks α) (chk : Bool) (r : Route α) (hs : List (Handler α)) :
    runChain E S chk r hs = chainBy (runStep E S chk r) hs := by
  funext m p cur
  -- `runChain`'s own case analysis; in each case the tests of `blocked` and `effect` are decided by the case's hypotheses
  fun_induction runChain E S chk r hs m p cur <;>
    simp only [chainBy, runStep, blocked, effect, guardBy, stepThen, *, if_true, if_false, Bool.false_eq_true]

theorem blocked_false (E : Env π α) (S : Stacks α) (r : Route α) (h : Handler α) (m : Nat) (p : π) (cur : Nat) :
    blocked E S false r h m p cur = none := by
  rw [blocked]
  cases h.script with
  | setPath o => dsimp only; cases E.setp p o <;> rfl
  | setMethod m' => dsimp only; cases m' == m <;> rfl
  | _ => rfl

theorem runStep_chk {E : Env π α} {S : Stacks α} {r : Route α} {h : Handler α} {m : Nat} {p : π} {cur : Nat}
    {e : ChainEnd π} (hst : runStep E S true r h m p cur = .ok e) : runStep E S false r h m p cur = .ok e := by
  rw [runStep, blocked_false, (guardBy_ok.mp hst).2]; rfl

theorem runChain_chk (E : Env π α) (S : Stacks α) {r : Route α} {hs : List (Handler α)} {m : Nat} {p : π}
    {cur : Nat} {x : List Nat × ChainEnd π} (h : runChain E S true r hs m p cur = .ok x) :
    runChain E S false r hs m p cur = .ok x := by
  rw [runChain_eq] at h ⊢
  have := chainBy_sim (step' := runStep E S false r) id hs
    (fun _ _ m p c e hst => by rw [ChainEnd.mapCur_id]; exact runStep_chk hst) m p cur x.1 x.2 h
  rwa [ChainEnd.mapCur_id] at this

/-- a transition to the next handler that the instrumentation lets through -/
inductive Moves (E : Env π α) (S : Stacks α) (r : Route α) (h : Handler α) (m : Nat) (p : π) (cur : Nat) :
    Nat → π → Nat → Prop
  | stay : Moves E S r h m p cur m p cur
  | path {o p'} : h.script = .setPath o → (m = r.m ∨ misaligned E S r m p' (pathCursor E S r m p') = false) →
      Moves E S r h m p cur m p' (pathCursor E S r m p')
  | method {m'} : h.script = .setMethod m' → misaligned E S r m' p (methodCursor E S r m m' p cur) = false →
      straddles S m' r.last = false → Moves E S r h m p cur m' p (methodCursor E S r m m' p cur)

section let_through
variable {E : Env π α} {S : Stacks α} {r : Route α} {h : Handler α} {m : Nat} {p : π} {cur : Nat}
  (hb : blocked E S true r h m p cur = none)
include hb

theorem blocked_seam : (h.seam && !(m == r.m && r.matches E p)) = false := by
  rw [blocked, Bool.true_and] at hb
  cases hc : (h.seam && !(m == r.m && r.matches E p))
  · rfl
  · rw [hc, if_pos rfl] at hb; cases hb

theorem moves_of_not_blocked {m' : Nat} {p' : π} {c' : Nat} (he : effect E S r h m p cur = .fall m' p' c') :
    Moves E S r h m p cur m' p' c' := by
  rw [blocked, Bool.true_and, blocked_seam hb, if_neg Bool.false_ne_true] at hb
  revert he
  -- `effect`'s own cases; `stop` and `fail` go in `cases he`. Left, where the handler calls `Next`: `next`; a path override
  -- that changes nothing; a path override; a method override to the current method; an effective method override.
  -- In the two that move, `blocked`'s tests for that script are what `hb` is left with
  fun_cases effect E S r h m p cur <;> intro he <;> cases he
  · exact .stay
  · exact .stay
  · next o hsc hp =>
    simp only [hsc, hp, Bool.true_and] at hb
    refine .path hsc ?_
    cases hm : (m != r.m)
    · exact .inl (by simpa using hm)
    · cases hmis : misaligned E S r m p' (pathCursor E S r m p')
      · exact .inr rfl
      · rw [hm, hmis] at hb; cases hb
  · exact .stay
  · next hsc hne =>
    simp only [hsc, hne, Bool.true_and] at hb
    cases h2 : misaligned E S r m' p (methodCursor E S r m m' p cur)
    · cases h3 : straddles S m' r.last
      · exact .method hsc h2 h3
      · rw [h2, h3] at hb; cases hb
    · rw [h2] at hb; cases hb

end let_through

end C01
