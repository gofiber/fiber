import FiberModel.C01.Corr
/-
C01 — invariants of `register`/`addRoute` (`build`): positions strictly increase along every method
stack, every route stems from a registration, the ghost registration indices are ordered, and the stack
of method `m` corresponds (`CorrI`) to the registrations listing `m`.
-/
namespace C01
variable {π α : Type}

theorem addRoute_cases (merge : Bool) (S : Stacks α) (m : Nat) (g : Reg α) :
    (∃ l0 rest, S.rev m = l0 :: rest ∧ (l0.raw = g.raw ∧ l0.eo = g.eo ∧ l0.use = g.use) ∧ addRoute merge S m g =
        { S with rev := fun i => if i = m then
            { l0 with handlers := l0.handlers ++ markSeam g.handlers, last := S.nreg } :: rest else S.rev i }) ∨
      addRoute merge S m g =
        { S with rev := fun i => if i = m then newRoute S m g :: S.rev m else S.rev i, count := S.count + 1 } := by
  unfold addRoute
  cases S.rev m with
  | nil => exact .inr rfl
  | cons l0 rest =>
    dsimp only
    cases hc : (merge && l0.raw == g.raw && l0.eo == g.eo && l0.use == g.use)
    · exact .inr rfl
    · simp only [Bool.and_eq_true, beq_iff_eq] at hc
      exact .inl ⟨l0, rest, rfl, ⟨hc.1.1.2, hc.1.2, hc.2⟩, rfl⟩

theorem addRoute_nreg (merge : Bool) (S : Stacks α) (m : Nat) (g : Reg α) :
    (addRoute merge S m g).nreg = S.nreg := by
  rcases addRoute_cases merge S m g with ⟨_, _, _, _, h⟩ | h <;> rw [h]

theorem mem_addRoute {merge : Bool} {S : Stacks α} {m : Nat} {g : Reg α} {i : Nat} {r : Route α}
    (hr : r ∈ (addRoute merge S m g).rev i) :
    r ∈ S.rev i ∨ i = m ∧ (r = newRoute S m g ∨
      ∃ l0 ∈ S.rev m, r = { l0 with handlers := l0.handlers ++ markSeam g.handlers, last := S.nreg }) := by
  by_cases hi : i = m
  · subst hi
    rcases addRoute_cases merge S i g with ⟨l0, rest, hrev, _, heq⟩ | heq
    · -- merged into `l0`, the top of the stack
      rw [heq] at hr
      simp only [↓reduceIte] at hr
      rcases List.mem_cons.mp hr with rfl | hr'
      · exact .inr ⟨rfl, .inr ⟨l0, hrev ▸ List.mem_cons_self, rfl⟩⟩
      · exact .inl (hrev ▸ List.mem_cons_of_mem _ hr')
    · -- a new route on top
      rw [heq] at hr
      simp only [↓reduceIte] at hr
      rcases List.mem_cons.mp hr with rfl | hr'
      · exact .inr ⟨rfl, .inl rfl⟩
      · exact .inl hr'
  · rcases addRoute_cases merge S m g with ⟨_, _, _, _, heq⟩ | heq <;> rw [heq] at hr <;>
      exact .inl (by simpa only [hi, ↓reduceIte] using hr)

theorem forall_update {β : Type} {Q : Nat → β → Prop} {f : Nat → β} {m : Nat} {b : β}
    (hm : Q m b) (h : ∀ i, Q i (f i)) (i : Nat) : Q i (if i = m then b else f i) := by
  by_cases hi : i = m
  · rw [if_pos hi, hi]; exact hm
  · rw [if_neg hi]; exact h i

theorem build_induct_reg {P : Stacks α → Prop} (merge : Bool) (regs : List (Reg α)) (h0 : P Stacks.empty)
    (hreg : ∀ S, P S → ∀ g ∈ regs, P (addReg merge S g)) : P (build merge regs) :=
  List.foldlRecOn regs (addReg merge) h0 hreg

theorem build_induct {P : Stacks α → Prop} (merge : Bool) (regs : List (Reg α)) (h0 : P Stacks.empty)
    (hadd : ∀ S, P S → ∀ g ∈ regs, ∀ m, P (addRoute merge S m g))
    (hnreg : ∀ S n, P S → P { S with nreg := n }) : P (build merge regs) :=
  build_induct_reg merge regs h0 fun _ h g hg =>
    hnreg _ _ (List.foldlRecOn g.methods _ h fun S h a _ => hadd S h g hg a)

/-- the invariant of `app.stack` / `app.routesCount` -/
structure InvS (S : Stacks α) : Prop where
  sorted : ∀ i, Sorted (S.stack i)
  bound : ∀ i, ∀ r ∈ S.rev i, r.pos ≤ S.count ∧ r.m = i
  len : ∀ i, (S.rev i).length ≤ S.count

theorem sorted_reverse_cons {x : Route α} {l : List (Route α)} :
    Sorted (x :: l).reverse ↔ (∀ r ∈ l, r.pos < x.pos) ∧ Sorted l.reverse := by
  simp only [Sorted, List.pairwise_reverse, List.pairwise_cons]

theorem InvS.addRoute (merge : Bool) (S : Stacks α) (h : InvS S) (m : Nat) (g : Reg α) :
    InvS (addRoute merge S m g) := by
  have hs := h.sorted m
  rcases addRoute_cases merge S m g with ⟨l0, rest, hrev, _, heq⟩ | heq <;> rw [heq]
  · -- merged: positions, methods and lengths unchanged
    have hb := h.bound m
    have hl := h.len m
    rw [Stacks.stack, hrev] at hs
    rw [hrev] at hb hl
    have hs' := sorted_reverse_cons.mp hs
    exact ⟨forall_update (Q := fun _ (l : List (Route α)) => Sorted l.reverse) (sorted_reverse_cons.mpr hs') h.sorted,
      forall_update (Q := fun i (l : List (Route α)) => ∀ r ∈ l, r.pos ≤ S.count ∧ r.m = i)
        (List.forall_mem_cons.mpr (List.forall_mem_cons.mp hb)) h.bound,
      forall_update (Q := fun _ (l : List (Route α)) => l.length ≤ S.count) hl h.len⟩
  · have hup : ∀ i, ∀ r ∈ S.rev i, r.pos ≤ S.count + 1 ∧ r.m = i := fun i r hr =>
      ⟨Nat.le_succ_of_le (h.bound i r hr).1, (h.bound i r hr).2⟩
    exact ⟨forall_update (Q := fun _ (l : List (Route α)) => Sorted l.reverse)
        (sorted_reverse_cons.mpr ⟨fun r hr => Nat.lt_succ_of_le (h.bound m r hr).1, hs⟩) h.sorted,
      forall_update (Q := fun i (l : List (Route α)) => ∀ r ∈ l, r.pos ≤ S.count + 1 ∧ r.m = i)
        (List.forall_mem_cons.mpr ⟨⟨Nat.le_refl _, rfl⟩, hup m⟩) hup,
      forall_update (Q := fun _ (l : List (Route α)) => l.length ≤ S.count + 1) (Nat.succ_le_succ (h.len m))
        (fun i => Nat.le_succ_of_le (h.len i))⟩

theorem InvS.empty : InvS (Stacks.empty : Stacks α) :=
  ⟨fun _ => List.Pairwise.nil, fun _ _ => nofun, fun _ => Nat.le_refl 0⟩

/-- the `addRoute` calls of one `register` (without the ghost counter's step) -/
def foldReg (merge : Bool) (S : Stacks α) (g : Reg α) : Stacks α :=
  g.methods.foldl (fun S m => addRoute merge S m g) S

theorem addReg_count_eq (merge : Bool) (S : Stacks α) (g : Reg α) :
    (addReg merge S g).count = (foldReg merge S g).count := rfl

theorem foldl_addRoute_nreg (merge : Bool) (g : Reg α) (ms : List Nat) (S : Stacks α) :
    (ms.foldl (fun S m => addRoute merge S m g) S).nreg = S.nreg :=
  List.foldlRecOn (motive := fun T => T.nreg = S.nreg) ms _ rfl fun T h a _ => (addRoute_nreg merge T a g).trans h

theorem addReg_nreg (merge : Bool) (S : Stacks α) (g : Reg α) : (addReg merge S g).nreg = S.nreg + 1 := rfl

theorem InvS.addReg (merge : Bool) (S : Stacks α) (h : InvS S) (g : Reg α) : InvS (addReg merge S g) := by
  have : InvS (foldReg merge S g) := List.foldlRecOn g.methods _ h fun S h a _ => h.addRoute merge S a g
  exact ⟨this.sorted, this.bound, this.len⟩

theorem InvS.build (merge : Bool) (regs : List (Reg α)) : InvS (build merge regs) :=
  build_induct_reg merge regs InvS.empty fun S h g _ => h.addReg merge S g

def FromRegs (S : Stacks α) (regs : List (Reg α)) : Prop :=
  ∀ i, ∀ r ∈ S.rev i, ∃ g ∈ regs, r.raw = g.raw ∧ r.use = g.use ∧ r.key = g.key

theorem FromRegs.addRoute (merge : Bool) (S : Stacks α) (regs : List (Reg α)) (h : FromRegs S regs)
    (m : Nat) (g : Reg α) (hg : g ∈ regs) : FromRegs (addRoute merge S m g) regs := by
  intro i r hr
  rcases mem_addRoute hr with hr | ⟨rfl, rfl | ⟨l0, hl0, rfl⟩⟩
  · exact h i r hr
  · exact ⟨g, hg, rfl, rfl, rfl⟩
  · exact h i l0 hl0

theorem FromRegs.mono {S : Stacks α} {regs regs' : List (Reg α)} (h : FromRegs S regs)
    (hsub : ∀ g ∈ regs, g ∈ regs') : FromRegs S regs' := by
  intro i r hr
  obtain ⟨g, hg, h1⟩ := h i r hr
  exact ⟨g, hsub g hg, h1⟩

theorem fromRegs_build (merge : Bool) (regs : List (Reg α)) : FromRegs (build merge regs) regs :=
  build_induct (P := fun S => FromRegs S regs) merge regs (fun _ _ => nofun) (fun S h g hg m => h.addRoute merge S regs m g hg)
    (fun _ _ h => h)

theorem fsorted_reverse_cons {x : Route α} {l : List (Route α)} :
    FSorted (x :: l).reverse ↔ ((∀ r ∈ l, r.last < x.first) ∧ x.first ≤ x.last) ∧ FSorted l.reverse := by
  simp only [FSorted, List.pairwise_reverse, List.pairwise_cons, List.mem_reverse, List.mem_cons, forall_eq_or_imp]
  constructor
  · rintro ⟨⟨h1, h2⟩, h3, h4⟩; exact ⟨⟨h1, h3⟩, h2, h4⟩
  · rintro ⟨⟨h1, h3⟩, h2, h4⟩; exact ⟨⟨h1, h2⟩, h3, h4⟩

/-- the invariant while the methods of one `register` call are being added: `todo` are the methods
still to come, whose stacks do not yet hold a route of this registration -/
structure InvF (S : Stacks α) (todo : List Nat) : Prop where
  fs : ∀ i, FSorted (S.stack i)
  lastle : ∀ i, ∀ r ∈ S.rev i, r.last ≤ S.nreg
  mono : ∀ i j, ∀ x ∈ S.rev i, ∀ y ∈ S.rev j, x.first < y.first → x.pos < y.pos
  fresh : ∀ a ∈ todo, ∀ r ∈ S.rev a, r.last < S.nreg

theorem InvF.addRoute (merge : Bool) (S : Stacks α) (hinv : InvS S) (m : Nat) (todo : List Nat)
    (h : InvF S (m :: todo)) (hnot : m ∉ todo) (g : Reg α) : InvF (C01.addRoute merge S m g) todo := by
  have hfresh := h.fresh m List.mem_cons_self
  have hfl : ∀ i, ∀ x ∈ S.rev i, x.first ≤ S.nreg := fun i x hx =>
    Nat.le_trans ((h.fs i).2 x (List.mem_reverse.mpr hx)) (h.lastle i x hx)
  have hnew : ∀ i, ∀ x ∈ (C01.addRoute merge S m g).rev i,
      (x.pos = S.count + 1 ∧ x.first = S.nreg) ∨ ∃ x0 ∈ S.rev i, x.pos = x0.pos ∧ x.first = x0.first := by
    intro i x hx
    rcases mem_addRoute hx with hx | ⟨rfl, rfl | ⟨l0, hl0, rfl⟩⟩
    · exact .inr ⟨x, hx, rfl, rfl⟩
    · exact .inl ⟨rfl, rfl⟩
    · exact .inr ⟨l0, hl0, rfl, rfl⟩
  refine ⟨?_, ?_, ?_, ?_⟩
  · have hs := h.fs m
    rcases addRoute_cases merge S m g with ⟨l0, rest, hrev, _, heq⟩ | heq <;> rw [heq]
    · -- merged: only the last registration of the top route grows
      rw [Stacks.stack, hrev] at hs
      obtain ⟨⟨h1, _⟩, h2⟩ := fsorted_reverse_cons.mp hs
      have : FSorted (({ l0 with handlers := l0.handlers ++ markSeam g.handlers, last := S.nreg } : Route α) ::
          rest).reverse :=
        fsorted_reverse_cons.mpr ⟨⟨h1, hfl m l0 (hrev ▸ List.mem_cons_self)⟩, h2⟩
      exact forall_update (Q := fun _ (l : List (Route α)) => FSorted l.reverse) this h.fs
    · exact forall_update (Q := fun _ (l : List (Route α)) => FSorted l.reverse)
        (fsorted_reverse_cons.mpr ⟨⟨hfresh, Nat.le_refl _⟩, hs⟩) h.fs
  · intro i r hr
    rw [addRoute_nreg]
    rcases mem_addRoute hr with hr | ⟨rfl, rfl | ⟨l0, _, rfl⟩⟩
    · exact h.lastle i r hr
    · exact Nat.le_refl _
    · exact Nat.le_refl _
  · -- positions grow with the registration index, across stacks
    intro i j x hx y hy hlt
    rcases hnew i x hx with ⟨hxp, hxf⟩ | ⟨x0, hx0, hxp, hxf⟩ <;>
      rcases hnew j y hy with ⟨hyp, hyf⟩ | ⟨y0, hy0, hyp, hyf⟩
    · omega
    · have := hfl j y0 hy0; omega
    · have := (hinv.bound i x0 hx0).1; omega
    · rw [hxp, hyp]; exact h.mono i j x0 hx0 y0 hy0 (by omega)
  · intro a ha r hr
    rw [addRoute_nreg]
    rcases mem_addRoute hr with hr | ⟨rfl, _⟩
    · exact h.fresh a (List.mem_cons_of_mem _ ha) r hr
    · exact absurd ha hnot

theorem InvF.foldl (merge : Bool) (g : Reg α) (ms : List Nat) (hnd : ms.Nodup) (S : Stacks α) (hinv : InvS S)
    (h : InvF S ms) : InvF (ms.foldl (fun S m => C01.addRoute merge S m g) S) [] := by
  induction ms generalizing S with
  | nil => exact h
  | cons a ms ih =>
    rw [List.nodup_cons] at hnd
    exact ih hnd.2 _ (hinv.addRoute merge S a g) (h.addRoute merge S hinv a ms hnd.1 g)

/-- the invariant of the ghost indices between two `register` calls -/
structure InvG (S : Stacks α) : Prop where
  fs : ∀ i, FSorted (S.stack i)
  lastlt : ∀ i, ∀ r ∈ S.rev i, r.last < S.nreg
  mono : ∀ i j, ∀ x ∈ S.rev i, ∀ y ∈ S.rev j, x.first < y.first → x.pos < y.pos

theorem InvG.addReg (merge : Bool) (S : Stacks α) (hinv : InvS S) (h : InvG S) (g : Reg α)
    (hnd : g.methods.Nodup) : InvG (C01.addReg merge S g) := by
  have := InvF.foldl merge g g.methods hnd S hinv
    ⟨h.fs, fun i r hr => Nat.le_of_lt (h.lastlt i r hr), h.mono, fun a _ r hr => h.lastlt a r hr⟩
  have hn := foldl_addRoute_nreg merge g g.methods S
  exact ⟨this.fs, fun i r hr => Nat.lt_succ_of_le (hn ▸ this.lastle i r hr), this.mono⟩

theorem InvG.build (merge : Bool) (regs : List (Reg α)) (hwf : ∀ g ∈ regs, g.methods.Nodup) :
    InvG (build merge regs) :=
  (build_induct_reg (P := fun S => InvS S ∧ InvG S) merge regs
    ⟨InvS.empty, fun _ => ⟨List.Pairwise.nil, nofun⟩, fun _ _ => nofun, fun _ _ _ => nofun⟩
    fun S h g hg => ⟨h.1.addReg merge S g, h.2.addReg merge S h.1 g (hwf g hg)⟩).2

theorem addRoute_stack_ne (merge : Bool) (S : Stacks α) {m a : Nat} (g : Reg α) (h : m ≠ a) :
    (addRoute merge S a g).stack m = S.stack m := by
  rcases addRoute_cases merge S a g with ⟨_, _, _, _, heq⟩ | heq <;> rw [heq] <;>
    simp only [Stacks.stack, h, ↓reduceIte]

theorem foldl_addRoute_stack_of_not_mem (merge : Bool) (g : Reg α) (ms : List Nat) (m : Nat) (hm : m ∉ ms)
    (S : Stacks α) : (ms.foldl (fun S a => addRoute merge S a g) S).stack m = S.stack m :=
  List.foldlRecOn (motive := fun T => T.stack m = S.stack m) ms _ rfl fun T h a ha =>
    (addRoute_stack_ne merge T g fun (e : m = a) => hm (e ▸ ha)).trans h

theorem add_length_cons {b n : Nat} {g0 : Reg α} {gs : List (Reg α)} (hn : b + (g0 :: gs).length = n) :
    b + 1 + gs.length = n := by rw [← hn, List.length_cons]; omega

theorem corrI_append (m : Nat) {b n : Nat} {rs rs' : List (Route α)} {gs gs' : List (Reg α)}
    (hc : CorrI m b rs gs) (hn : b + gs.length = n) (hc' : CorrI m n rs' gs') :
    CorrI m b (rs ++ rs') (gs ++ gs') := by
  induction hc with
  | nil => cases hn; exact hc'
  | skip hm _ ih => exact CorrI.skip hm (ih (add_length_cons hn))
  | one hm ho hh hf hl hk _ ih => exact CorrI.one hm ho hh hf hl hk (ih (add_length_cons hn))
  | merged hm ho ho' hh hf hl hk _ ih => exact CorrI.merged hm ho ho' hh hf hl hk (ih (add_length_cons hn))

theorem markSeam_append {a : List (Handler α)} (h : a ≠ []) (b : List (Handler α)) :
    markSeam (a ++ b) = markSeam a ++ b := by
  cases a with
  | nil => exact absurd rfl h
  | cons x t => rfl

theorem corrI_concat_merge (m : Nat) {b n : Nat} {l : List (Route α)} {gs : List (Reg α)} (hc : CorrI m b l gs)
    (hwf : ∀ g ∈ gs, WFReg g) (hn : b + gs.length = n) {g : Reg α} (hm : m ∈ g.methods) :
    ∀ {rs : List (Route α)} {l0 : Route α}, l = rs ++ [l0] → l0.raw = g.raw → l0.use = g.use →
      CorrI m b (rs ++ [{ l0 with handlers := l0.handlers ++ markSeam g.handlers, last := n }]) (gs ++ [g]) := by
  induction hc with
  | nil => intro rs l0 h; cases rs <;> cases h
  | skip h _ ih =>
    intro rs l0 hl h1 h3
    exact CorrI.skip h (ih (List.forall_mem_cons.mp hwf).2 (add_length_cons hn) hl h1 h3)
  | @one b r rs' g0 gs' hm0 ho hh hf hla hk hc' ih =>
    intro rs l0 hl h1 h3
    have hwf' : ∀ x ∈ gs', WFReg x := (List.forall_mem_cons.mp hwf).2
    cases rs with
    | nil =>
      -- the last route held one registration: the new one is a `merged` layer behind it
      obtain ⟨rfl, rfl⟩ := List.cons.inj hl
      have hr : RouteOf m ({ r with handlers := g.handlers, first := n, last := n, key := g.key } : Route α) g :=
        ⟨h1, h3, ho.m⟩
      exact CorrI.merged (r' := { r with handlers := g.handlers, first := n, last := n, key := g.key }) hm0
        ⟨ho.raw, ho.use, ho.m⟩ ⟨ho.raw, ho.use, ho.m⟩ (by rw [← hh]) hf rfl hk
        (corrI_append m hc' (add_length_cons hn) (CorrI.one hm hr rfl rfl rfl rfl CorrI.nil))
    | cons r1 rs1 =>
      obtain ⟨rfl, rfl⟩ := List.cons.inj hl
      exact CorrI.one hm0 ho hh hf hla hk (ih hwf' (add_length_cons hn) rfl h1 h3)
  | @merged b r r' rs' g0 gs' hm0 ho ho' hh hf hla hk hc' ih =>
    intro rs l0 hl h1 h3
    have hwf' : ∀ x ∈ gs', WFReg x := (List.forall_mem_cons.mp hwf).2
    cases rs with
    | nil =>
      -- the last route held several registrations: the new one goes into its (virtual) tail route `r'`
      obtain ⟨rfl, rfl⟩ := List.cons.inj hl
      have := ih hwf' (add_length_cons hn) (rs := []) rfl (ho'.raw.trans (ho.raw.symm.trans h1))
        (ho'.use.trans (ho.use.symm.trans h3))
      refine CorrI.merged (r' := { r' with handlers := r'.handlers ++ markSeam g.handlers, last := n }) hm0
        ⟨ho.raw, ho.use, ho.m⟩ ⟨ho'.raw, ho'.use, ho'.m⟩ ?_ hf rfl hk this
      show r.handlers ++ _ = _
      rw [hh, markSeam_append (corrI_head_ne m hc' hwf'), List.append_assoc]
    | cons r1 rs1 =>
      obtain ⟨rfl, rfl⟩ := List.cons.inj hl
      exact CorrI.merged hm0 ho ho' hh hf hla hk (ih hwf' (add_length_cons hn) (rs := r' :: rs1) rfl h1 h3)

theorem corrI_addRoute (merge : Bool) (S : Stacks α) (m : Nat) {done : List (Reg α)}
    (hc : CorrI m 0 (S.stack m) done) (hwd : ∀ g ∈ done, WFReg g) (hn : S.nreg = done.length) {g : Reg α}
    (hm : m ∈ g.methods) : CorrI m 0 ((addRoute merge S m g).stack m) (done ++ [g]) := by
  have hn' : 0 + done.length = S.nreg := by rw [hn, Nat.zero_add]
  rcases addRoute_cases merge S m g with ⟨l0, rest, hrev, ⟨h1, _, h3⟩, heq⟩ | heq <;>
    rw [heq] <;> simp only [Stacks.stack, ↓reduceIte, List.reverse_cons]
  · rw [Stacks.stack, hrev, List.reverse_cons] at hc
    exact corrI_concat_merge m hc hwd hn' hm rfl h1 h3
  · exact corrI_append m hc hn' (CorrI.one hm ⟨rfl, rfl, rfl⟩ rfl rfl rfl rfl CorrI.nil)

theorem foldl_addReg_nreg (merge : Bool) (gs : List (Reg α)) (S : Stacks α) :
    (gs.foldl (addReg merge) S).nreg = S.nreg + gs.length := by
  induction gs generalizing S with
  | nil => rfl
  | cons g gs ih => simp only [List.foldl_cons, List.length_cons]; rw [ih, addReg_nreg]; omega

/-- one `register` call: of its `addRoute` calls only the one for `m` touches the stack of `m` -/
theorem corrI_addReg (merge : Bool) (S : Stacks α) (m : Nat) {done : List (Reg α)}
    (hc : CorrI m 0 (S.stack m) done) (hwd : ∀ g ∈ done, WFReg g) (hn : S.nreg = done.length) {g : Reg α}
    (wg : WFReg g) : CorrI m 0 ((addReg merge S g).stack m) (done ++ [g]) := by
  change CorrI m 0 ((g.methods.foldl (fun S m => addRoute merge S m g) S).stack m) _
  by_cases hin : m ∈ g.methods
  · obtain ⟨ms1, ms2, heq⟩ := List.append_of_mem hin
    have hnd := wg.nodup
    rw [heq] at hnd ⊢
    obtain ⟨_, hnd2, hdis⟩ := List.nodup_append.mp hnd
    rw [List.foldl_append, List.foldl_cons,
      foldl_addRoute_stack_of_not_mem merge g ms2 m (List.nodup_cons.mp hnd2).1]
    have h1 := foldl_addRoute_stack_of_not_mem merge g ms1 m (fun h => hdis m h m List.mem_cons_self rfl) S
    exact corrI_addRoute merge _ m (h1 ▸ hc) hwd ((foldl_addRoute_nreg merge g ms1 S).trans hn) hin
  · rw [foldl_addRoute_stack_of_not_mem merge g _ m hin S]
    exact List.append_nil (S.stack m) ▸ corrI_append m hc rfl (CorrI.skip hin CorrI.nil)

theorem corr_build (merge : Bool) (regs : List (Reg α)) (hwf : ∀ g ∈ regs, WFReg g) (m : Nat) :
    CorrI m 0 ((build merge regs).stack m) regs := by
  -- with the registrations `done` made so far as the prefix
  suffices key : ∀ (gs : List (Reg α)) (S : Stacks α) (done : List (Reg α)),
      CorrI m 0 (S.stack m) done → S.nreg = done.length → (∀ g ∈ done, WFReg g) → (∀ g ∈ gs, WFReg g) →
      CorrI m 0 ((gs.foldl (addReg merge) S).stack m) (done ++ gs) from
    key regs Stacks.empty [] CorrI.nil rfl nofun hwf
  intro gs
  induction gs with
  | nil => intro S done hc _ _ _; rwa [List.append_nil]
  | cons g gs ih =>
    intro S done hc hn hwd hwg
    have wg := hwg g List.mem_cons_self
    rw [List.append_cons]
    exact ih (addReg merge S g) (done ++ [g]) (corrI_addReg merge S m hc hwd hn wg)
      (by rw [addReg_nreg, hn, List.length_append]; rfl)
      (List.forall_mem_append.mpr ⟨hwd, List.forall_mem_singleton.mpr wg⟩)
      (List.forall_mem_cons.mp hwg).2

end C01
