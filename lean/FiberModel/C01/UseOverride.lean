import FiberModel.C01.Main
/-
C01 — a sufficient condition under which no run reaches K1/K2: every method override is made by a
`Use` middleware filed in the global bucket (key 0: `app.Use(mw)` or a prefix shorter than 3 bytes), `Use`
registrations list every method (what `register` does), and `addRoute` merged nothing. Then the
rank-based cursor of `syncIndexRouteMethod` is the ideal one at every override, whatever precedes the
middleware in the two trees.
-/
namespace C01
variable {π α : Type}

/-- `addRoute` merged nothing: every route holds the handlers of one registration -/
def NoMerge (E : Env π α) (S : Stacks α) : Prop := ∀ i, i < E.nMethods → ∀ r ∈ S.stack i, r.first = r.last

theorem countP_filter_first (l : List (Route α)) (q : Route α → Bool) (k : Nat) :
    (l.filter (fun x => x.first < k)).countP q = ((l.filter q).map (·.first)).countP (fun n => n < k) := by
  rw [List.countP_filter, List.countP_map, List.countP_filter]
  exact List.countP_congr fun x _ => by rw [Bool.and_comm]; exact Iff.rfl

/-- the second loop of `syncIndexRouteMethod`, given the rank of a `Use` route `s` of the tree, stops behind `s` -/
theorem afterNthUse_append (A C : List (Route α)) (s : Route α) (hs : s.use = true) :
    afterNthUse (A ++ s :: C) ((A ++ [s]).countP (·.use)) = A.length + 1 := by
  induction A with
  | nil =>
    rw [List.nil_append, List.nil_append, List.countP_singleton, hs, if_pos rfl, afterNthUse, if_pos hs]
    cases C <;> rfl
  | cons x A ih =>
    obtain ⟨n, hn⟩ : ∃ n, (A ++ [s]).countP (·.use) = n + 1 :=
      ⟨_, (Nat.sub_add_cancel (List.countP_pos_iff.mpr ⟨s, List.mem_append_right _ List.mem_cons_self, hs⟩)).symm⟩
    rw [hn] at ih
    rw [List.cons_append, List.cons_append, List.countP_cons, hn, List.length_cons]
    cases hx : x.use
    · rw [if_neg Bool.false_ne_true, afterNthUse, if_neg (by rw [hx]; exact Bool.false_ne_true), ih]; rfl
    · rw [if_pos rfl, afterNthUse, if_pos hx, ih]; rfl

theorem afterNthUse_sibling (B : List (Route α)) (hf : FSorted B) (k : Nat)
    (hs : ∃ s ∈ B, s.use = true ∧ s.first = k) :
    afterNthUse B ((B.filter (fun x => x.first < k + 1)).countP (·.use)) =
      B.countP (fun x => x.first ≤ k) := by
  -- `B = A ++ s :: C` with `s` the sibling: exactly `A` and `s` are created by registrations `≤ k`
  obtain ⟨s, hsm, hsu, rfl⟩ := hs
  obtain ⟨A, C, rfl⟩ := List.append_of_mem hsm
  obtain ⟨_, hC, hA⟩ := List.pairwise_append.mp hf.1
  have hs1 := hf.2 s (List.mem_append_right _ List.mem_cons_self)
  have hA' : ∀ x ∈ A, x.first ≤ s.first := fun x hx => by
    have := hA x hx s List.mem_cons_self
    have := hf.2 x (List.mem_append_left _ hx); omega
  have hC' : ∀ x ∈ C, ¬ x.first ≤ s.first := fun x hx => by
    have := (List.pairwise_cons.mp hC).1 x hx; omega
  have e1 : (A ++ s :: C).filter (fun x => x.first < s.first + 1) = A ++ [s] := by
    rw [List.filter_append, List.filter_cons_of_pos (by simp),
      List.filter_eq_self.mpr fun x hx => by simpa [Nat.lt_succ_iff] using hA' x hx,
      List.filter_eq_nil_iff.mpr fun x hx => by simpa [Nat.lt_succ_iff] using hC' x hx]
  have e2 : (A ++ s :: C).countP (fun x => x.first ≤ s.first) = A.length + 1 := by
    rw [List.countP_append, List.countP_cons_of_pos (by simp),
      List.countP_eq_length.mpr fun x hx => by simpa using hA' x hx,
      List.countP_eq_zero.mpr fun x hx => by simpa using hC' x hx]
  rw [e1, e2, afterNthUse_append A C s hsu]

def useFirsts (f : Nat → Bool) : Nat → List (Reg α) → List Nat
  | _, [] => []
  | b, g :: gs => (if f g.key && g.use then [b] else []) ++ useFirsts f (b + 1) gs

theorem corrI_useFirsts (i : Nat) {b : Nat} {rs : List (Route α)} {gs : List (Reg α)} (hc : CorrI i b rs gs)
    (hnm : ∀ r ∈ rs, r.first = r.last) (hall : ∀ g ∈ gs, g.use = true → i ∈ g.methods) (f : Nat → Bool) :
    (rs.filter (fun r => f r.key && r.use)).map (·.first) = useFirsts f b gs := by
  induction hc with
  | nil => rfl
  | @skip b rs gs g hm _ ih =>
    have hgu : g.use = false := by
      cases hu : g.use with
      | false => rfl
      | true => exact absurd (hall g List.mem_cons_self hu) hm
    simp only [useFirsts, hgu, Bool.and_false, Bool.false_eq_true, ↓reduceIte, List.nil_append]
    exact ih hnm (List.forall_mem_cons.mp hall).2
  | @one b r rs g gs hm ho hh hfirst hlast hkey _ ih =>
    have ih' := ih (List.forall_mem_cons.mp hnm).2 (List.forall_mem_cons.mp hall).2
    -- the route is kept by the filter iff its registration is by `useFirsts` (same key, same `use`), with index `b`
    simp only [useFirsts, List.filter_cons, hkey, ho.use]
    split <;> simp [ih', hfirst]
  | merged _ _ _ _ hfirst hlast _ hc' _ =>
    exact absurd (hnm _ List.mem_cons_self) (Nat.ne_of_lt (corrI_merged_lt hc' hfirst hlast))

theorem corrI_nomerge_mem (i : Nat) {b : Nat} {rs : List (Route α)} {gs : List (Reg α)} (hc : CorrI i b rs gs)
    (hnm : ∀ r ∈ rs, r.first = r.last) :
    ∀ r ∈ rs, ∃ g ∈ gs, r.handlers = g.handlers ∧ r.use = g.use ∧ r.key = g.key := by
  induction hc with
  | nil => intro r hr; cases hr
  | skip _ _ ih =>
    intro r hr
    obtain ⟨g, hg, h⟩ := ih hnm r hr
    exact ⟨g, List.mem_cons_of_mem _ hg, h⟩
  | @one b r0 rs g gs hm ho hh hfirst hlast hkey _ ih =>
    refine List.forall_mem_cons.mpr ⟨⟨g, List.mem_cons_self, hh, ho.use, hkey⟩, fun r hr => ?_⟩
    obtain ⟨g', hg', h⟩ := ih (List.forall_mem_cons.mp hnm).2 r hr
    exact ⟨g', List.mem_cons_of_mem _ hg', h⟩
  | merged _ _ _ _ hfirst hlast _ hc' _ =>
    exact absurd (hnm _ List.mem_cons_self) (Nat.ne_of_lt (corrI_merged_lt hc' hfirst hlast))

structure UseOK (E : Env π α) (S : Stacks α) : Prop where
  sorted : ∀ i, Sorted (S.stack i)
  fs : ∀ i, FSorted (S.stack i)
  own : ∀ i, ∀ r ∈ S.stack i, r.m = i
  nomerge : NoMerge E S
  noseam : ∀ i, i < E.nMethods → ∀ r ∈ S.stack i, ∀ h ∈ r.handlers, h.seam = false
  ov : ∀ i, i < E.nMethods → ∀ r ∈ S.stack i, ∀ h ∈ r.handlers, ∀ m', h.script = .setMethod m' →
    r.use = true ∧ r.key = 0 ∧ m' < E.nMethods
  uses : ∀ i j, i < E.nMethods → j < E.nMethods → ∀ f : Nat → Bool,
    ((S.stack i).filter (fun r => f r.key && r.use)).map (·.first) =
      ((S.stack j).filter (fun r => f r.key && r.use)).map (·.first)

theorem UseOK.sibling {E : Env π α} {S : Stacks α} (h : UseOK E S) (i j : Nat) (hi : i < E.nMethods)
    (hj : j < E.nMethods) (r : Route α) (hr : r ∈ S.stack i) (hu : r.use = true) :
    ∃ s ∈ S.stack j, s.use = true ∧ s.first = r.first ∧ s.key = r.key := by
  have := h.uses i j hi hj (fun k => k == r.key)
  have hmem : r.first ∈ ((S.stack i).filter (fun x => (x.key == r.key) && x.use)).map (·.first) :=
    List.mem_map.mpr ⟨r, List.mem_filter.mpr ⟨hr, by simp [hu]⟩, rfl⟩
  rw [this] at hmem
  obtain ⟨s, hs, hsf⟩ := List.mem_map.mp hmem
  have hs' := List.mem_filter.mp hs
  simp only [Bool.and_eq_true, beq_iff_eq] at hs'
  exact ⟨s, hs'.1, hs'.2.2, hsf, hs'.2.1⟩

/-- **The rank-based cursor is the ideal one** for a `Use` route of the global bucket on unmerged stacks -/
theorem methodCursor_not_misaligned (E : Env π α) (S : Stacks α) (h : UseOK E S) {r : Route α}
    (hrv : r.m < E.nMethods) (hr : r ∈ S.stack r.m) (hu : r.use = true) (hk : r.key = 0)
    {m1 m2 : Nat} (h1 : m1 < E.nMethods) (h2 : m2 < E.nMethods) {p : π} {cur : Nat}
    (hal : AlignedK (candidates E S m1 p) cur (r.last + 1)) :
    misaligned E S r m2 p (methodCursor E S r m1 m2 p cur) = false := by
  have hfl : r.first = r.last := h.nomerge r.m hrv r hr
  have hcf : ∀ m, FSorted (candidates E S m p) := fun m => candidates_fsorted (h.sorted m) (h.fs m) p
  -- the sibling in the new tree
  obtain ⟨s, hs, hsu, hsf, hsk⟩ := h.sibling r.m m2 hrv h2 r hr hu
  have hsc : s ∈ candidates E S m2 p := by
    rw [candidates_eq E S m2 (h.sorted m2) p, List.mem_filter]
    exact ⟨hs, by simp [hsk, hk]⟩
  -- the number of `Use` routes up to the current registration is the same in both trees
  have hrank : useRank (candidates E S m1 p) cur =
      ((candidates E S m2 p).filter (fun x => x.first < r.last + 1)).countP (·.use) := by
    unfold useRank
    rw [hal.take_eq (hcf m1), countP_filter_first, countP_filter_first]
    have e : ∀ m, ((candidates E S m p).filter (·.use)).map (·.first) =
        ((S.stack m).filter (fun r => (r.key == E.pkey p || r.key == 0) && r.use)).map (·.first) := by
      intro m
      rw [candidates_eq E S m (h.sorted m) p, List.filter_filter]
      congr 1
      apply List.filter_congr
      intro x _
      rw [Bool.and_comm]
    rw [e m1, e m2, h.uses m1 m2 h1 h2 (fun k => k == E.pkey p || k == 0)]
  unfold misaligned methodCursor idealCur
  simp only [hu, ↓reduceIte, hrank]
  rw [afterNthUse_sibling _ (hcf m2) r.last ⟨s, hsc, hsu, by rw [hsf, hfl]⟩]
  have hle := List.countP_le_length (p := fun x => decide (x.first ≤ r.last)) (l := candidates E S m2 p)
  rw [Nat.min_eq_left hle, bne_self_eq_false]

theorem not_straddles_of_nomerge {S : Stacks α} {m : Nat} (hnm : ∀ x ∈ S.stack m, x.first = x.last) (k : Nat) :
    straddles S m k = false := by
  unfold straddles
  rw [List.any_eq_false]
  intro x hx
  have := hnm x hx
  rw [Bool.and_eq_true, decide_eq_true_eq, decide_eq_true_eq]
  omega

theorem blocked_useOK {E : Env π α} {S : Stacks α} (h : UseOK E S) {r : Route α}
    (hrv : r.m < E.nMethods) (hr : r ∈ S.stack r.m) {h0 : Handler α} (h0mem : h0 ∈ r.handlers)
    {m : Nat} {p : π} {cur : Nat} (hm : m < E.nMethods) (hinv : m = r.m ∨ (r.use = true ∧ r.key = 0))
    (hal : AlignedK (candidates E S m p) cur (r.last + 1)) : blocked E S true r h0 m p cur = none := by
  -- `blocked`'s cases in its order: seam test; path override (none, misaligned, let through); method override (same method,
  -- misaligned, straddling, let through); any other script
  fun_cases blocked E S true r h0 m p cur
  · next hc => rw [h.noseam r.m hrv r hr h0 h0mem] at hc; cases hc
  · rfl
  · next o hsc p2 hp hc =>
    by_cases hmr : m = r.m
    · rw [hmr, bne_self_eq_false] at hc; cases hc
    · have hur := hinv.resolve_left hmr
      rw [pathCursor, beq_false_of_ne hmr, if_neg Bool.false_ne_true, methodCursor_not_misaligned E S h hrv hr hur.1
        hur.2 hrv hm (alignedK_resync (h.sorted r.m) (h.fs r.m) hr p2), Bool.and_false] at hc
      cases hc
  · rfl
  · rfl
  · next m2 hsc _ hc =>
    obtain ⟨hu, hk, hm2⟩ := h.ov r.m hrv r hr h0 h0mem m2 hsc
    rw [methodCursor_not_misaligned E S h hrv hr hu hk hm hm2 hal] at hc; cases hc
  · next m2 hsc _ _ hc =>
    rw [not_straddles_of_nomerge (h.nomerge m2 (h.ov r.m hrv r hr h0 h0mem m2 hsc).2.2) r.last] at hc; cases hc
  · rfl
  · rfl

theorem next_ok (E : Env π α) (S : Stacks α) (h : UseOK E S) (fuel m : Nat) (p : π) (cur : Nat)
    (matched : Bool) (hm : m < E.nMethods) : ∃ o, next E S true fuel m p cur matched = .ok o := by
  refine next_ok_of E S (I := fun m _ _ => m < E.nMethods)
    (J := fun r m' p' c' => (r ∈ S.stack r.m ∧ r.m < E.nMethods) ∧
      (m' < E.nMethods ∧ (m' = r.m ∨ (r.use = true ∧ r.key = 0))) ∧
      AlignedK (candidates E S m' p') c' (r.last + 1))
    (fun m p cur j r hm hfr => ?_) (fun r h0 hh m' p' c' hJ => ?_) (fun _ _ _ _ hJ => hJ.2.1.1) fuel m p cur matched hm
  · have hrst := (found_mem (h.sorted m) hfr).1
    cases h.own m r hrst
    exact ⟨⟨hrst, hm⟩, ⟨hm, .inl rfl⟩, found_aligned (h.sorted _) (h.fs _) hfr⟩
  · obtain ⟨⟨hrst, hrv⟩, hI, hal⟩ := hJ
    refine ⟨blocked_useOK h hrv hrst hh hI.1 hI.2 hal, fun m2 p2 c2 hmv =>
      ⟨⟨hrst, hrv⟩, ?_, alignedK_moves h.sorted h.fs hrst hal hmv⟩⟩
    cases hmv with
    | stay => exact hI
    | path _ _ => exact hI
    | method hsc _ _ =>
      obtain ⟨hu, hk, hm2⟩ := h.ov r.m hrv r hrst h0 hh m2 hsc
      exact ⟨hm2, .inr ⟨hu, hk⟩⟩

/-- `Use` registrations list every request method (router.go `register`: `isUse` adds to all of them) -/
def UseAll (E : Env π α) (regs : List (Reg α)) : Prop :=
  ∀ g ∈ regs, g.use = true → ∀ i, i < E.nMethods → i ∈ g.methods

/-- every method override is made by a `Use` registration of the global bucket, to a valid method -/
def OverrideInUse (E : Env π α) (regs : List (Reg α)) : Prop :=
  ∀ g ∈ regs, ∀ h ∈ g.handlers, ∀ m', h.script = .setMethod m' → g.use = true ∧ g.key = 0 ∧ m' < E.nMethods

theorem useOK_build (E : Env π α) (regs : List (Reg α)) (hwf : WF regs) (hall : UseAll E regs)
    (hov : OverrideInUse E regs) (hnm : NoMerge E (build true regs)) : UseOK E (build true regs) := by
  have hinv := InvS.build true regs
  have hg := InvG.build true regs (fun g hg => (hwf g hg).nodup)
  have hmem := fun i (hi : i < E.nMethods) => corrI_nomerge_mem i (corr_build true regs hwf i) (hnm i hi)
  refine ⟨hinv.sorted, hg.fs, fun i r hr => (hinv.bound i r (List.mem_reverse.mp hr)).2, hnm, ?_, ?_, ?_⟩
  · intro i hi r hr x hx
    obtain ⟨g, hgm, hh, _, _⟩ := hmem i hi r hr
    rw [hh] at hx
    exact (hwf g hgm).noseam x hx
  · intro i hi r hr x hx m' hsc
    obtain ⟨g, hgm, hh, hu, hk⟩ := hmem i hi r hr
    rw [hh] at hx
    obtain ⟨h1, h2, h3⟩ := hov g hgm x hx m' hsc
    exact ⟨by rw [hu, h1], by rw [hk, h2], h3⟩
  · intro i j hi hj f
    -- both are the list read off the table
    have key := fun i (hi : i < E.nMethods) =>
      corrI_useFirsts i (corr_build true regs hwf i) (hnm i hi) (fun g hg hu => hall g hg hu i hi) f
    rw [key i hi, key j hj]

end C01
