import FiberModel.C01.Main
import FiberModel.C01.UseOverride
import FiberModel.C01.Known
/-
C01 — property theorems.

  `E : Env π α`     the single-route matcher `E.M` (abstract: any function), the request hash `E.pkey`,
                    `Path(override)` `E.setp`, the number of request methods
  `regs`            the program: the calls of `app.register` in order
  `dispatch`        the model of the real dispatcher: `build` (register/addRoute: positions, duplicate
                    merge) → `buildTree` (3-byte buckets + global bucket, dedupe, sort) → `next`
                    (bucket lookup, numeric cursor, matched flag, 404/405/Allow)
  `linear`          the property: registration-order scan with the current method/path (Spec.lean)
  `LocalR E regs`   locality of the key w.r.t. the matcher (discharged for the real matcher and the real
                    key rule by `C02.match_locality` / `C02.match_same_bucket`)
-/
namespace C01
variable {π α : Type}

/-- a routing pass from the top of the table that the instrumentation lets through: the plain model's
pass is the registration-order scan (with or without `addRoute`'s duplicate merge, any `matched` flag) -/
theorem pass_linear_of_ok (E : Env π α) (merge : Bool) (regs : List (Reg α)) (hwf : WF regs)
    (hloc : LocalR E regs) (m : Nat) (p : π) (matched : Bool) (o : Obs)
    (hK : next E (build merge regs) true (build merge regs).fuel m p 0 matched = .ok o) :
    next E (build merge regs) false (build merge regs).fuel m p 0 matched =
      .ok (linearFrom E regs regs m p matched) := by
  rw [next_chk E _ hK, passS_linear E merge regs hwf hloc hK]

/-- override-free tables are let through: `dispatchS_refines_linear` is `matched = false`,
`restart_pass_refines_linear` is `merge = true` -/
theorem pass_refines_linear (E : Env π α) (merge : Bool) (regs : List (Reg α)) (hwf : WF regs)
    (hloc : LocalR E regs) (hno : NoOverride regs) (m : Nat) (p : π) (matched : Bool) :
    next E (build merge regs) false (build merge regs).fuel m p 0 matched =
      .ok (linearFrom E regs regs m p matched) := by
  obtain ⟨o, ho⟩ := next_noOv_ok E _ (InvS.build merge regs) (handlersNoOv_build merge regs hno)
    (build merge regs).fuel m p 0 matched
  exact pass_linear_of_ok E merge regs hwf hloc m p matched o ho

theorem dispatchS_refines_linear (E : Env π α) (merge : Bool) (regs : List (Reg α)) (hwf : WF regs)
    (hloc : LocalR E regs) (hno : NoOverride regs) (m : Nat) (p : π) :
    dispatchS E (build merge regs) false (build merge regs).fuel m p = .ok (linear E regs m p) :=
  pass_refines_linear E merge regs hwf hloc hno m p false

/-- Full strength for tables whose handlers do not override the path
or method. For every table of registrations — any mix of methods, `Use` prefixes, groups (a group
only contributes its joined path), duplicate paths, any patterns (the matcher is arbitrary) — and
every request, the dispatcher (positions, duplicate merge, 3-byte index with global bucket, numeric
cursor, matched flag) produces exactly the handler trace, the final status (stop / the handler's
error / 404 / 405) and the Allow set of the registration-order linear scan. In particular the
supplied fuel suffices (the result is never `outOfFuel`). -/
theorem dispatch_refines_linear (E : Env π α) (regs : List (Reg α)) (hwf : WF regs)
    (hloc : LocalR E regs) (hno : NoOverride regs) (m : Nat) (p : π) :
    dispatch E regs m p = .ok (linear E regs m p) :=
  dispatchS_refines_linear E true regs hwf hloc hno m p

/-- The routing pass `c.RestartRouting()` performs — `indexRoute = -1`,
then `next` with the request's *current* method and path and the `matched` flag accumulated so far — is
the registration-order scan from the first registration with that method, path and flag (override-free
handlers; `dispatch_refines_linear` is the instance `matched = false` of a fresh request). The hand-off
around it (the value `RestartRouting` returns becomes the handler's return value) is not modelled. -/
theorem restart_pass_refines_linear (E : Env π α) (regs : List (Reg α)) (hwf : WF regs)
    (hloc : LocalR E regs) (hno : NoOverride regs) (m : Nat) (p : π) (matched : Bool) :
    next E (build true regs) false (build true regs).fuel m p 0 matched =
      .ok (linearFrom E regs regs m p matched) :=
  pass_refines_linear E true regs hwf hloc hno m p matched

/-- the same pass with overriding handlers, outside the two recorded situations (stated on the
instrumented run of the pass itself): `pass_linear_of_ok` for the stacks `addRoute` builds with its merge -/
theorem restart_pass_partial (E : Env π α) (regs : List (Reg α)) (hwf : WF regs)
    (hloc : LocalR E regs) (m : Nat) (p : π) (matched : Bool) (o : Obs)
    (hK : next E (build true regs) true (build true regs).fuel m p 0 matched = .ok o) :
    next E (build true regs) false (build true regs).fuel m p 0 matched =
      .ok (linearFrom E regs regs m p matched) :=
  pass_linear_of_ok E true regs hwf hloc m p matched o hK

/- Full statement (NOT provable for the code as it is — see the two witnesses below):

     theorem dispatch_after_override (hwf : WF regs) (hloc : LocalR E regs) (m p) :
       dispatch E regs m p = .ok (linear E regs m p)

   i.e. also when handlers call `c.Path(x)` / `c.Method(x)` before `c.Next()`, the rest of the chain
   is the later-registered routes matching the new path and method — without the hypotheses
   `hK1`/`hK2` of the theorem below. -/

/-- the instrumentation only aborts: a run it lets through is the plain model's run -/
theorem dispatchK_sound (E : Env π α) (regs : List (Reg α)) (m : Nat) (p : π) (o : Obs)
    (h : dispatchK E regs m p = .ok o) : dispatch E regs m p = .ok o :=
  next_chk E _ h

/-- For *every* table and request — including every
`c.Path(override)` (cursor re-derived from the current route's position in the bucket of the new path)
and every `c.Method(override)` (inside a `Use` route the cursor is re-derived behind the new method's
copy of the middleware; elsewhere it is carried over) — the dispatcher equals the linear scan, unless
the run reaches one of the recorded situations:
K1: after an effective method override (or a path override while the method differs from the route's)
the cursor is not behind exactly the candidates registered up to the current route (`misaligned`);
K2: `Next` runs into handlers merged from a later identical registration after the route stopped
matching, or the new method's stack holds a route that merged a later registration into an earlier
position (`straddles`). Method overrides whose cursor is right — e.g. every override middleware
registered with `Use` in the global bucket on un-merged stacks, wherever it is registered
(`dispatch_after_use_override`) — are inside the theorem. -/
theorem dispatch_after_override_partial (E : Env π α) (regs : List (Reg α)) (hwf : WF regs)
    (hloc : LocalR E regs) (m : Nat) (p : π)
    (hK1 : Known.K1reach E regs m p = false) (hK2 : Known.K2reach E regs m p = false) :
    dispatch E regs m p = .ok (linear E regs m p) := by
  cases h : dispatchK E regs m p with
  | ok o => exact pass_linear_of_ok E true regs hwf hloc m p false o h
  | error k =>
    cases k with
    | k1 => simp [Known.K1reach, h] at hK1
    | k2 => simp [Known.K2reach, h] at hK2

/-- Full strength on its domain, no region hypothesis. If every
`c.Method(override)` of the program is made by a `Use` middleware filed in the global bucket
(`app.Use(mw)` or a prefix shorter than 3 bytes), `Use` registrations list every method (what `register`
does) and `addRoute` merged nothing, then for every request the dispatcher equals the linear scan —
wherever the middleware is registered, whatever method-specific routes precede it in either tree, with
any path overrides by any handlers: the rank-based cursor of the repaired `Method(override)` is the
ideal one at every override, so neither K1 nor K2 is reached. -/
theorem dispatch_after_use_override (E : Env π α) (regs : List (Reg α)) (hwf : WF regs)
    (hloc : LocalR E regs) (hall : UseAll E regs) (hov : OverrideInUse E regs)
    (hnm : NoMerge E (build true regs)) (m : Nat) (hm : m < E.nMethods) (p : π) :
    dispatch E regs m p = .ok (linear E regs m p) := by
  obtain ⟨o, ho⟩ := next_ok E (build true regs) (useOK_build E regs hwf hall hov hnm)
    (build true regs).fuel m p 0 false hm
  exact pass_linear_of_ok E true regs hwf hloc m p false o ho

/-- The same statement with the regions the checker actually suppresses (`Known.K1`, `Known.K2` =
the situation is reached **and** the model deviates). On runs that reach a situation the conclusion
holds by the definition of the region, so this adds nothing to the theorem above about such runs;
it records that a run outside the suppressed regions is one on which the model meets the property. -/
theorem dispatch_after_override_partial_suppressed (E : Env π α) (regs : List (Reg α)) (hwf : WF regs)
    (hloc : LocalR E regs) (m : Nat) (p : π)
    (hK1 : Known.K1 E regs m p = false) (hK2 : Known.K2 E regs m p = false) :
    dispatch E regs m p = .ok (linear E regs m p) := by
  by_cases hd : Known.deviates E regs m p = true
  · simp only [Known.K1, Known.K2, hd, Bool.and_true] at hK1 hK2
    exact dispatch_after_override_partial E regs hwf hloc m p hK1 hK2
  · simp only [Known.deviates, decide_eq_true_eq, ne_eq, Decidable.not_not] at hd
    exact hd

theorem specChain_noOv (E : Env π α) (hs : List (Handler α)) (hno : ∀ h ∈ hs, h.script.isOverride = false)
    (m : Nat) (p : π) : ∀ tr m' p' c', specChain E hs m p = (tr, .fall m' p' c') → m' = m ∧ p' = p := by
  revert hno
  -- no handler left; `stop`; `fail`; `next`; the two overrides, excluded by `hno`
  fun_induction specChain E hs m p <;> intro hno tr m' p' c' h
  · cases h; exact ⟨rfl, rfl⟩
  · cases h
  · cases h
  · next ih => exact ih (List.forall_mem_cons.mp hno).2 _ m' p' c' (Prod.ext rfl (Prod.mk.inj h).2)
  · next hsc _ _ => have := hno _ List.mem_cons_self; rw [hsc] at this; cases this
  · next hsc _ _ => have := hno _ List.mem_cons_self; rw [hsc] at this; cases this

/-- for override-free tables the scan sees only the registrations whose route matches the request path, and
the table `all` only through the 404/405 decision for the request's own method and path -/
theorem linearFrom_filter (E : Env π α) (A B l : List (Reg α)) (hno : NoOverride l) (m : Nat) (p : π)
    (hend : ∀ b, specEnding E A m p b = specEnding E B m p b) (matched : Bool) :
    linearFrom E A l m p matched = linearFrom E B (l.filter fun g => g.matches E p) m p matched := by
  induction l generalizing matched with
  | nil => simp [linearFrom, hend]
  | cons g l ih =>
    have ih' := ih (List.forall_mem_cons.mp hno).2
    rw [linearFrom_cons, List.filter_cons]
    cases hg : g.matches E p
    · rw [Bool.and_false, if_neg Bool.false_ne_true, if_neg Bool.false_ne_true]; exact ih' matched
    · rw [if_pos rfl, linearFrom_cons, hg]
      cases g.methods.contains m
      · exact ih' matched
      · rw [Bool.and_self, if_pos rfl, if_pos rfl]
        cases hc : specChain E g.handlers m p with
        | mk tr e =>
          cases e with
          | stop => rfl
          | fail c => rfl
          | fall m' p' c' =>
            obtain ⟨rfl, rfl⟩ := specChain_noOv E g.handlers (hno g List.mem_cons_self) m p tr m' p' c' hc
            exact congrArg (Obs.prepend tr) (ih' _)

/-- **route_independence (a): a route that does not match the path is invisible.** Adding or removing
a registration whose route does not match the request path changes nothing in the reply: not the
trace, not the status, not the Allow set — wherever it is inserted, whatever its key, however it
shifts the positions of the others or whether it breaks up a duplicate merge. (Override-free tables.) -/
theorem route_independence (E : Env π α) (pre post : List (Reg α)) (g : Reg α)
    (hwf : WF (pre ++ g :: post)) (hloc : LocalR E (pre ++ g :: post))
    (hno : NoOverride (pre ++ g :: post)) (m : Nat) (p : π) (hg : g.matches E p = false) :
    dispatch E (pre ++ g :: post) m p = dispatch E (pre ++ post) m p := by
  have hsub : ∀ x, x ∈ pre ++ post → x ∈ pre ++ g :: post := fun _ hx =>
    ((List.Sublist.refl pre).append (List.sublist_cons_self g post)).subset hx
  have hno' : NoOverride (pre ++ post) := fun x hx => hno x (hsub x hx)
  -- the removed registration adds `false` to every method's "has a matching endpoint": same 404/405/Allow
  have hend : ∀ b, specEnding E (pre ++ g :: post) m p b = specEnding E (pre ++ post) m p b := fun b => by
    simp only [specEnding, specAllow, List.any_append, List.any_cons, hg, Bool.and_false, Bool.false_or]
  -- both scans see only the registrations matching `p`, and `g` is not one of them
  rw [dispatch_refines_linear E _ hwf hloc hno m p,
    dispatch_refines_linear E _ (fun x hx => hwf x (hsub x hx)) (fun x hx => hloc x (hsub x hx)) hno' m p,
    linear, linear, linearFrom_filter E _ (pre ++ post) _ hno m p hend false,
    linearFrom_filter E _ (pre ++ post) _ hno' m p (fun _ => rfl) false,
    List.filter_append, List.filter_cons_of_neg (by rw [hg]; exact Bool.false_ne_true), ← List.filter_append]

/-- **route_independence (b): every matching route runs, in registration order.** When every handler
calls `Next`, the trace is the concatenation of the handler lists of exactly the registrations that
list the request method and whose route matches the path — a condition on each registration alone. -/
theorem route_independence_all_next (E : Env π α) (regs : List (Reg α)) (hwf : WF regs)
    (hloc : LocalR E regs) (hnext : ∀ g ∈ regs, ∀ h ∈ g.handlers, h.script = .next) (m : Nat) (p : π) :
    ∃ o, dispatch E regs m p = .ok o ∧
      o.trace = (regs.filter fun g => g.methods.contains m && g.matches E p).flatMap
        fun g => g.handlers.map (·.hid) := by
  have hno : NoOverride regs := fun g hg h hh => by rw [hnext g hg h hh]; rfl
  refine ⟨_, dispatch_refines_linear E regs hwf hloc hno m p, ?_⟩
  have hchain : ∀ hs : List (Handler α), (∀ h ∈ hs, h.script = .next) →
      specChain E hs m p = (hs.map (·.hid), .fall m p 0) := by
    intro hs hh
    induction hs with
    | nil => rfl
    | cons h0 hs ih =>
      rw [specChain, hh h0 List.mem_cons_self, ih (List.forall_mem_cons.mp hh).2]; rfl
  suffices H : ∀ (l : List (Reg α)) (matched : Bool), (∀ g ∈ l, ∀ h ∈ g.handlers, h.script = .next) →
      (linearFrom E regs l m p matched).trace =
        (l.filter fun g => g.methods.contains m && g.matches E p).flatMap fun g => g.handlers.map (·.hid) from
    H regs false hnext
  intro l
  induction l with
  | nil => intro matched _; rfl
  | cons g l ih =>
    intro matched hn
    have ih' := fun b => ih b (List.forall_mem_cons.mp hn).2
    rw [linearFrom_cons, List.filter_cons]
    cases g.methods.contains m && g.matches E p
    · exact ih' matched
    · rw [if_pos rfl, if_pos rfl, hchain g.handlers (hn g List.mem_cons_self), List.flatMap_cons, ← ih']; rfl

/-- `addRoute`'s merge of consecutive identical registrations (same method
stack, same `Path`, same `use`) changes no reply: the dispatcher run on the merged stacks equals the
run on the stacks built without the merge. (Override-free tables; with overrides see K2.) -/
theorem merge_transparent (E : Env π α) (regs : List (Reg α)) (hwf : WF regs)
    (hloc : LocalR E regs) (hno : NoOverride regs) (m : Nat) (p : π) :
    dispatchS E (build true regs) false (build true regs).fuel m p =
      dispatchS E (build false regs) false (build false regs).fuel m p := by
  rw [dispatchS_refines_linear E true regs hwf hloc hno m p,
    dispatchS_refines_linear E false regs hwf hloc hno m p]

/-- For every table and every request (handlers arbitrary), the set of methods
`methodExist` appends to `Allow` — scanning each other method's bucket for a non-`Use` route that
matches — is exactly the set of other methods for which some registration lists the method, is not
a `Use` and matches the path. -/
theorem allow_exact (E : Env π α) (regs : List (Reg α)) (hwf : WF regs) (hloc : LocalR E regs)
    (m : Nat) (p : π) :
    allowOf E (build true regs) m p = specAllow E regs m p :=
  allowOf_build E true regs hwf hloc m p

end C01

namespace C01
namespace Ex
open B

def E : Env Bytes Bytes :=
  { M := fun raw use p => if use then raw.isPrefixOf p else raw == p
    pkey := pathHash 3
    setp := fun cur o => if cur == o then none else some o
    nMethods := 9 }

def allM : List Nat := List.range 9
def h (i : Nat) (s : Script Bytes) : Handler Bytes := { hid := i, script := s }
/-- literal GET/POST/… route with the real key rule -/
def lit (ms : List Nat) (path : String) (hs : List (Handler Bytes)) : Reg Bytes :=
  { methods := ms, use := false, raw := b path, key := pathHash 3 (b path), handlers := hs }
/-- `app.Use(handlers…)`: root prefix, global bucket -/
def useRoot (hs : List (Handler Bytes)) : Reg Bytes :=
  { methods := allM, use := true, raw := b "/", key := 0, handlers := hs }

theorem local_lit (regs : List (Reg Bytes))
    (hk : ∀ g ∈ regs, (g.use = false ∧ g.key = pathHash 3 g.raw) ∨ g.key = 0) : LocalR E regs := by
  intro g hg p hkey hm
  rcases hk g hg with ⟨hu, hk'⟩ | h0
  · simp only [Reg.matches, E, hu, Bool.false_eq_true, ↓reduceIte, beq_iff_eq] at hm
    rw [hk', hm]; rfl
  · exact absurd h0 hkey

/-- GET /abc, Use /, GET /abc (duplicate, not adjacent), GET /abc again (adjacent: merged), GET /xyz, POST /abc,
GET /ab (3 bytes: same bucket as /abc) -/
def regs1 : List (Reg Bytes) :=
  [lit [0] "/abc" [h 1 .next], useRoot [h 2 .next], lit [0] "/abc" [h 3 .next, h 4 .next],
   lit [0] "/abc" [h 5 .next], lit [0] "/xyz" [h 6 .stop], lit [2] "/abc" [h 7 .stop], lit [0] "/ab" [h 8 .stop]]

theorem wf1 : WF regs1 := fun g hg =>
  have : ∀ g ∈ regs1, g.methods.Nodup ∧ g.handlers ≠ [] ∧ ∀ h ∈ g.handlers, h.seam = false := by decide +kernel
  ⟨(this g hg).1, (this g hg).2.1, (this g hg).2.2⟩

theorem loc1 : LocalR E regs1 := local_lit regs1 (by decide +kernel)

theorem noov1 : NoOverride regs1 := by unfold NoOverride; decide +kernel

/-- the hypotheses of `dispatch_refines_linear` / `route_independence` / `merge_transparent` /
`allow_exact` are met by a table with a pruning index (bucket "/ab" ≠ the whole stack), a merged
duplicate and a `Use` in the global bucket; the run is non-trivial -/
example : dispatch E regs1 0 (b "/abc") =
    .ok { trace := [1, 2, 3, 4, 5], fin := .notFound } := by
  -- here and below: the string literals become lists first (`B.b_ofList` says why), then the kernel decides
  unfold regs1 lit useRoot; repeat rw [b_ofList]
  decide +kernel
example : linear E regs1 0 (b "/abc") = { trace := [1, 2, 3, 4, 5], fin := .notFound } := by
  unfold regs1 lit useRoot; repeat rw [b_ofList]
  decide +kernel
/-- 405 with Allow = {GET, POST} for a DELETE request -/
example : dispatch E regs1 4 (b "/abc") = .ok { trace := [2], fin := .notAllowed [0, 2] } := by
  unfold regs1 lit useRoot; repeat rw [b_ofList]
  decide +kernel
/-- the index really prunes: buckets "/ab", "/xy" and the global one; 4 of 5 routes are scanned -/
example : ((build true regs1).tree 0).length = 3 ∧
    (candidates E (build true regs1) 0 (b "/abc")).length = 4 ∧ ((build true regs1).stack 0).length = 5 := by
  unfold regs1 lit useRoot; repeat rw [b_ofList]
  decide +kernel
/-- `bucket_filter_eq`'s hypotheses hold on this stack -/
example : Sorted ((build true regs1).stack 0) := (InvS.build true regs1).sorted 0
/-- `route_independence`: "/xyz" does not match "/abc" -/
example : (lit [0] "/xyz" [h 6 .stop]).matches E (b "/abc") = false := by decide +kernel

/-- `restart_pass_refines_linear` with an inherited `matched = true`: a DELETE pass over `regs1` that
would answer 405 on a fresh request answers 404 when an endpoint had matched before the restart -/
example : next E (build true regs1) false (build true regs1).fuel 4 (b "/abc") 0 true =
    .ok { trace := [2], fin := .notFound } := by
  unfold regs1 lit useRoot; repeat rw [b_ofList]
  decide +kernel

/-- a path override handled correctly after F2: `Use` rewrites /old/a → /new, GET /new is served -/
def regs2 : List (Reg Bytes) :=
  [lit [0] "/old/a" [h 1 .next], useRoot [h 2 (.setPath (b "/new"))], lit [0] "/old/a" [h 3 .stop],
   lit [0] "/new" [h 4 .stop]]

example : dispatch E regs2 0 (b "/old/a") = .ok { trace := [1, 2, 4], fin := .stop } := by
  unfold regs2 lit useRoot; repeat rw [b_ofList]
  decide +kernel
example : Known.K1reach E regs2 0 (b "/old/a") = false ∧ Known.K2reach E regs2 0 (b "/old/a") = false := by
  unfold regs2 lit useRoot; repeat rw [b_ofList]
  decide +kernel

/-- a method override handled correctly after F3 (`syncIndexRouteMethod`): GET /abc, then a `Use` that turns
the request into POST, then POST /abc. The cursor is moved behind the POST tree's copy of the `Use`
route, POST /abc runs; the run is inside the theorem (no region reached). -/
def regsF3 : List (Reg Bytes) :=
  [lit [0] "/abc" [h 1 .next], useRoot [h 2 (.setMethod 2)], lit [2] "/abc" [h 3 .stop]]

example : dispatch E regsF3 0 (b "/abc") = .ok { trace := [1, 2, 3], fin := .stop } := by
  unfold regsF3 lit useRoot; repeat rw [b_ofList]
  decide +kernel
example : linear E regsF3 0 (b "/abc") = { trace := [1, 2, 3], fin := .stop } := by
  unfold regsF3 lit useRoot; repeat rw [b_ofList]
  decide +kernel
example : Known.K1reach E regsF3 0 (b "/abc") = false ∧ Known.K2reach E regsF3 0 (b "/abc") = false := by
  unfold regsF3 lit useRoot; repeat rw [b_ofList]
  decide +kernel

/-- `dispatch_after_use_override`'s hypotheses are met by this table (the middleware is *behind* a
method-specific route, the case the un-repaired code got wrong) -/
example : NoMerge E (build true regsF3) := by unfold NoMerge; decide +kernel
example : UseAll E regsF3 := by unfold UseAll; decide +kernel
-- (`∀ m'` over `Nat`: not decidable as stated, hence by hand)
example : OverrideInUse E regsF3 := by
  intro g hg x hx m' hsc
  simp only [regsF3, List.mem_cons, List.mem_nil_iff, or_false] at hg
  rcases hg with rfl | rfl | rfl
  · simp only [lit, List.mem_cons, List.mem_nil_iff, or_false] at hx; subst hx; simp [h] at hsc
  · simp only [useRoot, List.mem_cons, List.mem_nil_iff, or_false] at hx; subst hx
    simp only [h, Script.setMethod.injEq] at hsc
    subst hsc
    exact ⟨rfl, rfl, by decide⟩
  · simp only [lit, List.mem_cons, List.mem_nil_iff, or_false] at hx; subst hx; simp [h] at hsc

/-- the common aligned case (override middleware registered first, POST → PUT) is inside the theorem too -/
def regsK1ok : List (Reg Bytes) :=
  [useRoot [h 1 (.setMethod 3)], lit [2] "/abc" [h 2 .stop], lit [3] "/abc" [h 3 .stop]]
example : Known.K1reach E regsK1ok 2 (b "/abc") = false ∧ Known.K2reach E regsK1ok 2 (b "/abc") = false := by
  unfold regsK1ok lit useRoot; repeat rw [b_ofList]
  decide +kernel
example : dispatch E regsK1ok 2 (b "/abc") = .ok { trace := [1, 3], fin := .stop } := by
  unfold regsK1ok lit useRoot; repeat rw [b_ofList]
  decide +kernel

/-- **K1 witness**: an *endpoint* (not a `Use` route) turns the request into GET: PUT /new (Method(GET);
Next), then GET /new. The numeric cursor (1) is carried into the GET tree `[GET /new]`, where it points
past GET /new: the real dispatcher (and the model) answer 404 after handler 1; the property wants
handler 2. -/
def regsK1 : List (Reg Bytes) :=
  [lit [3] "/new" [h 1 (.setMethod 0)], lit [0] "/new" [h 2 .stop]]

theorem dispatch_after_override_witness_K1 :
    ¬ (dispatch E regsK1 3 (b "/new") = .ok (linear E regsK1 3 (b "/new"))) := by
  unfold regsK1 lit; repeat rw [b_ofList]
  decide +kernel

example : Known.K1 E regsK1 3 (b "/new") = true := by
  unfold regsK1 lit; repeat rw [b_ofList]
  decide +kernel
example : dispatch E regsK1 3 (b "/new") = .ok { trace := [1], fin := .notFound } := by
  unfold regsK1 lit; repeat rw [b_ofList]
  decide +kernel
example : linear E regsK1 3 (b "/new") = { trace := [1, 2], fin := .stop } := by
  unfold regsK1 lit; repeat rw [b_ofList]
  decide +kernel

/-- **K2 witness**: GET /abc registered twice in a row (merged by `addRoute`); the first handler
rewrites the path to /xyz. `Next` runs the merged second handler although GET /abc does not match
/xyz; the property wants GET /xyz (handler 3). -/
def regsK2 : List (Reg Bytes) :=
  [lit [0] "/abc" [h 1 (.setPath (b "/xyz"))], lit [0] "/abc" [h 2 .stop], lit [0] "/xyz" [h 3 .stop]]

theorem dispatch_after_override_witness_K2 :
    ¬ (dispatch E regsK2 0 (b "/abc") = .ok (linear E regsK2 0 (b "/abc"))) := by
  unfold regsK2 lit; repeat rw [b_ofList]
  decide +kernel

example : Known.K2 E regsK2 0 (b "/abc") = true := by
  unfold regsK2 lit; repeat rw [b_ofList]
  decide +kernel
example : dispatch E regsK2 0 (b "/abc") = .ok { trace := [1, 2], fin := .stop } := by
  unfold regsK2 lit; repeat rw [b_ofList]
  decide +kernel
example : linear E regsK2 0 (b "/abc") = { trace := [1, 3], fin := .stop } := by
  unfold regsK2 lit; repeat rw [b_ofList]
  decide +kernel

/-- K2, second form (straddling route): POST /xyz, GET /xyz (Method(POST); Next), POST /xyz. The second
POST /xyz was merged into the first one's route, in front of GET /xyz: after the override nothing is left
behind the cursor in the POST tree, the property wants handler 3. -/
def regsK2b : List (Reg Bytes) :=
  [lit [2] "/xyz" [h 1 .stop], lit [0] "/xyz" [h 2 (.setMethod 2)], lit [2] "/xyz" [h 3 .stop]]

example : Known.K2 E regsK2b 0 (b "/xyz") = true := by
  unfold regsK2b lit; repeat rw [b_ofList]
  decide +kernel
example : dispatch E regsK2b 0 (b "/xyz") = .ok { trace := [2], fin := .notFound } := by
  unfold regsK2b lit; repeat rw [b_ofList]
  decide +kernel
example : linear E regsK2b 0 (b "/xyz") = { trace := [2, 3], fin := .stop } := by
  unfold regsK2b lit; repeat rw [b_ofList]
  decide +kernel

end Ex
end C01
