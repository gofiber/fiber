import FiberModel.C01.Model
import FiberModel.Generated.C01Facts
import FiberModel.BasicLemmas
/-
C01 — theorems about the normalisation code of the model (`rawPath`, `prettyPath`, `detectionPath`,
`pathHash`, `treeKey`, `getGroupPath`, `unquote`): the functions the driver instantiates `Reg.key`,
`Env.pkey` and the path states with. They are validated against the real code on every case
(observations `rp`, `tr`, `ps`, `ph`); here is what can be said about them for *all* inputs, plus the
Go statements they transcribe, as the translator extracts them (`facts_normalisation`).
-/
namespace C01
open B

/-- `register`'s path normalisation, `configDependentPaths` and `getGroupPath` consist of exactly the
statements `rawPath`/`prettyPath`, `ctxPath`/`detectionPath`/`pathHash` and `getGroupPath` transcribe. -/
theorem facts_normalisation :
    Facts.registerNorm =
      ["if pathRaw == \"\" { pathRaw = \"/\" }",
       "if pathRaw[0] != '/' { pathRaw = \"/\" + pathRaw }",
       "pathPretty := pathRaw",
       "if !app.config.CaseSensitive { pathPretty = utils.ToLower(pathPretty) }",
       "if !app.config.StrictRouting && len(pathPretty) > 1 { pathPretty = utils.TrimRight(pathPretty, '/') }",
       "pathClean := RemoveEscapeChar(pathPretty)"] ∧
    Facts.configDependentPathsStmts =
      ["c.path = append(c.path[:0], c.pathOriginal...)",
       "if c.app.config.UnescapePath { c.path = fasthttp.AppendUnquotedArg(c.path[:0], c.path) }",
       "c.detectionPath = append(c.detectionPath[:0], c.path...)",
       "if !c.app.config.CaseSensitive { c.detectionPath = utils.ToLowerBytes(c.detectionPath) }",
       "if !c.app.config.StrictRouting && len(c.detectionPath) > 1 && c.detectionPath[len(c.detectionPath)-1] == '/' { c.detectionPath = utils.TrimRight(c.detectionPath, '/') }",
       "c.treePathHash = 0",
       "if len(c.detectionPath) >= maxDetectionPaths { c.treePathHash = int(c.detectionPath[0])<<16 | int(c.detectionPath[1])<<8 | int(c.detectionPath[2]) }"] ∧
    Facts.getGroupPathStmts =
      ["if len(path) == 0 { return prefix }",
       "if path[0] != '/' { path = \"/\" + path }",
       "return utils.TrimRight(prefix, '/') + path"] :=
  ⟨rfl, rfl, rfl⟩

theorem trimRight_idem (s : Bytes) (c : Nat) : trimRight (trimRight s c) c = trimRight s c :=
  B.trimRight_idem s c

/-- **The two normalisations are the same function**: what `register` makes of a route's path
(`pathPretty`) and what `configDependentPaths` makes of a request path (`detectionPath`) coincide on
equal input, for every configuration — a literal route is found by the request that spells it. -/
theorem prettyPath_eq_detectionPath (c : Cfg) (x : Bytes) : prettyPath c x = detectionPath c x := by
  unfold prettyPath detectionPath
  simp only
  generalize (if !c.caseSensitive then toLower x else x) = d
  by_cases h1 : (!c.strict && decide (d.length > 1)) = true
  · by_cases h2 : d.getLast? = some slash
    · simp [h1, h2]
    · have : (d.getLast? == some slash) = false := by simpa using h2
      simp only [h1, this, Bool.and_false, Bool.false_eq_true, ↓reduceIte]
      exact trimRight_of_getLast_ne d slash h2
  · have h1' : (!c.strict && decide (d.length > 1)) = false := by simpa using h1
    simp [h1']

theorem rawPath_head (p : Bytes) : (rawPath p).head? = some slash := by
  -- a slash is put in front; the path (or `/` for the empty one) starts with a slash already
  fun_cases rawPath p
  · rfl
  · next h => simpa using h

theorem rawPath_idem (p : Bytes) : rawPath (rawPath p) = rawPath p := by
  have h := rawPath_head p
  generalize rawPath p = q at h
  unfold rawPath
  cases q with
  | nil => simp at h
  | cons a t =>
    simp only [List.head?_cons, Option.some.injEq] at h
    simp [h]

/-- `getGroupPath`: an empty path is the prefix itself (what makes `Group("/api").Get("")` the route
`/api`); otherwise the result ends with the path, made to start with a slash -/
theorem getGroupPath_empty (pre : Bytes) : getGroupPath pre [] = pre := by simp [getGroupPath]

theorem getGroupPath_suffix (pre path : Bytes) (h : path ≠ []) :
    getGroupPath pre path = trimRight pre slash ++ rawPath path := by
  cases path with
  | nil => exact absurd rfl h
  | cons a t => simp [getGroupPath, rawPath]

theorem pathHash_take (n : Nat) (x : Bytes) (h : x.length ≥ n) : pathHash n x = pathHash n (x.take n) := by
  unfold pathHash
  simp [h, List.take_take]

theorem pathHash_congr (n : Nat) (x y : Bytes) (hx : x.length ≥ n) (hy : y.length ≥ n)
    (h : x.take n = y.take n) : pathHash n x = pathHash n y := by
  rw [pathHash_take n x hx, pathHash_take n y hy, h]

theorem pathHash_short (n : Nat) (x : Bytes) (h : x.length < n) : pathHash n x = 0 := by
  unfold pathHash
  have : ¬ x.length ≥ n := by omega
  simp [this]

theorem mul256_add_inj {x c x' c' : Nat} (hc : c < 256) (hc' : c' < 256) (h : x * 256 + c = x' * 256 + c') :
    x = x' ∧ c = c' := by omega

theorem pathHash3_inj (x y : Bytes) (hx : x.length ≥ 3) (hy : y.length ≥ 3)
    (bx : ∀ c ∈ x, c < 256) (by' : ∀ c ∈ y, c < 256) (h : pathHash 3 x = pathHash 3 y) :
    x.take 3 = y.take 3 := by
  match x, y, hx, hy with
  | a :: b :: c :: _, a' :: b' :: c' :: _, _, _ =>
    rw [pathHash, pathHash, if_pos (by simp), if_pos (by simp)] at h
    obtain ⟨h1, rfl⟩ := mul256_add_inj (bx c (by simp)) (by' c' (by simp)) h
    obtain ⟨h2, rfl⟩ := mul256_add_inj (bx b (by simp)) (by' b' (by simp)) h1
    obtain rfl : a = a' := by simpa using h2
    rfl

/-- **What a tree key is.** `buildTree`'s key of a route is 0 (global bucket) or the hash of the route's
first constant (escape characters removed), which then has at least `maxDet` bytes. -/
theorem treeKey_zero_or_hash (n : Nat) (pretty : Bytes) :
    treeKey n pretty = 0 ∨
      (removeEscape (match findNextParamPosition pretty with | none => pretty | some j => pretty.take j)).length ≥ n ∧
      treeKey n pretty =
        pathHash n (removeEscape (match findNextParamPosition pretty with | none => pretty | some j => pretty.take j)) := by
  -- empty path; parameter at position 0; the guards of the hash hold; they do not
  fun_cases treeKey n pretty
  · exact .inl rfl
  · exact .inl rfl
  · next hc =>
    have hlen := of_decide_eq_true (Bool.and_eq_true_iff.mp hc).1
    exact .inr ⟨hlen, (if_pos hlen).symm⟩
  · exact .inl rfl

/-- **Locality of the key for literal endpoints.** router.go `Route.match` accepts a route without
parameters exactly when `detectionPath == r.path` (`r.path = RemoveEscapeChar(pathPretty)`); for such a
route a non-zero key is the hash of the request: the route is filed where the request looks. -/
theorem literal_endpoint_local (n : Nat) (pretty det : Bytes)
    (hnp : findNextParamPosition pretty = none) (hmatch : det = removeEscape pretty)
    (hk : treeKey n pretty ≠ 0) : treeKey n pretty = pathHash n det := by
  rw [((treeKey_zero_or_hash n pretty).resolve_left hk).2, hnp, hmatch]

/-- the same for literal `Use` prefixes: `Route.match` accepts when `detectionPath[:len(r.path)] == r.path` -/
theorem literal_use_local (n : Nat) (pretty det : Bytes)
    (hnp : findNextParamPosition pretty = none) (hmatch : (removeEscape pretty).isPrefixOf det = true)
    (hk : treeKey n pretty ≠ 0) : treeKey n pretty = pathHash n det := by
  obtain ⟨hlen, heq⟩ := (treeKey_zero_or_hash n pretty).resolve_left hk
  simp only [hnp] at hlen heq
  obtain ⟨t, rfl⟩ := List.isPrefixOf_iff_prefix.mp hmatch
  rw [heq]
  exact pathHash_congr n _ _ hlen (by rw [List.length_append]; omega) (List.take_append_of_le_length hlen).symm

/-- `AppendUnquotedArg` leaves a path without `%` and `+` alone -/
theorem unquote_id (s : Bytes) (h : ∀ c ∈ s, c ≠ 37 ∧ c ≠ 43) : unquote s = s := by
  induction s with
  | nil => exact unquote.eq_1
  | cons a t ih =>
    have ha := h a List.mem_cons_self
    rw [unquote.eq_5 a t (fun _ _ _ e _ => ha.1 e) (fun _ e _ => ha.1 e) (fun e _ => ha.1 e),
      if_neg (by simpa using ha.2), ih (List.forall_mem_cons.mp h).2]

end C01

namespace C01.ExN
open B C01

def cfg0 : Cfg := { caseSensitive := false, strict := false, unescape := false }

/-- `/API/Users/` is registered and requested as `/api/users` -/
example : prettyPath cfg0 (b "/API/Users/") = b "/api/users" ∧ detectionPath cfg0 (b "/API/Users/") = b "/api/users" := by
  repeat rw [b_ofList]
  decide +kernel
/-- a literal endpoint whose constant has more than 3 bytes carries the hash of the matching request -/
example : findNextParamPosition (b "/api/users") = none ∧ treeKey 3 (b "/api/users") ≠ 0 ∧
    treeKey 3 (b "/api/users") = pathHash 3 (b "/api/users") := by
  repeat rw [b_ofList]
  decide +kernel
/-- a `Use` prefix and a longer request path -/
example : (removeEscape (b "/api")).isPrefixOf (b "/api/users") = true ∧ treeKey 3 (b "/api") = pathHash 3 (b "/api/users") := by
  repeat rw [b_ofList]
  decide +kernel
/-- the F1 quirk: a 3-byte constant with optional slash stays in the global bucket -/
example : treeKey 3 (b "/a/:x?") = 0 ∧ treeKey 3 (b "/ab/:x?") ≠ 0 := by
  repeat rw [b_ofList]
  decide +kernel
example : getGroupPath (b "/api/") (b "v1") = b "/api/v1" ∧ getGroupPath (b "/api") [] = b "/api" := by
  repeat rw [b_ofList]
  decide +kernel
example : unquote [47, 97, 98, 99] = [47, 97, 98, 99] := unquote_id _ (by decide)

end C01.ExN
