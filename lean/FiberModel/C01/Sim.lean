import FiberModel.C01.Chain
/-
C01 — a run of the tree/cursor dispatcher (`next`, instrumented) that is not aborted is a run of the
scan of the method stacks by registration index (`linM`): no tree, no cursor.
-/
namespace C01
variable {π α : Type}

variable (E : Env π α) (S : Stacks α)

def afterChain (k : Nat → π → Nat → Except Known Obs) :
    Except Known (List Nat × ChainEnd π) → Except Known Obs
  | .error e => .error e
  | .ok (tr, .stop) => .ok { trace := tr, fin := .stop }
  | .ok (tr, .fail c) => .ok { trace := tr, fin := .fail c }
  | .ok (tr, .fall m p cur) => (k m p cur).map (Obs.prepend tr)

theorem next_succ (chk : Bool) (fuel m : Nat) (p : π) (cur : Nat) (matched : Bool) :
    next E S chk (fuel + 1) m p cur matched =
      match findFrom (fun r => r.matches E p) (candidates E S m p) cur with
      | none => .ok { trace := [], fin := ending E S m p matched }
      | some (j, r) =>
        afterChain (fun m' p' cur' => next E S chk fuel m' p' cur' (matched || !r.use))
          (runChain E S chk r r.handlers m p (j + 1)) := by
  rw [next]
  cases findFrom (fun r => r.matches E p) (candidates E S m p) cur with
  | none => rfl
  | some jr =>
    dsimp only
    cases runChain E S chk jr.2 jr.2.handlers m p (jr.1 + 1) with
    | error e => rfl
    | ok x =>
      obtain ⟨tr, e⟩ := x
      cases e <;> rfl

/-- progress of a pass: `I` holds where `next` is entered, `J r` inside the handlers of the found route `r`; under `J`
nothing is blocked, and the transitions let through keep it -/
theorem next_ok_of {I : Nat → π → Nat → Prop} {J : Route α → Nat → π → Nat → Prop}
    (hfound : ∀ m p cur j r, I m p cur → findFrom (fun r => r.matches E p) (candidates E S m p) cur = some (j, r) →
      J r m p (j + 1))
    (hstep : ∀ r, ∀ h ∈ r.handlers, ∀ m p c, J r m p c → blocked E S true r h m p c = none ∧
      ∀ m' p' c', Moves E S r h m p c m' p' c' → J r m' p' c')
    (hfall : ∀ r m p c, J r m p c → I m p c) :
    ∀ fuel m p cur matched, I m p cur → ∃ o, next E S true fuel m p cur matched = .ok o := by
  intro fuel
  induction fuel with
  | zero => intros; exact ⟨_, rfl⟩
  | succ fuel ih =>
    intro m p cur matched hI
    rw [next_succ]
    cases hfr : findFrom (fun r => r.matches E p) (candidates E S m p) cur with
    | none => exact ⟨_, rfl⟩
    | some jr =>
      obtain ⟨x, hx, hJ⟩ := chainBy_ok (step := runStep E S true jr.2) (I := J jr.2) jr.2.handlers
        (fun h hh m p c hJ => by
          obtain ⟨hb, hmv⟩ := hstep _ h hh m p c hJ
          exact ⟨_, guardBy_ok.mpr ⟨hb, rfl⟩, fun m' p' c' he => hmv m' p' c' (moves_of_not_blocked hb he)⟩)
        m p (jr.1 + 1) (hfound m p cur jr.1 jr.2 hI hfr)
      dsimp only
      rw [runChain_eq, hx]
      obtain ⟨tr, e⟩ := x
      cases e with
      | stop => exact ⟨_, rfl⟩
      | fail c => exact ⟨_, rfl⟩
      | fall m' p' c' =>
        obtain ⟨o, ho⟩ := ih m' p' c' (matched || !jr.2.use) (hfall _ _ _ _ (hJ tr m' p' c' rfl))
        exact ⟨o.prepend tr, by simp only [afterChain, ho]; rfl⟩

/-- one handler in the specification: `specChain` is the chain of these (`specChain_eq`). The specification has no cursor:
the `0` in `.fall` is a dummy, which is why runs are compared after `mapCur (fun _ => 0)` and `stepM` ignores its cursor -/
def specStep (h : Handler α) (m : Nat) (p : π) : ChainEnd π :=
  match h.script with
  | .stop => .stop
  | .fail c => .fail c
  | .next => .fall m p 0
  | .setPath o => .fall m ((E.setp p o).getD p) 0
  | .setMethod m' => .fall m' p 0

theorem effect_erase (r : Route α) (h : Handler α) (m : Nat) (p : π) (cur : Nat) :
    (effect E S r h m p cur).mapCur (fun _ => 0) = specStep E h m p := by
  -- the one case left is a method override to the current method
  fun_cases effect E S r h m p cur <;>
    simp only [specStep, ChainEnd.mapCur, *, Option.getD_none, Option.getD_some]
  next hm => rw [eq_of_beq hm]

theorem specChain_eq (hs : List (Handler α)) (m : Nat) (p : π) :
    chainBy (fun h m p _ => .ok (specStep E h m p)) hs m p 0 = .ok (specChain E hs m p) := by
  induction hs generalizing m p with
  | nil => rfl
  | cons h hs ih =>
    rw [chainBy, specChain, specStep]
    cases h.script with
    | stop => rfl
    | fail c => rfl
    | next => simp only [stepThen, ih]; rfl
    | setPath o => simp only [stepThen, ih]; rfl
    | setMethod m' => simp only [stepThen, ih]; rfl

/-- one handler of route `r`, no cursor: what the specification says, unless it is the first handler of a merged
registration and the route stopped matching (K2) -/
def stepM (r : Route α) (h : Handler α) (m : Nat) (p : π) (_ : Nat) : Except Known (ChainEnd π) :=
  if h.seam && !(m == r.m && r.matches E p) then .error .k2 else .ok (specStep E h m p)

/-- registration-order scan of the method stacks: with `k` registrations consumed, method `m` and path
`p`, the next route is the first matching one of `app.stack[m]` created by a registration `≥ k`; after
its handlers the scan goes on behind its last registration, in the stack of the method they left — unless that
is another stack and holds a route straddling this position (K2). The ending is a parameter so that the scan
reads no tree: `ending` does, and is put in by `passS_linear`. -/
def linM (fin : Nat → π → Bool → End) :
    Nat → Nat → Nat → π → Bool → Except Known Obs
  | 0, _, _, _, _ => .ok { trace := [], fin := .outOfFuel }
  | fuel + 1, k, m, p, matched =>
    match ((S.stack m).filter (fun x => k ≤ x.first)).find? (fun r => r.matches E p) with
    | none => .ok { trace := [], fin := fin m p matched }
    | some r =>
      afterChain (fun m' p' _ =>
          if m' != m && straddles S m' r.last then .error .k2
          else linM fin fuel (r.last + 1) m' p' (matched || !r.use))
        (chainBy (stepM E r) r.handlers m p 0)

theorem stepM_ok {E : Env π α} {r : Route α} {h : Handler α} {m : Nat} {p : π} {c : Nat} {e : ChainEnd π}
    (hst : stepM E r h m p c = .ok e) : e = specStep E h m p := by
  revert hst
  -- the seam test fires; it does not
  fun_cases stepM E r h m p c <;> intro hst
  · cases hst
  · exact (Except.ok.inj hst).symm

theorem runStep_stepM {E : Env π α} {S : Stacks α} {r : Route α} {h : Handler α} {m : Nat} {p : π}
    {cur c : Nat} {e : ChainEnd π} (hst : runStep E S true r h m p cur = .ok e) :
    stepM E r h m p c = .ok (e.mapCur fun _ => 0) := by
  obtain ⟨hb, rfl⟩ := guardBy_ok.mp hst
  rw [stepM, blocked_seam hb, if_neg Bool.false_ne_true, effect_erase]

theorem runChain_stepM {r : Route α} {hs : List (Handler α)} {m : Nat}
    {p : π} {cur : Nat} {tr : List Nat} {e : ChainEnd π}
    (h : runChain E S true r hs m p cur = .ok (tr, e)) :
    chainBy (stepM E r) hs m p 0 = .ok (tr, e.mapCur fun _ => 0) := by
  rw [runChain_eq] at h
  exact chainBy_sim (fun _ => 0) hs (fun _ _ _ _ _ _ => runStep_stepM) m p cur tr e h

/-- the cursor is aligned with `k` registrations consumed (as in `linM`): what is left to scan are the
candidates created by registrations `≥ k`; behind a route `r` that is `k = r.last + 1` -/
def AlignedK (l : List (Route α)) (cur k : Nat) : Prop := l.drop cur = l.filter (fun x => k ≤ x.first)

theorem AlignedK.drop_eq {l : List (Route α)} {cur k : Nat} (h : AlignedK l cur k) :
    l.drop cur = l.filter (fun x => k ≤ x.first) := h

theorem AlignedK.take_eq {l : List (Route α)} (hf : FSorted l) {cur k : Nat} (h : AlignedK l cur (k + 1)) :
    l.take cur = l.filter (fun x => x.first < k + 1) := by
  have : l.take cur ++ l.drop cur =
      l.take (l.countP fun x => x.first ≤ k) ++ l.drop (l.countP fun x => x.first ≤ k) := by
    rw [List.take_append_drop, List.take_append_drop]
  rw [h.drop_eq, hf.drop_countP l k] at this
  rw [List.append_cancel_right this, (List.take_drop_countP (hf.first_prefix k)).1]
  exact List.filter_congr fun x _ => decide_eq_decide.mpr Nat.lt_succ_iff.symm

theorem alignedK_zero (l : List (Route α)) : AlignedK l 0 0 :=
  (List.filter_eq_self.mpr fun _ _ => by simp).symm

def LocalStack (st : List (Route α)) : Prop :=
  ∀ r ∈ st, ∀ p, r.key ≠ 0 → r.matches E p = true → r.key = E.pkey p

theorem candidates_eq (m : Nat) (hs : Sorted (S.stack m)) (p : π) :
    candidates E S m p = (S.stack m).filter (fun r => r.key == E.pkey p || r.key == 0) :=
  lookup_buildTree _ hs _

theorem mem_stack_of_mem_candidates {E : Env π α} {S : Stacks α} {m : Nat} (hs : Sorted (S.stack m)) {p : π}
    {x : Route α} (hx : x ∈ candidates E S m p) : x ∈ S.stack m := by
  rw [candidates_eq E S m hs p] at hx; exact (List.mem_filter.mp hx).1

theorem filter_candidates (m : Nat) (hs : Sorted (S.stack m)) (hloc : LocalStack E (S.stack m)) (p : π) :
    (candidates E S m p).filter (fun r => r.matches E p) = (S.stack m).filter (fun r => r.matches E p) :=
  bucket_filter_eq E _ hs p fun r hr => hloc r hr p

section found
variable {E : Env π α} {S : Stacks α} {m : Nat} (hs : Sorted (S.stack m)) (hf : FSorted (S.stack m))
include hs

theorem candidates_sorted (p : π) : Sorted (candidates E S m p) :=
  lookup_buildTree_sorted _ hs _

theorem found_mem {p : π} {cur j : Nat} {r : Route α}
    (h : findFrom (fun r => r.matches E p) (candidates E S m p) cur = some (j, r)) :
    r ∈ S.stack m ∧ r.matches E p = true := by
  have hfd : ((candidates E S m p).drop cur).find? (fun r => r.matches E p) = some r := by
    rw [← findFrom_snd, h]; rfl
  exact ⟨mem_stack_of_mem_candidates hs (List.mem_of_mem_drop (List.mem_of_find?_eq_some hfd)),
    List.find?_some (p := fun r : Route α => r.matches E p) hfd⟩

include hf

theorem candidates_fsorted (p : π) : FSorted (candidates E S m p) := by
  rw [candidates_eq E S m hs p]; exact hf.filter _

theorem alignedK_of_not_misaligned {r : Route α} {p : π} {cur : Nat} (h : misaligned E S r m p cur = false) :
    AlignedK (candidates E S m p) cur (r.last + 1) := by
  have h' : min cur (candidates E S m p).length = (candidates E S m p).countP (fun x => x.first ≤ r.last) := by
    simpa [misaligned, idealCur] using h
  unfold AlignedK
  rw [List.drop_eq_drop_min, h']
  exact (candidates_fsorted hs hf p).drop_countP _ r.last

theorem filter_pos_eq_filter_first {r : Route α} (hr : r ∈ S.stack m) (q : π) :
    (candidates E S m q).filter (fun x => r.pos < x.pos) =
      (candidates E S m q).filter (fun x => r.last + 1 ≤ x.first) :=
  List.filter_congr fun x hx => by
    simp only [decide_eq_decide]
    exact pos_first_iff hs hf hr (mem_stack_of_mem_candidates hs hx)

theorem alignedK_resync {r : Route α} (hr : r ∈ S.stack m) (q : π) :
    AlignedK (candidates E S m q) (resync E S m q r.pos) (r.last + 1) := by
  unfold AlignedK resync
  rw [(candidates_sorted hs q).drop_countP, filter_pos_eq_filter_first hs hf hr]

theorem found_aligned {p : π} {cur j : Nat} {r : Route α}
    (h : findFrom (fun r => r.matches E p) (candidates E S m p) cur = some (j, r)) :
    AlignedK (candidates E S m p) (j + 1) (r.last + 1) := by
  -- the candidates are `take j ++ r :: rest`, sorted by position: the routes behind `r` are exactly `rest`, and by
  -- `filter_pos_eq_filter_first` those are the routes of registrations after `r`'s last one
  have hso := candidates_sorted (E := E) hs p
  rw [findFrom_idx h] at hso
  unfold AlignedK
  rw [← filter_pos_eq_filter_first hs hf (found_mem hs h).1, findFrom_idx h, hso.filter_gt_append,
    ← findFrom_idx h]

end found

/-- what the instrumentation lets through keeps the cursor aligned with the current route's last registration:
path overrides in the route's own method by position, all others by the check -/
theorem alignedK_moves {E : Env π α} {S : Stacks α} (hs : ∀ i, Sorted (S.stack i)) (hf : ∀ i, FSorted (S.stack i))
    {r : Route α} (hr : r ∈ S.stack r.m) {h : Handler α} {m : Nat} {p : π} {cur m' : Nat} {p' : π} {c' : Nat}
    (hal : AlignedK (candidates E S m p) cur (r.last + 1)) (hmv : Moves E S r h m p cur m' p' c') :
    AlignedK (candidates E S m' p') c' (r.last + 1) := by
  cases hmv with
  | stay => exact hal
  | path _ hc =>
    rcases hc with rfl | hc
    · rw [pathCursor, beq_self_eq_true, if_pos rfl]
      exact alignedK_resync (hs _) (hf _) hr _
    · exact alignedK_of_not_misaligned (hs _) (hf _) hc
  | method _ h2 _ => exact alignedK_of_not_misaligned (hs _) (hf _) h2

theorem runChain_fall {E : Env π α} {S : Stacks α} (hs : ∀ i, Sorted (S.stack i)) (hf : ∀ i, FSorted (S.stack i))
    {r : Route α} (hr : r ∈ S.stack r.m)
    {hl : List (Handler α)} {m : Nat} {p : π} {cur : Nat} {tr : List Nat} {m' : Nat} {p' : π} {cur' : Nat}
    (hal : AlignedK (candidates E S m p) cur (r.last + 1))
    (h : runChain E S true r hl m p cur = .ok (tr, .fall m' p' cur')) :
    AlignedK (candidates E S m' p') cur' (r.last + 1) ∧ (m' = m ∨ straddles S m' r.last = false) := by
  rw [runChain_eq] at h
  refine chainBy_fall (I := fun m' p' c' => AlignedK (candidates E S m' p') c' (r.last + 1) ∧
    (m' = m ∨ straddles S m' r.last = false)) hl ?_ m p cur tr m' p' cur' ⟨hal, .inl rfl⟩ h
  intro h0 _ m1 p1 c1 m2 p2 c2 hI hst
  obtain ⟨hb, he⟩ := guardBy_ok.mp hst
  have hmv := moves_of_not_blocked hb he.symm
  refine ⟨alignedK_moves hs hf hr hI.1 hmv, ?_⟩
  cases hmv with
  | stay => exact hI.2
  | path _ _ => exact hI.2
  | method _ _ h3 => exact .inr h3

/-- **Index transparency for the whole run** (instrumented, all methods): a run of the tree + numeric
cursor dispatcher that the instrumentation lets through is the run of the scan of the method stacks by
registration index. -/
theorem next_imp_linM (hs : ∀ i, Sorted (S.stack i))
    (hf : ∀ i, FSorted (S.stack i)) (hloc : ∀ i, LocalStack E (S.stack i))
    (hown : ∀ i, ∀ r ∈ S.stack i, r.m = i) :
    ∀ (fuel k m : Nat) (p : π) (cur : Nat) (matched : Bool) (o : Obs),
      AlignedK (candidates E S m p) cur k →
      next E S true fuel m p cur matched = .ok o →
      linM E S (ending E S) fuel k m p matched = .ok o := by
  intro fuel
  induction fuel with
  | zero => intro k m p cur matched o _ h; exact h
  | succ fuel ih =>
    intro k m p cur matched o hal h
    rw [next_succ] at h
    rw [linM]
    have hfind : ((S.stack m).filter (fun x => k ≤ x.first)).find? (fun r => r.matches E p) =
        ((candidates E S m p).drop cur).find? (fun r => r.matches E p) := by
      rw [hal.drop_eq, List.find?_filter_comm, List.find?_filter_comm (l := candidates E S m p),
        filter_candidates E S m (hs m) (hloc m) p]
    rw [hfind, ← findFrom_snd]
    cases hfr : findFrom (fun r => r.matches E p) (candidates E S m p) cur with
    | none => rw [hfr] at h; exact h
    | some jr =>
      obtain ⟨j, r⟩ := jr
      rw [hfr] at h
      have hrst := (found_mem (hs m) hfr).1
      cases hown m r hrst
      dsimp only [Option.map] at h ⊢
      generalize hrun : runChain E S true r r.handlers r.m p (j + 1) = x at h
      revert h
      -- `afterChain`'s cases: aborted, stop, fail, every handler called `Next`
      fun_cases afterChain _ x <;> intro h
      · cases h
      all_goals rw [runChain_stepM E S hrun]
      · exact h
      · exact h
      · next tr m' p' cur' =>
          obtain ⟨o', ho', rfl⟩ := map_ok_inv h
          obtain ⟨hal2, hst⟩ := runChain_fall hs hf hrst (found_aligned (hs _) (hf _) hfr) hrun
          have hck : (m' != r.m && straddles S m' r.last) = false := by
            rcases hst with rfl | hst
            · rw [bne_self_eq_false, Bool.false_and]
            · rw [hst, Bool.and_false]
          simp only [afterChain, ChainEnd.mapCur, hck, Bool.false_eq_true, ↓reduceIte,
            ih (r.last + 1) m' p' cur' _ o' hal2 ho']
          rfl

end C01
