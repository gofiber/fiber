import FiberModel.Generated.C01Facts
import FiberModel.C01.Model
/-
C01 — theorems over the facts the translator re-extracts from /repo on every run
(`FiberModel/Generated/C01Facts.lean`): if router.go / ctx.go change so that one of these facts no
longer has the shape the model transcribes, this file stops compiling and the check reports a broken
obligation (and searches for a concrete failing input).
-/
namespace C01
open B

/-- the Go expression `int(x[i₀])<<s₀ | int(x[i₁])<<s₁ | …` for the extracted (index, shift) pairs -/
def goHash (terms : List (Nat × Nat)) (x : Bytes) : Nat :=
  terms.foldl (fun acc t => acc ||| (x.getD t.1 0 <<< t.2)) 0

/-- Both hash expressions (route side in `buildTree`, request side in `configDependentPaths`) take the
first `maxDetectionPaths` bytes, most significant first, 8 bits apart — and they are the same
expression, so a route's key and the hash of a path that starts with the same bytes coincide. -/
theorem facts_hash_shape :
    Facts.routeHash = Facts.reqHash ∧
    Facts.routeHash = (List.range Facts.maxDetectionPaths).map
      (fun i => (i, 8 * (Facts.maxDetectionPaths - 1 - i))) := by decide +kernel

theorem or_shift_byte (x c : Nat) (hc : c < 256) : (x <<< 8) ||| c = x * 256 + c := by
  rw [← Nat.shiftLeft_add_eq_or_of_lt (by simpa using hc), Nat.shiftLeft_eq]

/-- The model's `pathHash` (base-256 fold of the first `maxDetectionPaths` bytes) is the Go expression. -/
theorem goHash_eq_pathHash (x : Bytes) (hlen : x.length ≥ Facts.maxDetectionPaths)
    (hb : ∀ c ∈ x, c < 256) : goHash Facts.routeHash x = pathHash Facts.maxDetectionPaths x := by
  match x, hlen with
  | a :: b :: c :: _, _ =>
    show ((0 ||| a <<< 16) ||| b <<< 8) ||| c <<< 0 = ((0 * 256 + a) * 256 + b) * 256 + c
    rw [Nat.zero_or, Nat.shiftLeft_zero, Nat.zero_mul, Nat.zero_add, ← or_shift_byte _ c (hb c (by simp)),
      ← or_shift_byte a b (hb b (by simp)), Nat.shiftLeft_or_distrib, ← Nat.shiftLeft_add]

/-- the guards of the key assignment, the request-hash guard, the duplicate-merge condition and the
cursor re-synchronisation in `Path(override)` are the ones `treeKey`, `pathHash`, `addRoute` and
`runChain`/`resync` transcribe -/
theorem facts_guards :
    Facts.routeHashGuards =
      ["len(route.routeParser.segs) > 0 && len(route.routeParser.segs[0].Const) >= maxDetectionPaths",
       "len(seg.Const) > maxDetectionPaths || !seg.HasOptionalSlash"] ∧
    Facts.reqHashGuards = ["len(c.detectionPath) >= maxDetectionPaths"] ∧
    Facts.pathOverrideResyncs = true ∧
    Facts.mergeCond =
      "l > 0 && app.stack[m][l-1].Path == route.Path && (app.stack[m][l-1].pathOrig == \"\") == (route.pathOrig == \"\") && route.use == app.stack[m][l-1].use && !route.mount && !app.stack[m][l-1].mount" :=
  ⟨rfl, rfl, rfl, rfl⟩

/-- `Method(override)` re-derives the cursor exactly when the method really changes, through
`syncIndexRouteMethod`, whose guard (`Use` routes only), loops and final assignment are the ones
`methodCursor` / `useRank` / `afterNthUse` transcribe (see `loop1_eq_useRank`, `loop2_eq_afterNthUse`) -/
theorem facts_method_resync :
    Facts.methodOverrideGuard = "methodInt != c.methodInt" ∧
    Facts.methodOverrideBranch = "from := c.methodInt; c.methodInt = methodInt; c.syncIndexRouteMethod(from)" ∧
    Facts.methodResyncGuard =
      "c.route == nil || !c.route.use || from < 0 || from >= len(c.app.treeStack) || c.methodInt < 0 || c.methodInt >= len(c.app.treeStack)" ∧
    Facts.methodResyncLoops =
      ["i := 0; i <= c.indexRoute && i < len(oldTree); i++ :: if oldTree[i].use { n++ }",
       "i := 0; n > 0 && i < len(newTree); i++ :: if newTree[i].use { n--; index = i }"] ∧
    Facts.methodResyncAssign = "c.indexRoute = index" :=
  ⟨rfl, rfl, rfl, rfl, rfl⟩

/-- first loop of `syncIndexRouteMethod` with its loop variables: `l` = `oldTree[i:]`, `cur` = `indexRoute + 1`
(so `i <= c.indexRoute` is `i < cur`), `n` the counter -/
def loop1 {α : Type} (cur : Nat) : List (Route α) → Nat → Nat → Nat
  | [], _, n => n
  | x :: xs, i, n => if i < cur then loop1 cur xs (i + 1) (if x.use then n + 1 else n) else n

theorem loop1_gen {α : Type} (l : List (Route α)) (i d n : Nat) :
    loop1 (d + i) l i n = (l.take d).countP (·.use) + n := by
  induction l generalizing i d n with
  | nil => simp [loop1]
  | cons x xs ih =>
    cases d with
    | zero => simp [loop1]
    | succ d =>
      rw [loop1, if_pos (Nat.lt_add_of_pos_left (Nat.succ_pos d)), Nat.succ_add_eq_add_succ, ih, List.take_succ_cons, List.countP_cons]
      cases x.use <;> simp only [Bool.false_eq_true, ↓reduceIte] <;> omega

theorem loop1_eq_useRank {α : Type} (l : List (Route α)) (cur : Nat) : loop1 cur l 0 0 = useRank l cur :=
  loop1_gen l 0 cur 0

/-- second loop of `syncIndexRouteMethod` with its loop variables: `l` = `newTree[i:]`, `n` the number of
`Use` routes still to pass, `c` = `index + 1` (the cursor; `index = -1` is `c = 0`) -/
def loop2 {α : Type} : List (Route α) → Nat → Nat → Nat → Nat
  | [], _, _, c => c
  | x :: xs, i, n, c =>
    if n > 0 then (if x.use then loop2 xs (i + 1) (n - 1) (i + 1) else loop2 xs (i + 1) n c) else c

theorem loop2_gen {α : Type} (l : List (Route α)) (i n c : Nat) :
    loop2 l i n c = if afterNthUse l n = 0 then c else i + afterNthUse l n := by
  induction l generalizing i n c with
  | nil => cases n <;> simp [loop2, afterNthUse]
  | cons x xs ih =>
    cases n with
    | zero => simp [loop2, afterNthUse]
    | succ n =>
      simp only [loop2, Nat.zero_lt_succ, ↓reduceIte, Nat.add_sub_cancel, afterNthUse]
      by_cases hx : x.use = true
      · simp only [hx, ↓reduceIte]
        rw [ih]
        by_cases ha : afterNthUse xs n = 0
        · simp [ha]
        · simp [ha]; omega
      · simp only [hx, Bool.false_eq_true, ↓reduceIte]
        rw [ih]
        by_cases hb : afterNthUse xs (n + 1) = 0
        · simp [hb]
        · simp [hb]; omega

theorem loop2_eq_afterNthUse {α : Type} (l : List (Route α)) (n : Nat) : loop2 l 0 n 0 = afterNthUse l n := by
  rw [loop2_gen]; split <;> simp_all

/-- helpers.go `methodInt`: the fast switch is taken only when no custom `RequestMethods` is configured,
otherwise the slot is `slices.Index(app.config.RequestMethods, s)` — for *every* name, standard or not;
and the fast switch returns for each default method its index in `DefaultMethods` (so it agrees with
`slices.Index` over the default list) and −1 otherwise. This is what the driver's `methodInt`
(`names.idxOf?` over the configured list) transcribes. -/
theorem facts_methodInt :
    Facts.methodIntShape =
      ["if len(app.configured.RequestMethods) == 0 { switch s }",
       "return slices.Index(app.config.RequestMethods, s)"] ∧
    Facts.methodIntSwitch =
      ((List.range Facts.methods.length).map fun i => Facts.methods.getD i "" ++ "=>" ++ toString i) ++ ["default=>-1"] :=
  ⟨rfl, by decide +kernel⟩

/-- method ints are unambiguous -/
theorem facts_methods_nodup : Facts.methods.Nodup := by decide +kernel

end C01
