import FiberModel.C01.Build
/-
C01 — the hypotheses of the property theorems (`WF`, `LocalR`, `NoOverride`) and the assembly of
`dispatch = linear` for instrumented and plain runs.
-/
namespace C01
variable {π α : Type}

def WF (regs : List (Reg α)) : Prop := ∀ g ∈ regs, WFReg g

/-- **Locality** of the tree key w.r.t. the single-route matcher: a route that carries a non-zero
key only matches paths whose hash is that key. (For the real `Route.match` and the real key rule this is
`C02.match_locality` / `C02.match_same_bucket`; here it is a hypothesis on the abstract matcher.) -/
def LocalR (E : Env π α) (regs : List (Reg α)) : Prop :=
  ∀ g ∈ regs, ∀ p, g.key ≠ 0 → g.matches E p = true → g.key = E.pkey p

theorem local_build (E : Env π α) (merge : Bool) (regs : List (Reg α)) (hl : LocalR E regs) (m : Nat) :
    LocalStack E ((build merge regs).stack m) := by
  intro r hr p hk hm
  obtain ⟨g, hg, h1, h2, h3⟩ := fromRegs_build merge regs m r (List.mem_reverse.mp hr)
  have := hl g hg p (by rw [← h3]; exact hk) (by simpa [Route.matches, Reg.matches, h1, h2] using hm)
  rw [h3]; exact this

def PosPos (S : Stacks α) : Prop := ∀ i, ∀ r ∈ S.rev i, 0 < r.pos

theorem PosPos.addRoute (merge : Bool) (S : Stacks α) (h : PosPos S) (m : Nat) (g : Reg α) :
    PosPos (addRoute merge S m g) := by
  intro i r hr
  rcases mem_addRoute hr with hr | ⟨rfl, rfl | ⟨l0, hl0, rfl⟩⟩
  · exact h i r hr
  · exact Nat.succ_pos _
  · exact h i l0 hl0

theorem posPos_build (merge : Bool) (regs : List (Reg α)) : PosPos (build merge regs) :=
  build_induct merge regs (fun _ _ => nofun) (fun S h g _ m => h.addRoute merge S m g) (fun _ _ h => h)

theorem any_candidates (E : Env π α) (S : Stacks α) (i : Nat) (hs : Sorted (S.stack i))
    (hloc : LocalStack E (S.stack i)) (p : π) (g : Route α → Bool) :
    ((candidates E S i p).any fun r => g r && r.matches E p) =
      (S.stack i).any fun r => g r && r.matches E p := by
  rw [List.any_filter_right, List.any_filter_right, filter_candidates E S i hs hloc p]

theorem allowOf_build (E : Env π α) (merge : Bool) (regs : List (Reg α)) (hwf : WF regs)
    (hl : LocalR E regs) (m : Nat) (p : π) :
    allowOf E (build merge regs) m p = specAllow E regs m p := by
  unfold allowOf specAllow
  refine List.filter_congr fun i _ => congrArg (fun b => i != m && b) ?_
  -- through the index, then route by route against the registrations
  rw [any_candidates E _ i ((InvS.build merge regs).sorted i) (local_build E merge regs hl i) p]
  exact (corrI_any i (corr_build merge regs hwf i) (fun raw use => !use && E.M raw use p)).trans
    (congrArg regs.any (funext fun g => (Bool.and_assoc _ _ _).symm))

/-- a routing pass from the top of the table (cursor −1) with any method, path and `matched` flag —
what `requestHandler` starts with `matched = false` and what `RestartRouting()` starts with the flag
the request has accumulated so far -/
theorem passS_linear (E : Env π α) (merge : Bool) (regs : List (Reg α)) (hwf : WF regs)
    (hl : LocalR E regs) {m : Nat} {p : π} {matched : Bool} {o : Obs}
    (h : next E (build merge regs) true (build merge regs).fuel m p 0 matched = .ok o) :
    o = linearFrom E regs regs m p matched := by
  have hinv := InvS.build merge regs
  have hg := InvG.build merge regs (fun g hg => (hwf g hg).nodup)
  have hpos : ∀ i, ∀ r ∈ (build merge regs).stack i, 0 < r.pos := fun i r hr =>
    posPos_build merge regs i r (List.mem_reverse.mp hr)
  have hlin := next_imp_linM E (build merge regs) hinv.sorted hg.fs (fun i => local_build E merge regs hl i)
    (fun i r hr => (hinv.bound i r (List.mem_reverse.mp hr)).2) _ 0 m p 0 matched o (alignedK_zero _) h
  have := linM_linear E (build merge regs) regs (ending E (build merge regs))
    (fun m p matched => by rw [ending, specEnding, allowOf_build E merge regs hwf hl m p]) hwf
    (fun i => corr_build merge regs hwf i) hg.fs
    (fun i x hx => (hinv.bound i x (List.mem_reverse.mp hx)).1)
    (fun i j x hx y hy => hg.mono i j x (List.mem_reverse.mp hx) y (List.mem_reverse.mp hy))
    (build merge regs).fuel 0 0 m p matched o
    (fun x _ hcon => by omega)
    (fun i x hx _ => hpos i x hx)
    (Nat.lt_succ_self _)
    hlin
  exact this.symm

theorem next_chk (E : Env π α) (S : Stacks α) {fuel m : Nat} {p : π} {cur : Nat} {matched : Bool} {o : Obs}
    (h : next E S true fuel m p cur matched = .ok o) : next E S false fuel m p cur matched = .ok o := by
  revert o
  -- out of fuel; nothing found; the route's chain aborted, stopped, failed, fell through
  fun_induction next E S true fuel m p cur matched <;> intro o h
  · exact h
  · next hf => rw [next_succ, hf]; exact h
  · cases h
  · next hf _ hr => rw [next_succ, hf]; dsimp only; rw [runChain_chk E S hr]; exact h
  · next hf _ _ hr => rw [next_succ, hf]; dsimp only; rw [runChain_chk E S hr]; exact h
  · next hf _ _ _ _ hr ih =>
    obtain ⟨o', ho', rfl⟩ := map_ok_inv h
    rw [next_succ, hf]; dsimp only; rw [runChain_chk E S hr]
    simp only [afterChain, ih ho']
    rfl

def Script.isOverride : Script α → Bool
  | .setPath _ => true
  | .setMethod _ => true
  | _ => false

def NoOverride (regs : List (Reg α)) : Prop :=
  ∀ g ∈ regs, ∀ h ∈ g.handlers, h.script.isOverride = false

def HandlersNoOv (S : Stacks α) : Prop :=
  ∀ i, ∀ r ∈ S.rev i, ∀ h ∈ r.handlers, h.script.isOverride = false

theorem mem_markSeam {hs : List (Handler α)} {h : Handler α} (hh : h ∈ markSeam hs) :
    ∃ h' ∈ hs, h.script = h'.script := by
  cases hs with
  | nil => cases hh
  | cons a t =>
    simp only [markSeam, List.mem_cons] at hh
    rcases hh with rfl | hh
    · exact ⟨a, List.mem_cons_self, rfl⟩
    · exact ⟨h, List.mem_cons_of_mem _ hh, rfl⟩

theorem HandlersNoOv.addRoute (merge : Bool) (S : Stacks α) (h : HandlersNoOv S) (m : Nat) (g : Reg α)
    (hg : ∀ h ∈ g.handlers, h.script.isOverride = false) : HandlersNoOv (addRoute merge S m g) := by
  intro i r hr
  rcases mem_addRoute hr with hr | ⟨rfl, rfl | ⟨l0, hl0, rfl⟩⟩
  · exact h i r hr
  · exact hg
  · intro x hx
    rcases List.mem_append.mp hx with hx | hx
    · exact h i l0 hl0 x hx
    · obtain ⟨x', hx', heq⟩ := mem_markSeam hx
      rw [heq]; exact hg x' hx'

theorem handlersNoOv_build (merge : Bool) (regs : List (Reg α)) (hno : NoOverride regs) :
    HandlersNoOv (build merge regs) :=
  build_induct merge regs (fun _ _ => nofun) (fun S h g hg m => h.addRoute merge S m g (hno g hg))
    (fun _ _ h => h)

theorem blocked_noOv (E : Env π α) (S : Stacks α) (r : Route α) (h : Handler α) (m : Nat) (p : π) (cur : Nat)
    (hck : (m == r.m && r.matches E p) = true) (hno : h.script.isOverride = false) :
    blocked E S true r h m p cur = none := by
  rw [blocked, hck, Bool.not_true, Bool.and_false, if_neg Bool.false_ne_true]
  generalize h.script = s at hno
  cases s with
  | setPath o => cases hno
  | setMethod m2 => cases hno
  | _ => rfl

theorem next_noOv_ok (E : Env π α) (S : Stacks α) (hinv : InvS S) (hno : HandlersNoOv S)
    (fuel m : Nat) (p : π) (cur : Nat) (matched : Bool) :
    ∃ o, next E S true fuel m p cur matched = .ok o := by
  -- inside a route the state stays the one it was found with: the route's method, a path it matches
  refine next_ok_of E S (I := fun _ _ _ => True)
    (J := fun r m p _ => r ∈ S.stack m ∧ (m == r.m && r.matches E p) = true)
    (fun m p cur j r _ hf => ?_) (fun r h hh m p c hJ => ?_) (fun _ _ _ _ _ => trivial) fuel m p cur matched trivial
  · obtain ⟨hrs, hmatch⟩ := found_mem (hinv.sorted m) hf
    exact ⟨hrs, by simp [(hinv.bound m r (List.mem_reverse.mp hrs)).2, hmatch]⟩
  · have hov := hno m r (List.mem_reverse.mp hJ.1) h hh
    refine ⟨blocked_noOv E S r h m p c hJ.2 hov, fun m' p' c' hmv => ?_⟩
    cases hmv with
    | stay => exact hJ
    | path hsc _ => rw [hsc] at hov; cases hov
    | method hsc _ _ => rw [hsc] at hov; cases hov

end C01
