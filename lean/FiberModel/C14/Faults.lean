import FiberModel.C14.Inv
/-
C14 — storage faults: which outcomes of the storage calls can make a key `dirty` (entry, body and heap
entry out of step). Only a failing `Storage.Set` / `Storage.Delete` can; a failing or garbled `Get` cannot.
At the end, for runs without such failures, the observable side of the accounting: a response that fits evicts nothing
(`dropTracked_stored`, `sec2_no_needless_eviction`).
-/
namespace C14
open B

/-- no `Storage.Set` / `Storage.Delete` (nor `Get` of a body) of this request fails; the `Get` of the entry
    may fail or deliver garbage -/
def Req.quiet (q : Req) : Prop :=
  (∀ i, 1 ≤ i → (faultAt q.f1 i).fails = false) ∧ (∀ i, (faultAt q.f2 i).fails = false)

def FsQuiet (fs : List Fault) : Prop := ∀ i, (faultAt fs i).fails = false

/-- `tail`: the first outcome of the first section is that of the entry's `Get`, which may be anything -/
theorem quiet_of {q : Req} (h1 : ∀ f ∈ q.f1.tail, f.fails = false) (h2 : ∀ f ∈ q.f2, f.fails = false) : q.quiet := by
  -- whatever is read off such a list, or past its end (`ok`), did not fail
  have ok : ∀ {fs : List Fault}, (∀ f ∈ fs, f.fails = false) → FsQuiet fs := by
    intro fs h i
    unfold faultAt
    rw [List.getD_eq_getElem?_getD]
    cases hf : fs[i]? with
    | none => rfl
    | some f => exact h f (List.mem_of_getElem? hf)
  refine ⟨fun i hi => ?_, ok h2⟩
  obtain ⟨j, rfl⟩ : ∃ j, i = j + 1 := ⟨i - 1, by omega⟩
  cases hf : q.f1 with
  | nil => rfl
  | cons g fs => rw [hf] at h1; exact ok h1 j

theorem quiet_of_forall {reqs : List Req}
    (h : ∀ q ∈ reqs, (∀ f ∈ q.f1.tail, f.fails = false) ∧ ∀ f ∈ q.f2, f.fails = false) : ∀ q ∈ reqs, q.quiet :=
  fun q hq => quiet_of (h q hq).1 (h q hq).2

theorem FsQuiet.drop {fs : List Fault} (h : FsQuiet fs) (n : Nat) : FsQuiet (fs.drop n) := by
  intro i
  have := h (n + i)
  unfold faultAt at this ⊢
  rw [List.getD_eq_getElem?_getD, List.getElem?_drop]
  rw [List.getD_eq_getElem?_getD] at this
  exact this

theorem markDirty_nil (k : Key) : markDirty [] k false = [] := by simp [markDirty]

theorem deleteKey_clean (cfg : Config) (sh : Shared) (k : Key) (d1 d2 : Fault) (h1 : d1.fails = false)
    (h2 : d2.fails = false) (hd : sh.dirty = []) : (sh.deleteKey cfg k d1 d2).dirty = [] := by
  unfold Shared.deleteKey
  simp [h1, h2, hd, markDirty_nil]

theorem setKey_clean (cfg : Config) (sh : Shared) (k : Key) (it : Item) (sexp : Nat) (s1 s2 : Fault)
    (h1 : s1.fails = false) (h2 : s2.fails = false) (hd : sh.dirty = []) :
    (sh.setKey cfg k it sexp s1 s2).dirty = [] := by
  unfold Shared.setKey
  simp [h1, h2, hd, markDirty_nil]

theorem sec1_clean {cfg : Config} {sh sh' : Shared} {ts uts : Nat} {q : Req} {key : Key}
    (hq : ∀ i, 1 ≤ i → (faultAt q.f1 i).fails = false) (hd : sh.dirty = [])
    (h : sec1 cfg sh ts uts q key = .pass sh') : sh'.dirty = [] := by
  rcases sec1_cases cfg sh ts uts q key with ⟨h', _⟩ | ⟨e, _, _, h'⟩ | ⟨e, _, _, _, _, _, h'⟩
  · rw [h'] at h; cases h; exact hd
  · rw [h'] at h
    rw [sec1Expire_dirty h]
    exact deleteKey_clean cfg sh key _ _ (hq 1 (by omega)) (hq 2 (by omega)) hd
  · rw [h'] at h; cases h

theorem evict_clean {cfg : Config} {body : Nat} : ∀ (f : Nat) (fs : List Fault) {sh sh' : Shared} {fs' : List Fault},
    FsQuiet fs → sh.dirty = [] → evict cfg body f fs sh = some (sh', fs') → sh'.dirty = [] ∧ FsQuiet fs' := by
  intro f fs sh sh' fs'
  -- the branches of `evict`: out of fuel, an empty heap, one more round, room enough
  fun_induction evict cfg body f fs sh <;> intro hq hd h
  · cases h
  · cases h
  next fs sh _ _ x _ ih =>
    exact ih (by split; exact hq.drop 2; exact hq) (deleteKey_clean cfg sh _ _ _ (hq 0) (hq 1) hd) h
  · cases h; exact ⟨hd, hq⟩

theorem sec2Store_clean {cfg : Config} {sh sh' : Shared} {ts uts : Nat} {q : Req} {key : Key} {fs : List Fault}
    (hq : FsQuiet fs) (hd : sh.dirty = []) (h : sec2Store cfg sh ts uts q key fs = .stored sh') : sh'.dirty = [] := by
  rcases sec2Store_stored h with ⟨idx, hp, n, rfl⟩
  exact setKey_clean cfg _ _ _ _ _ _ (hq 0) (hq 1) hd

theorem sec2_clean {cfg : Config} {sh sh' : Shared} {ts uts : Nat} {q : Req} {key : Key}
    (hq : FsQuiet q.f2) (hd : sh.dirty = []) (h : sec2 cfg sh ts uts q key = .stored sh') : sh'.dirty = [] := by
  rcases sec2_stored h with ⟨_, hst⟩ | ⟨sh0, sh1, fs, hdt, hev, hst⟩
  · exact sec2Store_clean hq hd hst
  · rcases evict_clean _ _ hq (by rw [(dropTracked_frame hdt).2.2]; exact hd) hev with ⟨h1, h2⟩
    exact sec2Store_clean h2 h1 hst

/-- the state a run of quiet requests keeps: no key dirty, no thread tainted -/
structure QuietOK (g : G) : Prop where
  quiet : ∀ (t : Nat) (th : Thread), g.threads[t]? = some th → th.req.quiet
  clean : g.sh.dirty = []
  untainted : ∀ (t : Nat) (th : Thread), g.threads[t]? = some th → th.taint = false

theorem quiet_setThread {g g0 : G} {t : Nat} {th th' : Thread} (hq : QuietOK g) (ht : g.threads[t]? = some th)
    (hth : g0.threads = g.threads) (hsh : g0.sh.dirty = []) (hreq : th'.req = th.req) (htaint : th'.taint = false) :
    QuietOK (g0.setThread t th') :=
  ⟨forall_setThread ht hth hq.quiet (by rw [hreq]; exact hq.quiet t th ht), hsh, forall_setThread ht hth hq.untainted htaint⟩

theorem step_quiet {cfg : Config} {g g' : G} {t : Nat} (hq : QuietOK g) (hs : step cfg g t = some g') : QuietOK g' := by
  rcases step_cases hs with ⟨th, ht, hst⟩
  have hqt := hq.quiet t th ht
  have htt := hq.untainted t th ht
  -- the taint a first section records: no key is dirty
  have hnt : g.sh.dirty.contains (mkKey th.req) = false := by rw [hq.clean]; rfl
  cases hst with
  | panic1 _ _ => exact quiet_setThread hq ht rfl hq.clean rfl hnt
  | hit o _ _ => exact quiet_setThread hq ht rfl hq.clean rfl hnt
  | pass sh' _ hp => exact quiet_setThread hq ht rfl (sec1_clean hqt.1 hq.clean hp) rfl hnt
  | stored sh' _ hr => exact quiet_setThread hq ht rfl (sec2_clean hqt.2 hq.clean hr) rfl htt
  | _ => exact quiet_setThread hq ht rfl hq.clean rfl htt

theorem run_quiet {cfg : Config} (evs : List Ev) {g : G} (hq : QuietOK g) : QuietOK (run cfg g evs) :=
  run_keeps step_quiet (fun _ h => { h with }) (fun _ h => { h with }) evs hq

theorem init_quiet (ts uts : Nat) (reqs : List Req) (h : ∀ q ∈ reqs, q.quiet) : QuietOK (G.init ts uts reqs) := by
  refine ⟨?_, rfl, ?_⟩
  · intro t th ht
    rcases init_thread ht with ⟨q, hq, rfl⟩
    exact h q hq
  · intro t th ht
    rcases init_thread ht with ⟨q, _, rfl⟩
    rfl

/-- after `heap.removeKey(key)` the count is what the cache has stored under the other keys: the state with `key`
    deleted as well satisfies the invariant again, and there the count is exact -/
theorem dropTracked_stored {cfg : Config} (hmb : cfg.maxBytes < 2 ^ 63) (hpos : cfg.maxBytes > 0) {sh sh0 : Shared}
    (hi : ShInv cfg sh) (hd : sh.dirty = []) {key : Key} (h : dropTracked sh key = some sh0) :
    sh0.stored = totalBody (sh.store.erase key) := by
  rcases dropTracked_ok hmb hpos hi key with ⟨sh1, hd1, hi0, hnk⟩
  rw [h] at hd1; cases hd1
  have := stored_eq_total_of (deleteKey_ok hi0 .ok .ok hnk) hpos
    (deleteKey_clean cfg sh0 key .ok .ok rfl rfl (by rw [(dropTracked_frame h).2.2]; exact hd))
  simpa [Shared.deleteKey, Fault.fails, (dropTracked_frame h).1] using this

/-- "Accounting", the observable consequence: a request that stores a response which fits next to everything
    the cache has stored under other keys evicts nothing – the storage afterwards holds exactly what it held
    plus / with the new response (no failure outstanding, none in this section). -/
theorem sec2_no_needless_eviction {cfg : Config} (hmb : cfg.maxBytes < 2 ^ 63) (hpos : cfg.maxBytes > 0) {sh sh' : Shared}
    (hi : ShInv cfg sh) (hd : sh.dirty = []) {ts uts : Nat} {q : Req} {key : Key} (hq : FsQuiet q.f2)
    (hfit : totalBody (sh.store.erase key) + q.resp.body.length ≤ cfg.maxBytes)
    (h : sec2 cfg sh ts uts q key = .stored sh') :
    ∃ idx, sh'.store = sh.store.set key ⟨mkItem cfg q ts idx, storageExp cfg q uts⟩ := by
  rcases sec2_stored h with ⟨h0, _⟩ | ⟨sh0, sh1, fs, hdt, hev, hst⟩
  · omega
  · have hs0 := dropTracked_stored hmb hpos hi hd hdt
    -- the loop condition is false at once
    have hev' : evict cfg q.resp.body.length (sh0.heap.live.length + 1) q.f2 sh0 = some (sh0, q.f2) := by
      unfold evict
      rw [uadd_eq (by rw [hs0]; exact lt_U64 hmb hfit), hs0, if_neg (by omega)]
    rw [hev'] at hev
    cases hev
    rcases sec2Store_stored hst with ⟨idx, hp, n, rfl⟩
    have h2 : (cfg.ext && (faultAt q.f2 1).fails) = false := by rw [hq 1]; simp
    refine ⟨idx, ?_⟩
    simp only [Shared.setKey, h2]
    rw [(dropTracked_frame hdt).1]; rfl

end C14
