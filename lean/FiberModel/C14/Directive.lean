import FiberModel.C14.Spec
import FiberModel.BasicLemmas
import FiberModel.ListLemmas
/-
C14 — the code's test for a request directive (`strings.Contains(utils.ToLower(Cache-Control), d)`,
Model.lean `hasDirective`) is at least as wide as the RFC 9111 §5.2 reading of the header the spec
uses (`directiveNames`: comma separated, optional `=argument`, blanks trimmed, names
case-insensitive): whenever `d` is one of the directive names of the header value, the lower-cased
value contains `d`.
-/
namespace C14
open B

theorem directive_name_infix {cc d : Bytes} (h : d ∈ directiveNames cc) : d <:+: toLower cc := by
  unfold directiveNames at h
  rcases List.mem_map.mp h with ⟨piece, hp, rfl⟩
  have h1 : piece <:+: cc := mem_splitOn_infix hp
  have h2 : piece.dropWhile (fun c => c == 32 || c == 9) <:+: piece := (List.dropWhile_suffix _).isInfix
  have h3 : (piece.dropWhile (fun c => c == 32 || c == 9)).takeWhile (fun c => c != 61) <:+:
      piece.dropWhile (fun c => c == 32 || c == 9) := (List.takeWhile_prefix _).isInfix
  have h4 := (List.reverse_dropWhile_reverse_prefix (fun c => c == 32 || c == 9)
      ((piece.dropWhile (fun c => c == 32 || c == 9)).takeWhile (fun c => c != 61))).isInfix
  have h5 := ((h4.trans h3).trans h2).trans h1
  unfold toLower
  exact h5.map lowerByte

theorem directive_implies_substring {cc d : Bytes} (h : (directiveNames cc).contains d = true) :
    hasDirective cc d = true := by
  unfold hasDirective
  have hm : d ∈ directiveNames cc := by simpa using h
  exact indexOf_isSome_of_infix (directive_name_infix hm)

end C14
