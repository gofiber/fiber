import FiberModel.C14.Lemmas
/-
C14 — the cases of `step` as a relation (`Step`, `step_cases`: what Trace.lean and Faults.lean go by as well), the global
invariant of the interleaving semantics and its preservation by every event.
-/
namespace C14
open B

/-- the request passes the three tests in front of the first lock (`no-store` by the code's own substring test; the
    oracle's `looksUp` in Spec.lean reads the header as RFC 9111 does) -/
def Admitted (cfg : Config) (q : Req) : Prop :=
  cfg.disabled = false ∧ hasDirective q.cc Facts.noStore = false ∧ cfg.effMethods.contains q.method = true

theorem Admitted.enabled {cfg : Config} {q : Req} (h : Admitted cfg q) : cfg.disabled = false := h.1
theorem Admitted.notNoStore {cfg : Config} {q : Req} (h : Admitted cfg q) : hasDirective q.cc Facts.noStore = false := h.2.1
theorem Admitted.method {cfg : Config} {q : Req} (h : Admitted cfg q) : cfg.effMethods.contains q.method = true := h.2.2

/-- The cases of `step`: what thread `t` – being `th` – does, under which condition, and the state it leaves behind
    (`step_cases`: these are all). -/
inductive Step (cfg : Config) (g : G) (t : Nat) (th : Thread) : G → Prop
  | notCached : th.pc = .start → cfg.disabled = true ∨ hasDirective th.req.cc Facts.noStore = true →
      Step cfg g t th (g.setThread t { th with pc := .bypass .absent })
  | noMethod : th.pc = .start → cfg.disabled = false → hasDirective th.req.cc Facts.noStore = false →
      cfg.effMethods.contains th.req.method = false →
      Step cfg g t th (g.setThread t { th with pc := .bypass .unreachable })
  | enters : th.pc = .start → Admitted cfg th.req → Step cfg g t th (g.setThread t { th with pc := .wantLock1 })
  | bypass (x : XCache) : th.pc = .bypass x →
      Step cfg g t th (g.setThread t { th with pc := .done, ran := true, out := some (passThrough x th.req.resp) })
  | lock1 : th.pc = .wantLock1 → g.mux = none →
      Step cfg g t th ({ g with mux := some t }.setThread t { th with pc := .sec1 })
  | panic1 : th.pc = .sec1 → sec1 cfg g.sh g.ts g.uts th.req (mkKey th.req) = .panic →
      Step cfg g t th (g.setThread t
        { th with pc := .panicked, ts := g.ts, taint := g.sh.dirty.contains (mkKey th.req) })
  | hit (o : Out) : th.pc = .sec1 → sec1 cfg g.sh g.ts g.uts th.req (mkKey th.req) = .hit o →
      Step cfg g t th ({ g with mux := none }.setThread t
        { th with pc := .done, ts := g.ts, out := some o, taint := g.sh.dirty.contains (mkKey th.req) })
  | pass (sh : Shared) : th.pc = .sec1 → sec1 cfg g.sh g.ts g.uts th.req (mkKey th.req) = .pass sh →
      Step cfg g t th ({ g with mux := none, sh := sh }.setThread t
        { th with pc := .next, ts := g.ts, taint := g.sh.dirty.contains (mkKey th.req) })
  | handlerFails : th.pc = .next → th.req.err = true →
      Step cfg g t th (g.setThread t
        { th with pc := .done, ran := true, out := some (passThrough .absent th.req.resp) })
  | handlerReturns : th.pc = .next → th.req.err = false →
      Step cfg g t th (g.setThread t { th with pc := .afterNext, ran := true })
  | notCacheable : th.pc = .afterNext → cacheable th.req.resp.status = false →
      Step cfg g t th (g.setThread t { th with pc := .done, out := some (passThrough .unreachable th.req.resp) })
  | statusCacheable : th.pc = .afterNext → cacheable th.req.resp.status = true →
      Step cfg g t th (g.setThread t { th with pc := .wantLock2 })
  | lock2 : th.pc = .wantLock2 → g.mux = none →
      Step cfg g t th ({ g with mux := some t }.setThread t { th with pc := .sec2 })
  | panic2 : th.pc = .sec2 → sec2 cfg g.sh th.ts g.uts th.req (mkKey th.req) = .panic →
      Step cfg g t th ({ g with mux := none }.setThread t { th with pc := .panicked })
  | notStored : th.pc = .sec2 → sec2 cfg g.sh th.ts g.uts th.req (mkKey th.req) = .unreachable →
      Step cfg g t th ({ g with mux := none }.setThread t
        { th with pc := .done, out := some (passThrough .unreachable th.req.resp) })
  | stored (sh : Shared) : th.pc = .sec2 → sec2 cfg g.sh th.ts g.uts th.req (mkKey th.req) = .stored sh →
      Step cfg g t th ({ g with mux := none, sh := sh }.setThread t
        { th with pc := .done, out := some (passThrough .miss th.req.resp) })

theorem step_cases {cfg : Config} {g g' : G} {t : Nat} (hs : step cfg g t = some g') :
    ∃ th, g.threads[t]? = some th ∧ Step cfg g t th g' := by
  revert hs
  -- the branches of `step`: no such thread, a taken mutex (at either lock), `done` and `panicked` refuse; the seventeen
  -- others are the constructors of `Step`, in this order (`notCached` twice: disabled, `no-store`)
  fun_cases step cfg g t <;> intro hs <;> cases hs
  next th ht hpc h1 => exact ⟨th, ht, .notCached hpc (.inl h1)⟩
  next th ht _ hpc _ h2 => exact ⟨th, ht, .notCached hpc (.inr h2)⟩
  next th ht _ hpc h1 h2 h3 => exact ⟨th, ht, .noMethod hpc (by simpa using h1) (by simpa using h2) (by simpa using h3)⟩
  next th ht _ hpc h1 h2 h3 => exact ⟨th, ht, .enters hpc ⟨by simpa using h1, by simpa using h2, by simpa using h3⟩⟩
  next th ht _ x hpc => exact ⟨th, ht, .bypass x hpc⟩
  next th ht hpc hm => exact ⟨th, ht, .lock1 hpc hm⟩
  next th ht _ hpc _ hr => exact ⟨th, ht, .panic1 hpc hr⟩
  next th ht _ hpc _ o hr => exact ⟨th, ht, .hit o hpc hr⟩
  next th ht _ hpc _ sh hr => exact ⟨th, ht, .pass sh hpc hr⟩
  next th ht _ hpc he => exact ⟨th, ht, .handlerFails hpc he⟩
  next th ht _ hpc he => exact ⟨th, ht, .handlerReturns hpc (by simpa using he)⟩
  next th ht _ hpc hc => exact ⟨th, ht, .notCacheable hpc (by simpa using hc)⟩
  next th ht _ hpc hc => exact ⟨th, ht, .statusCacheable hpc (by simpa using hc)⟩
  next th ht hpc hm => exact ⟨th, ht, .lock2 hpc hm⟩
  next th ht _ hpc hr => exact ⟨th, ht, .panic2 hpc hr⟩
  next th ht _ hpc hr => exact ⟨th, ht, .notStored hpc hr⟩
  next th ht _ hpc sh hr => exact ⟨th, ht, .stored sh hpc hr⟩

/-- thread `th` finished by storing its origin response -/
def StoredBy (cfg : Config) (th : Thread) : Prop :=
  th.pc = .done ∧ th.out = some (passThrough .miss th.req.resp) ∧ th.ran = true ∧ Admitted cfg th.req ∧
  cacheable th.req.resp.status = true ∧ th.req.skip = false ∧ th.req.err = false

namespace StoredBy
variable {cfg : Config} {th : Thread} (h : StoredBy cfg th)
include h
theorem done : th.pc = .done := h.1
theorem out : th.out = some (passThrough .miss th.req.resp) := h.2.1
theorem ran : th.ran = true := h.2.2.1
theorem admitted : Admitted cfg th.req := h.2.2.2.1
theorem statusOK : cacheable th.req.resp.status = true := h.2.2.2.2.1
theorem notSkipped : th.req.skip = false := h.2.2.2.2.2.1
theorem noErr : th.req.err = false := h.2.2.2.2.2.2
end StoredBy

def DoneOK (cfg : Config) (threads : List Thread) (th : Thread) (o : Out) : Prop :=
  (o.xcache = .hit ∧ th.ran = false ∧ Admitted cfg th.req ∧ th.req.inv = false ∧
     hasDirective th.req.cc Facts.noCache = false ∧
     (cfg.ext = true → (faultAt th.req.f1 0).noEntry = false ∧ (faultAt th.req.f1 1).fails = false) ∧
     ∃ (u : Nat) (thu : Thread) (idx : Nat) (body : Bytes), threads[u]? = some thu ∧ StoredBy cfg thu ∧
        mkKey thu.req = mkKey th.req ∧
        o = replay cfg { mkItem cfg thu.req thu.ts idx with body := body } th.ts ∧ th.ts < thu.ts + expSecs cfg thu.req ∧
        (th.taint = false → body = thu.req.resp.body))
  ∨ (o = passThrough .miss th.req.resp ∧ th.ran = true ∧ Admitted cfg th.req ∧ cacheable th.req.resp.status = true ∧
       th.req.skip = false ∧ th.req.err = false)
  ∨ (o = passThrough .unreachable th.req.resp ∧ th.ran = true ∧ cfg.disabled = false ∧
       hasDirective th.req.cc Facts.noStore = false)
  ∨ (o = passThrough .absent th.req.resp ∧ th.ran = true ∧
       (cfg.disabled = true ∨ hasDirective th.req.cc Facts.noStore = true ∨ (th.req.err = true ∧ Admitted cfg th.req)))

/-- what a thread at each program point has established -/
def ThOK (cfg : Config) (threads : List Thread) (th : Thread) : Prop :=
  match th.pc with
  | .start => th.out = none ∧ th.ran = false
  | .bypass x => th.out = none ∧ th.ran = false ∧
      ((x = .absent ∧ (cfg.disabled = true ∨ hasDirective th.req.cc Facts.noStore = true)) ∨
       (x = .unreachable ∧ cfg.disabled = false ∧ hasDirective th.req.cc Facts.noStore = false))
  | .wantLock1 | .sec1 | .next => th.out = none ∧ th.ran = false ∧ Admitted cfg th.req
  | .afterNext => th.out = none ∧ th.ran = true ∧ Admitted cfg th.req ∧ th.req.err = false
  | .wantLock2 | .sec2 => th.out = none ∧ th.ran = true ∧ Admitted cfg th.req ∧ cacheable th.req.resp.status = true ∧
      th.req.err = false
  | .done => ∃ o, th.out = some o ∧ DoneOK cfg threads th o
  | .panicked => False

/-- `mux` is held exactly by the thread inside a critical section -/
def MuxOK (g : G) : Prop :=
  (∀ (t : Nat) (th : Thread), g.threads[t]? = some th → (th.pc = .sec1 ∨ th.pc = .sec2) → g.mux = some t) ∧
  (∀ t, g.mux = some t → ∃ th, g.threads[t]? = some th ∧ (th.pc = .sec1 ∨ th.pc = .sec2))

/-- every stored item was produced by a finished request for that key -/
def SlotOrigin (cfg : Config) (g : G) : Prop :=
  ∀ k sl, g.sh.store.lookup k = some sl →
    ∃ (u : Nat) (thu : Thread) (idx : Nat), g.threads[u]? = some thu ∧ StoredBy cfg thu ∧ mkKey thu.req = k ∧
      sl.item = mkItem cfg thu.req thu.ts idx

/-- `SlotOrigin` over any thread list and store -/
def SlotsFrom (cfg : Config) (threads : List Thread) (store : Store) : Prop :=
  ∀ k sl, store.lookup k = some sl →
    ∃ (u : Nat) (thu : Thread) (idx : Nat), threads[u]? = some thu ∧ StoredBy cfg thu ∧ mkKey thu.req = k ∧
      sl.item = mkItem cfg thu.req thu.ts idx

structure Inv (cfg : Config) (g : G) : Prop where
  clock : 1 ≤ g.ts
  sh : ShInv cfg g.sh
  mux : MuxOK g
  th : ∀ (t : Nat) (th : Thread), g.threads[t]? = some th → ThOK cfg g.threads th
  origin : SlotOrigin cfg g

theorem done_of_out {cfg : Config} {g : G} (hi : Inv cfg g) {t : Nat} {th : Thread} {o : Out}
    (ht : g.threads[t]? = some th) (ho : th.out = some o) : th.pc = .done ∧ DoneOK cfg g.threads th o := by
  have hok := hi.th t th ht
  unfold ThOK at hok
  have hsome : th.out ≠ none := by rw [ho]; simp
  cases hpc : th.pc <;> simp only [hpc] at hok
  case done =>
    rcases hok with ⟨o', ho', hd⟩
    rw [ho] at ho'; cases ho'
    exact ⟨rfl, hd⟩
  all_goals exact absurd hok.1 hsome

def KeepsDone (threads threads' : List Thread) : Prop :=
  ∀ (u : Nat) (thu : Thread), threads[u]? = some thu → thu.pc = .done → threads'[u]? = some thu

theorem DoneOK_mono {cfg : Config} {threads threads' : List Thread} (hk : KeepsDone threads threads')
    {th : Thread} {o : Out} (h : DoneOK cfg threads th o) : DoneOK cfg threads' th o := by
  rcases h with ⟨a, b, c, d, e, f, u, thu, idx, body, h1, h2, h3⟩ | h | h | h
  · exact Or.inl ⟨a, b, c, d, e, f, u, thu, idx, body, hk u thu h1 h2.done, h2, h3⟩
  · exact Or.inr (Or.inl h)
  · exact Or.inr (Or.inr (Or.inl h))
  · exact Or.inr (Or.inr (Or.inr h))

theorem ThOK_mono {cfg : Config} {threads threads' : List Thread} (hk : KeepsDone threads threads')
    {th : Thread} (h : ThOK cfg threads th) : ThOK cfg threads' th := by
  unfold ThOK at h ⊢
  cases hpc : th.pc <;> simp only [hpc] at h ⊢ <;> try exact h
  rcases h with ⟨o, ho, hd⟩
  exact ⟨o, ho, DoneOK_mono hk hd⟩

theorem keepsDone_set {threads : List Thread} {t : Nat} {th th' : Thread} (ht : threads[t]? = some th)
    (hpc : th.pc ≠ .done) : KeepsDone threads (threads.set t th') := by
  intro u thu hu hd
  by_cases hut : t = u
  · subst hut; rw [ht] at hu; cases hu; exact absurd hd hpc
  · rw [List.getElem?_set]; simp [hut, hu]

/-- `g0`: `g` with `mux` and `sh` as the step leaves them – the record in front of `.setThread` in the cases of `Step`
    (so `hthr` is `rfl` wherever `g0` is written out: in `inv_set`, and at the calls of `quiet_setThread` and of `upd` in
    `step_absent`, which hand their own `hthr` on to this lemma; `remaining_setThread` has the same pair `g0`, `hthr`) -/
theorem forall_setThread {P : Nat → Thread → Prop} {g g0 : G} {t : Nat} {th th' : Thread} (ht : g.threads[t]? = some th)
    (hthr : g0.threads = g.threads) (h : ∀ u thu, g.threads[u]? = some thu → P u thu) (h' : P t th') :
    ∀ u thu, (g0.setThread t th').threads[u]? = some thu → P u thu := by
  intro u thu hu
  simp only [G.setThread, hthr] at hu
  by_cases hut : t = u
  · subst hut; rw [List.getElem?_set_self_of_some ht] at hu; cases hu; exact h'
  · rw [List.getElem?_set_ne hut] at hu; exact h u thu hu

theorem SlotsFrom.mono {cfg : Config} {threads threads' : List Thread} {st st' : Store} (h : SlotsFrom cfg threads st)
    (hk : KeepsDone threads threads') (hsub : StoreSub st' st) : SlotsFrom cfg threads' st' := by
  intro k sl hl
  rcases h k sl (hsub k sl hl) with ⟨u, thu, idx, h1, h2, h3⟩
  exact ⟨u, thu, idx, hk u thu h1 h2.done, h2, h3⟩

theorem SlotsFrom.set {cfg : Config} {threads : List Thread} {st : Store} (h : SlotsFrom cfg threads st)
    {u : Nat} {thu : Thread} (hu : threads[u]? = some thu) (hst : StoredBy cfg thu) (idx sexp : Nat) :
    SlotsFrom cfg threads (st.set (mkKey thu.req) ⟨mkItem cfg thu.req thu.ts idx, sexp⟩) := by
  intro k sl hl
  rw [lookup_set] at hl
  by_cases hk : k = mkKey thu.req
  · rw [if_pos hk] at hl; cases hl; exact ⟨u, thu, idx, hu, hst, hk.symm, rfl⟩
  · rw [if_neg hk] at hl; exact h k sl hl

theorem origin_sub {cfg : Config} {g : G} (hi : Inv cfg g) {t : Nat} {th th' : Thread} {st : Store}
    (ht : g.threads[t]? = some th) (hnd : th.pc ≠ .done) (hsub : StoreSub st g.sh.store) :
    SlotsFrom cfg (g.threads.set t th') st :=
  SlotsFrom.mono (show SlotsFrom cfg g.threads g.sh.store from hi.origin) (keepsDone_set ht hnd) hsub

/-- Thread `t` becomes `th'`, the mutex `m'`, the shared state `sh'`: the invariant is kept when `th'` is inside a
    section exactly if it holds the mutex afterwards, and the mutex has not changed hands among the other threads. -/
theorem inv_set {cfg : Config} {g : G} (hi : Inv cfg g) {t : Nat} {th th' : Thread} {m' : Option Nat} {sh' : Shared}
    (ht : g.threads[t]? = some th) (hnd : th.pc ≠ .done) (hsh : ShInv cfg sh')
    (ha : (th'.pc = .sec1 ∨ th'.pc = .sec2) ↔ m' = some t)
    (hb : ∀ u, u ≠ t → (m' = some u ↔ g.mux = some u))
    (hok : ThOK cfg (g.threads.set t th') th') (horigin : SlotsFrom cfg (g.threads.set t th') sh'.store) :
    Inv cfg ({ g with mux := m', sh := sh' }.setThread t th') := by
  have hk := keepsDone_set (th' := th') ht hnd
  refine ⟨hi.clock, hsh, ⟨?_, ?_⟩, ?_, horigin⟩
  · intro u thu hu hs
    simp only [G.setThread] at hu ⊢
    by_cases hut : t = u
    · subst hut; rw [List.getElem?_set_self_of_some ht] at hu; cases hu; exact ha.mp hs
    · rw [List.getElem?_set_ne hut] at hu
      exact (hb u (Ne.symm hut)).mpr (hi.mux.1 u thu hu hs)
  · intro u hu
    simp only [G.setThread] at hu ⊢
    by_cases hut : t = u
    · subst hut; exact ⟨th', List.getElem?_set_self_of_some ht, ha.mpr hu⟩
    · rcases hi.mux.2 u ((hb u (Ne.symm hut)).mp hu) with ⟨thu, h1, h2⟩
      exact ⟨thu, by rw [List.getElem?_set_ne hut]; exact h1, h2⟩
  · exact forall_setThread (P := fun _ thu => ThOK cfg (g.threads.set t th') thu) ht rfl
      (fun u thu hu => ThOK_mono hk (hi.th u thu hu)) hok

theorem inv_local {cfg : Config} {g : G} (hi : Inv cfg g) {t : Nat} {th th' : Thread}
    (ht : g.threads[t]? = some th)
    (hpcs : th.pc ≠ .done ∧ ¬ (th.pc = .sec1 ∨ th.pc = .sec2) ∧ ¬ (th'.pc = .sec1 ∨ th'.pc = .sec2))
    (hok : ThOK cfg (g.threads.set t th') th') :
    Inv cfg (g.setThread t th') := by
  obtain ⟨hnd, hpc, hpc'⟩ := hpcs
  refine inv_set (m' := g.mux) (sh' := g.sh) hi ht hnd hi.sh ⟨fun h => absurd h hpc', fun h => ?_⟩ (fun _ _ => Iff.rfl) hok
    (origin_sub hi ht hnd (StoreSub.refl _))
  rcases hi.mux.2 t h with ⟨th0, h1, h2⟩
  rw [ht] at h1; cases h1; exact absurd h2 hpc

theorem inv_lock {cfg : Config} {g : G} (hi : Inv cfg g) {t : Nat} {th th' : Thread}
    (ht : g.threads[t]? = some th) (hnd : th.pc ≠ .done) (hfree : g.mux = none)
    (hpc' : th'.pc = .sec1 ∨ th'.pc = .sec2)
    (hok : ThOK cfg (g.threads.set t th') th') :
    Inv cfg ({ g with mux := some t }.setThread t th') :=
  inv_set (sh' := g.sh) hi ht hnd hi.sh ⟨fun _ => rfl, fun _ => hpc'⟩
    (fun u hu => ⟨fun h => absurd (Option.some.inj h).symm hu, fun h => by rw [hfree] at h; cases h⟩) hok
    (origin_sub hi ht hnd (StoreSub.refl _))

theorem inv_unlock {cfg : Config} {g : G} (hi : Inv cfg g) {t : Nat} {th th' : Thread} {sh' : Shared}
    (ht : g.threads[t]? = some th) (hin : th.pc = .sec1 ∨ th.pc = .sec2)
    (hpc' : ¬ (th'.pc = .sec1 ∨ th'.pc = .sec2))
    (hsh : ShInv cfg sh')
    (hok : ThOK cfg (g.threads.set t th') th') (horigin : SlotsFrom cfg (g.threads.set t th') sh'.store) :
    Inv cfg ({ g with mux := none, sh := sh' }.setThread t th') := by
  have hmt : g.mux = some t := hi.mux.1 t th ht hin
  refine inv_set hi ht (by rcases hin with h | h <;> rw [h] <;> simp) hsh ⟨fun h => absurd h hpc', fun h => (nomatch h)⟩
    (fun u hu => ⟨fun h => (nomatch h), fun h => ?_⟩) hok horigin
  rw [hmt] at h; exact absurd (Option.some.inj h).symm hu

theorem step_inv {cfg : Config} (hmb : cfg.maxBytes < 2 ^ 63) {g g' : G} (hi : Inv cfg g) {t : Nat}
    (hs : step cfg g t = some g') : Inv cfg g' := by
  rcases step_cases hs with ⟨th, ht, hst⟩
  have hth := hi.th t th ht
  unfold ThOK at hth
  -- in each case `rw [hpc] at hth` selects what `ThOK` says at the program point the thread stands at
  cases hst with
  | notCached hpc h1 =>
    rw [hpc] at hth
    exact inv_local hi ht (by simp [hpc]) (by simp [ThOK, hth.1, hth.2, h1])
  | noMethod hpc h1 h2 _ =>
    rw [hpc] at hth
    exact inv_local hi ht (by simp [hpc]) (by simp [ThOK, hth.1, hth.2, h1, h2])
  | enters hpc ha =>
    rw [hpc] at hth
    exact inv_local hi ht (by simp [hpc]) (by simp only [ThOK]; exact ⟨hth.1, hth.2, ha⟩)
  | bypass x hpc =>
    rw [hpc] at hth
    obtain ⟨_, _, hx⟩ := hth
    apply inv_local hi ht (by simp [hpc])
    simp only [ThOK]
    refine ⟨_, rfl, ?_⟩
    rcases hx with ⟨hx, hd⟩ | ⟨hx, hd1, hd2⟩
    · subst hx
      exact Or.inr (Or.inr (Or.inr ⟨rfl, rfl, by rcases hd with h | h; exact Or.inl h; exact Or.inr (Or.inl h)⟩))
    · subst hx; exact Or.inr (Or.inr (Or.inl ⟨rfl, rfl, hd1, hd2⟩))
  | lock1 hpc hm =>
    rw [hpc] at hth
    obtain ⟨hout, hran, hadm⟩ := hth
    exact inv_lock hi ht (by simp [hpc]) hm (Or.inl rfl) (by simp [ThOK, hout, hran, hadm])
  | panic1 hpc hr => exact absurd hr (sec1_ok hmb hi.sh).1
  | hit o hpc ho =>
    rw [hpc] at hth
    obtain ⟨_, hran, hadm⟩ := hth
    have hnd : th.pc ≠ .done := by simp [hpc]
    rcases sec1_hit hi.clock ho with ⟨sl, hl, hx, hrep, hinv, hfresh, hnc, hflt⟩
    rcases hi.origin _ sl hl with ⟨u, thu, idx, hu1, hu2, hu3, hu4⟩
    apply inv_unlock hi ht (Or.inl hpc) (by simp) hi.sh
    · simp only [ThOK]
      refine ⟨o, rfl, Or.inl ⟨?_, hran, hadm, hinv, hnc, hflt, u, thu, idx,
        hitBody cfg g.sh g.uts (mkKey th.req) sl.item, keepsDone_set ht hnd u thu hu1 hu2.done, hu2, hu3, ?_, ?_, ?_⟩⟩
      · rw [hrep]; rfl
      · rw [hrep, hu4]
      · rw [hu4] at hfresh; exact hfresh
      · intro htaint
        -- not tainted: the key was not dirty, so entry and body are in step
        have hnd' : mkKey th.req ∉ g.sh.dirty := by
          intro hm
          have : g.sh.dirty.contains (mkKey th.req) = true := List.contains_iff_mem.mpr hm
          simp only at htaint
          rw [this] at htaint; cases htaint
        have hsync := (hi.sh.clean _ hnd' (fun h => h)).sync
        rw [hitBody_sync hsync hl hx, hu4]; rfl
    · exact origin_sub hi ht hnd (StoreSub.refl _)
  | pass sh' hpc hp =>
    rw [hpc] at hth
    obtain ⟨hout, hran, hadm⟩ := hth
    obtain ⟨hsh', hsub⟩ := (sec1_ok hmb hi.sh).2 sh' hp
    apply inv_unlock hi ht (Or.inl hpc) (by simp) hsh'
    · simp [ThOK, hout, hran, hadm]
    · exact origin_sub hi ht (by simp [hpc]) hsub
  | handlerFails hpc he =>
    rw [hpc] at hth
    obtain ⟨_, _, hadm⟩ := hth
    apply inv_local hi ht (by simp [hpc])
    simp only [ThOK]
    exact ⟨_, rfl, Or.inr (Or.inr (Or.inr ⟨rfl, rfl, Or.inr (Or.inr ⟨he, hadm⟩)⟩))⟩
  | handlerReturns hpc he =>
    rw [hpc] at hth
    obtain ⟨hout, _, hadm⟩ := hth
    exact inv_local hi ht (by simp [hpc]) (by simp [ThOK, hout, hadm, he])
  | notCacheable hpc hc =>
    rw [hpc] at hth
    obtain ⟨_, hran, hadm, _⟩ := hth
    apply inv_local hi ht (by simp [hpc])
    simp only [ThOK]
    exact ⟨_, rfl, Or.inr (Or.inr (Or.inl ⟨rfl, hran, hadm.enabled, hadm.notNoStore⟩))⟩
  | statusCacheable hpc hc =>
    rw [hpc] at hth
    obtain ⟨hout, hran, hadm, herr⟩ := hth
    exact inv_local hi ht (by simp [hpc]) (by simp [ThOK, hout, hran, hadm, herr, hc])
  | lock2 hpc hm =>
    rw [hpc] at hth
    obtain ⟨hout, hran, hadm, hc, herr⟩ := hth
    exact inv_lock hi ht (by simp [hpc]) hm (Or.inr rfl) (by simp [ThOK, hout, hran, hadm, hc, herr])
  | panic2 hpc hr =>
    have hres := sec2_ok hmb hi.sh th.ts g.uts th.req (mkKey th.req)
    rw [hr] at hres; cases hres
  | notStored hpc hr =>
    rw [hpc] at hth
    obtain ⟨_, hran, hadm, _⟩ := hth
    apply inv_unlock hi ht (Or.inr hpc) (by simp) hi.sh
    · simp only [ThOK]
      exact ⟨_, rfl, Or.inr (Or.inr (Or.inl ⟨rfl, hran, hadm.enabled, hadm.notNoStore⟩))⟩
    · exact origin_sub hi ht (by simp [hpc]) (StoreSub.refl _)
  | stored sh' hpc hr =>
    rw [hpc] at hth
    obtain ⟨_, hran, hadm, hc, herr⟩ := hth
    have hnd : th.pc ≠ .done := by simp [hpc]
    have hres := sec2_ok hmb hi.sh th.ts g.uts th.req (mkKey th.req)
    rw [hr] at hres
    cases hres with
    | stored _ idx mid hsh' hst hsub hskip =>
      have hstored : StoredBy cfg { th with pc := .done, out := some (passThrough .miss th.req.resp) } :=
        ⟨rfl, rfl, hran, hadm, hc, hskip, herr⟩
      apply inv_unlock hi ht (Or.inr hpc) (by simp) hsh'
      · simp only [ThOK]
        exact ⟨_, rfl, Or.inr (Or.inl ⟨rfl, hran, hadm, hc, hskip, herr⟩)⟩
      · -- what was there keeps its source; the new item, if the `Set` went through, has this thread as its source
        have hold := origin_sub (th' := { th with pc := .done, out := some (passThrough .miss th.req.resp) }) hi ht hnd hsub
        rcases hst with hst | hst <;> rw [hst]
        · exact hold.set (List.getElem?_set_self_of_some ht) hstored idx _
        · exact hold

theorem run_keeps {cfg : Config} {P : G → Prop} (hstep : ∀ {g g' : G} {t : Nat}, P g → step cfg g t = some g' → P g')
    (hts : ∀ {g : G} (d : Nat), P g → P { g with ts := g.ts + d })
    (huts : ∀ {g : G} (d : Nat), P g → P { g with uts := g.uts + d }) :
    ∀ (evs : List Ev) {g : G}, P g → P (run cfg g evs) := fun evs g h =>
  List.foldlRecOn evs (exec cfg) h fun g h e _ => by
    cases e with
    | step t =>
      simp only [exec]
      cases hs : step cfg g t with
      | none => exact h
      | some g' => exact hstep h hs
    | tickTs d => exact hts d h
    | tickUts d => exact huts d h

/-- a tick of the storage's clock touches nothing `Inv` reads: `{ hi with }` rebuilds the structure for the new state from
    the same fields -/
theorem run_inv {cfg : Config} (hmb : cfg.maxBytes < 2 ^ 63) (evs : List Ev) {g : G} (hi : Inv cfg g) :
    Inv cfg (run cfg g evs) :=
  run_keeps (fun hi hs => step_inv hmb hi hs)
    (fun d hi => { hi with clock := Nat.le_trans hi.clock (Nat.le_add_right _ d) }) (fun _ hi => { hi with }) evs hi

theorem init_thread {ts uts : Nat} {reqs : List Req} {t : Nat} {th : Thread}
    (ht : (G.init ts uts reqs).threads[t]? = some th) : ∃ q ∈ reqs, th = { req := q } := by
  simp only [G.init, List.getElem?_map] at ht
  cases hq : reqs[t]? with
  | none => simp [hq] at ht
  | some q => simp [hq] at ht; exact ⟨q, List.mem_of_getElem? hq, ht.symm⟩

theorem init_inv (cfg : Config) (ts uts : Nat) (reqs : List Req) (hts : 1 ≤ ts) : Inv cfg (G.init ts uts reqs) := by
  refine ⟨hts, ShInv_empty cfg, ⟨?_, ?_⟩, ?_, ?_⟩
  · intro t th ht hs
    rcases init_thread ht with ⟨q, _, rfl⟩
    simp at hs
  · intro t ht; simp [G.init] at ht
  · intro t th ht
    rcases init_thread ht with ⟨q, _, rfl⟩
    simp [ThOK]
  · intro k sl hl; simp [G.init, Shared.empty, Store.lookup] at hl

end C14

