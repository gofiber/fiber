import FiberModel.C14.Inv
/-
C14 — trace lemmas: once the storage holds nothing for a key, no request is answered from the cache
for that key until some request stores a response under it again (`step_absent`, `run_absent`); the progress
measure (`Pc.rem`, `G.remaining`, `step_remaining`); at the end three small facts the theorems and examples of
Props.lean lean on.
-/
namespace C14
open B

/-- the event is the second critical section of a request with cache key `k` that ends by storing its
    response (`manager.set`) -/
def storesKey (cfg : Config) (g : G) (k : Key) : Ev → Bool
  | .step t =>
    match g.threads[t]? with
    | some th =>
      th.pc == .sec2 && mkKey th.req == k &&
        (match sec2 cfg g.sh th.ts g.uts th.req (mkKey th.req) with
         | .stored _ => true
         | _ => false)
    | none => false
  | _ => false

/-- no event of the run stores a response under key `k` -/
def noStoreOf (cfg : Config) (k : Key) : G → List Ev → Bool
  | _, [] => true
  | g, e :: es => !storesKey cfg g k e && noStoreOf cfg k (exec cfg g e) es

/-- thread `t` has not been answered from the cache -/
def NotHit (g : G) (t : Nat) : Prop :=
  ∀ th o, g.threads[t]? = some th → th.out = some o → o.xcache ≠ .hit

theorem lookup_none_of_sub {a b : Store} (h : StoreSub a b) {k : Key} (hk : b.lookup k = none) : a.lookup k = none := by
  cases ha : a.lookup k with
  | none => rfl
  | some sl => rw [h k sl ha] at hk; cases hk

theorem notHit_of_unfinished {cfg : Config} {g : G} (hi : Inv cfg g) {t : Nat} {th : Thread}
    (ht : g.threads[t]? = some th) (hpc : th.pc ≠ .done) : NotHit g t := by
  intro x o hx ho
  rw [ht] at hx; cases hx
  exact absurd (done_of_out hi ht ho).1 hpc

theorem step_absent {cfg : Config} (hmb : cfg.maxBytes < 2 ^ 63) {g g' : G} (hi : Inv cfg g) {u : Nat}
    (hs : step cfg g u = some g') (k : Key) (hk : g.sh.store.lookup k = none)
    (hns : storesKey cfg g k (.step u) = false)
    (t : Nat) (hkey : ∀ th, g.threads[t]? = some th → mkKey th.req = k) (hq : NotHit g t) :
    g'.sh.store.lookup k = none ∧ NotHit g' t ∧ (∀ th, g'.threads[t]? = some th → mkKey th.req = k) := by
  rcases step_cases hs with ⟨th, hu, hst⟩
  -- every step has this form: thread `u` becomes `th'` (same request) in a state where the key is still absent;
  -- if `u` is `t`, its output must not be a hit
  have upd : ∀ (g0 : G) (th' : Thread), g0.sh.store.lookup k = none → g0.threads = g.threads → th'.req = th.req →
      (u = t → ∀ o, th'.out = some o → o.xcache ≠ .hit) →
      (g0.setThread u th').sh.store.lookup k = none ∧ NotHit (g0.setThread u th') t ∧
        (∀ x, (g0.setThread u th').threads[t]? = some x → mkKey x.req = k) := by
    intro g0 th' hsh hthr hreq hout
    refine ⟨hsh, fun y o hy ho => ?_, fun y hy => ?_⟩
    · exact forall_setThread (P := fun x y => x = t → ∀ o, y.out = some o → o.xcache ≠ .hit) hu hthr
        (fun x y hx hxt o ho => by subst hxt; exact hq y o hx ho) hout t y hy rfl o ho
    · exact forall_setThread (P := fun x y => x = t → mkKey y.req = k) hu hthr
        (fun x y hx hxt => by subst hxt; exact hkey y hx) (fun hut => by subst hut; rw [hreq]; exact hkey th hu) t y hy rfl
  -- an unfinished thread has no output yet; an origin response passed through is not a hit
  have hnone : th.pc ≠ .done → u = t → ∀ o, th.out = some o → o.xcache ≠ .hit :=
    fun hpc _ o ho => notHit_of_unfinished hi hu hpc th o hu ho
  have hpt : ∀ (x : XCache) (o : Out), x ≠ .hit → some (passThrough x th.req.resp) = some o → o.xcache ≠ .hit :=
    fun x o hx ho => by cases ho; exact hx
  cases hst with
  | bypass x hpc =>
    have hth := hi.th u th hu
    simp only [ThOK, hpc] at hth
    have hx : x ≠ .hit := by rcases hth.2.2 with ⟨hx, _⟩ | ⟨hx, _⟩ <;> simp [hx]
    exact upd g _ hk rfl rfl fun _ o => hpt x o hx
  | hit o hpc ho =>
    refine upd { g with mux := none } _ hk rfl rfl fun hut => ?_
    -- thread `t` itself cannot hit: its key is absent
    subst hut
    rcases sec1_hit hi.clock ho with ⟨sl, hl, _⟩
    rw [hkey th hu, hk] at hl; cases hl
  | pass sh' hpc hp =>
    exact upd { g with mux := none, sh := sh' } _ (lookup_none_of_sub ((sec1_ok hmb hi.sh).2 sh' hp).2 hk) rfl rfl
      (hnone (by simp [hpc]))
  | handlerFails _ _ => exact upd g _ hk rfl rfl fun _ o => hpt .absent o (by simp)
  | notCacheable _ _ => exact upd g _ hk rfl rfl fun _ o => hpt .unreachable o (by simp)
  | notStored _ _ => exact upd { g with mux := none } _ hk rfl rfl fun _ o => hpt .unreachable o (by simp)
  | stored sh' hpc hr =>
    -- the step stores under another key
    have hne : mkKey th.req ≠ k := by
      intro he
      simp only [storesKey, hu, hpc, hr] at hns
      simp [he] at hns
    have hres := sec2_ok hmb hi.sh th.ts g.uts th.req (mkKey th.req)
    rw [hr] at hres
    cases hres with
    | stored _ idx mid hsh' hst hsub hskip =>
      have hk' : sh'.store.lookup k = none := by
        rcases hst with hst | hst
        · rw [hst, lookup_set, if_neg (fun e => hne e.symm)]
          exact lookup_none_of_sub hsub hk
        · rw [hst]; exact lookup_none_of_sub hsub hk
      exact upd { g with mux := none, sh := sh' } _ hk' rfl rfl fun _ o => hpt .miss o (by simp)
  -- every other step leaves shared state and output as they are, and starts from a thread that is not finished
  | _ => exact upd _ _ hk rfl rfl (hnone (by simp [*]))

theorem run_absent {cfg : Config} (hmb : cfg.maxBytes < 2 ^ 63) (evs : List Ev) {g : G} (hi : Inv cfg g) (k : Key)
    (hk : g.sh.store.lookup k = none) (hns : noStoreOf cfg k g evs = true)
    (t : Nat) (hkey : ∀ th, g.threads[t]? = some th → mkKey th.req = k) (hq : NotHit g t) :
    (run cfg g evs).sh.store.lookup k = none ∧ NotHit (run cfg g evs) t := by
  unfold run
  induction evs generalizing g with
  | nil => exact ⟨hk, hq⟩
  | cons e es ih =>
    simp only [noStoreOf, Bool.and_eq_true, Bool.not_eq_true'] at hns
    -- only a step that is enabled changes anything
    have : (exec cfg g e).sh.store.lookup k = none ∧ NotHit (exec cfg g e) t ∧
        (∀ th, (exec cfg g e).threads[t]? = some th → mkKey th.req = k) := by
      cases e with
      | step u =>
        simp only [exec]
        cases hs : step cfg g u with
        | none => exact ⟨hk, hq, hkey⟩
        | some g' => exact step_absent hmb hi hs k hk hns.1 t hkey hq
      | tickTs d => exact ⟨hk, hq, hkey⟩
      | tickUts d => exact ⟨hk, hq, hkey⟩
    exact ih (run_inv hmb [e] hi) this.1 hns.2 this.2.2 this.2.1


/-! ### progress measure: the number of steps the requests still have to take (at most) -/

def Pc.rem : Pc → Nat
  | .start => 7 | .wantLock1 => 6 | .sec1 => 5 | .next => 4 | .afterNext => 3 | .wantLock2 => 2 | .sec2 => 1
  | .bypass _ => 1 | .done => 0 | .panicked => 0

def G.remaining (g : G) : Nat := (g.threads.map fun th => th.pc.rem).sum

theorem remaining_setThread {g g0 : G} {t : Nat} {th th' : Thread} (ht : g.threads[t]? = some th)
    (hthr : g0.threads = g.threads) (hlt : th'.pc.rem < th.pc.rem) : (g0.setThread t th').remaining < g.remaining := by
  unfold G.remaining G.setThread
  simp only [hthr]
  exact List.sum_set_lt (fun th => th.pc.rem) g.threads t th th' ht hlt

theorem step_remaining {cfg : Config} {g g' : G} {t : Nat} (hs : step cfg g t = some g') : g'.remaining < g.remaining := by
  rcases step_cases hs with ⟨th, ht, hst⟩
  -- in every case thread `t` moves on to a program point with a smaller `rem`: each constructor of `Step` names the old
  -- point in its first premise (in `*`) and the new one in the thread it writes back
  cases hst <;> exact remaining_setThread ht rfl (by simp [*, Pc.rem])

theorem effCType_idem (c : Bytes) : effCType (effCType c) = effCType c := by
  unfold effCType
  by_cases h : c.isEmpty = true
  · simp only [h, if_true, ite_self]
  · simp [h]

theorem getElem?_getD_default {α} [Inhabited α] {l : List α} {t : Nat} (h : t < l.length) :
    l[t]? = some (l[t]?.getD default) := by
  simp [List.getElem?_eq_getElem h]

theorem some_getD_default {α} [Inhabited α] {x : Option α} (h : x.isSome = true) : x = some (x.getD default) := by
  cases x with
  | none => cases h
  | some a => rfl

end C14

