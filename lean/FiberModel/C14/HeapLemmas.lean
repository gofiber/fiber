import FiberModel.C14.Spec
import FiberModel.AssocLemmas
import FiberModel.ListLemmas
/-
C14 — lemmas about the heap model: every operation keeps `HInv`, cannot panic on a consistent heap
(`removeFirst` on an empty one apart), and has the expected effect on the live entries and on the key map.
The effect is stated up to the order of the entries (`Same`: a permutation; `Plus`: one entry more); byte
sum, length and the index view (`Heap.find`) are functions of that.
-/
namespace C14
open B

theorem sumBytes_nil : sumBytes [] = 0 := rfl
theorem sumBytes_cons (e : HEntry) (l : List HEntry) : sumBytes (e :: l) = e.bytes + sumBytes l := by
  simp [sumBytes]
theorem sumBytes_append (l m : List HEntry) : sumBytes (l ++ m) = sumBytes l + sumBytes m := by
  simp [sumBytes]

theorem sumBytes_perm {l m : List HEntry} (h : l.Perm m) : sumBytes l = sumBytes m :=
  (h.map HEntry.bytes).sum_nat

theorem sumBytes_filter (p : HEntry → Bool) (l : List HEntry) :
    sumBytes l = sumBytes (l.filter p) + sumBytes (l.filter fun e => !p e) := by
  rw [← sumBytes_append]; exact (sumBytes_perm (List.filter_append_perm p l)).symm

/-! heap.go's key map (`klookup/kerase/kset`), `Store.lookup/erase/set` and `BStore.lookup/erase/set` are the
association list of `Assoc` at three value types, the filter of `erase` written with `!=`. -/

theorem klookup_eq : klookup = Assoc.lookup := Assoc.lookup_unique (fun _ => rfl) (fun _ _ _ _ => rfl)
theorem Store.lookup_eq : Store.lookup = Assoc.lookup := Assoc.lookup_unique (fun _ => rfl) (fun _ _ _ _ => rfl)
theorem BStore.lookup_eq : BStore.lookup = Assoc.lookup := Assoc.lookup_unique (fun _ => rfl) (fun _ _ _ _ => rfl)

theorem nodup_erase_fst {α} {m : List (Key × α)} (h : (m.map (·.1)).Nodup) (k : Key) :
    ((m.filter (·.1 != k)).map (·.1)).Nodup :=
  Assoc.filter_bne m k ▸ Assoc.nodup_erase h k

theorem nodup_set_fst {α} {m : List (Key × α)} (h : (m.map (·.1)).Nodup) (k : Key) (v : α) :
    (((k, v) :: m.filter (·.1 != k)).map (·.1)).Nodup :=
  Assoc.filter_bne m k ▸ Assoc.nodup_put h k v

theorem klookup_erase (m : List (Key × Nat)) (k k' : Key) :
    klookup (kerase m k) k' = if k' = k then none else klookup m k' := by
  rw [klookup_eq, kerase, Assoc.filter_bne]; exact Assoc.lookup_erase m k k'

theorem klookup_set (m : List (Key × Nat)) (k k' : Key) (v : Nat) :
    klookup (kset m k v) k' = if k' = k then some v else klookup m k' := by
  rw [klookup_eq, kset, kerase, Assoc.filter_bne]; exact Assoc.lookup_put m k k' v

theorem lookup_erase (s : Store) (k k' : Key) :
    (Store.erase s k).lookup k' = if k' = k then none else s.lookup k' := by
  rw [Store.lookup_eq, Store.erase, Assoc.filter_bne]; exact Assoc.lookup_erase s k k'

theorem lookup_set (s : Store) (k k' : Key) (sl : Slot) :
    (Store.set s k sl).lookup k' = if k' = k then some sl else s.lookup k' := by
  rw [Store.lookup_eq, Store.set, Store.erase, Assoc.filter_bne]; exact Assoc.lookup_put s k k' sl

theorem blookup_erase (s : BStore) (k k' : Key) :
    (BStore.erase s k).lookup k' = if k' = k then none else s.lookup k' := by
  rw [BStore.lookup_eq, BStore.erase, Assoc.filter_bne]; exact Assoc.lookup_erase s k k'

theorem blookup_set (s : BStore) (k k' : Key) (sl : BSlot) :
    (BStore.set s k sl).lookup k' = if k' = k then some sl else s.lookup k' := by
  rw [BStore.lookup_eq, BStore.set, BStore.erase, Assoc.filter_bne]; exact Assoc.lookup_put s k k' sl

theorem lookup_of_mem {s : Store} (hn : (s.map (·.1)).Nodup) {k : Key} {sl : Slot} (hm : (k, sl) ∈ s) :
    s.lookup k = some sl :=
  Store.lookup_eq ▸ Assoc.lookup_of_mem hn hm

theorem mem_of_lookup {s : Store} {k : Key} {sl : Slot} (h : s.lookup k = some sl) : (k, sl) ∈ s :=
  Assoc.mem_of_lookup (Store.lookup_eq ▸ h)

theorem mem_keys_of_lookup {s : Store} {k : Key} {sl : Slot} (h : s.lookup k = some sl) : k ∈ s.map (·.1) :=
  List.mem_map.mpr ⟨(k, sl), mem_of_lookup h, rfl⟩

theorem blookup_of_mem {s : BStore} (hn : (s.map (·.1)).Nodup) {k : Key} {sl : BSlot} (hm : (k, sl) ∈ s) :
    s.lookup k = some sl :=
  BStore.lookup_eq ▸ Assoc.lookup_of_mem hn hm

theorem mem_of_blookup {s : BStore} {k : Key} {sl : BSlot} (h : s.lookup k = some sl) : (k, sl) ∈ s :=
  Assoc.mem_of_lookup (BStore.lookup_eq ▸ h)

theorem find_eq_some {h : Heap} {x : Nat} {e : HEntry} :
    h.find x = some e ↔ ∃ p, h.indices[x]? = some p ∧ h.live[p]? = some e ∧ e.idx = x := by
  unfold Heap.find
  cases h.indices[x]? with
  | none => simp
  | some p =>
    simp only [Option.some.injEq, exists_eq_left']
    cases h.live[p]? with
    | none => simp
    | some e' =>
      simp only [Option.some.injEq]
      constructor
      · intro hf
        split at hf
        · cases hf; exact ⟨rfl, ‹_›⟩
        · cases hf
      · rintro ⟨rfl, he⟩; rw [if_pos he]

theorem find_some_iff_mem {h : Heap} (hi : HInv h) (x : Nat) (e : HEntry) : h.find x = some e ↔ e.idx = x ∧ e ∈ h.live := by
  rw [find_eq_some, List.mem_iff_getElem?]
  constructor
  · rintro ⟨p, _, hp, hx⟩; exact ⟨hx, p, hp⟩
  · rintro ⟨hx, p, hp⟩; exact ⟨p, hx ▸ hi.live_ok p e hp, hp, hx⟩

theorem live_find {h : Heap} (hi : HInv h) {p : Nat} {e : HEntry} (hp : h.live[p]? = some e) : h.find e.idx = some e :=
  (find_some_iff_mem hi _ _).mpr ⟨rfl, List.mem_of_getElem? hp⟩

/-- `indices` sends each live entry back to its own position -/
theorem idx_nodup {h : Heap} (hi : HInv h) : (h.live.map (·.idx)).Nodup := by
  rw [List.Nodup, List.pairwise_map, List.pairwise_iff_getElem]
  intro i j hil hjl hij heq
  have h1 := hi.live_ok i _ (List.getElem?_eq_getElem hil)
  rw [heq, hi.live_ok j _ (List.getElem?_eq_getElem hjl)] at h1
  exact absurd (Option.some.inj h1) (Nat.ne_of_gt hij)

theorem HInv_keys {h : Heap} (hi : HInv h) (ks : List (Key × Nat)) : HInv { h with keys := ks } :=
  ⟨hi.ind_len, hi.total, hi.live_ok, hi.dead_lt, hi.dead_nodup, hi.disjoint⟩

/-- what a sift leaves as it is: the same entries at possibly other positions, in a heap that is consistent again -/
structure Same (h h' : Heap) : Prop where
  keys : h'.keys = h.keys
  perm : h'.live.Perm h.live
  inv : HInv h'

theorem Same.refl {h : Heap} (hi : HInv h) : Same h h := ⟨rfl, .refl _, hi⟩

theorem Same.trans {a b c : Heap} (h1 : Same a b) (h2 : Same b c) : Same a c :=
  ⟨h2.keys.trans h1.keys, h2.perm.trans h1.perm, h2.inv⟩

theorem Same.len {h h' : Heap} (hs : Same h h') : h'.live.length = h.live.length := hs.perm.length_eq

/-- `g` holds the entries of `s` and the entry `x`: what `Pop`, `heap.Remove`, `pushInternal` and the operations of heap.go
    built on them do to the live entries, read from the larger heap or from the smaller (a removal from `h` yields `Plus h' h x`,
    `put` into `h` yields `Plus h h' e`); both heaps consistent -/
structure Plus (s g : Heap) (x : HEntry) : Prop where
  small : HInv s
  big : HInv g
  perm : g.live.Perm (x :: s.live)

namespace Plus
variable {s g : Heap} {x : HEntry} (hp : Plus s g x)
include hp

theorem sum : sumBytes g.live = sumBytes s.live + x.bytes := by
  rw [sumBytes_perm hp.perm, sumBytes_cons, Nat.add_comm]

theorem len : g.live.length = s.live.length + 1 := hp.perm.length_eq

theorem mem {e : HEntry} : e ∈ g.live ↔ e = x ∨ e ∈ s.live := by rw [hp.perm.mem_iff, List.mem_cons]

theorem fresh_idx {e : HEntry} (he : e ∈ s.live) : e.idx ≠ x.idx := fun h =>
  -- the indices of `x :: s.live` are those of its permutation `g.live`: distinct
  (List.nodup_cons.mp ((hp.perm.map (·.idx)).nodup_iff.mp (idx_nodup hp.big))).1 (List.mem_map.mpr ⟨e, he, h⟩)

theorem find_big (y : Nat) : g.find y = if y = x.idx then some x else s.find y := by
  apply Option.ext
  intro e
  rw [find_some_iff_mem hp.big, hp.mem]
  by_cases hy : y = x.idx
  · rw [if_pos hy]
    constructor
    · rintro ⟨h1, rfl | h2⟩
      · rfl
      · exact absurd (h1.trans hy) (hp.fresh_idx h2)
    · rintro h; cases h; exact ⟨hy.symm, Or.inl rfl⟩
  · rw [if_neg hy, find_some_iff_mem hp.small]
    constructor
    · rintro ⟨h1, rfl | h2⟩
      · exact absurd h1.symm hy
      · exact ⟨h1, h2⟩
    · rintro ⟨h1, h2⟩; exact ⟨h1, Or.inr h2⟩

theorem was : g.find x.idx = some x := by rw [hp.find_big, if_pos rfl]

theorem fresh : s.find x.idx = none := by
  rw [Option.eq_none_iff_forall_ne_some]
  intro e he
  have ⟨h1, h2⟩ := (find_some_iff_mem hp.small _ _).mp he
  exact hp.fresh_idx h2 h1

theorem mem_other {e : HEntry} (hk : e.key ≠ x.key) : e ∈ g.live ↔ e ∈ s.live := by
  rw [hp.mem]; exact ⟨fun h => h.resolve_left fun he => hk (he ▸ rfl), Or.inr⟩

theorem kinv (hk : ∀ k, klookup g.keys k = if k = x.key then some x.idx else klookup s.keys k)
    (hn : klookup s.keys x.key = none) : KInv s ↔ KInv g := by
  -- both sides say: the key map lists the entries of `s`, apart from `x`
  have key : ∀ k idx, (∃ e, g.find idx = some e ∧ e.key = k) ↔
      (idx = x.idx ∧ k = x.key) ∨ ∃ e, s.find idx = some e ∧ e.key = k := by
    intro k idx
    rw [hp.find_big]
    by_cases hi : idx = x.idx
    · rw [if_pos hi, hi, hp.fresh]
      constructor
      · rintro ⟨e, he, hek⟩; cases he; exact Or.inl ⟨rfl, hek.symm⟩
      · rintro (⟨_, h⟩ | ⟨e, he, _⟩)
        · exact ⟨x, rfl, h.symm⟩
        · cases he
    · rw [if_neg hi]
      exact ⟨Or.inr, fun h => h.resolve_left fun h' => hi h'.1⟩
  constructor
  · intro hs k idx
    rw [key, hk, ← hs k idx]
    by_cases hkk : k = x.key
    · rw [if_pos hkk, hkk, hn]
      exact ⟨fun h => Or.inl ⟨(Option.some.inj h).symm, rfl⟩,
        fun h => h.elim (fun h => by rw [h.1]) (fun h => nomatch h)⟩
    · rw [if_neg hkk]
      exact ⟨Or.inr, fun h => h.resolve_left fun h' => hkk h'.2⟩
  · intro hg k idx
    have := hg k idx
    rw [key, hk] at this
    by_cases hkk : k = x.key
    · rw [hkk, hn]
      rw [if_pos hkk, hkk] at this
      refine ⟨fun h => (nomatch h), fun h => ?_⟩
      -- an entry of `s` with `x`'s key would make `g`'s key map point to it
      have h2 := this.mpr (Or.inr h)
      rcases h with ⟨e, he, _⟩
      rw [← Option.some.inj h2, hp.fresh] at he
      cases he
    · rw [if_neg hkk] at this
      rw [this]
      exact ⟨fun h => h.resolve_left fun h' => hkk h'.2, Or.inr⟩

end Plus

theorem Same.plus {h h1 h' : Heap} {x : HEntry} (hi : HInv h) (hs : Same h h1) (hr : Plus h' h1 x) : Plus h' h x :=
  ⟨hr.small, hi, hs.perm.symm.trans hr.perm⟩

theorem swap_ok {h : Heap} (hi : HInv h) {i j : Nat} {ei ej : HEntry}
    (hei : h.live[i]? = some ei) (hej : h.live[j]? = some ej) (hne : i ≠ j) :
    ∃ h', h.swap i j = some h' ∧ Same h h' ∧
      h'.live = (h.live.set i ej).set j ei := by
  have hii := hi.live_ok i ei hei
  have hjj := hi.live_ok j ej hej
  have hil := List.lt_of_getElem? hei
  have hjl := List.lt_of_getElem? hej
  have hib := List.lt_of_getElem? hii
  have hjb := List.lt_of_getElem? hjj
  have hidx : ei.idx ≠ ej.idx := by
    intro heq; rw [heq] at hii; rw [hii] at hjj; exact hne (Option.some.inj hjj)
  have hperm : ((h.live.set i ej).set j ei).Perm h.live := by
    have := List.set_set_perm hil hjl
    rwa [(List.getElem?_eq_some_iff.mp hei).2, (List.getElem?_eq_some_iff.mp hej).2] at this
  have hinv : HInv { h with live := (h.live.set i ej).set j ei, indices := (h.indices.set ej.idx i).set ei.idx j } := by
    refine ⟨by simp [hi.ind_len], by simp [hi.total], ?_, hi.dead_lt, hi.dead_nodup,
      fun e he => hi.disjoint e (hperm.mem_iff.mp he)⟩
    intro p e hpe
    simp only [List.getElem?_set2 _ _ _ _ _ _ hil hjl] at hpe
    simp only [List.getElem?_set2 _ _ _ _ _ _ hjb hib]
    by_cases hpj : p = j
    · subst hpj
      simp at hpe
      subst hpe
      simp
    · by_cases hpi : p = i
      · subst hpi
        simp [hpj] at hpe
        subst hpe
        simp [Ne.symm hidx]
      · simp [hpj, hpi] at hpe
        have := hi.live_ok p e hpe
        have n1 : e.idx ≠ ei.idx := by
          intro heq; rw [← heq] at hii; rw [hii] at this; exact hpi (Option.some.inj this).symm
        have n2 : e.idx ≠ ej.idx := by
          intro heq; rw [← heq] at hjj; rw [hjj] at this; exact hpj (Option.some.inj this).symm
        simp [n1, n2, this]
  exact ⟨{ h with live := (h.live.set i ej).set j ei, indices := (h.indices.set ej.idx i).set ei.idx j },
    by simp [Heap.swap, hei, hej, hjb, hib], ⟨rfl, hperm, hinv⟩, rfl⟩

theorem less_ok (h : Heap) {i j : Nat} (hi : i < h.live.length) (hj : j < h.live.length) :
    ∃ r, h.less i j = some r := by
  simp [Heap.less, List.getElem?_eq_getElem hi, List.getElem?_eq_getElem hj]

theorem up_ok : ∀ (f : Nat) {h : Heap}, HInv h → ∀ (j : Nat), j < h.live.length → j < f →
    ∃ h', h.up f j = some h' ∧ Same h h' ∧ ∀ p : Nat, j < p → h'.live[p]? = h.live[p]? := by
  intro f
  induction f with
  | zero => intro h _ j _ hf; omega
  | succ f ih =>
    intro h hi j hj hf
    unfold Heap.up
    simp only
    by_cases hij : ((j - 1) / 2 == j) = true
    · rw [if_pos hij]; exact ⟨h, rfl, Same.refl hi, fun _ _ => rfl⟩
    · rw [if_neg hij]
      -- the parent `i` lies strictly below `j`; nothing else about it is used
      have hlt : (j - 1) / 2 < j :=
        Nat.lt_of_le_of_ne (Nat.le_trans (Nat.div_le_self _ _) (Nat.sub_le _ _)) (by simpa using hij)
      clear hij
      generalize (j - 1) / 2 = i at hlt ⊢
      have hil : i < h.live.length := Nat.lt_trans hlt hj
      rcases less_ok h hj hil with ⟨r, hr⟩
      rw [hr]
      cases r with
      | false => exact ⟨h, rfl, Same.refl hi, fun _ _ => rfl⟩
      | true =>
        simp only
        rcases swap_ok hi (List.getElem?_eq_getElem hil) (List.getElem?_eq_getElem hj) (Nat.ne_of_lt hlt) with ⟨h1, hs, hsame, hlive⟩
        rw [hs]
        simp only
        rcases ih hsame.inv i (by rw [hsame.len]; exact hil) (Nat.lt_of_lt_of_le hlt (Nat.le_of_lt_succ hf)) with
          ⟨h2, hu, hsame2, hfr⟩
        refine ⟨h2, hu, hsame.trans hsame2, ?_⟩
        intro p hp
        rw [hfr p (Nat.lt_trans hlt hp), hlive, List.getElem?_set2 _ _ _ _ _ _ hil hj]
        have : p ≠ j := Nat.ne_of_gt hp
        have : p ≠ i := Nat.ne_of_gt (Nat.lt_trans hlt hp)
        simp [*]

/-- the statement is the `jo` expression of `Heap.down` word for word, so that `rw` finds it once `down` is unfolded -/
theorem child_ok (h : Heap) {i n : Nat} (h1 : 2 * i + 1 < n) (hn : n ≤ h.live.length) :
    ∃ j, (if 2 * i + 1 + 1 < n then
        (h.less (2 * i + 1 + 1) (2 * i + 1)).map fun lt => if lt then 2 * i + 1 + 1 else 2 * i + 1
      else some (2 * i + 1)) = some j ∧ i < j ∧ j < n := by
  by_cases h2 : 2 * i + 1 + 1 < n
  · rcases less_ok h (show 2 * i + 1 + 1 < h.live.length by omega) (show 2 * i + 1 < h.live.length by omega) with ⟨r, hr⟩
    simp only [h2, if_true, hr, Option.map_some]
    cases r
    · exact ⟨2 * i + 1, by simp, by omega, by omega⟩
    · exact ⟨2 * i + 1 + 1, by simp, by omega, by omega⟩
  · simp only [h2, if_false]; exact ⟨_, rfl, by omega, by omega⟩

theorem down_ok : ∀ (f : Nat) {h : Heap}, HInv h → ∀ (i n : Nat), n ≤ h.live.length → n - i < f →
    ∃ h' i', h.down f i n = some (h', i') ∧ Same h h' ∧ ∀ p : Nat, n ≤ p → h'.live[p]? = h.live[p]? := by
  intro f
  induction f with
  | zero => intro h _ i n _ hf; omega
  | succ f ih =>
    intro h hi i n hn hf
    unfold Heap.down
    simp only
    by_cases h1 : 2 * i + 1 ≥ n
    · rw [if_pos h1]; exact ⟨h, i, rfl, Same.refl hi, fun _ _ => rfl⟩
    · rw [if_neg h1]
      rcases child_ok h (Nat.lt_of_not_ge h1) hn with ⟨j, hj, hij, hjn⟩
      rw [hj]
      simp only
      clear h1 hj
      have hjl : j < h.live.length := Nat.lt_of_lt_of_le hjn hn
      have hil : i < h.live.length := Nat.lt_trans hij hjl
      rcases less_ok h hjl hil with ⟨r, hr⟩
      rw [hr]
      cases r with
      | false => exact ⟨h, i, rfl, Same.refl hi, fun _ _ => rfl⟩
      | true =>
        simp only
        rcases swap_ok hi (List.getElem?_eq_getElem hil) (List.getElem?_eq_getElem hjl) (Nat.ne_of_lt hij) with ⟨h1', hs, hsame, hlive⟩
        rw [hs]
        simp only
        rcases ih hsame.inv j n (by rw [hsame.len]; exact hn) (by omega) with ⟨h2, i2, hd, hsame2, hfr⟩
        refine ⟨h2, i2, hd, hsame.trans hsame2, ?_⟩
        intro p hp
        rw [hfr p hp, hlive, List.getElem?_set2 _ _ _ _ _ _ hil hjl]
        have : p ≠ j := Nat.ne_of_gt (Nat.lt_of_lt_of_le hjn hp)
        have : p ≠ i := Nat.ne_of_gt (Nat.lt_of_lt_of_le (Nat.lt_trans hij hjn) hp)
        simp [*]

theorem sift_ok {h : Heap} (hi : HInv h) (i n : Nat) (hin : i < n) (hn : n ≤ h.live.length) :
    ∃ h', h.sift i n = some h' ∧ Same h h' ∧ ∀ p : Nat, n ≤ p → h'.live[p]? = h.live[p]? := by
  unfold Heap.sift
  simp only
  rcases down_ok (h.live.length + 1) hi i n hn (by omega) with ⟨h1, i1, hd, hs1, hf1⟩
  rw [hd]
  simp only
  by_cases hgt : i1 > i
  · rw [if_pos hgt]; exact ⟨h1, rfl, hs1, hf1⟩
  · rw [if_neg hgt]
    rcases up_ok (h.live.length + 1) hs1.inv i (by rw [hs1.len]; omega) (by omega) with ⟨h2, hu, hs2, hf2⟩
    exact ⟨h2, hu, hs1.trans hs2, fun p hp => by rw [hf2 p (by omega), hf1 p hp]⟩

theorem pop_ok {h : Heap} (hi : HInv h) {x : HEntry} (hx : h.live.getLast? = some x) :
    ∃ h', h.pop = some (h', x) ∧ Plus h' h x ∧ h'.keys = h.keys := by
  have hlast : h.live[h.live.length - 1]? = some x := by rw [← List.getLast?_eq_getElem?]; exact hx
  have hxi := hi.live_ok _ _ hlast
  have hxlt : x.idx < h.maxidx := by rw [← hi.ind_len]; exact List.lt_of_getElem? hxi
  have hsplit : h.live.dropLast ++ [x] = h.live := by
    rcases List.getLast?_eq_some_iff.mp hx with ⟨ys, hys⟩
    rw [hys, List.dropLast_concat]
  have hdiff : ∀ (p : Nat) (e : HEntry), h.live.dropLast[p]? = some e → e.idx ≠ x.idx := by
    intro p e hp heq
    rcases List.getElem?_dropLast' _ _ _ hp with ⟨h1, h2⟩
    have := hi.live_ok p e h1
    rw [heq, hxi] at this
    have := Option.some.inj this
    omega
  have hinv : HInv { h with live := h.live.dropLast, dead := x :: h.dead } := by
    refine ⟨hi.ind_len, ?_, ?_, ?_, ?_, ?_⟩
    · simp only [List.length_dropLast, List.length_cons]; have := hi.total; have := List.lt_of_getElem? hlast; omega
    · intro p e hp
      exact hi.live_ok p e (List.getElem?_dropLast' _ _ _ hp).1
    · intro d hd
      rcases List.mem_cons.mp hd with h1 | h1
      · subst h1; exact hxlt
      · exact hi.dead_lt d h1
    · simp only [List.map_cons, List.nodup_cons]
      refine ⟨?_, hi.dead_nodup⟩
      intro hmem
      rcases List.mem_map.mp hmem with ⟨d, hd, hdx⟩
      exact hi.disjoint x (List.mem_of_getElem? hlast) d hd hdx.symm
    · intro e he d hd
      rcases List.mem_iff_getElem?.mp he with ⟨p, hp⟩
      rcases List.mem_cons.mp hd with h1 | h1
      · subst h1; exact hdiff p e hp
      · exact hi.disjoint e (List.mem_of_getElem? (List.getElem?_dropLast' _ _ _ hp).1) d h1
  exact ⟨{ h with live := h.live.dropLast, dead := x :: h.dead }, by simp [Heap.pop, hx],
    ⟨hinv, hi, by show h.live.Perm (x :: h.live.dropLast); conv => lhs; rw [← hsplit]
                  exact List.perm_append_singleton _ _⟩, rfl⟩

theorem removeAt_ok {h : Heap} (hi : HInv h) {i : Nat} {x : HEntry} (hx : h.live[i]? = some x) :
    ∃ h', h.removeAt i = some (h', x) ∧ Plus h' h x ∧ h'.keys = h.keys := by
  have hil := List.lt_of_getElem? hx
  unfold Heap.removeAt
  have hne0 : ¬ h.live.length = 0 := by omega
  rw [if_neg hne0]
  simp only
  by_cases hn : (h.live.length - 1 != i) = true
  · rw [if_pos hn]
    have hni : i ≠ h.live.length - 1 := by
      intro heq; simp [← heq] at hn
    have hnl : h.live.length - 1 < h.live.length := by omega
    rcases swap_ok hi hx (List.getElem?_eq_getElem hnl) hni with ⟨h1, hs, hsame, hlive⟩
    rw [hs]
    simp only
    rcases sift_ok hsame.inv i (h.live.length - 1) (by omega) (by rw [hsame.len]; omega) with ⟨h2, hsf, hsame2, hfr⟩
    rw [hsf]
    simp only
    have hlast2 : h2.live.getLast? = some x := by
      rw [List.getLast?_eq_getElem?, hsame2.len, hsame.len, hfr _ (Nat.le_refl _), hlive,
        List.getElem?_set2 _ _ _ _ _ _ hil hnl]
      simp
    rcases pop_ok hsame2.inv hlast2 with ⟨h3, hp, hrem, hkeys⟩
    exact ⟨h3, hp, (hsame.trans hsame2).plus hi hrem, by rw [hkeys, hsame2.keys, hsame.keys]⟩
  · rw [if_neg hn]
    have hieq : h.live.length - 1 = i := by simpa using hn
    exact pop_ok hi (by rw [List.getLast?_eq_getElem?, hieq]; exact hx)

theorem removeInternal_ok {h : Heap} (hi : HInv h) {i : Nat} {x : HEntry} (hx : h.live[i]? = some x) :
    ∃ h', h.removeInternal i = some (h', x) ∧ Plus h' h x ∧ h'.keys = kerase h.keys x.key := by
  rcases removeAt_ok hi hx with ⟨h', hr, hrem, hkeys⟩
  refine ⟨{ h' with keys := kerase h'.keys x.key }, by simp [Heap.removeInternal, hr], ?_, by rw [hkeys]⟩
  exact ⟨HInv_keys hrem.small _, hi, hrem.perm⟩

theorem Plus.kinv_remove {s g : Heap} {x : HEntry} (hp : Plus s g x) (hk : KInv g)
    (hkeys : s.keys = kerase g.keys x.key) : KInv s := by
  refine (hp.kinv (fun k => ?_) (by rw [hkeys, klookup_erase, if_pos rfl])).mpr hk
  rw [hkeys, klookup_erase]
  by_cases hkk : k = x.key
  · rw [if_pos hkk, hkk]; exact (hk x.key x.idx).mpr ⟨x, hp.was, rfl⟩
  · rw [if_neg hkk, if_neg hkk]

theorem Plus.kinv_put {s g : Heap} {x : HEntry} (hp : Plus s g x) (hk : KInv s) (hn : klookup s.keys x.key = none)
    (hkeys : g.keys = kset s.keys x.key x.idx) : KInv g :=
  (hp.kinv (fun k => by rw [hkeys, klookup_set]) hn).mp hk

theorem remove_ok {h : Heap} (hi : HInv h) (idx : Nat) (key : Key) :
    (∃ e, h.find idx = some e ∧ e.key = key ∧
      ∃ h', h.remove idx key = some (h', some e.bytes) ∧ Plus h' h e ∧ h'.keys = kerase h.keys e.key)
    ∨ ((∀ e, h.find idx = some e → e.key ≠ key) ∧ h.remove idx key = some (h, none)) := by
  -- the branches of `remove`: no position, no entry there, index or key do not match; otherwise `removeInternal`
  fun_cases Heap.remove h idx key
  next h1 => exact .inr ⟨by simp [Heap.find, h1], rfl⟩
  next p h1 h2 => exact .inr ⟨by simp [Heap.find, h1, h2], rfl⟩
  next p h1 e h2 hc =>
    refine .inr ⟨fun e' he' => ?_, rfl⟩
    rcases find_eq_some.mp he' with ⟨p', hp', he, hx⟩
    rw [h1] at hp'; cases hp'; rw [h2] at he; cases he
    simpa [hx] using hc
  next p h1 e h2 hc hr => rcases removeInternal_ok hi h2 with ⟨_, hr', _⟩; rw [hr] at hr'; cases hr'
  next p h1 e h2 hc h' x hr =>
    rcases removeInternal_ok hi h2 with ⟨_, hr', hrem, hkeys⟩
    rw [hr] at hr'; cases hr'
    have hc' : e.idx = idx ∧ e.key = key := by simpa using hc
    exact .inl ⟨e, find_eq_some.mpr ⟨p, h1, h2, hc'.1⟩, hc'.2, _, rfl, hrem, hkeys⟩

theorem removeFirst_ok {h : Heap} (hi : HInv h) (hne : h.live ≠ []) :
    ∃ h' x, h.removeFirst = some (h', x) ∧ Plus h' h x ∧ h'.keys = kerase h.keys x.key := by
  cases hl : h.live with
  | nil => exact absurd hl hne
  | cons x t =>
    have hx : h.live[0]? = some x := by simp [hl]
    rcases removeInternal_ok hi hx with ⟨h', hr, hrem, hkeys⟩
    exact ⟨h', x, hr, hrem, hkeys⟩

theorem removeKey_ok {h : Heap} (hi : HInv h) (hk : KInv h) (key : Key) :
    (klookup h.keys key = none ∧ h.removeKey key = some (h, none))
    ∨ (∃ e, e.key = key ∧
        ∃ h', h.removeKey key = some (h', some e.bytes) ∧ Plus h' h e ∧ KInv h' ∧ klookup h'.keys key = none) := by
  fun_cases Heap.removeKey h key
  next hl => exact .inl ⟨hl, rfl⟩
  next idx hl =>
    rcases (hk key idx).mp hl with ⟨e, he, hek⟩
    rcases remove_ok hi idx key with ⟨e', he', _, h', hr, hrem, hkeys⟩ | ⟨hno, _⟩
    · rw [he] at he'; cases he'
      refine .inr ⟨e, hek, h', hr, hrem, hrem.kinv_remove hk hkeys, ?_⟩
      rw [hkeys, klookup_erase, hek]; simp
    · exact absurd hek (hno e he)

/-- what `pushInternal` establishes for the new entry `e` (before `heap.Fix`) -/
structure Pushed (h h2 : Heap) (e : HEntry) : Prop where
  inv : HInv h2
  live : h2.live = h.live ++ [e]
  fresh : h.find e.idx = none
  others : ∀ y, y ≠ e.idx → h2.find y = h.find y

theorem Pushed.of_snoc {h h2 : Heap} {e : HEntry} (hi : HInv h) (hi2 : HInv h2) (hl : h2.live = h.live ++ [e]) :
    Pushed h h2 e :=
  have hp : Plus h h2 e := ⟨hi, hi2, hl ▸ List.perm_append_singleton e h.live⟩
  ⟨hi2, hl, hp.fresh, fun y hy => by rw [hp.find_big, if_neg hy]⟩

theorem push_steal_ok {h : Heap} (hi : HInv h) {d : HEntry} {ds : List HEntry} (hd : h.dead = d :: ds)
    (key : Key) (exp bytes : Nat) :
    ∃ h2, h.pushInternal ⟨key, exp, bytes, d.idx⟩ = some h2 ∧ Pushed h h2 ⟨key, exp, bytes, d.idx⟩ ∧ h2.keys = h.keys := by
  have hdm : d ∈ h.dead := by rw [hd]; simp
  have hdlt : d.idx < h.indices.length := by rw [hi.ind_len]; exact hi.dead_lt d hdm
  have hnd := hi.dead_nodup
  rw [hd] at hnd
  simp only [List.map_cons, List.nodup_cons] at hnd
  have hfresh : ∀ (p : Nat) (e : HEntry), h.live[p]? = some e → e.idx ≠ d.idx :=
    fun p e hp => hi.disjoint e (List.mem_of_getElem? hp) d hdm
  have hinv2 : HInv { h with
      indices := h.indices.set d.idx h.live.length,
      live := h.live ++ [⟨key, exp, bytes, d.idx⟩],
      dead := h.dead.drop 1 } := by
    refine ⟨by simp [hi.ind_len], ?_, ?_, ?_, ?_, ?_⟩
    · have := hi.total; rw [hd] at this ⊢; simp at this ⊢; omega
    · intro p e hp
      rcases List.getElem?_snoc _ _ _ _ hp with h1 | ⟨h1, h2⟩
      · have := hi.live_ok p e h1
        show (h.indices.set d.idx h.live.length)[e.idx]? = some p
        rw [List.getElem?_set]
        simp [Ne.symm (hfresh p e h1), this]
      · subst h1; subst h2
        show (h.indices.set d.idx h.live.length)[d.idx]? = some h.live.length
        simp [hdlt]
    · intro d' hd'
      rw [hd] at hd'; simp at hd'
      exact hi.dead_lt d' (by rw [hd]; simp [hd'])
    · rw [hd]; simpa using hnd.2
    · intro e he d' hd'
      rw [hd] at hd'; simp at hd'
      rcases List.mem_append.mp he with h1 | h1
      · exact hi.disjoint e h1 d' (by rw [hd]; simp [hd'])
      · simp at h1; subst h1
        intro heq
        exact hnd.1 (List.mem_map.mpr ⟨d', hd', heq.symm⟩)
  exact ⟨_, by simp only [Heap.pushInternal, hdlt, if_true], .of_snoc hi hinv2 rfl, rfl⟩

theorem push_fresh_ok {h : Heap} (hi : HInv h) (hlen : h.live.length = h.maxidx) (key : Key) (exp bytes : Nat) :
    ∃ h2, Heap.pushInternal { h with maxidx := h.maxidx + 1, indices := h.indices ++ [h.maxidx] } ⟨key, exp, bytes, h.maxidx⟩ = some h2 ∧
      Pushed h h2 ⟨key, exp, bytes, h.maxidx⟩ ∧ h2.keys = h.keys := by
  have hdead : h.dead = [] := List.eq_nil_of_length_eq_zero (by have := hi.total; omega)
  have hold : ∀ (p : Nat) (e : HEntry), h.live[p]? = some e → e.idx < h.maxidx := by
    intro p e hp
    rw [← hi.ind_len]; exact List.lt_of_getElem? (hi.live_ok p e hp)
  -- handing out `maxidx` is re-using it from a heap in which it is parked
  have hi1 : HInv { h with maxidx := h.maxidx + 1, indices := h.indices ++ [h.maxidx], dead := [⟨key, exp, bytes, h.maxidx⟩] } := by
    refine ⟨by simp [hi.ind_len], by simp; omega, ?_, by simp, by simp, ?_⟩
    · intro p e hp
      show (h.indices ++ [h.maxidx])[e.idx]? = some p
      rw [List.getElem?_append_left (by rw [hi.ind_len]; exact hold p e hp)]
      exact hi.live_ok p e hp
    · intro e he d hd
      rcases List.mem_iff_getElem?.mp he with ⟨p, hp⟩
      have := hold p e hp
      simp at hd; subst hd
      show e.idx ≠ h.maxidx
      omega
  rcases push_steal_ok hi1 rfl key exp bytes with ⟨h2, hpu, hp, hk⟩
  refine ⟨h2, ?_, .of_snoc hi hp.inv hp.live, hk⟩
  rw [← hpu]; simp [Heap.pushInternal, hdead]

/-- the part of `put` behind the choice of the index: `pushInternal`, `heap.Fix`, then `h.keys[key] = idx` -/
theorem fix_ok {h h1 h2 : Heap} {key : Key} {exp bytes idx : Nat} (hi : HInv h)
    (hpu : h1.pushInternal ⟨key, exp, bytes, idx⟩ = some h2) (hp : Pushed h h2 ⟨key, exp, bytes, idx⟩) (hk2 : h2.keys = h.keys) :
    ∃ h', (match h1.pushInternal ⟨key, exp, bytes, idx⟩ with
        | none => none
        | some h2 =>
          match h2.sift (h2.live.length - 1) h2.live.length with
          | none => none
          | some h3 => some ({ h3 with keys := kset h3.keys key idx }, idx)) = some (h', idx) ∧
      Plus h h' ⟨key, exp, bytes, idx⟩ ∧ h'.keys = kset h.keys key idx := by
  have hl2 : h2.live.length = h.live.length + 1 := by rw [hp.live]; simp
  rcases sift_ok hp.inv (h2.live.length - 1) h2.live.length (by omega) (Nat.le_refl _) with ⟨h3, hs, hsame, _⟩
  rw [hpu]
  simp only
  rw [hs]
  refine ⟨_, rfl, ⟨hi, HInv_keys hsame.inv _, ?_⟩, by rw [hsame.keys, hk2]⟩
  exact hsame.perm.trans (by rw [hp.live]; exact List.perm_append_singleton _ _)

theorem put_ok {h : Heap} (hi : HInv h) (key : Key) (exp bytes : Nat) :
    ∃ h' idx, h.put key exp bytes = some (h', idx) ∧ Plus h h' ⟨key, exp, bytes, idx⟩ ∧ h'.keys = kset h.keys key idx := by
  unfold Heap.put
  simp only
  by_cases hlt : h.live.length < h.maxidx
  · rw [if_pos hlt]
    cases hd : h.dead with
    | nil => have := hi.total; rw [hd] at this; simp at this; omega
    | cons d ds =>
      simp only
      rcases push_steal_ok hi hd key exp bytes with ⟨h2, hpu, hp, hk2⟩
      rcases fix_ok hi hpu hp hk2 with ⟨h', he, hadd, hkeys⟩
      exact ⟨h', d.idx, he, hadd, hkeys⟩
  · rw [if_neg hlt]
    simp only
    rcases push_fresh_ok hi (by have := hi.total; omega) key exp bytes with ⟨h2, hpu, hp, hk2⟩
    rcases fix_ok hi hpu hp hk2 with ⟨h', he, hadd, hkeys⟩
    exact ⟨h', h.maxidx, he, hadd, hkeys⟩

theorem live_klookup {h : Heap} (hi : HInv h) (hk : KInv h) {p : Nat} {e : HEntry} (hp : h.live[p]? = some e) :
    klookup h.keys e.key = some e.idx :=
  (hk e.key e.idx).mpr ⟨e, live_find hi hp, rfl⟩

theorem no_live_of_klookup_none {h : Heap} (hi : HInv h) (hk : KInv h) {k : Key} (hn : klookup h.keys k = none)
    {p : Nat} {e : HEntry} (hp : h.live[p]? = some e) : e.key ≠ k := by
  intro heq
  have := live_klookup hi hk hp
  rw [heq, hn] at this; cases this

theorem live_key_inj {h : Heap} (hi : HInv h) (hk : KInv h) {i j : Nat} {a b : HEntry} (h1 : h.live[i]? = some a)
    (h2 : h.live[j]? = some b) (heq : a.key = b.key) : i = j := by
  have k1 := live_klookup hi hk h1
  rw [heq, live_klookup hi hk h2] at k1
  have p1 := hi.live_ok i _ h1
  rw [← Option.some.inj k1, hi.live_ok j _ h2] at p1
  exact (Option.some.inj p1).symm

theorem keys_nodup {h : Heap} (hi : HInv h) (hk : KInv h) : (h.live.map (·.key)).Nodup := by
  rw [List.nodup_iff_pairwise_ne, List.pairwise_iff_getElem]
  intro i j hil hjl hij heq
  simp only [List.length_map] at hil hjl
  simp only [List.getElem_map] at heq
  exact absurd (live_key_inj hi hk (List.getElem?_eq_getElem hil) (List.getElem?_eq_getElem hjl) heq) (by omega)

theorem KInv_empty : KInv Heap.empty := by
  intro k idx; simp [Heap.empty, klookup, Heap.find]

theorem HInv_empty : HInv Heap.empty :=
  ⟨rfl, rfl, by intro p e h; simp [Heap.empty] at h, by intro d h; simp [Heap.empty] at h, by simp [Heap.empty],
   by intro e h; simp [Heap.empty] at h⟩

end C14
