import FiberModel.C14.Trace
import FiberModel.C14.Faults
import FiberModel.C14.Directive
/-
C14 — the property theorems.

Setting. `Reachable cfg g`: `g = run cfg (G.init ts uts reqs) evs` for *any* initial clocks (the cache's
at least 1: `timestamp` starts as `time.Now().Unix()`, see `clock_never_zero`), any list of requests (each
carrying the response its origin handler will produce *and the outcome of every call it makes to an injected
storage*: success, error, or – for the `Get` of an entry – a value that does not decode), and any list of
events `evs` – every interleaving of thread steps at lock / handler boundaries and every advance of the
cache's clock and of the storage's clock.  Standing assumption on the configuration:
`cfg.maxBytes < 2^63` (Go's `uint` is 64 bit; `storedBytes+bodySize` must not wrap).

Storage faults. Theorems without a hypothesis about faults hold for every fault schedule (no panic, no
deadlock, mutual exclusion, `storedBytes` = heap sum ≤ MaxBytes, index and key map of the heap, what a hit
is built from, freshness, no-cache / no-store, what is stored). Where a failed `Storage.Set` /
`Storage.Delete` – which the code ignores – does break the sentence, the theorem carries the hypothesis that
names the region: `g.sh.dirty = []` (no such failure outstanding), `th.taint = false` (none outstanding for
the request's key when it was looked up), or "the `Delete` of this request goes through".
`quiet_runs_stay_clean` shows these hold in every run in which no `Set`/`Delete` fails (failing or garbled
`Get`s allowed). The region with a failed `Set`/`Delete` is the known finding K1 (known/C14.json).
-/
namespace C14
open B

def Reachable (cfg : Config) (g : G) : Prop :=
  ∃ (ts uts : Nat) (reqs : List Req) (evs : List Ev), 1 ≤ ts ∧ g = run cfg (G.init ts uts reqs) evs

theorem reachable_inv {cfg : Config} (hmb : cfg.maxBytes < 2 ^ 63) {g : G} (h : Reachable cfg g) : Inv cfg g := by
  rcases h with ⟨ts, uts, reqs, evs, hts, rfl⟩
  exact run_inv hmb evs (init_inv cfg ts uts reqs hts)

theorem Reachable.exec {cfg : Config} {g : G} (h : Reachable cfg g) (e : Ev) : Reachable cfg (exec cfg g e) := by
  rcases h with ⟨ts, uts, reqs, evs, hts, rfl⟩
  exact ⟨ts, uts, reqs, evs ++ [e], hts, by simp [run, List.foldl_append]⟩

/-- The reachable domain of the clock. cache.go initialises `timestamp` with `uint64(time.Now().Unix())` and
    only ever stores later readings: it is ≥ 1 in every reachable state (no tick lowers it), so the `uint64`
    subtraction `ts - 1` of the invalidation branch – modelled with its wrap-around at 0 (`applyInv`) –
    never wraps. -/
theorem clock_never_zero {cfg : Config} (hmb : cfg.maxBytes < 2 ^ 63) {g : G} (h : Reachable cfg g) : 1 ≤ g.ts :=
  (reachable_inv hmb h).clock

/-- reachable in a run in which no `Storage.Set` / `Storage.Delete` (nor `Get` of a body) fails – `Get`s of
    entries may fail or deliver garbage at will. Every history without storage faults (the property's own
    quantifier) is of this kind. Theorems stated for `ReachableQ` are the full-strength sentence; their
    `…_partial` twins hold for every fault schedule outside the region of known finding K1. -/
def ReachableQ (cfg : Config) (g : G) : Prop :=
  ∃ (ts uts : Nat) (reqs : List Req) (evs : List Ev), 1 ≤ ts ∧ (∀ q ∈ reqs, q.quiet) ∧ g = run cfg (G.init ts uts reqs) evs

theorem ReachableQ.reachable {cfg : Config} {g : G} (h : ReachableQ cfg g) : Reachable cfg g := by
  rcases h with ⟨ts, uts, reqs, evs, hts, _, rfl⟩
  exact ⟨ts, uts, reqs, evs, hts, rfl⟩

theorem ReachableQ.quietOK {cfg : Config} {g : G} (h : ReachableQ cfg g) : QuietOK g := by
  rcases h with ⟨ts, uts, reqs, evs, _, hq, rfl⟩
  exact run_quiet evs (init_quiet ts uts reqs hq)

theorem ReachableQ.exec {cfg : Config} {g : G} (h : ReachableQ cfg g) (e : Ev) : ReachableQ cfg (exec cfg g e) := by
  rcases h with ⟨ts, uts, reqs, evs, hts, hq, rfl⟩
  exact ⟨ts, uts, reqs, evs ++ [e], hts, hq, by simp [run, List.foldl_append]⟩

def exCfg : Config :=
  { ext := true, stTTL := true, maxBytes := 5, expiration := 2, storeHeaders := true, cacheControl := false, methods := [] }
def exReqS (status : Nat) (key body : Bytes) (inv : Bool) (cc : Bytes) : Req :=
  { method := b "GET", keyMat := key, cc := cc, inv := inv, skip := false, expGen := none,
    resp := ⟨status, body, b "text/plain", [], [(b "X-A", b "1"), (b "Keep-Alive", b "5")]⟩ }
def exReq (key body : Bytes) (inv : Bool) (cc : Bytes) : Req := exReqS 200 key body inv cc
def steps (t n : Nat) : List Ev := List.replicate n (.step t)
theorem exCfg_mb : exCfg.maxBytes < 2 ^ 63 := by decide

/-- one evaluation of a concrete state yields the three facts the theorems about an answered request ask for -/
theorem answered_facts {g : G} {t : Nat} {x : XCache} (h : (g.threads[t]?.bind fun th => th.out.map (·.xcache)) = some x) :
    g.threads[t]? = some (g.threads[t]?.getD default) ∧
    (g.threads[t]?.getD default).out = some ((g.threads[t]?.getD default).out.getD default) ∧
    ((g.threads[t]?.getD default).out.getD default).xcache = x := by
  cases ht : g.threads[t]? with
  | none => simp [ht] at h
  | some th =>
    cases ho : th.out with
    | none => simp [ht, ho] at h
    | some o => simpa [ht, ho] using h

/-- sequential: miss, hit (transparent, stored headers without the ignored one), then expiry → miss -/
def exSeq : G := run exCfg (G.init 100 100 [exReq [47, 97] [65, 66] false [], exReq [47, 97] [67] false [], exReq [47, 97] [68] false []])
  (steps 0 8 ++ [.tickTs 1, .tickUts 1] ++ steps 1 8 ++ [.tickTs 1] ++ steps 2 8)
theorem exSeq_reach : Reachable exCfg exSeq := ⟨_, _, _, _, by decide, rfl⟩
structure ExSeqFacts : Prop where
  hit : (exSeq.threads[1]?.bind fun th => th.out.map (·.xcache)) = some .hit
  clean : exSeq.sh.dirty = []
  count : exSeq.sh.stored = 1 ∧ exSeq.sh.heap.live.length = 1
  held : exSeq.sh.bodies.held 102 = 1
  untainted : (exSeq.threads[1]?.getD default).taint = false
  thirdMisses : ((exSeq.threads[2]?.getD default).out.map fun o : Out => o.xcache) = some XCache.miss
-- the run is evaluated once, for all fields together (likewise the other `…_facts`)
theorem exSeq_facts : ExSeqFacts :=
  have mk : _ ∧ _ ∧ _ ∧ _ ∧ _ ∧ _ → ExSeqFacts := fun ⟨a, b, c, d, e, f⟩ => ⟨a, b, c, d, e, f⟩
  mk (by decide +kernel)
example : (exSeq.threads.map fun th => th.out.map fun o => (o.xcache, o.body, o.headers.length)) =
    [some (.miss, [65, 66], 2), some (.hit, [65, 66], 1), some (.miss, [68], 2)] := by decide +kernel
example : exSeq.sh.stored = 1 ∧ exSeq.sh.heap.live.length = 1 :=
  exSeq_facts.count

/-- interleaved: both requests miss (A: lookup, B: lookup, A: store, B: store), the second store replaces what
    the first left tracked for the key (`heap.removeKey`; no eviction: 0 + 3 ≤ 5); a third request with the
    invalidator firing deletes the entry; a fourth, `No-Cache`, request is not served from the cache -/
def exConc : G := run exCfg (G.init 100 100 [exReq [47, 97] [65, 66, 67] false [], exReq [47, 97] [68, 69, 70] false [],
    exReq [47, 97] [71] true [], exReq [47, 97] [72] false (b "No-Cache")])
  (steps 0 3 ++ steps 1 3 ++ steps 0 5 ++ steps 1 5 ++ steps 2 8 ++ steps 3 8)
theorem exConc_reach : Reachable exCfg exConc := ⟨_, _, _, _, by decide, rfl⟩
structure ExConcFacts : Prop where
  clean : exConc.sh.dirty = []
  nonempty : exConc.sh.store ≠ []
  hasThread1 : 1 < exConc.threads.length
  finished : exConc.remaining = 0
  fourthMisses : (exConc.threads[3]?.bind fun th => th.out.map (·.xcache)) = some .miss
  fourthNoCache : hasDirective (exConc.threads[3]?.getD default).req.cc Facts.noCache = true
  fourthStored : (exConc.sh.store.lookup (mkKey (exReq [47, 97] [72] false []))).isSome = true
theorem exConc_facts : ExConcFacts :=
  have mk : _ ∧ _ ∧ _ ∧ _ ∧ _ ∧ _ ∧ _ → ExConcFacts := fun ⟨a, b, c, d, e, f, g⟩ => ⟨a, b, c, d, e, f, g⟩
  mk (by decide +kernel)
set_option maxRecDepth 20000 in
example : (exConc.threads.map fun th => th.out.map fun o => (o.xcache, o.body)) =
    [some (.miss, [65, 66, 67]), some (.miss, [68, 69, 70]), some (.miss, [71]), some (.miss, [72])] := by decide +kernel

/-- thread 0 is inside the first critical section, thread 1 waits for the mutex -/
def exWait : G := run exCfg (G.init 100 100 [exReq [47, 97] [65] false [], exReq [47, 97] [66] false []]) (steps 0 2 ++ steps 1 1)
theorem exWait_reach : Reachable exCfg exWait := ⟨_, _, _, _, by decide, rfl⟩
structure ExWaitFacts : Prop where
  blocked : (step exCfg exWait 1).isSome = false
  hasThread0 : 0 < exWait.threads.length
  hasThread1 : 1 < exWait.threads.length
  inside : (exWait.threads[0]?.getD default).pc = .sec1 ∨ (exWait.threads[0]?.getD default).pc = .sec2
  unfinished : (exWait.threads[1]?.getD default).pc ≠ .done
  left : 0 < exWait.remaining
theorem exWait_facts : ExWaitFacts :=
  have mk : _ ∧ _ ∧ _ ∧ _ ∧ _ ∧ _ → ExWaitFacts := fun ⟨a, b, c, d, e, f⟩ => ⟨a, b, c, d, e, f⟩
  mk (by decide +kernel)
/-- a thread waiting for the mutex is disabled while another one is inside the section -/
example : (step exCfg exWait 1).isSome = false := exWait_facts.blocked

/-- `/a` is cached; request 1, for which the invalidator fires, stands inside the first critical section -/
def exInv : G := run exCfg (G.init 100 100 [exReq [47, 97] [65, 66] false [], exReq [47, 97] [67] true [],
    exReqS 500 [47, 97] [68] false []]) (steps 0 8 ++ steps 1 2)
theorem exInv_reach : Reachable exCfg exInv := ⟨_, _, _, _, by decide, rfl⟩

/-- the operations cache.go performs on the heap -/
inductive HeapOp where
  | put (key : Key) (exp bytes : Nat)
  | remove (idx : Nat) (key : Key)
  | removeFirst
  | removeKey (key : Key)
deriving Repr

def HeapOp.apply (h : Heap) : HeapOp → Option Heap
  | .put k e b => (h.put k e b).map (·.1)
  | .remove i k => (h.remove i k).map (·.1)
  | .removeFirst => h.removeFirst.map (·.1)
  | .removeKey k => (h.removeKey k).map (·.1)

/-- cache.go only ever `put`s a key right after `removeKey` of that key (second critical section) -/
def HeapOp.disciplined (h : Heap) : HeapOp → Bool
  | .put k _ _ => (klookup h.keys k).isNone
  | _ => true

theorem remove_inv {h : Heap} (hi : HInv h) (idx : Nat) (key : Key) :
    ∃ h' r, h.remove idx key = some (h', r) ∧ HInv h' ∧ (KInv h → KInv h') := by
  rcases remove_ok hi idx key with ⟨e, he, _, h', hr, hrem, hkeys⟩ | ⟨_, hr⟩
  · exact ⟨h', _, hr, hrem.small, fun hk => hrem.kinv_remove hk hkeys⟩
  · exact ⟨h, none, hr, hi, id⟩

theorem HeapOp.apply_ok {h : Heap} (hi : HInv h) (op : HeapOp) :
    (op = .removeFirst ∧ h.live = [] ∧ op.apply h = none) ∨
    ∃ h', op.apply h = some h' ∧ HInv h' ∧ (KInv h → op.disciplined h = true → KInv h') := by
  cases op with
  | put k e b =>
    rcases put_ok hi k e b with ⟨h', idx, hp, ha, hkeys⟩
    exact Or.inr ⟨h', by simp [HeapOp.apply, hp], ha.big, fun hk hd =>
      ha.kinv_put hk (by simpa [HeapOp.disciplined] using hd) hkeys⟩
  | remove i k =>
    rcases remove_inv hi i k with ⟨h', r, hr, hinv, hk⟩
    exact Or.inr ⟨h', by simp [HeapOp.apply, hr], hinv, fun h _ => hk h⟩
  | removeFirst =>
    by_cases hne : h.live = []
    · exact Or.inl ⟨rfl, hne, by simp [HeapOp.apply, Heap.removeFirst, Heap.removeInternal, Heap.removeAt, hne]⟩
    · rcases removeFirst_ok hi hne with ⟨h', x, hr, hrem, hkeys⟩
      exact Or.inr ⟨h', by simp [HeapOp.apply, hr], hrem.small, fun hk _ => hrem.kinv_remove hk hkeys⟩
  | removeKey k =>
    have : ∃ h' r, h.removeKey k = some (h', r) ∧ HInv h' ∧ (KInv h → KInv h') := by
      fun_cases Heap.removeKey h k
      · exact ⟨h, none, rfl, hi, id⟩
      · exact remove_inv hi _ k
    rcases this with ⟨h', r, hr, hinv, hk⟩
    exact Or.inr ⟨h', by simp [HeapOp.apply, hr], hinv, fun h _ => hk h⟩

def applyOps (h : Heap) : List HeapOp → Option Heap
  | [] => some h
  | op :: rest => match op.apply h with
    | none => none
    | some h' => applyOps h' rest

/-- `indices[entries[i].idx] = i` for all live `i`, live indices distinct, the parked ones valid and
    unused: the invariant holds initially and is preserved by `put`, `remove`, `removeFirst`, `removeKey`. -/
theorem heap_index_consistent_step {h h' : Heap} (hi : HInv h) (op : HeapOp) (hs : op.apply h = some h') : HInv h' := by
  rcases HeapOp.apply_ok hi op with ⟨_, _, hn⟩ | ⟨h2, h2e, hinv, _⟩
  · rw [hn] at hs; cases hs
  · rw [h2e] at hs; cases hs; exact hinv

theorem heap_index_consistent (ops : List HeapOp) {h' : Heap} (hs : applyOps Heap.empty ops = some h') : HInv h' := by
  have gen : ∀ (ops : List HeapOp) (h : Heap), HInv h → applyOps h ops = some h' → HInv h' := by
    intro ops h
    fun_induction applyOps h ops <;> intro hi hs
    · cases hs; exact hi
    · cases hs
    next ho ih => exact ih (heap_index_consistent_step hi _ ho) hs
  exact gen ops _ HInv_empty hs

theorem heap_indices_point_back {h : Heap} (hi : HInv h) (i : Nat) (hlt : i < h.live.length) :
    h.indices[(h.live[i]).idx]? = some i :=
  hi.live_ok i _ (List.getElem?_eq_getElem hlt)

theorem heap_live_idx_distinct {h : Heap} (hi : HInv h) (i j : Nat) (hil : i < h.live.length) (hjl : j < h.live.length)
    (heq : (h.live[i]).idx = (h.live[j]).idx) : i = j :=
  (List.getElem?_inj (by simpa using hil) (idx_nodup hi)).mp (by simp [hil, hjl, heq])

/-- on a consistent heap the only operation that can panic is `removeFirst` on an empty heap -/
theorem heap_ops_total {h : Heap} (hi : HInv h) (op : HeapOp) :
    (op.apply h).isSome = true ∨ (op = .removeFirst ∧ h.live = []) := by
  rcases HeapOp.apply_ok hi op with ⟨h1, h2, _⟩ | ⟨h2, h2e, _⟩
  · exact Or.inr ⟨h1, h2⟩
  · exact Or.inl (by rw [h2e]; rfl)

/-- heap.go's key map stays in step with the entries: `keys[k] = idx` exactly when the entry tracked by `idx`
    is live and belongs to `k` – preserved by `removeKey`, `remove`, `removeFirst`, and by `put` of a key
    that is not tracked. -/
theorem heap_keys_consistent_step {h h' : Heap} (hi : HInv h) (hk : KInv h) (op : HeapOp)
    (hd : op.disciplined h = true) (hs : op.apply h = some h') : KInv h' := by
  rcases HeapOp.apply_ok hi op with ⟨_, _, hn⟩ | ⟨h2, h2e, _, hk2⟩
  · rw [hn] at hs; cases hs
  · rw [h2e] at hs; cases hs; exact hk2 hk hd

/-- disciplined operation sequences: every `put` hits an untracked key -/
def applyOpsD (h : Heap) : List HeapOp → Option Heap
  | [] => some h
  | op :: rest => if op.disciplined h then
      match op.apply h with
      | none => none
      | some h' => applyOpsD h' rest
    else none

theorem heap_keys_consistent (ops : List HeapOp) {h' : Heap} (hs : applyOpsD Heap.empty ops = some h') :
    HInv h' ∧ KInv h' := by
  have gen : ∀ (ops : List HeapOp) (h : Heap), HInv h → KInv h → applyOpsD h ops = some h' → HInv h' ∧ KInv h' := by
    intro ops h
    fun_induction applyOpsD h ops <;> intro hi hk hs
    · cases hs; exact ⟨hi, hk⟩
    · cases hs
    next hd _ ho ih => exact ih (heap_index_consistent_step hi _ ho) (heap_keys_consistent_step hi hk _ hd ho) hs
    · cases hs
  exact gen ops _ HInv_empty KInv_empty hs

/-- in the property's own words: a key is tracked by at most one live entry -/
theorem heap_key_unique {h : Heap} (hi : HInv h) (hk : KInv h) (i j : Nat) (hil : i < h.live.length) (hjl : j < h.live.length)
    (heq : (h.live[i]).key = (h.live[j]).key) : i = j :=
  live_key_inj hi hk (List.getElem?_eq_getElem hil) (List.getElem?_eq_getElem hjl) heq

-- non-vacuity: replace the entry of a key (removeKey, put), evict, re-use the parked index
example : (applyOpsD Heap.empty [.removeKey [1], .put [1] 5 3, .removeKey [2], .put [2] 4 1, .removeKey [1], .put [1] 9 2,
    .removeFirst, .removeKey [3], .put [3] 1 7]).isSome = true := by decide +kernel
-- a `put` of a tracked key without `removeKey` first is what the discipline excludes: two entries, one key
example : (applyOps Heap.empty [.put [1] 5 3, .put [1] 6 3]).map (fun h => (h.live.map (·.key), h.keys)) =
    some ([[1], [1]], [([1], 1)]) := by decide +kernel

-- non-vacuity: a sequence that re-uses an index left behind by Pop and removes from the middle
example : (applyOps Heap.empty [.put [1] 5 3, .put [2] 4 1, .put [3] 9 2, .removeFirst, .put [4] 1 7, .remove 0 [1]]).isSome = true := by
  decide +kernel
-- why heap.go `remove` had to be repaired: removing the same (stale) index twice panics
example : (do let (h1, i) ← Heap.empty.put [1] 5 3; let (h2, _) ← h1.removeUnchecked i; h2.removeUnchecked i) = none := by
  decide +kernel
-- … and once the index has been handed out again, the stale removal drops the entry of another key
example : (do let (h1, i) ← Heap.empty.put [1] 5 3; let (h2, _) ← h1.put [2] 6 4; let (h3, _) ← h2.removeUnchecked i
              let (h4, _) ← h3.put [3] 7 2; let (_, x) ← h4.removeUnchecked i; pure x.key) = some [3] := by
  decide +kernel
-- the repaired `remove` refuses both
example : (do let (h1, i) ← Heap.empty.put [1] 5 3; let (h2, _) ← h1.remove i [1]; let (_, r) ← h2.remove i [1]; pure r) = some none := by
  decide +kernel
example : (do let (h1, i) ← Heap.empty.put [1] 5 3; let (h2, _) ← h1.put [2] 6 4; let (h3, _) ← h2.remove i [1]
              let (h4, _) ← h3.put [3] 7 2; let (_, r) ← h4.remove i [1]; pure r) = some none := by
  decide +kernel

/-- `storedBytes` = Σ bytes of the live heap entries, and ≤ MaxBytes when a limit is set – in every
    reachable state of every schedule. -/
theorem bytes_accounted {cfg : Config} (hmb : cfg.maxBytes < 2 ^ 63) {g : G} (h : Reachable cfg g) :
    Accounted cfg g.sh :=
  let hi := (reachable_inv hmb h).sh
  ⟨hi.acc, hi.bound⟩

example : Accounted exCfg exConc.sh := bytes_accounted exCfg_mb exConc_reach
/-- `storedBytes` is exactly the sum of the body sizes of what the cache has stored and neither deleted nor
    replaced: a key is tracked by one heap entry, every heap entry tracks a stored key – as long as no failed
    `Storage.Set` / `Storage.Delete` is outstanding. Without heap.go's key map `h.keys` a key stored
    again (refresh by a `no-cache` request, two requests that both missed, an entry the storage expired by itself)
    is counted twice, and evicting the stale entry deletes the fresh response: F4 in known/C14.json. -/
theorem stored_bytes_exact_partial {cfg : Config} (hmb : cfg.maxBytes < 2 ^ 63) (hpos : cfg.maxBytes > 0) {g : G}
    (h : Reachable cfg g) (hd : g.sh.dirty = []) : g.sh.stored = totalBody g.sh.store :=
  stored_eq_total_of (reachable_inv hmb h).sh hpos hd

/-- what the storage physically holds at its clock value `uts` (the `key_body` values of an injected storage,
    the items of internal/memory) is that minus what it has let lapse by itself (TTL):
    `held + lapsed = storedBytes`; in particular `held = storedBytes` whenever nothing has lapsed. -/
theorem held_plus_lapsed_eq_stored_partial {cfg : Config} (hmb : cfg.maxBytes < 2 ^ 63) (hpos : cfg.maxBytes > 0) {g : G}
    (h : Reachable cfg g) (hd : g.sh.dirty = []) (uts : Nat) :
    physHeld cfg g.sh uts + g.sh.store.lapsed uts = g.sh.stored := by
  rw [stored_bytes_exact_partial hmb hpos h hd, physHeld_eq (reachable_inv hmb h).sh hd]; exact held_add_lapsed _ _

theorem held_eq_stored_when_nothing_lapsed_partial {cfg : Config} (hmb : cfg.maxBytes < 2 ^ 63) (hpos : cfg.maxBytes > 0) {g : G}
    (h : Reachable cfg g) (hd : g.sh.dirty = []) (uts : Nat) (hl : ∀ p ∈ g.sh.store, p.2.expired uts = false) :
    physHeld cfg g.sh uts = g.sh.stored := by
  have := held_plus_lapsed_eq_stored_partial hmb hpos h hd uts
  have h0 : g.sh.store.lapsed uts = 0 := by
    unfold Store.lapsed
    rw [List.filter_eq_nil_iff.mpr (by intro p hp; simp [hl p hp])]; rfl
  omega

/-- every live heap entry tracks a key the storage was given (no failed `Set`/`Delete` outstanding); the key map
    mirrors the entries (any faults) -/
theorem heap_entries_cover_store_partial {cfg : Config} (hmb : cfg.maxBytes < 2 ^ 63) {g : G} (h : Reachable cfg g) :
    (g.sh.dirty = [] → Covered g.sh) ∧ KInv g.sh.heap :=
  ⟨(reachable_inv hmb h).sh.covered, (reachable_inv hmb h).sh.kinv⟩

/-- entry and separately stored body of a key belong together unless a `Set`/`Delete` of that key failed -/
theorem entry_and_body_in_step_partial {cfg : Config} (hmb : cfg.maxBytes < 2 ^ 63) {g : G} (h : Reachable cfg g)
    (k : Key) (hk : k ∉ g.sh.dirty) :
    g.sh.bodies.lookup k = (g.sh.store.lookup k).map fun sl => ⟨sl.item.body, sl.sexp⟩ :=
  ((reachable_inv hmb h).sh.clean k hk (fun x => x)).sync

-- the two concurrent misses of `/a` (3 bytes each, MaxBytes 5): the second store replaces the first, one entry
set_option maxRecDepth 20000 in
example : (run exCfg (G.init 100 100 [exReq [47, 97] [65, 66, 67] false [], exReq [47, 97] [68, 69, 70] false []])
    (steps 0 3 ++ steps 1 3 ++ steps 0 5 ++ steps 1 5)).sh.stored = 3 := by decide +kernel
set_option maxRecDepth 20000 in
example : exSeq.sh.stored = totalBody exSeq.sh.store ∧ exSeq.sh.bodies.held 102 = 1 :=
  ⟨stored_bytes_exact_partial exCfg_mb (by decide) exSeq_reach exSeq_facts.clean, exSeq_facts.held⟩

/-- the body sizes the storage holds (whatever the storage's clock says about their expiry) sum to at most
    `storedBytes` – as long as no failed `Set`/`Delete` is outstanding (K1: a body the storage refused to delete
    stays, uncounted) -/
theorem held_never_exceeds_maxbytes_partial {cfg : Config} (hmb : cfg.maxBytes < 2 ^ 63) (hpos : cfg.maxBytes > 0) {g : G}
    (h : Reachable cfg g) (hd : g.sh.dirty = []) (uts : Nat) :
    physHeld cfg g.sh uts ≤ g.sh.stored ∧ physHeld cfg g.sh uts ≤ cfg.maxBytes := by
  have h1 : physHeld cfg g.sh uts ≤ g.sh.stored := by
    have := held_plus_lapsed_eq_stored_partial hmb hpos h hd uts
    omega
  exact ⟨h1, Nat.le_trans h1 ((reachable_inv hmb h).sh.bound hpos)⟩

set_option maxRecDepth 20000 in
example : physHeld exCfg exConc.sh 100 ≤ exConc.sh.stored ∧ physHeld exCfg exConc.sh 100 ≤ exCfg.maxBytes :=
  held_never_exceeds_maxbytes_partial exCfg_mb (by decide) exConc_reach exConc_facts.clean 100

theorem stored_items_tracked_partial {cfg : Config} (hmb : cfg.maxBytes < 2 ^ 63) (hpos : cfg.maxBytes > 0) {g : G}
    (h : Reachable cfg g) (hd : g.sh.dirty = []) : Tracked g.sh :=
  (reachable_inv hmb h).sh.tracked hpos hd

set_option maxRecDepth 20000 in
example : Tracked exConc.sh := stored_items_tracked_partial exCfg_mb (by decide) exConc_reach exConc_facts.clean
set_option maxRecDepth 20000 in
example : exConc.sh.store ≠ [] :=
  exConc_facts.nonempty

/-- without a limit the heap is never touched -/
theorem heap_unused_without_limit {cfg : Config} (hmb : cfg.maxBytes < 2 ^ 63) (h0 : cfg.maxBytes = 0) {g : G}
    (h : Reachable cfg g) : g.sh.heap = Heap.empty :=
  (reachable_inv hmb h).sh.unused h0

example : (run { exCfg with maxBytes := 0 } (G.init 100 100 [exReq [47, 97] [65, 66] false []]) (steps 0 8)).sh.heap = Heap.empty :=
  heap_unused_without_limit (by decide) rfl ⟨_, _, _, _, by decide, rfl⟩

theorem no_panic_any_schedule {cfg : Config} (hmb : cfg.maxBytes < 2 ^ 63) {g : G} (h : Reachable cfg g)
    (t : Nat) (th : Thread) (ht : g.threads[t]? = some th) : th.pc ≠ .panicked := by
  intro hp
  have := (reachable_inv hmb h).th t th ht
  simp [ThOK, hp] at this

set_option maxRecDepth 20000 in
example : (exConc.threads[1]?.getD default).pc ≠ .panicked :=
  no_panic_any_schedule exCfg_mb exConc_reach 1 _ (getElem?_getD_default exConc_facts.hasThread1)

/-- `mux` is a mutex: at most one request is inside a critical section (the only places where the
    storage, the heap and `storedBytes` are read or written), and it is the recorded holder. -/
theorem mutual_exclusion {cfg : Config} (hmb : cfg.maxBytes < 2 ^ 63) {g : G} (h : Reachable cfg g)
    (t u : Nat) (th thu : Thread) (ht : g.threads[t]? = some th) (hu : g.threads[u]? = some thu)
    (hpt : th.pc = .sec1 ∨ th.pc = .sec2) (hpu : thu.pc = .sec1 ∨ thu.pc = .sec2) : t = u ∧ g.mux = some t := by
  have hm := (reachable_inv hmb h).mux.1
  have h1 := hm t th ht hpt
  have h2 := hm u thu hu hpu
  rw [h1] at h2
  exact ⟨Option.some.inj h2, h1⟩

example : exWait.mux = some 0 :=
  have f := exWait_facts
  (mutual_exclusion exCfg_mb exWait_reach 0 0 _ _ (getElem?_getD_default f.hasThread0) (getElem?_getD_default f.hasThread0)
    f.inside f.inside).2

theorem step_isSome {cfg : Config} {g : G} {t : Nat} {th : Thread} (ht : g.threads[t]? = some th)
    (hnd : th.pc ≠ .done) (hnp : th.pc ≠ .panicked)
    (hm : g.mux = none ∨ (th.pc ≠ .wantLock1 ∧ th.pc ≠ .wantLock2)) : (step cfg g t).isSome = true := by
  -- `step_cases` reads a step that HAS been taken; that one can be taken is read off `step` itself: of its branches seventeen
  -- answer `some`, the five that refuse are excluded by the hypotheses. The theorems below that look at a step from ONE known
  -- program point open `step` too: that leaves the one branch, `step_cases` all sixteen cases.
  fun_cases step cfg g t <;> try rfl
  next hn => rw [ht] at hn; cases hn
  next _ ht' hpc _ hs => cases ht.symm.trans ht'; rw [hm.resolve_right fun h => h.1 hpc] at hs; cases hs
  next _ ht' hpc _ hs => cases ht.symm.trans ht'; rw [hm.resolve_right fun h => h.2 hpc] at hs; cases hs
  next _ ht' hpc => cases ht.symm.trans ht'; exact absurd hpc hnd
  next _ ht' hpc => cases ht.symm.trans ht'; exact absurd hpc hnp
/-- whenever some request is unfinished, some thread can take a step -/
theorem no_deadlock {cfg : Config} (hmb : cfg.maxBytes < 2 ^ 63) {g : G} (h : Reachable cfg g)
    (t : Nat) (th : Thread) (ht : g.threads[t]? = some th) (hnd : th.pc ≠ .done) :
    ∃ u, (step cfg g u).isSome = true := by
  have hi := reachable_inv hmb h
  cases hm : g.mux with
  | some u =>
    -- the holder of the mutex is inside a section
    rcases hi.mux.2 u hm with ⟨thu, hu, hpc⟩
    refine ⟨u, step_isSome hu ?_ ?_ (Or.inr ?_)⟩ <;> rcases hpc with hpc | hpc <;> simp [hpc]
  | none => exact ⟨t, step_isSome ht hnd (no_panic_any_schedule hmb h t th ht) (Or.inl hm)⟩

-- thread 1 is blocked on the mutex; the theorem yields a thread that can move (the holder)
example : ∃ u, (step exCfg exWait u).isSome = true :=
  no_deadlock exCfg_mb exWait_reach 1 _ (getElem?_getD_default exWait_facts.hasThread1) exWait_facts.unfinished

/-- No deadlock, no livelock: `g.remaining` (≤ 7 per request) strictly decreases with every step any
    request takes; while it is positive some request can take a step; when it is 0 every request has
    been answered. Hence every schedule that keeps running enabled requests ends, after at most
    7 × #requests steps, with all requests answered. -/
theorem every_schedule_finishes {cfg : Config} (hmb : cfg.maxBytes < 2 ^ 63) {g : G} (h : Reachable cfg g) :
    (∀ t g', step cfg g t = some g' → g'.remaining < g.remaining) ∧
    (0 < g.remaining → ∃ u g', step cfg g u = some g') ∧
    (g.remaining = 0 → ∀ (t : Nat) (th : Thread), g.threads[t]? = some th → th.pc = .done ∧ th.out ≠ none) := by
  refine ⟨fun t g' hs => step_remaining hs, ?_, ?_⟩
  · intro hpos
    rcases List.sum_pos_iff_exists_pos_nat.mp hpos with ⟨x, hx, hrem⟩
    rcases List.mem_map.mp hx with ⟨th, hth, rfl⟩
    rcases List.mem_iff_getElem?.mp hth with ⟨t, ht⟩
    have hnd : th.pc ≠ .done := by intro hd; simp [hd, Pc.rem] at hrem
    rcases no_deadlock hmb h t th ht hnd with ⟨u, hu⟩
    cases hs : step cfg g u with
    | none => rw [hs] at hu; cases hu
    | some g' => exact ⟨u, g', hs⟩
  · intro h0 t th ht
    have hz := List.sum_eq_zero_iff_forall_eq_nat.mp h0 _ (List.mem_map.mpr ⟨th, List.mem_of_getElem? ht, rfl⟩)
    have hok := (reachable_inv hmb h).th t th ht
    unfold ThOK at hok
    cases hpc : th.pc <;> simp only [hpc, Pc.rem] at hz hok <;> try omega
    rcases hok with ⟨o, ho, _⟩
    exact ⟨rfl, by rw [ho]; simp⟩

example : 0 < exWait.remaining ∧ exConc.remaining = 0 :=
  ⟨exWait_facts.left, exConc_facts.finished⟩

/-- everything a hit guarantees, in one statement – under every fault schedule: the storage delivered the
    entry (its `Get` neither failed nor returned garbage) and the body (`Get` did not fail); the metadata
    replayed are those of ONE finished request that stored under the same key; the body is that request's
    unless a `Set`/`Delete` of the key had failed (`taint`) -/
theorem hit_justified {cfg : Config} (hmb : cfg.maxBytes < 2 ^ 63) {g : G} (h : Reachable cfg g)
    (t : Nat) (th : Thread) (o : Out) (ht : g.threads[t]? = some th) (ho : th.out = some o) (hx : o.xcache = .hit) :
    th.ran = false ∧ Admitted cfg th.req ∧ th.req.inv = false ∧ hasDirective th.req.cc Facts.noCache = false ∧
    (cfg.ext = true → (faultAt th.req.f1 0).noEntry = false ∧ (faultAt th.req.f1 1).fails = false) ∧
    ∃ (u : Nat) (thu : Thread) (idx : Nat) (body : Bytes), g.threads[u]? = some thu ∧ StoredBy cfg thu ∧
      mkKey thu.req = mkKey th.req ∧
      o = replay cfg { mkItem cfg thu.req thu.ts idx with body := body } th.ts ∧ th.ts < thu.ts + expSecs cfg thu.req ∧
      (th.taint = false → body = thu.req.resp.body) := by
  rcases (done_of_out (reachable_inv hmb h) ht ho).2 with ⟨_, a, b', c, d, e, f⟩ | ⟨hd, _⟩ | ⟨hd, _⟩ | ⟨hd, _⟩
  · exact ⟨a, b', c, d, e, f⟩
  · rw [hd] at hx; simp [passThrough] at hx
  · rw [hd] at hx; simp [passThrough] at hx
  · rw [hd] at hx; simp [passThrough] at hx

theorem replay_mkItem (cfg : Config) (q : Req) (ts idx now : Nat) (body : Bytes) :
    replay cfg { mkItem cfg q ts idx with body := body } now =
      { xcache := .hit, status := q.resp.status, body := body, ctype := effCType q.resp.ctype, cenc := q.resp.cenc,
        headers := if cfg.cacheControl then
            setHdr (storedHeaders cfg q.resp) (b "Cache-Control") (b "public, max-age=" ++ natToDec (ts + expSecs cfg q - now))
          else storedHeaders cfg q.resp } := by
  simp only [replay, mkItem, effCType_idem]

/-- `taint = false`: no `Storage.Set`/`Delete` of this key had failed when the request was looked up – always
    so when no such call fails, `quiet_runs_stay_clean`; otherwise K1. -/
theorem hit_is_transparent_partial {cfg : Config} (hmb : cfg.maxBytes < 2 ^ 63) {g : G} (h : Reachable cfg g)
    (t : Nat) (th : Thread) (o : Out) (ht : g.threads[t]? = some th) (ho : th.out = some o) (hx : o.xcache = .hit)
    (htaint : th.taint = false) :
    th.ran = false ∧
    ∃ (u : Nat) (thu : Thread), g.threads[u]? = some thu ∧ thu.pc = .done ∧ thu.ran = true ∧
      thu.out = some (passThrough .miss thu.req.resp) ∧ mkKey thu.req = mkKey th.req ∧
      o.status = thu.req.resp.status ∧ o.body = thu.req.resp.body ∧ o.ctype = effCType thu.req.resp.ctype ∧
      o.cenc = thu.req.resp.cenc ∧
      o.headers = (if cfg.cacheControl then
          setHdr (storedHeaders cfg thu.req.resp) (b "Cache-Control")
            (b "public, max-age=" ++ natToDec (thu.ts + expSecs cfg thu.req - th.ts))
        else storedHeaders cfg thu.req.resp) := by
  rcases hit_justified hmb h t th o ht ho hx with ⟨hran, _, _, _, _, u, thu, idx, body, hu, hst, hkey, hrep, _, hbody⟩
  refine ⟨hran, u, thu, hu, hst.done, hst.ran, hst.out, hkey, ?_⟩
  rw [hrep, replay_mkItem]
  exact ⟨rfl, hbody htaint, rfl, rfl, rfl⟩

/-- Whatever the storage did: status, content type, encoding and stored headers of a hit are those of one
    finished request that stored under the same key (only the body can be another one's, K1) -/
theorem hit_metadata_transparent {cfg : Config} (hmb : cfg.maxBytes < 2 ^ 63) {g : G} (h : Reachable cfg g)
    (t : Nat) (th : Thread) (o : Out) (ht : g.threads[t]? = some th) (ho : th.out = some o) (hx : o.xcache = .hit) :
    th.ran = false ∧
    ∃ (u : Nat) (thu : Thread), g.threads[u]? = some thu ∧ thu.pc = .done ∧ thu.ran = true ∧
      thu.out = some (passThrough .miss thu.req.resp) ∧ mkKey thu.req = mkKey th.req ∧
      o.status = thu.req.resp.status ∧ o.ctype = effCType thu.req.resp.ctype ∧ o.cenc = thu.req.resp.cenc ∧
      o.headers = (if cfg.cacheControl then
          setHdr (storedHeaders cfg thu.req.resp) (b "Cache-Control")
            (b "public, max-age=" ++ natToDec (thu.ts + expSecs cfg thu.req - th.ts))
        else storedHeaders cfg thu.req.resp) := by
  rcases hit_justified hmb h t th o ht ho hx with ⟨hran, _, _, _, _, u, thu, idx, body, hu, hst, hkey, hrep, _, _⟩
  refine ⟨hran, u, thu, hu, hst.done, hst.ran, hst.out, hkey, ?_⟩
  rw [hrep, replay_mkItem]
  exact ⟨rfl, rfl, rfl, rfl⟩

/-- a request whose `Get` of the entry failed or returned a value that does not decode, or whose `Get` of
    the body failed, is never answered from the cache (injected storage) -/
theorem failed_get_never_hit {cfg : Config} (hmb : cfg.maxBytes < 2 ^ 63) {g : G} (h : Reachable cfg g)
    (t : Nat) (th : Thread) (o : Out) (ht : g.threads[t]? = some th) (ho : th.out = some o) (hext : cfg.ext = true)
    (hf : (faultAt th.req.f1 0).noEntry = true ∨ (faultAt th.req.f1 1).fails = true) : o.xcache ≠ .hit := by
  intro hx
  obtain ⟨_, _, _, _, hget, _⟩ := hit_justified hmb h t th o ht ho hx
  obtain ⟨hentry, hbody⟩ := hget hext
  rcases hf with hf | hf
  · rw [hentry] at hf; cases hf
  · rw [hbody] at hf; cases hf

-- the second request of `exSeq` is a hit; the theorems apply to it
example :=
  have h := answered_facts exSeq_facts.hit
  hit_is_transparent_partial exCfg_mb exSeq_reach 1 _ _ h.1 h.2.1 h.2.2 exSeq_facts.untainted
-- the same history with the entry `Get` of request 1 failing / delivering garbage, or its body `Get` failing: no hit
example : ((run exCfg (G.init 100 100 [exReq [47, 97] [65, 66] false [], { exReq [47, 97] [67] false [] with f1 := [.garbled] },
    { exReq [47, 97] [68] false [] with f1 := [.ok, .err] }]) (steps 0 8 ++ steps 1 8 ++ steps 2 8)).threads.map
      fun th => th.out.map (·.xcache)) = [some .miss, some .miss, some .miss] := by decide +kernel

/-- the cache key separates methods: with configured methods free of `_`, equal keys mean equal
    method and equal `KeyGenerator` result ("for the same method and key") -/
theorem key_separates_methods (q1 q2 : Req) (h1 : 95 ∉ q1.method) (h2 : 95 ∉ q2.method)
    (hk : mkKey q1 = mkKey q2) : q1.keyMat = q2.keyMat ∧ q1.method = q2.method := by
  unfold mkKey at hk
  have : b "_" = [95] := by decide
  rw [this] at hk
  simp only [List.append_assoc, List.singleton_append] at hk
  exact List.append_cons_inj_of_not_mem_right h1 h2 hk

example : (95 : Nat) ∉ b "GET" ∧ (95 : Nat) ∉ b "HEAD" := by decide +kernel
-- without the hypothesis the key is ambiguous: ("a_B", method "A") and ("a", method "B_A") collide
example : mkKey { (default : Req) with keyMat := b "a_B", method := b "A" } =
    mkKey { (default : Req) with keyMat := b "a", method := b "B_A" } := by decide +kernel

/-- A cached response is never served at or after its expiration on the cache's clock
    (`ts` read when serving < `ts` of the storing request + its expiration), … -/
theorem never_after_expiry {cfg : Config} (hmb : cfg.maxBytes < 2 ^ 63) {g : G} (h : Reachable cfg g)
    (t : Nat) (th : Thread) (o : Out) (ht : g.threads[t]? = some th) (ho : th.out = some o) (hx : o.xcache = .hit) :
    ∃ (u : Nat) (thu : Thread) (idx : Nat) (body : Bytes), g.threads[u]? = some thu ∧ StoredBy cfg thu ∧
      mkKey thu.req = mkKey th.req ∧
      o = replay cfg { mkItem cfg thu.req thu.ts idx with body := body } th.ts ∧ th.ts < thu.ts + expSecs cfg thu.req := by
  obtain ⟨_, _, _, _, _, u, thu, idx, body, hu, hst, hkey, hrep, hfresh, _⟩ := hit_justified hmb h t th o ht ho hx
  exact ⟨u, thu, idx, body, hu, hst, hkey, hrep, hfresh⟩

example :=
  have h := answered_facts exSeq_facts.hit
  never_after_expiry exCfg_mb exSeq_reach 1 _ _ h.1 h.2.1 h.2.2
-- … and the third request of `exSeq`, two ticks later (= the expiration), is not served from the cache
example : ((exSeq.threads[2]?.getD default).out.map fun o : Out => o.xcache) = some XCache.miss :=
  exSeq_facts.thirdMisses

/-- A cached response is never served to a request for which the `CacheInvalidator` fires. -/
theorem never_to_invalidating_request {cfg : Config} (hmb : cfg.maxBytes < 2 ^ 63) {g : G} (h : Reachable cfg g)
    (t : Nat) (th : Thread) (o : Out) (ht : g.threads[t]? = some th) (ho : th.out = some o) (hx : o.xcache = .hit) :
    th.req.inv = false :=
  have ⟨_, _, hinv, _⟩ := hit_justified hmb h t th o ht ho hx
  hinv

example : (exSeq.threads[1]?.getD default).req.inv = false :=
  have h := answered_facts exSeq_facts.hit
  never_to_invalidating_request exCfg_mb exSeq_reach 1 _ _ h.1 h.2.1 h.2.2

/-- Invalidation, step form: when the thread inside the first section belongs to a request for which
    the invalidator fires and which finds an entry (`manager.get` ≠ nil), the step erases the key
    from the storage – so by `absent_key_never_hit` nothing stored before can be served afterwards.
    (`hdel`: the storage's `Delete` of the entry goes through; the code ignores its error, K1.) -/
theorem invalidation_erases_entry_partial {cfg : Config} (hmb : cfg.maxBytes < 2 ^ 63) {g g' : G} (h : Reachable cfg g)
    (t : Nat) (th : Thread) (ht : g.threads[t]? = some th) (hpc : th.pc = .sec1) (hinv : th.req.inv = true)
    (hts : g.ts ≥ 2) (hfound : lookup1 cfg g.sh g.uts (mkKey th.req) (faultAt th.req.f1 0) ≠ none)
    (hdel : (cfg.ext && (faultAt th.req.f1 1).fails) = false)
    (hs : step cfg g t = some g') : g'.sh.store.lookup (mkKey th.req) = none := by
  have hi := reachable_inv hmb h
  unfold step at hs
  rw [ht] at hs
  simp only [hpc] at hs
  rcases sec1_invalidates hmb hi.sh hinv hts hfound hdel with ⟨sh', hr, hl⟩
  rw [hr] at hs; cases hs; exact hl

-- `exInv`: the entry of `/a` is there before the step of the invalidating request and gone after it
example : (exInv.sh.store.lookup (mkKey (exReq [47, 97] [67] true []))).isSome = true ∧
    ((step exCfg exInv 1).map fun g' => (g'.sh.store.lookup (mkKey (exReq [47, 97] [67] true []))).isSome) = some false := by decide +kernel

/-- Invalidation / expiry, trace form: once the storage holds nothing for key `k`, no request for `k`
    that is still unfinished is answered from the cache, whatever the schedule and the clocks do,
    until some request stores a response under `k` again (`noStoreOf`: no event of the run is a second
    critical section of a request with key `k` that ends in `manager.set`). -/
theorem absent_key_never_hit {cfg : Config} (hmb : cfg.maxBytes < 2 ^ 63) {g : G} (h : Reachable cfg g) (k : Key)
    (hk : g.sh.store.lookup k = none) (evs : List Ev) (hns : noStoreOf cfg k g evs = true)
    (t : Nat) (th : Thread) (ht : g.threads[t]? = some th) (hpc : th.pc ≠ .done) (hkey : mkKey th.req = k)
    (th' : Thread) (o : Out) (ht' : (run cfg g evs).threads[t]? = some th') (ho : th'.out = some o) :
    o.xcache ≠ .hit := by
  have hi := reachable_inv hmb h
  have hq := notHit_of_unfinished hi ht hpc
  have hkey' : ∀ x, g.threads[t]? = some x → mkKey x.req = k := by
    intro x hx; rw [ht] at hx; cases hx; exact hkey
  exact (run_absent hmb evs hi k hk hns t hkey' hq).2 th' o ht' ho

/-- the two theorems above composed; `g1` is the state after the invalidating step -/
theorem never_after_invalidation_partial {cfg : Config} (hmb : cfg.maxBytes < 2 ^ 63) {g g1 : G} (h : Reachable cfg g)
    (u : Nat) (thu : Thread) (hu : g.threads[u]? = some thu) (hpcu : thu.pc = .sec1) (hinv : thu.req.inv = true)
    (hts : g.ts ≥ 2) (hfound : lookup1 cfg g.sh g.uts (mkKey thu.req) (faultAt thu.req.f1 0) ≠ none)
    (hdel : (cfg.ext && (faultAt thu.req.f1 1).fails) = false) (hs : step cfg g u = some g1)
    (evs : List Ev) (hns : noStoreOf cfg (mkKey thu.req) g1 evs = true)
    (t : Nat) (th : Thread) (ht : g1.threads[t]? = some th) (hpc : th.pc ≠ .done) (hkey : mkKey th.req = mkKey thu.req)
    (th' : Thread) (o : Out) (ht' : (run cfg g1 evs).threads[t]? = some th') (ho : th'.out = some o) :
    o.xcache ≠ .hit := by
  have hk := invalidation_erases_entry_partial hmb h u thu hu hpcu hinv hts hfound hdel hs
  have hr1 : Reachable cfg g1 := by
    have := h.exec (.step u)
    simpa [exec, hs] using this
  exact absent_key_never_hit hmb hr1 _ hk evs hns t th ht hpc hkey th' o ht' ho

-- `exInv`, then the invalidating request 1 leaves its first section, then request 2 (same key, origin
-- status 500, so it stores nothing) runs to its end: it is not served the entry request 0 stored
set_option maxRecDepth 20000 in
example : (((run exCfg ((step exCfg exInv 1).getD exInv) (steps 2 8)).threads[2]?.getD default).out.getD default).xcache ≠ .hit :=
  never_after_invalidation_partial exCfg_mb exInv_reach 1 _ (getElem?_getD_default (by decide)) (by decide) (by decide)
    (by decide) (by decide) (by decide) (some_getD_default (by decide)) (steps 2 8) (by decide)
    2 _ (getElem?_getD_default (by decide)) (by decide) (by decide) _ _
    (getElem?_getD_default (by decide)) (some_getD_default (by decide))

/-- Hits, step form: the step that serves a hit replays the item the storage holds for the key at
    that moment, unexpired on the storage's clock and on the cache's clock. -/
theorem hit_replays_current {cfg : Config} (hmb : cfg.maxBytes < 2 ^ 63) {g g' : G} (h : Reachable cfg g)
    (t : Nat) (th th' : Thread) (o : Out)
    (ht : g.threads[t]? = some th) (hpc : th.pc = .sec1) (hs : step cfg g t = some g')
    (ht' : g'.threads[t]? = some th') (ho : th'.out = some o) (hx : o.xcache = .hit) :
    ∃ sl, g.sh.store.lookup (mkKey th.req) = some sl ∧ sl.expired g.uts = false ∧
      o = replay cfg { sl.item with body := hitBody cfg g.sh g.uts (mkKey th.req) sl.item } g.ts ∧
      (mkKey th.req ∉ g.sh.dirty → o = replay cfg sl.item g.ts) ∧
      g.ts < sl.item.exp ∧ g'.sh.store = g.sh.store := by
  have hi := reachable_inv hmb h
  unfold step at hs
  rw [ht] at hs
  simp only [hpc] at hs
  have hlt : t < g.threads.length := List.lt_of_getElem? ht
  have hnone : th.out = none := by
    have := hi.th t th ht
    simp only [ThOK, hpc] at this
    exact this.1
  -- in each of the three outcomes `th'` is the thread the step writes back
  cases hr : sec1 cfg g.sh g.ts g.uts th.req (mkKey th.req) <;>
    (rw [hr] at hs; cases hs; simp [G.setThread, hlt] at ht'; subst ht')
  case panic => simp [hnone] at ho
  case pass => simp [hnone] at ho
  case hit o' =>
    simp at ho; subst ho
    rcases sec1_hit hi.clock hr with ⟨sl, h1, h2, h3, _, h4, _⟩
    refine ⟨sl, h1, h2, h3, fun hnd => ?_, h4, rfl⟩
    rw [h3, hitBody_sync (hi.sh.clean _ hnd (fun x => x)).sync h1 h2]

set_option maxRecDepth 20000 in
example : ∃ g, Reachable exCfg g ∧ (g.threads[1]?.map (·.pc)) = some .sec1 ∧
    (((step exCfg g 1).getD g).threads[1]?.map fun th => th.out.map (·.xcache)) = some (some .hit) :=
  ⟨run exCfg (G.init 100 100 [exReq [47, 97] [65, 66] false [], exReq [47, 97] [67] false []]) (steps 0 8 ++ steps 1 2),
   ⟨_, _, _, _, by decide, rfl⟩, by decide +kernel⟩

/-- a request carrying `no-cache` (any letter case) is never answered from the cache -/
theorem no_cache_bypasses_hit {cfg : Config} (hmb : cfg.maxBytes < 2 ^ 63) {g : G} (h : Reachable cfg g)
    (t : Nat) (th : Thread) (o : Out) (ht : g.threads[t]? = some th) (ho : th.out = some o)
    (hnc : hasDirective th.req.cc Facts.noCache = true) : o.xcache ≠ .hit := by
  intro hx
  obtain ⟨_, _, _, hnocache, _⟩ := hit_justified hmb h t th o ht ho hx
  rw [hnc] at hnocache; cases hnocache

set_option maxRecDepth 20000 in
example : ((exConc.threads[3]?.getD default).out.getD default).xcache ≠ .hit :=
  have h := answered_facts (g := exConc) (t := 3) (x := .miss) exConc_facts.fourthMisses
  no_cache_bypasses_hit exCfg_mb exConc_reach 3 _ _ h.1 h.2.1 exConc_facts.fourthNoCache

/-- the same for the RFC 9111 reading of the header (`no-cache` is one of the comma separated directive
    names of the request's Cache-Control value, any letter case, with or without argument) -/
theorem rfc_no_cache_never_hit {cfg : Config} (hmb : cfg.maxBytes < 2 ^ 63) {g : G} (h : Reachable cfg g)
    (t : Nat) (th : Thread) (o : Out) (ht : g.threads[t]? = some th) (ho : th.out = some o)
    (hnc : isNoCacheReq th.req.cc = true) : o.xcache ≠ .hit :=
  no_cache_bypasses_hit hmb h t th o ht ho (directive_implies_substring hnc)

example : isNoCacheReq (b "max-age=0,  No-Cache ") = true := by
  unfold isNoCacheReq; repeat rw [b_ofList]
  decide +kernel

/-- A `no-store` request never takes the mutex and never changes the cache's state: each of its
    steps leaves storage, heap, `storedBytes` and `mux` untouched; its response is the origin's,
    without a cache-status header, and the origin handler ran. -/
theorem no_store_bypasses_all {cfg : Config} (hmb : cfg.maxBytes < 2 ^ 63) {g : G} (h : Reachable cfg g)
    (t : Nat) (th : Thread) (ht : g.threads[t]? = some th) (hns : hasDirective th.req.cc Facts.noStore = true) :
    (∀ g', step cfg g t = some g' → g'.sh.store = g.sh.store ∧ g'.sh.heap = g.sh.heap ∧ g'.sh.stored = g.sh.stored ∧
        g'.mux = g.mux) ∧
    (th.pc = .done → th.out = some (passThrough .absent th.req.resp) ∧ th.ran = true) := by
  have hok := (reachable_inv hmb h).th t th ht
  unfold ThOK at hok
  have hna : ¬ Admitted cfg th.req := fun ha => by rw [ha.notNoStore] at hns; cases hns
  constructor
  · intro g' hs
    rcases step_cases hs with ⟨th0, ht0, hst⟩
    rw [ht] at ht0; cases ht0
    -- a step that takes or releases the mutex, or writes the shared state, starts from a program point behind the no-store test
    cases hst with
    | lock1 hpc _ | hit _ hpc _ | pass _ hpc _ => rw [hpc] at hok; exact absurd hok.2.2 hna
    | lock2 hpc _ | panic2 hpc _ | notStored hpc _ | stored _ hpc _ => rw [hpc] at hok; exact absurd hok.2.2.1 hna
    | _ => exact ⟨rfl, rfl, rfl, rfl⟩
  · intro hpc
    simp only [hpc] at hok
    rcases hok with ⟨o, ho, hd⟩
    rcases hd with ⟨_, _, ha, _⟩ | ⟨_, _, ha, _⟩ | ⟨_, _, _, hn⟩ | ⟨hd, hr, _⟩
    · exact absurd ha hna
    · exact absurd ha hna
    · rw [hn] at hns; cases hns
    · rw [ho, hd]; exact ⟨rfl, hr⟩

def exNoStore : G := run exCfg (G.init 100 100 [exReq [47, 97] [65, 66] false [], exReq [47, 97] [67] false (b "NO-STORE")]) (steps 0 8 ++ steps 1 8)
example : (exNoStore.threads[1]?.getD default).out = some (passThrough .absent (exReq [47, 97] [67] false (b "NO-STORE")).resp) ∧
    (exNoStore.threads[1]?.getD default).ran = true :=
  (no_store_bypasses_all exCfg_mb ⟨_, _, _, _, by decide, rfl⟩ 1 _ (getElem?_getD_default (by decide)) (by decide)).2 (by decide)

/-- the same for the RFC 9111 reading of the header -/
theorem rfc_no_store_bypasses_all {cfg : Config} (hmb : cfg.maxBytes < 2 ^ 63) {g : G} (h : Reachable cfg g)
    (t : Nat) (th : Thread) (ht : g.threads[t]? = some th) (hns : isNoStoreReq th.req.cc = true) :
    (∀ g', step cfg g t = some g' → g'.sh.store = g.sh.store ∧ g'.sh.heap = g.sh.heap ∧ g'.sh.stored = g.sh.stored ∧
        g'.mux = g.mux) ∧
    (th.pc = .done → th.out = some (passThrough .absent th.req.resp) ∧ th.ran = true) :=
  no_store_bypasses_all hmb h t th ht (directive_implies_substring hns)

example : isNoStoreReq (b "No-Store, max-age=0") = true := by
  unfold isNoStoreReq; repeat rw [b_ofList]
  decide +kernel

/-- Whatever the storage holds was produced by a finished request whose status is in the
    cacheable table, whose method is configured, which was not `no-store`, under that request's key. -/
theorem only_cacheable_stored {cfg : Config} (hmb : cfg.maxBytes < 2 ^ 63) {g : G} (h : Reachable cfg g)
    (k : Key) (sl : Slot) (hl : g.sh.store.lookup k = some sl) :
    cacheable sl.item.status = true ∧
    ∃ (u : Nat) (thu : Thread), g.threads[u]? = some thu ∧ mkKey thu.req = k ∧
      cfg.effMethods.contains thu.req.method = true ∧ hasDirective thu.req.cc Facts.noStore = false ∧
      cfg.disabled = false ∧ sl.item.status = thu.req.resp.status ∧ sl.item.body = thu.req.resp.body := by
  rcases (reachable_inv hmb h).origin k sl hl with ⟨u, thu, idx, hu, hst, hk, hit⟩
  rw [hit]
  exact ⟨hst.statusOK, u, thu, hu, hk, hst.admitted.method, hst.admitted.notNoStore, hst.admitted.enabled, rfl, rfl⟩

set_option maxRecDepth 20000 in
example : ∃ k sl, exConc.sh.store.lookup k = some sl ∧ cacheable sl.item.status = true :=
  have hslot := exConc_facts.fourthStored
  ⟨mkKey (exReq [47, 97] [72] false []), (exConc.sh.store.lookup (mkKey (exReq [47, 97] [72] false []))).getD default,
   some_getD_default hslot, (only_cacheable_stored exCfg_mb exConc_reach _ _ (some_getD_default hslot)).1⟩
-- a response with status 500 is passed through and nothing is stored
example : (run exCfg (G.init 100 100 [exReqS 500 [47, 97] [65] false []]) (steps 0 8)).sh.store = [] := by decide +kernel

/-- A response whose origin handler failed (`c.Next()` returned an error) is never stored: whatever the
    storage holds was stored by a request whose handler succeeded; a request whose handler fails never enters
    the second critical section, is never answered `miss`, and the step in which its handler fails leaves the
    storage, the heap, `storedBytes` and the mutex as they were (the middleware returns the error unchanged,
    without a cache-status header). -/
theorem failed_response_never_stored {cfg : Config} (hmb : cfg.maxBytes < 2 ^ 63) {g : G} (h : Reachable cfg g) :
    (∀ k sl, g.sh.store.lookup k = some sl →
      ∃ (u : Nat) (thu : Thread) (idx : Nat), g.threads[u]? = some thu ∧ thu.req.err = false ∧ mkKey thu.req = k ∧
        sl.item = mkItem cfg thu.req thu.ts idx) ∧
    (∀ (t : Nat) (th : Thread), g.threads[t]? = some th → th.req.err = true →
      th.pc ≠ .afterNext ∧ th.pc ≠ .wantLock2 ∧ th.pc ≠ .sec2 ∧ ∀ o, th.out = some o → o.xcache ≠ .miss) ∧
    (∀ (t : Nat) (th : Thread) (g' : G), g.threads[t]? = some th → th.req.err = true → th.pc = .next →
      step cfg g t = some g' →
        g'.sh.store = g.sh.store ∧ g'.sh.bodies = g.sh.bodies ∧ g'.sh.heap = g.sh.heap ∧ g'.sh.stored = g.sh.stored ∧
        g'.mux = g.mux ∧
        g'.threads[t]? = some { th with pc := .done, ran := true, out := some (passThrough .absent th.req.resp) }) := by
  have hi := reachable_inv hmb h
  refine ⟨?_, ?_, ?_⟩
  · intro k sl hl
    rcases hi.origin k sl hl with ⟨u, thu, idx, hu, hst, hk, hit⟩
    exact ⟨u, thu, idx, hu, hst.noErr, hk, hit⟩
  · intro t th ht herr
    have hok := hi.th t th ht
    unfold ThOK at hok
    refine ⟨?_, ?_, ?_, ?_⟩
    -- at these three program points `ThOK` records, as its last component, that the handler did not fail
    · intro hpc; simp only [hpc] at hok; obtain ⟨_, _, _, hnoerr⟩ := hok; rw [hnoerr] at herr; cases herr
    · intro hpc; simp only [hpc] at hok; obtain ⟨_, _, _, _, hnoerr⟩ := hok; rw [hnoerr] at herr; cases herr
    · intro hpc; simp only [hpc] at hok; obtain ⟨_, _, _, _, hnoerr⟩ := hok; rw [hnoerr] at herr; cases herr
    · intro o ho hx
      rcases (done_of_out hi ht ho).2 with ⟨hh, _⟩ | ⟨_, _, _, _, _, he⟩ | ⟨hd, _⟩ | ⟨hd, _⟩
      · rw [hh] at hx; cases hx
      · rw [he] at herr; cases herr
      · rw [hd] at hx; simp [passThrough] at hx
      · rw [hd] at hx; simp [passThrough] at hx
  · intro t th g' ht herr hpc hs
    unfold step at hs
    rw [ht] at hs
    simp only [hpc, herr, if_true] at hs
    cases hs
    have hlt : t < g.threads.length := List.lt_of_getElem? ht
    refine ⟨rfl, rfl, rfl, rfl, rfl, ?_⟩
    simp [G.setThread, hlt]

-- a failing handler with a cacheable status (404): the error passes through, nothing is stored, the next request misses
example : ((run exCfg (G.init 100 100 [{ exReqS 404 [47, 97] [65] false [] with err := true }, exReq [47, 97] [66] false []])
    (steps 0 8 ++ steps 1 8)).threads.map fun th => th.out.map (·.xcache)) = [some .absent, some .miss] := by decide +kernel
example : (run exCfg (G.init 100 100 [{ exReqS 404 [47, 97] [65] false [] with err := true }]) (steps 0 8)).sh.store = [] := by decide +kernel

/-- In a run in which no `Storage.Set` / `Storage.Delete` (nor `Get` of a body) fails – `Get`s of entries may
    fail or deliver garbage at will – no key ever becomes dirty and no request is tainted: the hypotheses
    `dirty = []` / `taint = false` of the theorems above hold throughout. -/
theorem quiet_runs_stay_clean {cfg : Config} (ts uts : Nat) (reqs : List Req) (evs : List Ev)
    (hq : ∀ q ∈ reqs, q.quiet) :
    (run cfg (G.init ts uts reqs) evs).sh.dirty = [] ∧
    ∀ (t : Nat) (th : Thread), (run cfg (G.init ts uts reqs) evs).threads[t]? = some th → th.taint = false :=
  have hq := run_quiet (cfg := cfg) evs (init_quiet ts uts reqs hq)
  ⟨hq.clean, hq.untainted⟩

example : (exReq [47, 97] [65] false []).quiet ∧ ({ exReq [47, 97] [65] false [] with f1 := [.garbled] } : Req).quiet :=
  ⟨quiet_of (by decide) (by decide), quiet_of (by decide) (by decide)⟩

/-- `storedBytes` = Σ body sizes of what the cache has stored and neither deleted nor replaced -/
theorem stored_bytes_exact {cfg : Config} (hmb : cfg.maxBytes < 2 ^ 63) (hpos : cfg.maxBytes > 0) {g : G}
    (h : ReachableQ cfg g) : g.sh.stored = totalBody g.sh.store :=
  stored_bytes_exact_partial hmb hpos h.reachable h.quietOK.clean

/-- `held + lapsed = storedBytes`: the bytes the storage physically holds are exactly the bytes counted, minus
    what the storage itself has let lapse (TTL on its own clock) -/
theorem held_plus_lapsed_eq_stored {cfg : Config} (hmb : cfg.maxBytes < 2 ^ 63) (hpos : cfg.maxBytes > 0) {g : G}
    (h : ReachableQ cfg g) (uts : Nat) : physHeld cfg g.sh uts + g.sh.store.lapsed uts = g.sh.stored :=
  held_plus_lapsed_eq_stored_partial hmb hpos h.reachable h.quietOK.clean uts

theorem held_eq_stored_when_nothing_lapsed {cfg : Config} (hmb : cfg.maxBytes < 2 ^ 63) (hpos : cfg.maxBytes > 0) {g : G}
    (h : ReachableQ cfg g) (uts : Nat) (hl : ∀ p ∈ g.sh.store, p.2.expired uts = false) :
    physHeld cfg g.sh uts = g.sh.stored :=
  held_eq_stored_when_nothing_lapsed_partial hmb hpos h.reachable h.quietOK.clean uts hl

/-- "The bytes held never exceed MaxBytes" -/
theorem held_never_exceeds_maxbytes {cfg : Config} (hmb : cfg.maxBytes < 2 ^ 63) (hpos : cfg.maxBytes > 0) {g : G}
    (h : ReachableQ cfg g) (uts : Nat) :
    physHeld cfg g.sh uts ≤ g.sh.stored ∧ physHeld cfg g.sh uts ≤ cfg.maxBytes :=
  held_never_exceeds_maxbytes_partial hmb hpos h.reachable h.quietOK.clean uts

/-- every stored response is tracked by a live heap entry of its key and size (MaxBytes > 0) -/
theorem stored_items_tracked {cfg : Config} (hmb : cfg.maxBytes < 2 ^ 63) (hpos : cfg.maxBytes > 0) {g : G}
    (h : ReachableQ cfg g) : Tracked g.sh :=
  stored_items_tracked_partial hmb hpos h.reachable h.quietOK.clean

theorem heap_entries_cover_store {cfg : Config} (hmb : cfg.maxBytes < 2 ^ 63) {g : G} (h : ReachableQ cfg g) :
    Covered g.sh ∧ KInv g.sh.heap :=
  ⟨(heap_entries_cover_store_partial hmb h.reachable).1 h.quietOK.clean, (heap_entries_cover_store_partial hmb h.reachable).2⟩

theorem entry_and_body_in_step {cfg : Config} (hmb : cfg.maxBytes < 2 ^ 63) {g : G} (h : ReachableQ cfg g) (k : Key) :
    g.sh.bodies.lookup k = (g.sh.store.lookup k).map fun sl => ⟨sl.item.body, sl.sexp⟩ :=
  entry_and_body_in_step_partial hmb h.reachable k (by rw [h.quietOK.clean]; simp)

/-- A response served from the cache is identical in status, body, content type, encoding and stored
    headers to what the origin handler produced, in a finished request `u` that stored it under the
    same cache key (`KeyGenerator` result + method). The origin handler is not invoked. -/
theorem hit_is_transparent {cfg : Config} (hmb : cfg.maxBytes < 2 ^ 63) {g : G} (h : ReachableQ cfg g)
    (t : Nat) (th : Thread) (o : Out) (ht : g.threads[t]? = some th) (ho : th.out = some o) (hx : o.xcache = .hit) :
    th.ran = false ∧
    ∃ (u : Nat) (thu : Thread), g.threads[u]? = some thu ∧ thu.pc = .done ∧ thu.ran = true ∧
      thu.out = some (passThrough .miss thu.req.resp) ∧ mkKey thu.req = mkKey th.req ∧
      o.status = thu.req.resp.status ∧ o.body = thu.req.resp.body ∧ o.ctype = effCType thu.req.resp.ctype ∧
      o.cenc = thu.req.resp.cenc ∧
      o.headers = (if cfg.cacheControl then
          setHdr (storedHeaders cfg thu.req.resp) (b "Cache-Control")
            (b "public, max-age=" ++ natToDec (thu.ts + expSecs cfg thu.req - th.ts))
        else storedHeaders cfg thu.req.resp) :=
  hit_is_transparent_partial hmb h.reachable t th o ht ho hx (h.quietOK.untainted t th ht)

/-- Invalidation, step form: the first critical section of a request for which the invalidator fires and which
    finds an entry erases the key from the storage -/
theorem invalidation_erases_entry {cfg : Config} (hmb : cfg.maxBytes < 2 ^ 63) {g g' : G} (h : ReachableQ cfg g)
    (t : Nat) (th : Thread) (ht : g.threads[t]? = some th) (hpc : th.pc = .sec1) (hinv : th.req.inv = true)
    (hts : g.ts ≥ 2) (hfound : lookup1 cfg g.sh g.uts (mkKey th.req) (faultAt th.req.f1 0) ≠ none)
    (hs : step cfg g t = some g') : g'.sh.store.lookup (mkKey th.req) = none :=
  invalidation_erases_entry_partial hmb h.reachable t th ht hpc hinv hts hfound
    (by rw [(h.quietOK.quiet t th ht).1 1 (by omega)]; simp) hs

/-- "… never served after its … invalidation": after the first critical section of a request for which
    the `CacheInvalidator` fired (and which found an entry), every request for the same cache key that
    has not been answered yet is not answered from the cache in any continuation of the run – any
    interleaving, any clock advance – in which no response is stored under that key again. -/
theorem never_after_invalidation {cfg : Config} (hmb : cfg.maxBytes < 2 ^ 63) {g g1 : G} (h : ReachableQ cfg g)
    (u : Nat) (thu : Thread) (hu : g.threads[u]? = some thu) (hpcu : thu.pc = .sec1) (hinv : thu.req.inv = true)
    (hts : g.ts ≥ 2) (hfound : lookup1 cfg g.sh g.uts (mkKey thu.req) (faultAt thu.req.f1 0) ≠ none)
    (hs : step cfg g u = some g1)
    (evs : List Ev) (hns : noStoreOf cfg (mkKey thu.req) g1 evs = true)
    (t : Nat) (th : Thread) (ht : g1.threads[t]? = some th) (hpc : th.pc ≠ .done) (hkey : mkKey th.req = mkKey thu.req)
    (th' : Thread) (o : Out) (ht' : (run cfg g1 evs).threads[t]? = some th') (ho : th'.out = some o) :
    o.xcache ≠ .hit :=
  never_after_invalidation_partial hmb h.reachable u thu hu hpcu hinv hts hfound
    (by rw [(h.quietOK.quiet u thu hu).1 1 (by omega)]; simp) hs evs hns t th ht hpc hkey th' o ht' ho

/-- "… or corrupt its accounting", step form of what an observer of the storage sees: a request that stores a
    response which fits next to everything the cache has stored under other keys evicts nothing – the storage
    afterwards holds what it held, plus / with the new response under the request's key. (Fails without `h.keys`: GET /a, GET /a no-cache,
    GET /b with one-byte bodies and MaxBytes 2 evicts the fresh /a – F4, witness `f4.recount`.) -/
theorem no_needless_eviction {cfg : Config} (hmb : cfg.maxBytes < 2 ^ 63) (hpos : cfg.maxBytes > 0) {g g' : G}
    (h : ReachableQ cfg g) (t : Nat) (th : Thread) (ht : g.threads[t]? = some th) (hpc : th.pc = .sec2)
    (hfit : totalBody (g.sh.store.erase (mkKey th.req)) + th.req.resp.body.length ≤ cfg.maxBytes)
    (hs : step cfg g t = some g') :
    (∃ idx, g'.sh.store = g.sh.store.set (mkKey th.req) ⟨mkItem cfg th.req th.ts idx, storageExp cfg th.req g.uts⟩) ∨
    g'.sh.store = g.sh.store := by
  have hi := reachable_inv hmb h.reachable
  unfold step at hs
  rw [ht] at hs
  simp only [hpc] at hs
  cases hr : sec2 cfg g.sh th.ts g.uts th.req (mkKey th.req) <;> (rw [hr] at hs; cases hs)
  case stored sh' => exact Or.inl (sec2_no_needless_eviction hmb hpos hi.sh h.quietOK.clean (h.quietOK.quiet t th ht).2 hfit hr)
  all_goals exact Or.inr rfl

-- non-vacuity of the full-strength statements: the example states are reachable without storage faults …
theorem exSeq_reachQ : ReachableQ exCfg exSeq :=
  ⟨_, _, _, _, by decide, quiet_of_forall (by decide), rfl⟩
theorem exConc_reachQ : ReachableQ exCfg exConc :=
  ⟨_, _, _, _, by decide, quiet_of_forall (by decide), rfl⟩
theorem exInv_reachQ : ReachableQ exCfg exInv :=
  ⟨_, _, _, _, by decide, quiet_of_forall (by decide), rfl⟩
/-- reachable without a failing `Set`/`Delete` as well: a history whose second request finds the storage unable to deliver the entry -/
def exGetFault : G := run exCfg (G.init 100 100 [exReq [47, 97] [65, 66] false [],
    { exReq [47, 97] [67] false [] with f1 := [.garbled] }, exReq [47, 97] [68] false []]) (steps 0 8 ++ steps 1 8 ++ steps 2 8)
theorem exGetFault_reachQ : ReachableQ exCfg exGetFault :=
  ⟨_, _, _, _, by decide, quiet_of_forall (by decide), rfl⟩
-- request 1 misses although `/a` is stored (its Get delivered garbage) and stores its own response; request 2 is served that
set_option maxRecDepth 20000 in
example : (exGetFault.threads.map fun th => th.out.map fun o : Out => (o.xcache, o.body)) =
    [some (.miss, [65, 66]), some (.miss, [67]), some (.hit, [67])] := by decide +kernel
example :=
  have h := answered_facts (g := exGetFault) (t := 2) (x := .hit) (by decide +kernel)
  hit_is_transparent exCfg_mb exGetFault_reachQ 2 _ _ h.1 h.2.1 h.2.2
example :=
  have h := answered_facts exSeq_facts.hit
  hit_is_transparent exCfg_mb exSeq_reachQ 1 _ _ h.1 h.2.1 h.2.2
example : exConc.sh.stored = totalBody exConc.sh.store := stored_bytes_exact exCfg_mb (by decide) exConc_reachQ
example : physHeld exCfg exConc.sh 100 ≤ exCfg.maxBytes := (held_never_exceeds_maxbytes exCfg_mb (by decide) exConc_reachQ 100).2
example : Tracked exConc.sh ∧ Covered exConc.sh :=
  ⟨stored_items_tracked exCfg_mb (by decide) exConc_reachQ, (heap_entries_cover_store exCfg_mb exConc_reachQ).1⟩
example := held_plus_lapsed_eq_stored exCfg_mb (by decide) exSeq_reachQ 102
example := entry_and_body_in_step exCfg_mb exSeq_reachQ (mkKey (exReq [47, 97] [68] false []))
set_option maxRecDepth 20000 in
example : (((run exCfg ((step exCfg exInv 1).getD exInv) (steps 2 8)).threads[2]?.getD default).out.getD default).xcache ≠ .hit :=
  never_after_invalidation exCfg_mb exInv_reachQ 1 _ (getElem?_getD_default (by decide)) (by decide) (by decide)
    (by decide) (by decide) (some_getD_default (by decide)) (steps 2 8) (by decide)
    2 _ (getElem?_getD_default (by decide)) (by decide) (by decide) _ _
    (getElem?_getD_default (by decide)) (some_getD_default (by decide))
-- `no_needless_eviction`: `/b` (1 byte) fits next to `/a` (1 byte) with MaxBytes 2: the step that stores it keeps `/a`
set_option maxRecDepth 20000 in
example : ∃ g, ReachableQ { exCfg with maxBytes := 2 } g ∧ (g.threads[1]?.map (·.pc)) = some .sec2 ∧
    totalBody (g.sh.store.erase (mkKey (exReq [47, 98] [66] false []))) + 1 ≤ 2 :=
  ⟨run { exCfg with maxBytes := 2 } (G.init 100 100 [exReq [47, 97] [65] false [], exReq [47, 98] [66] false []]) (steps 0 8 ++ steps 1 6),
   ⟨_, _, _, _, by decide, quiet_of_forall (by decide), rfl⟩, by decide +kernel⟩

/-- the fixed witness of F4 in the model: /a, /a again (no-cache), /b with one-byte bodies and MaxBytes 2 – both
    responses are held afterwards and the fourth request is a hit -/
def exRecount : G := run { exCfg with maxBytes := 2, expiration := 60 } (G.init 100 100 [exReq [47, 97] [65] false [],
    exReq [47, 97] [66] false (b "no-cache"), exReq [47, 98] [67] false [], exReq [47, 97] [68] false []])
  (steps 0 8 ++ steps 1 8 ++ steps 2 8 ++ steps 3 8)
set_option maxRecDepth 20000 in
example : (exRecount.threads.map fun th => th.out.map fun o : Out => (o.xcache, o.body)) =
    [some (.miss, [65]), some (.miss, [66]), some (.miss, [67]), some (.hit, [66])] ∧ exRecount.sh.stored = 2 ∧
    exRecount.sh.heap.live.length = 2 := by decide +kernel

/-- K1, witnessed in the model: `GET /a` is stored (status 200, body `AB`); a `no-cache` refresh produces status
    203 and body `C`, but its second `Storage.Set` (the entry) fails and the code ignores it: the storage holds
    the OLD entry with the NEW body, and the next request is answered `hit` with status 200 and body `C` – the
    response of no request. The key is dirty, the request tainted: exactly the region the `…_partial`
    theorems exclude. -/
def exK1 : G := run exCfg (G.init 100 100 [exReq [47, 97] [65, 66] false [],
    { exReqS 203 [47, 97] [67] false (b "no-cache") with f2 := [.ok, .err] }, exReq [47, 97] [68] false []])
  (steps 0 8 ++ steps 1 8 ++ steps 2 8)
theorem exK1_reach : Reachable exCfg exK1 := ⟨_, _, _, _, by decide, rfl⟩
theorem exK1_facts :
    (((exK1.threads[2]?.getD default).out.map fun o : Out => (o.xcache, o.status, o.body)) = some (XCache.hit, 200, [67]) ∧
      (exK1.threads[2]?.getD default).taint = true ∧ exK1.sh.dirty = [mkKey (exReq [47, 97] [65, 66] false [])]) ∧
    ∀ x ∈ exK1.threads, ¬ (((exK1.threads[2]?.getD default).out.getD default).status = x.req.resp.status ∧
      ((exK1.threads[2]?.getD default).out.getD default).body = x.req.resp.body) := by decide +kernel
set_option maxRecDepth 20000 in
example : ((exK1.threads[2]?.getD default).out.map fun o : Out => (o.xcache, o.status, o.body)) = some (XCache.hit, 200, [67]) ∧
    (exK1.threads[2]?.getD default).taint = true ∧ exK1.sh.dirty = [mkKey (exReq [47, 97] [65, 66] false [])] := exK1_facts.1

/-- the full statement of `hit_is_transparent` fails on it: no request produced status 200 with body `C` -/
theorem hit_is_transparent_witness_K1 :
    ¬ ∃ (u : Nat) (thu : Thread), exK1.threads[u]? = some thu ∧
        ((exK1.threads[2]?.getD default).out.getD default).status = thu.req.resp.status ∧
        ((exK1.threads[2]?.getD default).out.getD default).body = thu.req.resp.body := by
  rintro ⟨u, thu, hu, hs, hb⟩
  exact exK1_facts.2 thu (List.mem_of_getElem? hu) ⟨hs, hb⟩

/-- … the count is intact there too: `storedBytes` = Σ bytes of the live heap entries ≤ MaxBytes -/
example : Accounted exCfg exK1.sh := bytes_accounted exCfg_mb exK1_reach

/-- K1, the accounting side: `/a` (3 bytes) is stored, `/b` (3 bytes) evicts it, but the storage refuses to delete
    `/a`'s body (second `Delete` of the eviction fails, ignored): 6 bytes are held with MaxBytes 5 -/
def exK1held : G := run exCfg (G.init 100 100 [exReq [47, 97] [65, 66, 67] false [],
    { exReq [47, 98] [68, 69, 70] false [] with f2 := [.ok, .err] }]) (steps 0 8 ++ steps 1 8)
theorem exK1held_facts :
    ¬ physHeld exCfg exK1held.sh 100 ≤ exCfg.maxBytes ∧ (exK1held.sh.dirty ≠ [] ∧ exK1held.sh.stored = 3) := by decide +kernel
theorem held_never_exceeds_maxbytes_witness_K1 : ¬ physHeld exCfg exK1held.sh 100 ≤ exCfg.maxBytes := exK1held_facts.1
set_option maxRecDepth 20000 in
example : exK1held.sh.dirty ≠ [] ∧ exK1held.sh.stored = 3 := exK1held_facts.2

/-- the regenerated status table contains only statuses the spec allows a cache to store (RFC 9110
    §15.1 heuristically cacheable, plus 418 which fiber adds) -/
theorem cacheable_table_sound : ∀ s ∈ Facts.cacheableStatusCodes, specCacheable s = true := by
  decide

theorem cacheable_implies_spec (s : Nat) (h : cacheable s = true) : specCacheable s = true := by
  unfold cacheable at h
  exact cacheable_table_sound s (by simpa using h)

/-- the regenerated data-flow facts the model of the handler relies on: the entry is looked up
    after `mux.Lock()`, and `heap.remove` is called with the key to check -/
theorem facts_get_under_lock : Facts.getUnderLock = true := by decide
theorem facts_remove_checks_key : Facts.removeChecksKey = true := by decide
/-- cache.go drops what is tracked for the key (`heap.removeKey`) inside the second critical section before
    `heap.put`, and heap.go keeps `h.keys` in `put` / `removeInternal` / `removeKey` – what `sec2` and
    `Heap.put/removeInternal/removeKey` transcribe -/
theorem facts_key_tracked_once : Facts.storeDropsTracked = true ∧ Facts.keyMapMaintained = true := by decide
/-- manager.go `get` blanks the item when `UnmarshalMsg` fails, and the hit condition of cache.go goes through
    `manager.loadBody` – what `lookup1` (`Fault.noEntry`) and `sec1Found` (body `Get` failed → not served) transcribe -/
theorem facts_get_faults_are_misses : Facts.getFaultsAreMisses = true := by decide
/-- every byte slice the stored item keeps (`e.body`, `e.ctype`, `e.cencoding`, `e.headers[…]`) is assigned from
    `utils.CopyBytes(…)` (or `nil`) in cache.go: the item owns its bytes – what `mkItem` (a value, not a view of the
    response) transcribes. fasthttp recycles the buffers of a response with its connection context; an aliased
    header value would be overwritten by the next response served on that connection. -/
theorem facts_stored_slices_copied : Facts.storedSlicesCopied = true := by decide

end C14
