import FiberModel.C14.HeapLemmas
/-
C14 — lemmas about the handler model: the invariant of the state protected by `mux` is kept by both
critical sections under every outcome of the storage calls, so they cannot panic; for the keys whose
`Set`/`Delete` calls all went through, entry, body and heap entry stay in step.
-/
namespace C14
open B

theorem uadd_eq {a b : Nat} (h : a + b < U64) : uadd a b = a + b := by
  unfold uadd; exact Nat.mod_eq_of_lt h

theorem usub_eq {a b : Nat} (hb : b ≤ a) (ha : a < U64) : usub a b = a - b := by
  unfold usub
  have hb' : b < U64 := Nat.lt_of_le_of_lt hb ha
  rw [Nat.mod_eq_of_lt hb']
  have : a + (U64 - b) = (a - b) + U64 := by omega
  rw [this, Nat.add_mod_right]
  exact Nat.mod_eq_of_lt (Nat.lt_of_le_of_lt (Nat.sub_le a b) ha)

theorem two_pow_63_add : 2 ^ 63 + 2 ^ 63 = U64 := by unfold U64; decide

theorem lt_U64 {a m : Nat} (hmb : m < 2 ^ 63) (ha : a ≤ m) : a < U64 := by have := two_pow_63_add; omega
theorem add_lt_U64 {a b m : Nat} (hmb : m < 2 ^ 63) (ha : a ≤ m) (hb : b ≤ m) : a + b < U64 := by
  have := two_pow_63_add; omega

theorem mem_markDirty (d : List Key) (k k' : Key) (failed : Bool) :
    k' ∈ markDirty d k failed ↔ (k' = k ∧ failed = true) ∨ (k' ≠ k ∧ k' ∈ d) := by
  unfold markDirty
  cases failed <;> simp [List.mem_filter, and_comm]

def StoreSub (a b : Store) : Prop := ∀ k sl, a.lookup k = some sl → b.lookup k = some sl

theorem StoreSub.refl (a : Store) : StoreSub a a := fun _ _ h => h
theorem StoreSub.trans {a b c : Store} (h1 : StoreSub a b) (h2 : StoreSub b c) : StoreSub a c :=
  fun k sl h => h2 k sl (h1 k sl h)

theorem deleteKey_sub (cfg : Config) (sh : Shared) (k : Key) (d1 d2 : Fault) :
    StoreSub (sh.deleteKey cfg k d1 d2).store sh.store := by
  unfold Shared.deleteKey
  simp only
  split
  · exact StoreSub.refl _
  · intro k' sl h
    rw [lookup_erase] at h
    by_cases hk : k' = k
    · simp [hk] at h
    · simpa [hk] using h

def TrackedK (sh : Shared) (k : Key) : Prop :=
  ∀ sl, sh.store.lookup k = some sl →
    ∃ e, sh.heap.find sl.item.heapidx = some e ∧ e.key = k ∧ e.bytes = sl.item.body.length

def CoveredK (sh : Shared) (k : Key) : Prop :=
  ∀ (p : Nat) (e : HEntry), sh.heap.live[p]? = some e → e.key = k → ∃ sl, sh.store.lookup k = some sl

/-- entry and separately stored body of `k` belong together (same body, same storage expiry) -/
def SyncK (sh : Shared) (k : Key) : Prop :=
  sh.bodies.lookup k = (sh.store.lookup k).map fun sl => ⟨sl.item.body, sl.sexp⟩

def CleanK (cfg : Config) (sh : Shared) (k : Key) : Prop :=
  (cfg.maxBytes > 0 → TrackedK sh k) ∧ CoveredK sh k ∧ SyncK sh k

theorem CleanK.tracked {cfg : Config} {sh : Shared} {k : Key} (h : CleanK cfg sh k) : cfg.maxBytes > 0 → TrackedK sh k := h.1
theorem CleanK.covered {cfg : Config} {sh : Shared} {k : Key} (h : CleanK cfg sh k) : CoveredK sh k := h.2.1
theorem CleanK.sync {cfg : Config} {sh : Shared} {k : Key} (h : CleanK cfg sh k) : SyncK sh k := h.2.2

/-- The invariant. The heap, its key map and the count are consistent whatever the storage does; entry,
    body and heap entry of a key are in step unless a `Set`/`Delete` of that key failed and has not been
    made good (`dirty`). `H`: keys whose heap entry the running section has already dropped while their
    entry is still stored (closed again by the `Delete`s / `Set`s that follow). -/
structure ShInvX (cfg : Config) (sh : Shared) (H : Key → Prop) : Prop where
  hinv : HInv sh.heap
  kinv : KInv sh.heap
  nodup : (sh.store.map (·.1)).Nodup
  bnodup : (sh.bodies.map (·.1)).Nodup
  acc : sh.stored = sumBytes sh.heap.live
  bound : cfg.maxBytes > 0 → sh.stored ≤ cfg.maxBytes
  unused : cfg.maxBytes = 0 → sh.heap = Heap.empty
  clean : ∀ k, k ∉ sh.dirty → ¬ H k → CleanK cfg sh k

abbrev ShInv (cfg : Config) (sh : Shared) : Prop := ShInvX cfg sh fun _ => False

theorem ShInvX.weaken {cfg : Config} {sh : Shared} {H H' : Key → Prop} (hi : ShInvX cfg sh H) (hh : ∀ k, H k → H' k) :
    ShInvX cfg sh H' :=
  ⟨hi.hinv, hi.kinv, hi.nodup, hi.bnodup, hi.acc, hi.bound, hi.unused, fun k hk hn => hi.clean k hk (fun h => hn (hh k h))⟩

theorem ShInv_empty (cfg : Config) : ShInv cfg Shared.empty :=
  ⟨HInv_empty, KInv_empty, by simp [Shared.empty], by simp [Shared.empty], rfl, fun _ => Nat.zero_le _, fun _ => rfl,
   fun k _ _ => ⟨fun _ sl h => by simp [Shared.empty, Store.lookup] at h,
     fun p e h => by simp [Shared.empty, Heap.empty] at h,
     by simp [SyncK, Shared.empty, Store.lookup, BStore.lookup]⟩⟩

theorem ShInvX.tracked {cfg : Config} {sh : Shared} (hi : ShInv cfg sh) (hpos : cfg.maxBytes > 0) (hd : sh.dirty = []) :
    Tracked sh := by
  intro k sl hl
  exact (hi.clean k (by simp [hd]) (fun h => h)).tracked hpos sl hl

/-- every live heap entry tracks a key the cache has stored (and neither deleted nor replaced) -/
def Covered (sh : Shared) : Prop :=
  ∀ (p : Nat) (e : HEntry), sh.heap.live[p]? = some e → ∃ sl, sh.store.lookup e.key = some sl

theorem ShInvX.covered {cfg : Config} {sh : Shared} (hi : ShInv cfg sh) (hd : sh.dirty = []) : Covered sh := by
  intro p e hp
  exact (hi.clean e.key (by simp [hd]) (fun h => h)).covered p e hp rfl

theorem CleanK.congr {cfg : Config} {sh sh' : Shared} {k : Key} (hc : CleanK cfg sh k)
    (hi : HInv sh.heap) (hi' : HInv sh'.heap)
    (hs : sh'.store.lookup k = sh.store.lookup k) (hb : sh'.bodies.lookup k = sh.bodies.lookup k)
    (hf : ∀ e : HEntry, e.key = k → (e ∈ sh'.heap.live ↔ e ∈ sh.heap.live)) :
    CleanK cfg sh' k := by
  rcases hc with ⟨ht, hcov, hsync⟩
  refine ⟨fun hp sl hl => ?_, fun p e hp hek => ?_, ?_⟩
  · rw [hs] at hl
    rcases ht hp sl hl with ⟨e, he, hek, heb⟩
    rw [find_some_iff_mem hi] at he
    exact ⟨e, (find_some_iff_mem hi' _ _).mpr ⟨he.1, (hf e hek).mpr he.2⟩, hek, heb⟩
  · rcases List.mem_iff_getElem?.mp ((hf e hek).mp (List.mem_of_getElem? hp)) with ⟨p0, hp0⟩
    rw [hs]; exact hcov p0 e hp0 hek
  · unfold SyncK; rw [hs, hb]; exact hsync

/-! The heap side of the sections: an entry leaves / enters the heap and the count. Its key joins the holes: the
stored item is (still / already) there without a heap entry, or the other way round; the `Delete`s / `Set`s that
follow close the hole. -/

theorem changeEntry_inv {cfg : Config} (hpos : cfg.maxBytes > 0) {sh : Shared} {H : Key → Prop} (hi : ShInvX cfg sh H)
    {x : HEntry} {h' : Heap} {n : Nat} (hh : HInv h') (hk' : KInv h') (hn : n = sumBytes h'.live) (hb : n ≤ cfg.maxBytes)
    (hf : ∀ e : HEntry, e.key ≠ x.key → (e ∈ h'.live ↔ e ∈ sh.heap.live)) :
    ShInvX cfg { sh with heap := h', stored := n } (fun k => H k ∨ k = x.key) :=
  ⟨hh, hk', hi.nodup, hi.bnodup, hn, fun _ => hb, fun h0 => absurd h0 (Nat.ne_of_gt hpos), fun k hk hhole =>
    (hi.clean k hk fun h => hhole (Or.inl h)).congr hi.hinv hh rfl rfl
      fun e he => hf e (by rw [he]; exact fun h => hhole (Or.inr h))⟩

theorem removeEntry_inv {cfg : Config} (hmb : cfg.maxBytes < 2 ^ 63) (hpos : cfg.maxBytes > 0) {sh : Shared}
    {H : Key → Prop} (hi : ShInvX cfg sh H) {x : HEntry} {h' : Heap} (hr : Plus h' sh.heap x)
    (hk' : KInv h') :
    ShInvX cfg { sh with heap := h', stored := usub sh.stored x.bytes } (fun k => H k ∨ k = x.key) := by
  have hb := hi.bound hpos
  have hsub : usub sh.stored x.bytes = sumBytes h'.live := by
    rw [usub_eq (by rw [hi.acc, hr.sum]; exact Nat.le_add_left _ _) (lt_U64 hmb hb), hi.acc, hr.sum, Nat.add_sub_cancel]
  refine changeEntry_inv hpos hi hr.small hk' hsub ?_ fun e he => (hr.mem_other he).symm
  rw [hsub]; exact Nat.le_trans (Nat.le_add_right _ x.bytes) (by rw [← hr.sum, ← hi.acc]; exact hb)

/-- the entry enters for a key that is a hole already (the section has dropped what was tracked for it) -/
theorem addEntry_inv {cfg : Config} (hmb : cfg.maxBytes < 2 ^ 63) (hpos : cfg.maxBytes > 0) {sh : Shared}
    {H : Key → Prop} (hi : ShInvX cfg sh H) {a : HEntry} {h' : Heap} (ha : Plus sh.heap h' a) (hk' : KInv h')
    (hroom : sh.stored + a.bytes ≤ cfg.maxBytes) (hh : H a.key) :
    ShInvX cfg { sh with heap := h', stored := uadd sh.stored a.bytes } H := by
  rw [uadd_eq (lt_U64 hmb hroom)]
  exact (changeEntry_inv hpos hi ha.big hk' (by rw [ha.sum, hi.acc]) hroom fun e he => ha.mem_other he).weaken
    fun k h => h.elim id fun e => e ▸ hh

theorem dropTracked_frame {sh sh' : Shared} {key : Key} (h : dropTracked sh key = some sh') :
    sh'.store = sh.store ∧ sh'.bodies = sh.bodies ∧ sh'.dirty = sh.dirty := by
  revert h
  fun_cases dropTracked sh key <;> intro h <;> cases h <;> exact ⟨rfl, rfl, rfl⟩

theorem dropTracked_ok {cfg : Config} (hmb : cfg.maxBytes < 2 ^ 63) (hpos : cfg.maxBytes > 0) {sh : Shared}
    {H : Key → Prop} (hi : ShInvX cfg sh H) (key : Key) :
    ∃ sh', dropTracked sh key = some sh' ∧ ShInvX cfg sh' (fun k => H k ∨ k = key) ∧
      klookup sh'.heap.keys key = none := by
  unfold dropTracked
  rcases removeKey_ok hi.hinv hi.kinv key with ⟨hnone, hr⟩ | ⟨x, hkx, h', hr, hrem, hkinv', hnone'⟩
  · rw [hr]; exact ⟨_, rfl, hi.weaken fun _ => Or.inl, hnone⟩
  · subst hkx
    rw [hr]; exact ⟨_, rfl, removeEntry_inv hmb hpos hi hrem hkinv', hnone'⟩

theorem deleteKey_frame (cfg : Config) (sh : Shared) (k : Key) (d1 d2 : Fault) :
    (sh.deleteKey cfg k d1 d2).heap = sh.heap ∧ (sh.deleteKey cfg k d1 d2).stored = sh.stored := ⟨rfl, rfl⟩

theorem deleteKey_lookup_other (cfg : Config) (sh : Shared) (k : Key) (d1 d2 : Fault) {k' : Key} (h : k' ≠ k) :
    (sh.deleteKey cfg k d1 d2).store.lookup k' = sh.store.lookup k' ∧
    (sh.deleteKey cfg k d1 d2).bodies.lookup k' = sh.bodies.lookup k' := by
  unfold Shared.deleteKey
  -- store and bodies alike: the `Delete` failed and nothing changed, or `k` was erased and `k'` is another key
  constructor <;> dsimp only <;> split <;> simp [lookup_erase, blookup_erase, h]

theorem setKey_lookup_other (cfg : Config) (sh : Shared) (key : Key) (it : Item) (sexp : Nat) (s1 s2 : Fault)
    {k' : Key} (h : k' ≠ key) :
    (sh.setKey cfg key it sexp s1 s2).store.lookup k' = sh.store.lookup k' ∧
    (sh.setKey cfg key it sexp s1 s2).bodies.lookup k' = sh.bodies.lookup k' := by
  unfold Shared.setKey
  constructor <;> dsimp only <;> split <;> simp [lookup_set, blookup_set, h]

/-- A pair of storage calls for `k` (the two `Delete`s, the two `Set`s) closes the hole at `k`: the other keys are not
    touched; `k` is in step again if both calls went through and dirty otherwise. -/
theorem storagePair_ok {cfg : Config} {sh : Shared} {H : Key → Prop} {k : Key}
    (hi : ShInvX cfg sh fun k' => H k' ∨ k' = k) {st' : Store} {bd' : BStore} {failed : Bool}
    (hn : (st'.map (·.1)).Nodup) (hbn : (bd'.map (·.1)).Nodup)
    (hother : ∀ k', k' ≠ k → st'.lookup k' = sh.store.lookup k' ∧ bd'.lookup k' = sh.bodies.lookup k')
    (hk : failed = false → CleanK cfg { sh with store := st', bodies := bd', dirty := markDirty sh.dirty k failed } k) :
    ShInvX cfg { sh with store := st', bodies := bd', dirty := markDirty sh.dirty k failed } H := by
  refine ⟨hi.hinv, hi.kinv, hn, hbn, hi.acc, hi.bound, hi.unused, fun k' hk' hhole => ?_⟩
  by_cases hkk : k' = k
  · subst hkk; exact hk (by simpa [mem_markDirty] using hk')
  · rcases hother k' hkk with ⟨e1, e2⟩
    exact (hi.clean k' (by simpa [mem_markDirty, hkk] using hk') fun hH => hH.elim hhole hkk).congr hi.hinv hi.hinv e1 e2
      fun _ _ => Iff.rfl

theorem deleteKey_ok {cfg : Config} {sh : Shared} {H : Key → Prop} {k : Key}
    (hi : ShInvX cfg sh fun k' => H k' ∨ k' = k) (d1 d2 : Fault) (hnk : klookup sh.heap.keys k = none) :
    ShInvX cfg (sh.deleteKey cfg k d1 d2) H := by
  refine storagePair_ok hi ?_ ?_ (fun k' h => deleteKey_lookup_other cfg sh k d1 d2 h) fun hok => ?_
  · split
    · exact hi.nodup
    · exact nodup_erase_fst hi.nodup k
  · split
    · exact hi.bnodup
    · exact nodup_erase_fst hi.bnodup k
  · have hok := Bool.or_eq_false_iff.mp hok
    have hs : (sh.deleteKey cfg k d1 d2).store.lookup k = none := by simp [Shared.deleteKey, hok.1, lookup_erase]
    have hb : (sh.deleteKey cfg k d1 d2).bodies.lookup k = none := by simp [Shared.deleteKey, hok.2, blookup_erase]
    show CleanK cfg (sh.deleteKey cfg k d1 d2) k
    refine ⟨?_, ?_, ?_⟩
    · intro _ sl hl; rw [hs] at hl; cases hl
    · intro p e hp hek
      exact absurd hek (no_live_of_klookup_none hi.hinv hi.kinv hnk hp)
    · unfold SyncK; rw [hs, hb]; rfl

theorem setKey_ok {cfg : Config} {sh : Shared} {H : Key → Prop} {key : Key}
    (hi : ShInvX cfg sh fun k => H k ∨ k = key) (it : Item) (sexp : Nat) (s1 s2 : Fault)
    (htr : cfg.maxBytes > 0 → ∃ e, sh.heap.find it.heapidx = some e ∧ e.key = key ∧ e.bytes = it.body.length) :
    ShInvX cfg (sh.setKey cfg key it sexp s1 s2) H := by
  refine storagePair_ok hi ?_ ?_ (fun k' h => setKey_lookup_other cfg sh key it sexp s1 s2 h) fun hok => ?_
  · split
    · exact hi.nodup
    · exact nodup_set_fst hi.nodup _ _
  · split
    · exact hi.bnodup
    · exact nodup_set_fst hi.bnodup _ _
  · have hok := Bool.or_eq_false_iff.mp hok
    have hs : (sh.setKey cfg key it sexp s1 s2).store.lookup key = some ⟨it, sexp⟩ := by simp [Shared.setKey, hok.2, lookup_set]
    have hb : (sh.setKey cfg key it sexp s1 s2).bodies.lookup key = some ⟨it.body, sexp⟩ := by
      simp [Shared.setKey, hok.1, blookup_set]
    show CleanK cfg (sh.setKey cfg key it sexp s1 s2) key
    refine ⟨?_, ?_, ?_⟩
    · intro hp sl hl; rw [hs] at hl; cases hl; exact htr hp
    · intro _ _ _ _; exact ⟨_, hs⟩
    · unfold SyncK; rw [hs, hb]; rfl

theorem setKey_store (cfg : Config) (sh : Shared) (key : Key) (it : Item) (sexp : Nat) (s1 s2 : Fault) :
    (sh.setKey cfg key it sexp s1 s2).store = sh.store.set key ⟨it, sexp⟩ ∨ (sh.setKey cfg key it sexp s1 s2).store = sh.store := by
  unfold Shared.setKey
  simp only
  split
  · exact Or.inr rfl
  · exact Or.inl rfl

theorem dropTracked_deleteKey_comm (cfg : Config) (sh : Shared) (k key : Key) (d1 d2 : Fault) :
    dropTracked (sh.deleteKey cfg k d1 d2) key = (dropTracked sh key).map fun s => s.deleteKey cfg k d1 d2 := by
  -- `deleteKey` leaves the heap alone, so both sides take the same branch of `dropTracked`
  fun_cases dropTracked sh key <;> rename_i hr <;>
    (unfold dropTracked; rw [(deleteKey_frame cfg sh k d1 d2).1, hr]; rfl)

theorem sec1Expire_dirty {cfg : Config} {sh sh' : Shared} {key : Key} {d1 d2 : Fault}
    (h : sec1Expire cfg sh key d1 d2 = .pass sh') : sh'.dirty = (sh.deleteKey cfg key d1 d2).dirty := by
  revert h
  fun_cases sec1Expire cfg sh key d1 d2 <;> intro h
  · cases h
  next hdt => cases h; exact (dropTracked_frame hdt).2.2
  · rw [← Sec1.pass.inj h]

theorem sec1Expire_ok {cfg : Config} (hmb : cfg.maxBytes < 2 ^ 63) {sh : Shared} (hi : ShInv cfg sh)
    (key : Key) (d1 d2 : Fault) :
    ∃ sh', sec1Expire cfg sh key d1 d2 = .pass sh' ∧ ShInv cfg sh' ∧ StoreSub sh'.store sh.store ∧
      (((cfg.ext && d1.fails) = false) → sh'.store.lookup key = none) := by
  -- the store after the two `Delete`s, whatever the heap and the count are by then
  have hgone : ∀ s : Shared, s.store = sh.store → StoreSub (s.deleteKey cfg key d1 d2).store sh.store ∧
      ((cfg.ext && d1.fails) = false → (s.deleteKey cfg key d1 d2).store.lookup key = none) := by
    intro s hs
    refine ⟨hs ▸ deleteKey_sub cfg s key d1 d2, fun hok => ?_⟩
    show (if (cfg.ext && d1.fails) = true then s.store else s.store.erase key).lookup key = none
    rw [hok]; simp [lookup_erase]
  unfold sec1Expire
  simp only
  by_cases hmbp : cfg.maxBytes > 0
  · rw [if_pos hmbp, dropTracked_deleteKey_comm]
    rcases dropTracked_ok hmb hmbp hi key with ⟨sh0, hd, hi0, hnk⟩
    rw [hd]
    exact ⟨_, rfl, deleteKey_ok hi0 d1 d2 hnk, hgone sh0 (dropTracked_frame hd).1⟩
  · rw [if_neg hmbp]
    have hnk : klookup sh.heap.keys key = none := by rw [hi.unused (by omega)]; rfl
    exact ⟨_, rfl, deleteKey_ok (hi.weaken fun _ => Or.inl) d1 d2 hnk, hgone sh rfl⟩

theorem sec1Expire_not_hit {cfg : Config} {sh : Shared} {key : Key} {d1 d2 : Fault} {o : Out} :
    sec1Expire cfg sh key d1 d2 ≠ .hit o := by
  fun_cases sec1Expire cfg sh key d1 d2 <;> nofun

/-- the three ways through the first section: on to the origin handler with the state as it is (nothing found, or
    found but not served), the expiry branch, a hit -/
theorem sec1_cases (cfg : Config) (sh : Shared) (ts uts : Nat) (q : Req) (key : Key) :
    (sec1 cfg sh ts uts q key = .pass sh ∧
      ∀ e, lookup1 cfg sh uts key (faultAt q.f1 0) = some e → itemExpired (applyInv q ts e) ts = false) ∨
    (∃ e, lookup1 cfg sh uts key (faultAt q.f1 0) = some e ∧ itemExpired (applyInv q ts e) ts = true ∧
      sec1 cfg sh ts uts q key = sec1Expire cfg sh key (faultAt q.f1 1) (faultAt q.f1 2)) ∨
    (∃ e, lookup1 cfg sh uts key (faultAt q.f1 0) = some e ∧ itemExpired (applyInv q ts e) ts = false ∧
      (applyInv q ts e).exp ≠ 0 ∧ hasDirective q.cc Facts.noCache = false ∧
      (cfg.ext && (faultAt q.f1 1).fails) = false ∧
      sec1 cfg sh ts uts q key =
        .hit (replay cfg { applyInv q ts e with body := hitBody cfg sh uts key (applyInv q ts e) } ts)) := by
  fun_cases sec1 cfg sh ts uts q key
  next hl => exact .inl ⟨rfl, fun e he => by rw [hl] at he; cases he⟩
  next e hl =>
    have hpass : ¬ itemExpired (applyInv q ts e) ts = true → ∀ e', lookup1 cfg sh uts key (faultAt q.f1 0) = some e' →
        itemExpired (applyInv q ts e') ts = false := fun hexp e' he => by rw [hl] at he; cases he; simpa using hexp
    -- the branches of `sec1Found`: expired, body `Get` failed, served, not servable
    fun_cases sec1Found cfg sh ts uts q key (applyInv q ts e)
    next hexp => exact .inr (.inl ⟨e, hl, hexp, rfl⟩)
    next hexp _ _ => exact .inl ⟨rfl, hpass hexp⟩
    next hexp hhit hbf =>
      have hh : (applyInv q ts e).exp ≠ 0 ∧ hasDirective q.cc Facts.noCache = false := by simpa using hhit
      exact .inr (.inr ⟨e, hl, by simpa using hexp, hh.1, hh.2, by simpa using hbf, rfl⟩)
    next hexp _ => exact .inl ⟨rfl, hpass hexp⟩

theorem sec1_expired {cfg : Config} {sh : Shared} {ts uts : Nat} {q : Req} {key : Key} {e : Item}
    (hl : lookup1 cfg sh uts key (faultAt q.f1 0) = some e) (hexp : itemExpired (applyInv q ts e) ts = true) :
    sec1 cfg sh ts uts q key = sec1Expire cfg sh key (faultAt q.f1 1) (faultAt q.f1 2) := by
  simp only [sec1, hl, sec1Found, if_pos hexp]

theorem sec1_ok {cfg : Config} (hmb : cfg.maxBytes < 2 ^ 63) {sh : Shared} (hi : ShInv cfg sh)
    {ts uts : Nat} {q : Req} {key : Key} :
    sec1 cfg sh ts uts q key ≠ .panic ∧
    ∀ sh', sec1 cfg sh ts uts q key = .pass sh' → ShInv cfg sh' ∧ StoreSub sh'.store sh.store := by
  rcases sec1_cases cfg sh ts uts q key with ⟨h, _⟩ | ⟨e, _, _, h⟩ | ⟨e, _, _, _, _, _, h⟩
  · rw [h]; exact ⟨nofun, fun _ hp => by cases hp; exact ⟨hi, StoreSub.refl _⟩⟩
  · rcases sec1Expire_ok hmb hi key (faultAt q.f1 1) (faultAt q.f1 2) with ⟨sh2, h1, h2, h3, _⟩
    rw [h, h1]; exact ⟨nofun, fun _ hp => by cases hp; exact ⟨h2, h3⟩⟩
  · rw [h]; exact ⟨nofun, nofun⟩

theorem lookup1_of_exp {cfg : Config} {sh : Shared} {uts : Nat} {key : Key} {g : Fault} {e : Item}
    (hl : lookup1 cfg sh uts key g = some e) (he : e.exp ≠ 0) :
    ∃ sl, sh.store.lookup key = some sl ∧ sl.expired uts = false ∧ e = sl.item ∧ (cfg.ext = true → g.noEntry = false) := by
  revert hl
  -- the branches of `lookup1`: a blank item (`exp = 0`) twice, nothing, and the item `Store.get` delivers
  fun_cases lookup1 cfg sh uts key g <;> intro hl <;> cases hl
  · exact absurd rfl he
  next hg hgs =>
    revert hgs
    fun_cases Store.get sh.store key uts <;> intro hgs <;> cases hgs
    next sl hlk hse => exact ⟨sl, hlk, by simpa using hse, rfl, fun hx => by simpa [hx] using hg⟩
  · exact absurd rfl he

/-- what a hit is built from. `hts`: at clock value 0 Go's `ts - 1` wraps and an invalidated entry would be served -/
theorem sec1_hit {cfg : Config} {sh : Shared} {ts uts : Nat} {q : Req} {key : Key} {o : Out} (hts : 1 ≤ ts)
    (h : sec1 cfg sh ts uts q key = .hit o) :
    ∃ sl, sh.store.lookup key = some sl ∧ sl.expired uts = false ∧
      o = replay cfg { sl.item with body := hitBody cfg sh uts key sl.item } ts ∧
      q.inv = false ∧ ts < sl.item.exp ∧ hasDirective q.cc Facts.noCache = false ∧
      (cfg.ext = true → (faultAt q.f1 0).noEntry = false ∧ (faultAt q.f1 1).fails = false) := by
  rcases sec1_cases cfg sh ts uts q key with ⟨h', _⟩ | ⟨e, _, _, h'⟩ | ⟨e, hl, hexp, hne0, hnc, hbf, h'⟩
  · rw [h'] at h; cases h
  · rw [h'] at h; exact absurd h sec1Expire_not_hit
  · rw [h'] at h
    cases h
    have hlt : ts < (applyInv q ts e).exp := by
      have : ¬ ts ≥ (applyInv q ts e).exp := by
        intro hge; simp [itemExpired, hne0, hge] at hexp
      omega
    -- the invalidator did not fire: it would have set `exp = ts - 1`
    have hinv : q.inv = false := by
      cases hq : q.inv with
      | false => rfl
      | true =>
        have h0 : ¬ ts = 0 := by omega
        simp [applyInv, hq, h0] at hlt
        omega
    have he : applyInv q ts e = e := by simp [applyInv, hinv]
    rw [he] at hlt hne0 ⊢
    rcases lookup1_of_exp hl hne0 with ⟨sl, hsl, hx, rfl, hget⟩
    exact ⟨sl, hsl, hx, rfl, hinv, hlt, hnc, fun hext => ⟨hget hext, by simpa [hext] using hbf⟩⟩

theorem evict_ok {cfg : Config} (hmb : cfg.maxBytes < 2 ^ 63) (hpos : cfg.maxBytes > 0) (body : Nat)
    (hbody : body ≤ cfg.maxBytes) {H : Key → Prop} :
    ∀ (f : Nat) (fs : List Fault) {sh : Shared}, ShInvX cfg sh H → sh.heap.live.length < f →
      ∃ sh' fs', evict cfg body f fs sh = some (sh', fs') ∧ ShInvX cfg sh' H ∧ sh'.stored + body ≤ cfg.maxBytes ∧
        (∀ k, klookup sh.heap.keys k = none → klookup sh'.heap.keys k = none) ∧ StoreSub sh'.store sh.store := by
  intro f
  induction f with
  | zero => intro fs sh _ h; omega
  | succ f ih =>
    intro fs sh hi hlen
    unfold evict
    have hb := hi.bound hpos
    rw [uadd_eq (add_lt_U64 hmb hb hbody)]
    by_cases hgt : sh.stored + body > cfg.maxBytes
    · rw [if_pos hgt]
      have hne : sh.heap.live ≠ [] := fun hl => by have := hi.acc; rw [hl] at this; simp [sumBytes] at this; omega
      rcases removeFirst_ok hi.hinv hne with ⟨h', x, hr, hrem, hkeys'⟩
      rw [hr]
      simp only
      -- the entry leaves the heap (hole at `x.key`), then the two `Delete`s close the hole
      have hnk : klookup h'.keys x.key = none := by rw [hkeys', klookup_erase]; simp
      have h2 := deleteKey_ok (removeEntry_inv hmb hpos hi hrem (hrem.kinv_remove hi.kinv hkeys')) (faultAt fs 0)
        (faultAt fs 1) hnk
      rcases ih (if cfg.ext = true then fs.drop 2 else fs) h2 (by show h'.live.length < f; have := hrem.len; omega) with
        ⟨sh', fs', he, hi', hroom, hkeep, hsub⟩
      refine ⟨sh', fs', he, hi', hroom, fun k hk => hkeep k ?_, hsub.trans (deleteKey_sub cfg _ x.key _ _)⟩
      show klookup h'.keys k = none
      rw [hkeys', klookup_erase]
      by_cases hkk : k = x.key <;> simp [hkk, hk]
    · rw [if_neg hgt]
      exact ⟨sh, fs, rfl, hi, Nat.le_of_not_gt hgt, fun _ h => h, StoreSub.refl _⟩

theorem sec2Store_ok {cfg : Config} (hmb : cfg.maxBytes < 2 ^ 63) {sh : Shared} {H : Key → Prop} {key : Key}
    (hi : ShInvX cfg sh fun k => H k ∨ k = key) (ts uts : Nat) (q : Req) (fs : List Fault)
    (hroom : cfg.maxBytes > 0 → sh.stored + q.resp.body.length ≤ cfg.maxBytes)
    (hnokey : klookup sh.heap.keys key = none) :
    ∃ sh' idx, sec2Store cfg sh ts uts q key fs = .stored sh' ∧ ShInvX cfg sh' H ∧
      (sh'.store = sh.store.set key ⟨mkItem cfg q ts idx, storageExp cfg q uts⟩ ∨ sh'.store = sh.store) := by
  unfold sec2Store
  by_cases hpos : cfg.maxBytes > 0
  · rw [if_pos hpos]
    rcases put_ok hi.hinv key (ts + expSecs cfg q) q.resp.body.length with ⟨h', idx, hp, ha, hkeys⟩
    rw [hp]
    simp only
    -- the entry enters the heap (`key` is a hole), then the two `Set`s close the hole
    have h1 := addEntry_inv hmb hpos hi ha (ha.kinv_put hi.kinv hnokey hkeys) (hroom hpos) (Or.inr rfl)
    exact ⟨_, idx, rfl, setKey_ok h1 (mkItem cfg q ts idx) _ _ _ fun _ => ⟨_, ha.was, rfl, rfl⟩,
      setKey_store cfg _ key _ _ _ _⟩
  · rw [if_neg hpos]
    exact ⟨_, 0, rfl, setKey_ok hi _ _ _ _ fun h => absurd h hpos, setKey_store cfg sh key _ _ _ _⟩

/-- a storing `sec2Store`, whatever it does to the heap and the count: the two `Set`s of the new item on the storage it found -/
theorem sec2Store_stored {cfg : Config} {sh sh' : Shared} {ts uts : Nat} {q : Req} {key : Key} {fs : List Fault}
    (h : sec2Store cfg sh ts uts q key fs = .stored sh') :
    ∃ (idx : Nat) (hp : Heap) (n : Nat), sh' = ({ sh with heap := hp, stored := n }).setKey cfg key (mkItem cfg q ts idx)
      (storageExp cfg q uts) (faultAt fs 0) (faultAt fs 1) := by
  revert h
  fun_cases sec2Store cfg sh ts uts q key fs <;> intro h <;> cases h
  · exact ⟨_, _, _, rfl⟩
  · exact ⟨0, sh.heap, sh.stored, rfl⟩

/-- what the second section yields from a consistent state; no constructor for `.panic`, so `sec2_ok` also says that it
    does not panic. `mid`: the state after `heap.removeKey` and the eviction loop,
    which the two `Set`s of `sec2Store` start from (`sh` itself without a limit) -/
inductive Sec2Res (cfg : Config) (sh : Shared) (ts uts : Nat) (q : Req) (key : Key) : Sec2 → Prop
  | unreachable : Sec2Res cfg sh ts uts q key .unreachable
  | stored (sh' : Shared) (idx : Nat) (mid : Shared) : ShInv cfg sh' →
      (sh'.store = mid.store.set key ⟨mkItem cfg q ts idx, storageExp cfg q uts⟩ ∨ sh'.store = mid.store) →
      StoreSub mid.store sh.store →
      q.skip = false → Sec2Res cfg sh ts uts q key (.stored sh')

theorem sec2_ok {cfg : Config} (hmb : cfg.maxBytes < 2 ^ 63) {sh : Shared} (hi : ShInv cfg sh)
    (ts uts : Nat) (q : Req) (key : Key) : Sec2Res cfg sh ts uts q key (sec2 cfg sh ts uts q key) := by
  unfold sec2
  by_cases hskip : q.skip = true
  · rw [if_pos hskip]; exact .unreachable
  · rw [if_neg hskip]
    have hskip' : q.skip = false := by simpa using hskip
    by_cases hbig : (decide (cfg.maxBytes > 0) && decide (q.resp.body.length > cfg.maxBytes)) = true
    · rw [if_pos hbig]; exact .unreachable
    · rw [if_neg hbig]
      by_cases hpos : cfg.maxBytes > 0
      · rw [if_pos hpos]
        have hbody : q.resp.body.length ≤ cfg.maxBytes := by
          simp [hpos] at hbig; exact hbig
        rcases dropTracked_ok hmb hpos hi key with ⟨sh0, hd, hi0, hnk0⟩
        rw [hd]
        simp only
        rcases evict_ok hmb hpos _ hbody (sh0.heap.live.length + 1) q.f2 hi0 (Nat.lt_succ_self _) with
          ⟨sh1, fs1, he, hi1, hroom, hkeep, hsub⟩
        rw [he]
        simp only
        rcases sec2Store_ok hmb hi1 ts uts q fs1 (fun _ => hroom) (hkeep key hnk0) with ⟨sh', idx, hs, hi', hst⟩
        rw [hs]
        exact .stored sh' idx sh1 hi' hst (by rw [← (dropTracked_frame hd).1]; exact hsub) hskip'
      · rw [if_neg hpos]
        have h0 : cfg.maxBytes = 0 := by omega
        have hnk : klookup sh.heap.keys key = none := by rw [hi.unused h0]; rfl
        rcases sec2Store_ok hmb (hi.weaken fun _ => Or.inl) ts uts q q.f2 (fun h => absurd h hpos) hnk with
          ⟨sh', idx, hs, hi', hst⟩
        rw [hs]
        exact .stored sh' idx sh hi' hst (StoreSub.refl _) hskip'

theorem sec2_stored {cfg : Config} {sh sh' : Shared} {ts uts : Nat} {q : Req} {key : Key}
    (h : sec2 cfg sh ts uts q key = .stored sh') :
    (cfg.maxBytes = 0 ∧ sec2Store cfg sh ts uts q key q.f2 = .stored sh') ∨
    ∃ sh0 sh1 fs, dropTracked sh key = some sh0 ∧
      evict cfg q.resp.body.length (sh0.heap.live.length + 1) q.f2 sh0 = some (sh1, fs) ∧
      sec2Store cfg sh1 ts uts q key fs = .stored sh' := by
  revert h
  -- the branches of `sec2`: two refusals (`skip`, too large), two panics of the heap, and the two ways into `sec2Store`
  fun_cases sec2 cfg sh ts uts q key <;> intro h
  iterate 4 cases h
  next sh0 hdt sh1 fs hev => exact .inr ⟨sh0, sh1, fs, hdt, hev, h⟩
  next hpos => exact .inl ⟨by omega, h⟩

theorem hitBody_sync {cfg : Config} {sh : Shared} {uts : Nat} {key : Key} {sl : Slot} (hs : SyncK sh key)
    (hl : sh.store.lookup key = some sl) (hx : sl.expired uts = false) :
    hitBody cfg sh uts key sl.item = sl.item.body := by
  unfold hitBody
  by_cases he : cfg.ext = true
  · rw [if_pos he]
    unfold SyncK at hs
    rw [hl] at hs
    simp only [Option.map_some] at hs
    unfold BStore.get
    rw [hs]
    simp only
    have : (BSlot.expired ⟨sl.item.body, sl.sexp⟩ uts) = sl.expired uts := rfl
    rw [this, hx]; rfl
  · rw [if_neg he]

def totalBody (s : Store) : Nat := (s.map fun p => p.2.item.body.length).sum

/-- `storedBytes` = the body sizes of what is stored under the keys that are in step + the bytes of the heap entries
    of the others (`u`: at least the dirty keys and the holes) – whatever the storage calls did -/
theorem stored_split {cfg : Config} {sh : Shared} {H : Key → Prop} (hi : ShInvX cfg sh H) (hpos : cfg.maxBytes > 0)
    (u : Key → Bool) (hu : ∀ k, u k = false → k ∉ sh.dirty ∧ ¬ H k) :
    sh.stored = totalBody (sh.store.filter fun p => !u p.1) + sumBytes (sh.heap.live.filter fun e => u e.key) := by
  have hclean : ∀ k, u k = false → CleanK cfg sh k := fun k hk => hi.clean k (hu k hk).1 (hu k hk).2
  rw [hi.acc, sumBytes_filter (fun e => u e.key), Nat.add_comm]
  congr 1
  symm
  unfold totalBody sumBytes
  apply List.bij_sum (fun e : HEntry => e.key) (fun sl : Slot => sl.item.body.length) (fun e : HEntry => e.bytes)
  · exact (List.filter_sublist.map _).nodup hi.nodup
  · exact (List.filter_sublist.map _).nodup (keys_nodup hi.hinv hi.kinv)
  · intro k sl hm
    rcases List.mem_filter.mp hm with ⟨hm, hk⟩
    have hk : u k = false := by simpa using hk
    rcases (hclean k hk).tracked hpos sl (lookup_of_mem hi.nodup hm) with ⟨e, he, hek, heb⟩
    exact ⟨e, List.mem_filter.mpr ⟨((find_some_iff_mem hi.hinv _ _).mp he).2, by simp [hek, hk]⟩, hek, heb⟩
  · intro e he
    rcases List.mem_filter.mp he with ⟨he, hk⟩
    have hk : u e.key = false := by simpa using hk
    rcases List.mem_iff_getElem?.mp he with ⟨p, hp⟩
    rcases (hclean e.key hk).covered p e hp rfl with ⟨sl, hsl⟩
    exact List.mem_map.mpr ⟨(e.key, sl), List.mem_filter.mpr ⟨mem_of_lookup hsl, by simp [hk]⟩, rfl⟩

theorem stored_eq_total_of {cfg : Config} {sh : Shared} (hi : ShInv cfg sh) (hpos : cfg.maxBytes > 0)
    (hd : sh.dirty = []) : sh.stored = totalBody sh.store := by
  have := stored_split hi hpos (fun _ => false) (fun k _ => ⟨by simp [hd], fun h => h⟩)
  rwa [show (sh.store.filter fun p => !false) = sh.store from List.filter_eq_self.mpr fun _ _ => rfl,
    show (sh.heap.live.filter fun _ => false) = [] from List.filter_eq_nil_iff.mpr fun _ _ => nofun] at this

/-- bytes of the stored bodies the storage has let lapse by its own clock (TTL) -/
def Store.lapsed (s : Store) (uts : Nat) : Nat :=
  ((s.filter fun p => p.2.expired uts).map fun p => p.2.item.body.length).sum

theorem held_add_lapsed (s : Store) (uts : Nat) : s.held uts + s.lapsed uts = totalBody s := by
  unfold Store.held Store.lapsed totalBody
  rw [Nat.add_comm, ← List.sum_append_nat, ← List.map_append]
  exact ((List.filter_append_perm (fun p : Key × Slot => p.2.expired uts) s).map _).sum_nat

theorem bodies_held_eq {cfg : Config} {sh : Shared} (hi : ShInv cfg sh) (hd : sh.dirty = []) (uts : Nat) :
    sh.bodies.held uts = sh.store.held uts := by
  unfold BStore.held Store.held
  rw [List.sum_filter_eq_weights, List.sum_filter_eq_weights]
  symm
  have hsync : ∀ k, SyncK sh k := fun k => (hi.clean k (by simp [hd]) (fun h => h)).sync
  apply List.bij_sum (fun p : Key × BSlot => p.1) (fun sl : Slot => if !sl.expired uts then sl.item.body.length else 0)
    (fun p : Key × BSlot => if !p.2.expired uts then p.2.body.length else 0) sh.store sh.bodies hi.nodup hi.bnodup
  · intro k sl hm
    have hl := lookup_of_mem hi.nodup hm
    have := hsync k
    unfold SyncK at this
    rw [hl] at this
    simp only [Option.map_some] at this
    exact ⟨(k, ⟨sl.item.body, sl.sexp⟩), mem_of_blookup this, rfl, rfl⟩
  · intro e he
    rcases e with ⟨k, b⟩
    have hb := blookup_of_mem hi.bnodup he
    have := hsync k
    unfold SyncK at this
    rw [hb] at this
    cases hl : sh.store.lookup k with
    | none => rw [hl] at this; cases this
    | some sl => exact mem_keys_of_lookup hl

/-- what the storage physically holds: the `key_body` values of an injected storage, the items of internal/memory -/
def physHeld (cfg : Config) (sh : Shared) (uts : Nat) : Nat :=
  if cfg.ext then sh.bodies.held uts else sh.store.held uts

theorem physHeld_eq {cfg : Config} {sh : Shared} (hi : ShInv cfg sh) (hd : sh.dirty = []) (uts : Nat) :
    physHeld cfg sh uts = sh.store.held uts := by
  unfold physHeld
  split
  · exact bodies_held_eq hi hd uts
  · rfl

theorem sec1_invalidates {cfg : Config} (hmb : cfg.maxBytes < 2 ^ 63) {sh : Shared} (hi : ShInv cfg sh)
    {ts uts : Nat} {q : Req} {key : Key}
    (hinv : q.inv = true) (hts : ts ≥ 2) (hfound : lookup1 cfg sh uts key (faultAt q.f1 0) ≠ none)
    (hdel : (cfg.ext && (faultAt q.f1 1).fails) = false) :
    ∃ sh', sec1 cfg sh ts uts q key = .pass sh' ∧ sh'.store.lookup key = none := by
  cases hl : lookup1 cfg sh uts key (faultAt q.f1 0) with
  | none => exact absurd hl hfound
  | some e =>
    have hexp : itemExpired (applyInv q ts e) ts = true := by
      have h0 : ¬ ts = 0 := by omega
      simp [itemExpired, applyInv, hinv, h0]; omega
    rcases sec1Expire_ok hmb hi key (faultAt q.f1 1) (faultAt q.f1 2) with ⟨sh', h1, _, _, h4⟩
    exact ⟨sh', (sec1_expired hl hexp).trans h1, h4 hdel⟩

/-- an entry found expired on the cache's clock is erased – provided the `Delete` of the entry goes through -/
theorem sec1_expired_erases {cfg : Config} (hmb : cfg.maxBytes < 2 ^ 63) {sh sh' : Shared} (hi : ShInv cfg sh)
    {ts uts : Nat} {q : Req} {key : Key} {e : Item}
    (hl : lookup1 cfg sh uts key (faultAt q.f1 0) = some e) (hexp : itemExpired (applyInv q ts e) ts = true)
    (hdel : (cfg.ext && (faultAt q.f1 1).fails) = false)
    (h : sec1 cfg sh ts uts q key = .pass sh') : sh'.store.lookup key = none := by
  rcases sec1Expire_ok hmb hi key (faultAt q.f1 1) (faultAt q.f1 2) with ⟨sh2, h1, _, _, h4⟩
  rw [sec1_expired hl hexp, h1] at h
  cases h
  exact h4 hdel

end C14
