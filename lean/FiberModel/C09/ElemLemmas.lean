import FiberModel.C09.SplitLemmas
/-
C09 — the pieces of `parseElem` on one list element spelled in the byte grammar `Tail` (so on every rendered one):
`forEachParameter` (`scanFuel`) reports the (name, value) pairs of all non-empty parameters in order, whatever
optional whitespace (SP / HTAB) and empty parameters stand between them (`Tail.scan`); `splitSemi` and the trims cut
at the grammar's boundaries; the fast and the slow weight parser agree (`Tail.fast_eq_slow`); together `parseElem_tail`.
On the specification's side: `ParseFloat` on a qvalue is its value, and the slow path's fold over the reported pairs
is the weight and the parameter map of the syntax tree (`slowParams_scanned`).
-/
namespace C09
open B

theorem afterSemi_ows (sp r : Bytes) (h : owsOnly sp = true) : afterSemi (sp ++ r) = afterSemi r := by
  induction sp with
  | nil => rfl
  | cons c cs ih =>
    obtain ⟨hc, hcs⟩ := owsOnly_cons h
    have h59 : (c == 59) = false := by rcases hc with rfl | rfl <;> decide
    simp only [List.cons_append, afterSemi, h59, Bool.false_eq_true, if_false]
    exact ih hcs

theorem scanFuel_dropOWS (f : Nat) (x : Bytes) : scanFuel f (x.dropWhile isOWSb) = scanFuel f x := by
  have : afterSemi (x.dropWhile isOWSb) = afterSemi x := by
    rw [← afterSemi_ows _ _ (List.all_takeWhile (l := x)), List.takeWhile_append_dropWhile]
  cases f <;> simp only [scanFuel, scanStep, this]

theorem quotedValue_content (s more acc : Bytes) (h : isQuotedContent s = true) :
    quotedValue (s ++ 34 :: more) false acc = some (acc.reverse ++ s, more) := by
  -- no byte left; a quoted-pair; a `qdtext` byte
  induction s using isQuotedContent.induct generalizing acc with
  | case1 => simp [quotedValue]
  | case2 c rest ih =>
    simp only [isQuotedContent, Bool.and_eq_true] at h
    simp only [List.cons_append, quotedValue, show ((92 : Nat) == 34) = false by decide, Bool.false_and,
      Bool.false_eq_true, if_false, beq_self_eq_true, Bool.not_false, Bool.and_self, Bool.not_true, Bool.and_false]
    rw [ih _ h.2]
    simp
  | case3 c rest hne ih =>
    simp only [isQuotedContent, Bool.and_eq_true] at h
    obtain ⟨e2, e3⟩ := qdtext_ne h.1
    simp only [List.cons_append, quotedValue, e2, e3, Bool.false_and, Bool.false_eq_true, if_false]
    rw [ih _ h.2]
    simp

/-- the pairs the scanner reports: all non-empty parameters, in order -/
def scannedPairs : List Param → Params
  | [] => []
  | p :: ps => if p.name == [] then scannedPairs ps else (p.name, p.value) :: scannedPairs ps

theorem head_ows {o r : Bytes} (ho : owsOnly o = true) (hr : ∀ x, r.head? = some x → tchar x = false) :
    ∀ x, (o ++ r).head? = some x → tchar x = false := by
  cases o with
  | nil => exact hr
  | cons c cs =>
    intro x hx
    cases hx
    rcases (owsOnly_cons ho).1 with rfl | rfl <;> decide

/-- what follows a parameter starts with optional whitespace or `;`, or is empty: never a token byte -/
theorem Tail.head_not_tchar {ps : List Param} {t : Bytes} (h : Tail ps t) : ∀ x, t.head? = some x → tchar x = false := by
  cases h with
  | nil ht => exact List.append_nil t ▸ head_ows ht (r := []) (fun _ h => nomatch h)
  | cons h1 _ _ _ => exact head_ows h1 (fun x hx => by cases hx; decide)

theorem scanStep_at (o1 o2 body : Bytes) (h1 : owsOnly o1 = true) (h2 : owsOnly o2 = true) :
    scanStep (o1 ++ 59 :: (o2 ++ body)) = scanBody (body.dropWhile isOWSb) := by
  unfold scanStep
  rw [afterSemi_ows _ _ h1]
  simp only [afterSemi, beq_self_eq_true, if_true]
  rw [List.dropWhile_append_of_pos (List.all_eq_true.1 h2)]

theorem token_start {s : Bytes} (h : isToken s = true) (r : Bytes) :
    (s ++ r).dropWhile isOWSb = s ++ r ∧ ((s ++ r).head? == some 59) = false := by
  obtain ⟨hne, hall⟩ := token_all h
  obtain ⟨c, cs, hcs⟩ := List.exists_cons_of_ne_nil hne
  have hc : tchar c = true := hall c (by simp [hcs])
  obtain ⟨_, hows, h59, _⟩ := tchar_class hc
  subst hcs
  exact ⟨by simp [hows], by simp [h59]⟩

theorem scanBody_token {k v r : Bytes} (hk : isToken k = true) (hv : isToken v = true)
    (hr : ∀ x, r.head? = some x → tchar x = false) : scanBody (k ++ 61 :: (v ++ r)) = some (some (k, v), r) := by
  obtain ⟨hkne, hkall⟩ := token_all hk
  obtain ⟨hvne, hvall⟩ := token_all hv
  obtain ⟨c, cs, rfl⟩ := List.exists_cons_of_ne_nil hvne
  have hc : tchar c = true := hvall c (by simp)
  have hkey : ∀ X : Bytes, (k ++ 61 :: X).takeWhile tchar = k :=
    fun X => List.takeWhile_append_cons_stop X hkall (by decide)
  have hval : (c :: (cs ++ r)).takeWhile tchar = c :: cs := List.takeWhile_append_stop (a := c :: cs) hvall hr
  have hke : k.isEmpty = false := by simpa using hkne
  rw [scanBody, (token_start hk _).2]
  simp only [Bool.false_eq_true, if_false, hkey, hke, List.drop_left, List.cons_append, hc, if_true, hval]
  simp

theorem scanBody_quoted {k v r : Bytes} (hk : isToken k = true) (hv : isQuotedContent v = true) :
    scanBody (k ++ 61 :: 34 :: (v ++ 34 :: r)) = some (some (k, v), r) := by
  obtain ⟨hkne, hkall⟩ := token_all hk
  have hkey : ∀ X : Bytes, (k ++ 61 :: X).takeWhile tchar = k :=
    fun X => List.takeWhile_append_cons_stop X hkall (by decide)
  have hke : k.isEmpty = false := by simpa using hkne
  rw [scanBody, (token_start hk _).2]
  simp only [Bool.false_eq_true, if_false, hkey, hke, List.drop_left, show tchar 34 = false by decide,
    beq_self_eq_true, if_true, quotedValue_content _ _ _ hv]
  simp

theorem PBody.length_le {p : Param} {r t : Bytes} (h : PBody p r t) : r.length ≤ t.length := by
  cases h <;> simp only [List.length_append, List.length_cons, Nat.le_refl] <;> omega

theorem afterSemi_owsOnly {t : Bytes} (h : owsOnly t = true) : afterSemi t = none :=
  List.append_nil t ▸ afterSemi_ows t [] h

/-- `forEachParameter` is complete for the byte grammar -/
theorem Tail.scan {ps : List Param} {t : Bytes} (h : Tail ps t) : scanParams t = scannedPairs ps := by
  suffices ∀ fuel, t.length < fuel → scanFuel fuel t = scannedPairs ps from this _ (Nat.lt_succ_self _)
  induction h with
  | nil ht =>
    intro fuel hf
    cases fuel with
    | zero => omega
    | succ f => simp [scanFuel, scanStep, afterSemi_owsOnly ht, scannedPairs]
  | @cons p ps o1 o2 r t h1 h2 hb hr ih =>
    intro fuel hf
    cases fuel with
    | zero => omega
    | succ f =>
      have hlen : r.length < f := by
        have := hb.length_le
        simp only [List.length_append, List.length_cons] at hf; omega
      have ih' := ih f hlen
      rw [scanFuel, scanStep_at _ _ _ h1 h2, scannedPairs]
      cases hb with
      | empty hn =>
        -- an empty parameter: the scanner looks at what follows, the next `;` (and goes on from it) or the end
        simp only [hn, beq_self_eq_true, if_true]
        cases hr with
        | nil ht =>
          have : r.dropWhile isOWSb = [] := by
            simpa using List.dropWhile_append_of_pos (l₂ := []) (List.all_eq_true.1 ht)
          simp [this, scanBody, scannedPairs]
        | @cons _ _ o1' o2' _ t' h1' _ _ _ =>
          have hd : (o1' ++ 59 :: (o2' ++ t')).dropWhile isOWSb = 59 :: (o2' ++ t') :=
            List.dropWhile_append_cons_stop _ (List.all_eq_true.1 h1') (by decide)
          rw [hd, scanBody]
          simp only [List.head?_cons, beq_self_eq_true, if_true]
          rw [← hd, scanFuel_dropOWS]
          exact ih'
      | token hk hv =>
        rw [(token_start hk _).1, scanBody_token hk hv hr.head_not_tchar]
        simp [beq_eq_false_iff_ne.2 (token_all hk).1, ih']
      | quoted hk _ hv =>
        rw [(token_start hk _).1, scanBody_quoted hk hv]
        simp [beq_eq_false_iff_ne.2 (token_all hk).1, ih']

theorem splitSemi_none (s : Bytes) (h : ¬ 59 ∈ s) : splitSemi s = none := by
  -- no byte; a `;` (excluded by `h`); another byte
  fun_induction splitSemi s
  · rfl
  · simp_all
  · rename_i ih
    rw [ih fun e => h (by simp [e])]; rfl

theorem splitSemi_at (pre post : Bytes) (h : ¬ 59 ∈ pre) : splitSemi (pre ++ 59 :: post) = some (pre, 59 :: post) := by
  induction pre with
  | nil => simp [splitSemi]
  | cons c cs ih =>
    have hc : c ≠ 59 := fun e => h (by simp [e])
    simp [splitSemi, hc, ih fun e => h (by simp [e])]

theorem trimRightOWS_append (v sp : Bytes) (hv : ∀ c ∈ v, isOWSb c = false) (hsp : owsOnly sp = true) :
    trimRightOWS (v ++ sp) = v := by
  unfold trimRightOWS
  rw [List.reverse_append, List.dropWhile_append_of_pos (p := fun c => c == 32 || c == 9)
    fun c hc => List.all_eq_true.1 hsp c (List.mem_reverse.1 hc)]
  exact List.reverse_dropWhile_reverse_of_getLast fun a ha => hv a (List.mem_of_getLast? ha)

theorem trim_range (r sp : Bytes) (hne : r ≠ []) (hr : ∀ c ∈ r, isOWSb c = false) (hsp : owsOnly sp = true) :
    trimOWS (r ++ sp) = r := by
  obtain ⟨c, cs, rfl⟩ := List.exists_cons_of_ne_nil hne
  rw [trimOWS, List.cons_append, List.dropWhile_cons_of_neg (by simp [hr c]), ← List.cons_append,
    trimRightOWS_append _ _ hr hsp]

theorem foldl_zeros (ds : Bytes) (a : Nat) (h : ds.all (· == 48) = true) :
    ds.foldl (fun a c => a * 10 + (c - 48)) a = a * 10 ^ ds.length := by
  induction ds generalizing a with
  | nil => simp
  | cons d ds ih =>
    simp only [List.all_cons, Bool.and_eq_true, beq_iff_eq] at h
    obtain ⟨rfl, hds⟩ := h
    simp only [List.foldl_cons, List.length_cons]
    rw [ih _ hds, Nat.pow_succ]
    simp [Nat.mul_assoc, Nat.mul_comm]

theorem parseSimple_frac (d : Nat) (ds : Bytes) (hd : isDigit d = true) (hlen : ds.length ≤ 3)
    (hds : ds.all isDigit = true) : parseSimple (d :: 46 :: ds) = some (.fin (digitsVal (d :: ds)) ds.length) := by
  have hl : ¬ ds.length + 1 + 1 > 15 := by omega
  simp [parseSimple, hl, hd, show isDigit 46 = false by decide, hds]

theorem parseSimple_qvalue {v : Bytes} {q : Qual} (h : qvalue? v = some q) : parseSimple v = some q := by
  rcases qvalue_shape h with ⟨rfl, rfl⟩ | ⟨rfl, rfl⟩ | ⟨ds, rfl, hl, hds, rfl⟩ | ⟨ds, rfl, hl, hds, rfl⟩
  · decide
  · decide
  · rw [parseSimple_frac 48 _ (by decide) hl hds]
    simp [digitsVal]
  · rw [parseSimple_frac 49 _ (by decide) hl (zeros_digits hds)]
    simp only [digitsVal, List.foldl_cons]
    rw [foldl_zeros _ _ hds]; simp

theorem ufloat_qvalue (tab : Bytes → Option Qual) {v : Bytes} {q : Qual} (h : qvalue? v = some q) :
    ufloat tab v = some q := by
  simp [ufloat, parseSimple_qvalue h]

theorem lowerByte_113 (c : Nat) : lowerByte c = 113 ↔ c = 113 ∨ c = 81 := by
  unfold lowerByte isUpper
  split
  · rename_i h; simp only [Bool.and_eq_true, decide_eq_true_eq] at h; omega
  · rename_i h; simp only [Bool.and_eq_true, decide_eq_true_eq, not_and, Nat.not_le] at h
    constructor
    · intro e; left; exact e
    · rintro (e | e)
      · exact e
      · subst e; simp at h

theorem isQKey_eq_isWeight (p : Param) : isQKey p.name = isWeight p := by
  unfold isQKey isWeight toLower
  match p.name with
  | [] => rfl
  | [c] => rw [Bool.eq_iff_iff]; simp [lowerByte_113]
  | _ :: _ :: _ => simp

theorem isWeight_name_ne {p : Param} (h : isWeight p = true) : p.name ≠ [] := by
  intro e; unfold isWeight at h; rw [e] at h; simp [toLower] at h

theorem slowParams_scanned (tab : Bytes → Option Qual) (ps : List Param) (q0 : Qual) (m0 : Params) :
    slowParams tab (scannedPairs ps) q0 m0 =
      ((match weightOf ps with
        | some w => (ufloat tab w.value).getD q0
        | none => q0),
       (mediaParams ps).foldl (fun m p => mapInsert m (toLower p.name) p.value) m0) := by
  induction ps generalizing m0 with
  | nil => simp [scannedPairs, slowParams, weightOf, mediaParams]
  | cons p ps ih =>
    cases hw : isWeight p with
    | true =>
      have hn' : (p.name == []) = false := beq_eq_false_iff_ne.2 (isWeight_name_ne hw)
      simp [scannedPairs, hn', slowParams, isQKey_eq_isWeight, hw, weightOf, mediaParams]
    | false =>
      -- not the weight: an empty parameter is skipped by the scanner and by `mediaParams` alike
      have hwo : weightOf (p :: ps) = weightOf ps := by simp [weightOf, hw]
      rw [hwo]
      by_cases hn : p.name = []
      · simpa [scannedPairs, mediaParams, hw, hn] using ih m0
      · have hn' : (p.name == []) = false := beq_eq_false_iff_ne.2 hn
        simpa [scannedPairs, mediaParams, hw, hn', slowParams, isQKey_eq_isWeight] using ih _

theorem trimRightOWS_token (v sp : Bytes) (hv : isToken v = true) (hsp : owsOnly sp = true) :
    trimRightOWS (v ++ sp) = v :=
  trimRightOWS_append v sp (fun c hc => (token_chars hv c hc).2.1) hsp

/-- `OWS name "=" …` that reads `q=…`: no whitespace, and the name is `q` -/
theorem semiq_shape {o n x t : Bytes} (ho : owsOnly o = true) (hn : ∀ c ∈ n, tchar c = true)
    (h : o ++ (n ++ 61 :: x) = 113 :: 61 :: t) : o = [] ∧ n = [113] ∧ x = t := by
  cases o with
  | cons c cs => rcases (owsOnly_cons ho).1 with rfl | rfl <;> simp at h
  | nil =>
    match n, hn, h with
    | [], _, h => simp at h
    | [c], _, h => simpa using h
    | c :: d :: ds, hn, h =>
      simp only [List.nil_append, List.cons_append, List.cons.injEq] at h
      exact absurd h.2.1 (tchar_class (hn d (by simp))).2.2.2

/-- the fast weight parser is taken only on `;q=` token OWS, where it does what the slow one does -/
theorem Tail.fast_eq_slow (tab : Bytes → Option Qual) {p : Param} {ps : List Param} {o2 r t : Bytes}
    (h2 : owsOnly o2 = true) (hb : PBody p r t) (hr : Tail ps r) :
    qualityParams tab (59 :: (o2 ++ t)) = slowParams tab (scannedPairs (p :: ps)) .one [] := by
  have hscan : scanParams (59 :: (o2 ++ t)) = scannedPairs (p :: ps) := (Tail.cons (o1 := []) rfl h2 hb hr).scan
  unfold qualityParams
  split
  · rename_i hcond
    simp only [Bool.and_eq_true, Bool.not_eq_true'] at hcond
    obtain ⟨x, heq⟩ : ∃ x, o2 ++ t = 113 :: 61 :: x := by
      obtain ⟨x, hx⟩ := List.isPrefixOf_iff_prefix.1 hcond.1
      exact ⟨x, by simpa [b] using hx.symm⟩
    have hnosemi : ¬ 59 ∈ x := by simpa [heq] using hcond.2
    have hdrop : List.drop 3 (59 :: (o2 ++ t)) = x := by rw [heq]; rfl
    rw [hdrop]
    cases hb with
    | empty hn =>
      -- an empty parameter is followed by optional whitespace or `;`, never by `q`
      have := head_ows h2 hr.head_not_tchar
      rw [heq] at this
      exact absurd (this 113 rfl) (by decide)
    | token hk hv =>
      obtain ⟨rfl, hq, rfl⟩ := semiq_shape h2 (token_all hk).2 heq
      -- the fast path saw no further `;`, so no parameter follows; trimming leaves the value
      cases hr with
      | cons => simp at hnosemi
      | nil ht =>
        rw [trimRightOWS_token _ _ hv ht]
        simp [scannedPairs, slowParams, hq, isQKey]
    | quoted hk hw _ =>
      obtain ⟨_, hq, _⟩ := semiq_shape h2 (token_all hk).2 heq
      simp [isWeight, hq, toLower, lowerByte, isUpper] at hw
  · rw [hscan]

theorem parseElem_tail (tab : Bytes → Option Qual) {rng T : Bytes} {ps : List Param} (hne : rng ≠ [])
    (hch : ∀ c ∈ rng, isOWSb c = false ∧ c ≠ 59) (hT : Tail ps T) (n : Nat) :
    parseElem tab (rng ++ T) n =
      if (slowParams tab (scannedPairs ps) .one []).1.isZero then none
      else some { spec := rng, q := (slowParams tab (scannedPairs ps) .one []).1, spcf := specificity rng,
                  params := (slowParams tab (scannedPairs ps) .one []).2, order := n } := by
  have nosemi : ∀ sp : Bytes, owsOnly sp = true → ¬ 59 ∈ rng ++ sp := by
    intro sp hsp hm
    rcases List.mem_append.1 hm with hm | hm
    · exact (hch 59 hm).2 rfl
    · rcases owsOnly_mem hsp hm with e | e <;> cases e
  unfold parseElem
  cases hT with
  | nil ht =>
    rw [splitSemi_none _ (nosemi _ ht)]
    simp only [trim_range rng _ hne (fun c hc => (hch c hc).1) ht]
    rfl
  | @cons p ps o1 o2 r t h1 h2 hb hT =>
    rw [← List.append_assoc, splitSemi_at _ _ (nosemi _ h1)]
    simp only [hT.fast_eq_slow tab h2 hb, trim_range rng o1 hne (fun c hc => (hch c hc).1) h1]

end C09
