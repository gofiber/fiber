import FiberModel.C09.RawLemmas
import FiberModel.C09.SelectLemmas
import FiberModel.C09.MediaLemmas
import FiberModel.C09.RoundTrip
/-
C09 — the property theorems.

Quantifiers: every header (`Bytes`, a superset of byte strings), every offer list, every
acceptability predicate `acc` (Go's `isAccepted` argument), every `ParseFloat` table `tab` and
`GetMIME` table `mime`.
-/
namespace C09
open B

/-- `sortAcceptedTypes` (binary insertion as written) returns a permutation of its input that is
    sorted by the strict 4-key order (quality desc, specificity desc, #params desc, position asc):
    every element is strictly preferred to every later one. Hypotheses: qualities are finite
    (no NaN/Inf) and positions are pairwise distinct — both hold for what `getOffer` builds. -/
theorem sort_is_sorted_perm {E : Nat} (l : List Range) (hok : AllOk E l)
    (hd : l.Pairwise fun a c => a.order ≠ c.order) :
    (sortAccepted l).Perm l ∧ (sortAccepted l).Pairwise (fun a c => after c a = true) :=
  ⟨sortAccepted_perm l,
    (pairwise_after_iff_afterN fun r hr => hok r ((sortAccepted_perm l).mem_iff.1 hr)).2 (sortAccepted_sorted l hok hd)⟩

/-- the binary search returns the insertion point on a sorted prefix: everything before it is
    preferred to `x`, nothing from it on is -/
theorem bsearch_is_insertion_point {E : Nat} (pre : List Range) (x : Range) (hok : AllOk E pre) (hx : x.ok E)
    (hs : pre.Pairwise fun a c => after c a = true) :
    (∀ m ∈ pre.take (bsearch pre x (pre.length + 1) 0 pre.length), after x m = true) ∧
    (∀ m ∈ pre.drop (bsearch pre x (pre.length + 1) 0 pre.length), after x m = false) := by
  obtain ⟨l1, l2, rfl, hb, h1, h2⟩ := bsearch_spec pre x hok hx ((pairwise_after_iff_afterN hok).1 hs)
  rw [hb, List.take_left, List.drop_left]
  exact after_of_afterN hok hx h1 h2

-- non-vacuity: three ranges, equal quality 0.5 twice (written 0.5 and 0.50), distinct positions
example :
    let r1 : Range := { spec := b "text/*", q := .fin 5 1, spcf := 2, params := [], order := 1 }
    let r2 : Range := { spec := b "text/html", q := .fin 50 2, spcf := 3, params := [], order := 2 }
    let r3 : Range := { spec := b "*/*", q := .fin 1 0, spcf := 1, params := [], order := 3 }
    AllOk 2 [r1, r2, r3] ∧ ([r1, r2, r3].Pairwise fun a c => a.order ≠ c.order) ∧
    sortAccepted [r1, r2, r3] = [r3, r2, r1] := by
  repeat rw [b_ofList]
  refine ⟨?_, by decide +kernel, by decide +kernel⟩
  intro r hr
  simp only [List.mem_cons, List.not_mem_nil, or_false] at hr
  rcases hr with rfl | rfl | rfl <;> exact ⟨rfl, by decide⟩

/-- `getOffer_eq_select` under the hypothesis it uses: the qualities parsed from this header are finite -/
theorem getOffer_eq_select_fin (tab : Bytes → Option Qual) (acc : Bytes → Bytes → Params → Bool)
    (header : Bytes) (offers : List Bytes) (hh : header ≠ [])
    (hfin : ∀ r ∈ parseRanges tab header, r.q.isFin = true) :
    getOffer tab acc header offers = select (accS acc) ((parseRanges tab header).map toS) offers := by
  rw [getOffer_present tab acc hh]
  -- any common bound of the exponents serves as `E`; their sum is one that needs no lemma about a maximum
  exact findOffer_sorted_eq_select (E := ((parseRanges tab header).map fun r => expOf r.q).sum) acc _ offers
    (fun r hr => ⟨hfin r hr, expOf_le_sum hr⟩)
    (fun _ hr => (parseRanges_parsed hr).spcf)
    ((parseRangesFrom_ordered tab (mediaRanges header) 0).imp fun h => Nat.ne_of_lt h)

/-- byte level: for every non-empty header (arbitrary bytes) and offer list,
    `getOffer` (parse, binary-insertion sort, nested search) returns what the property's rule `select`
    (greatest accepting range under the 4-key order, its first acceptable offer) returns on the
    parsed ranges. `tabFinite`: the `ParseFloat` table yields no NaN/Inf. -/
theorem getOffer_eq_select (tab : Bytes → Option Qual) (ht : tabFinite tab) (acc : Bytes → Bytes → Params → Bool)
    (header : Bytes) (offers : List Bytes) (hh : header ≠ []) (ho : offers ≠ []) :
    getOffer tab acc header offers = select (accS acc) ((parseRanges tab header).map toS) offers :=
  getOffer_eq_select_fin tab acc header offers hh fun _ hr => (parseRanges_parsed hr).finite ht

/-- what the property demands of `Accepts*` for a header of the grammar, with Go's `isAccepted` -/
def expectedWith (acc : Bytes → Bytes → Params → Bool) (es : List Elem) (offers : List Bytes) : Bytes :=
  match offers with
  | [] => []
  | o0 :: _ => if render es == [] then o0 else select (accS acc) (denote es) offers

theorem getOffer_render (tab : Bytes → Option Qual) (acc : Bytes → Bytes → Params → Bool)
    (es : List Elem) (offers : List Bytes) (hwf : wf es = true)
    (hEmpty : ∀ o ∈ offers, ∀ ps, o ≠ [] → acc [] o ps = false) (hne : render es ≠ []) :
    getOffer tab acc (render es) offers = select (accS acc) (denote es) offers := by
  have hpa := parse_render tab es (List.all_eq_true.1 hwf) 0
  rw [getOffer_eq_select_fin tab acc (render es) offers hne hpa.qualities_fin]
  have hc := hpa.candidates (fun r => (firstAcceptable (accS acc) r offers).isSome) fun r hsp => by
    simp only [firstAcceptable, accS, toS, hsp]
    rw [Option.isSome_eq_false_iff, Option.isNone_iff_eq_none, List.find?_eq_none]
    intro o ho
    by_cases hoe : o = []
    · simp [hoe]
    · simp [hEmpty o ho r.params hoe]
  unfold select parseRanges
  rw [hc]
  rfl

/-- Header level: for EVERY header of the RFC 9110 grammar
    (`wf`: any ranges, parameters with token or quoted-string values incl. quoted-pairs / commas /
    semicolons, repeated parameter names, weights `q`/`Q`, accept-ext, empty list elements, empty
    parameters `;;` anywhere, optional whitespace SP / HTAB wherever the grammar allows it), every offer list and every
    `ParseFloat` table, `getOffer` on the rendered bytes returns the first offer acceptable to the
    most preferred range of the header's *meaning* (`denote`, read off the syntax tree; ranges with
    q = 0 removed) under (q desc, specificity desc, #params desc, position asc); an absent header
    selects the first offer. `hEmpty`: the predicate lets the empty range accept nothing. -/
theorem getOffer_eq_spec (tab : Bytes → Option Qual) (acc : Bytes → Bytes → Params → Bool)
    (es : List Elem) (offers : List Bytes)
    (hwf : wf es = true)
    (hEmpty : ∀ o ∈ offers, ∀ ps, o ≠ [] → acc [] o ps = false) :
    getOffer tab acc (render es) offers = expectedWith acc es offers := by
  unfold expectedWith
  cases offers with
  | nil => rfl
  | cons o0 os =>
    by_cases hnil : render es = []
    · simp [hnil, getOffer]
    · rw [getOffer_render tab acc es _ hwf hEmpty hnil]
      simp [hnil]

theorem acceptsOffer_empty (o : Bytes) (ps : Params) (ho : o ≠ []) : acceptsOffer [] o ps = false := by
  cases o with
  | nil => exact absurd rfl ho
  | cons c cs => simp [acceptsOffer, hasPrefix, List.isPrefixOf]

/-- `AcceptsCharsets / AcceptsEncodings / AcceptsLanguages` = the specification's `expected` -/
theorem accepts_token_eq_spec (tab : Bytes → Option Qual) (mime : Bytes → Bytes) (es : List Elem) (offers : List Bytes)
    (hwf : wf es = true) :
    getOffer tab acceptsOffer (render es) offers = expected mime .token es offers := by
  rw [getOffer_eq_spec tab acceptsOffer es offers hwf (fun o _ ps ho => acceptsOffer_empty o ps ho)]
  rfl

/-- acceptability for `Accept-Charset / -Encoding / -Language` as fiber defines it: the range ends in
    `*` (the wildcard `*`, but also `fr-*`), or the offer is a prefix of the range, compared byte by
    byte (case-sensitive). So the language range `en-US` accepts the offer `en`; the range `en` does
    not accept the offer `en-US`; `UTF-8` does not accept `utf-8`. The parameters of the range play no
    part. -/
theorem acceptsOffer_iff (spec offer : Bytes) (ps : Params) :
    acceptsOffer spec offer ps = true ↔ (spec.getLast? = some 42 ∨ ∃ t, offer ++ t = spec) := by
  unfold acceptsOffer hasPrefix
  simp only [Bool.or_eq_true, beq_iff_eq, List.isPrefixOf_iff_prefix]
  exact Iff.rfl

example : acceptsOffer (b "en-US") (b "en") [] = true ∧ acceptsOffer (b "en") (b "en-US") [] = false ∧
    acceptsOffer (b "UTF-8") (b "utf-8") [] = false ∧ acceptsOffer (b "*") (b "gzip") [] = true ∧
    acceptsOffer (b "fr-*") (b "de") [] = true ∧ acceptsOffer (b "gzip") (b "gzip") [(b "a", b "1")] = true := by
  repeat rw [b_ofList]
  decide +kernel

-- `Accept-Language: en-US , de;<HT>q=0.8, *;;q=0.1`: `da` is acceptable to the wildcard only, `de` to the
-- second range, `en` to the first; position in the offer list matters only within one range
example :
    let h := b "en-US , de;\tq=0.8, *;;q=0.1"
    getOffer (fun _ => none) acceptsOffer h [b "da", b "de", b "en"] = b "en" ∧
    getOffer (fun _ => none) acceptsOffer h [b "da", b "de"] = b "de" ∧
    getOffer (fun _ => none) acceptsOffer h [b "da", b "fr"] = b "da" ∧
    getOffer (fun _ => none) acceptsOffer (b "en;q=0, *;q=0") [b "da", b "en"] = [] := by
  repeat rw [b_ofList]
  decide +kernel

/-- `Accepts` (and `Format`'s negotiation) = the specification's `expected`, on offers whose media
    type is not empty / does not start with `/` and whose parameter names are not repeated -/
theorem accepts_media_eq_spec (tab : Bytes → Option Qual) (mime : Bytes → Bytes) (es : List Elem) (offers : List Bytes)
    (hwf : wf es = true)
    (hoff : ∀ o ∈ offers, o ≠ [] → offerSane mime o = true ∧ offerParamsDistinct o) :
    getOffer tab (acceptsOfferType mime) (render es) offers = expected mime .accept es offers := by
  rw [getOffer_eq_spec tab (acceptsOfferType mime) es offers hwf
    (fun o ho ps hne => acceptsOfferType_empty mime o ps (hoff o ho hne).1)]
  unfold expectedWith expected
  rw [select_congr _ (accOf mime .accept) _ _ fun r o ho hne => acceptsOfferType_eq_accMedia mime r o (hoff o ho hne).2]
  rfl

-- the witnesses of the defects repaired in /repo by F4 (HTAB as optional whitespace) and F5 (empty
-- parameter) meet the statement
example :
    getOffer (fun _ => none) (acceptsOfferType fun _ => [])
        (render [⟨[], b "text/html", [⟨[], [9], b "q", false, b "0"⟩], []⟩, ⟨[32], b "text/plain", [], []⟩])
        [b "text/html", b "text/plain"] = b "text/plain" := by
  repeat rw [b_ofList]
  decide +kernel

example :
    getOffer (fun _ => none) (acceptsOfferType fun _ => [])
        (render [⟨[], b "text/html", [⟨[], [], [], false, []⟩, ⟨[], [], b "q", false, b "0"⟩], []⟩, ⟨[32], b "text/plain", [], []⟩])
        [b "text/html", b "text/plain"] = b "text/plain" := by
  repeat rw [b_ofList]
  decide +kernel

-- non-vacuity of `getOffer_eq_spec`: `text/html<HT>;;<HT>q=0 , text/plain; ;a="x\\"y", */*;q=0.1` is in the
-- grammar (HTAB as OWS, empty parameters before the weight and before a media parameter, a quoted-pair);
-- text/html is refused by its own range but `*/*` accepts it (the property's rule), image/png comes second
example :
    let es : List Elem := [⟨[], b "text/html", [⟨[9], [], [], false, []⟩, ⟨[], [9], b "q", false, b "0"⟩], [32]⟩,
      ⟨[32], b "text/plain", [⟨[], [32], [], false, []⟩, ⟨[], [], b "a", true, [120, 92, 34, 121]⟩], []⟩,
      ⟨[32], b "*/*", [⟨[], [], b "q", false, b "0.1"⟩], []⟩]
    wf es = true ∧
    getOffer (fun _ => none) (acceptsOfferType fun _ => []) (render es) [b "image/png", b "text/html"] = b "image/png" ∧
    getOffer (fun _ => none) (acceptsOfferType fun _ => []) (render (es.take 2)) [b "text/html", b "image/png"] = [] ∧
    getOffer (fun _ => none) (acceptsOfferType fun _ => []) (render (es.take 2)) [b "text/plain;a=\"x\\\"y\""] =
      b "text/plain;a=\"x\\\"y\"" := by
  repeat rw [b_ofList]
  decide +kernel

-- repeated parameter names are in the grammar: the last value counts, once. `text/plain;a=1;A=2` is the
-- range `text/plain` with the one parameter a=2: it accepts `text/plain;a=2`, not `text/plain;a=1`, and
-- ties with `text/html;b=1` on the number of parameters (so position decides)
example :
    let es : List Elem := [⟨[], b "text/plain", [⟨[], [], b "a", false, b "1"⟩, ⟨[], [], b "A", false, b "2"⟩], []⟩,
      ⟨[], b "text/html", [⟨[], [], b "b", false, b "1"⟩], []⟩]
    wf es = true ∧ (denote es).map (·.params) = [[(b "a", b "2")], [(b "b", b "1")]] ∧
    getOffer (fun _ => none) (acceptsOfferType fun _ => []) (render es) [b "text/plain;a=1"] = [] ∧
    getOffer (fun _ => none) (acceptsOfferType fun _ => []) (render es) [b "text/html;b=1", b "text/plain;a=2"] =
      b "text/plain;a=2" := by
  repeat rw [b_ofList]
  decide +kernel

/-- Header level: on every header of the grammar, whatever
    `getOffer` selects is an offer accepted by a range of the header whose weight is not 0 — a
    range sent with `q=0` (in any of the spellings `0`, `0.0`, `0.00`, `0.000`, with `q`/`Q`, with any
    optional whitespace around `;` and before the comma) never selects an offer. -/
theorem q0_never_selected (tab : Bytes → Option Qual) (acc : Bytes → Bytes → Params → Bool)
    (es : List Elem) (offers : List Bytes) (o : Bytes)
    (hwf : wf es = true)
    (hEmpty : ∀ o ∈ offers, ∀ ps, o ≠ [] → acc [] o ps = false)
    (hne : render es ≠ []) (ho : o ≠ []) (h : getOffer tab acc (render es) offers = o) :
    ∃ r ∈ denote es, r.q.isZero = false ∧ o ∈ offers ∧ acc r.spec o r.params = true := by
  rw [getOffer_render tab acc es offers hwf hEmpty hne] at h
  obtain ⟨r, hr, hmem, hacc⟩ := select_sound _ _ _ _ h ho
  exact ⟨r, hr, (denoteFrom_q es 1 r hr).1, hmem, hacc⟩

-- the witness of the defect repaired in /repo by F1: `text/html;q=0 , text/plain` selects text/plain
example : getOffer (fun _ => none) (acceptsOfferType fun _ => []) (b "text/html;q=0 , text/plain")
    [b "text/html", b "text/plain"] = b "text/plain" := by
  repeat rw [b_ofList]
  decide +kernel

/-- `Accepts*` return one of the offers or nothing — for arbitrary bytes, any tables. -/
theorem result_is_offer_or_empty (tab : Bytes → Option Qual) (acc : Bytes → Bytes → Params → Bool)
    (header : Bytes) (offers : List Bytes) :
    getOffer tab acc header offers = [] ∨ getOffer tab acc header offers ∈ offers := by
  by_cases hh : header = []
  · cases offers <;> simp [getOffer, hh]
  · rcases getOffer_cases tab acc hh offers with h | ⟨_, _, h⟩
    · exact .inl h.1
    · exact .inr (firstAcceptable_some h).1

/-- a range whose quality parses to zero never reaches the sort or the search -/
theorem q0_never_candidate (tab : Bytes → Option Qual) (header : Bytes) :
    ∀ r ∈ parseRanges tab header, r.q.isZero = false :=
  fun _ hr => (parseRanges_parsed hr).nonzero

/-- whatever `getOffer` returns for a present header — ANY bytes, ANY `ParseFloat` table — was
    accepted by a range that was parsed from a list element of the header and whose weight is not 0 -/
theorem result_accepted_by_live_range (tab : Bytes → Option Qual) (acc : Bytes → Bytes → Params → Bool)
    (header : Bytes) (offers : List Bytes) (o : Bytes) (hh : header ≠ []) (ho : o ≠ [])
    (h : getOffer tab acc header offers = o) :
    ∃ r ∈ parseRanges tab header, (∃ a ∈ mediaRanges header, ∃ n, parseElem tab a n = some r) ∧
      r.q.isZero = false ∧ o ∈ offers ∧ acc r.spec o r.params = true := by
  rcases getOffer_cases tab acc hh offers with h' | ⟨r, hr, h0⟩
  · exact absurd (h ▸ h'.1) ho
  · obtain ⟨hmem, _, hacc⟩ := firstAcceptable_some h0
    rw [h] at hmem hacc
    obtain ⟨a, ha, hp⟩ := parseRanges_origin hr
    exact ⟨r, hr, ⟨a, ha, _, hp⟩, q0_never_candidate tab header r hr, hmem, hacc⟩

/-- **an offer matched only by ranges with weight 0 is never returned** — any bytes, any table: if
    every list element of the header either carries the weight 0 (`parseElem = none`) or does not accept
    the offer `o`, then `getOffer` does not return `o` -/
theorem offer_matched_only_by_q0_never_returned (tab : Bytes → Option Qual) (acc : Bytes → Bytes → Params → Bool)
    (header : Bytes) (offers : List Bytes) (o : Bytes) (hh : header ≠ []) (ho : o ≠ [])
    (hq : ∀ a ∈ mediaRanges header, ∀ n r, parseElem tab a n = some r → acc r.spec o r.params = false) :
    getOffer tab acc header offers ≠ o := by
  intro h
  obtain ⟨r, _, ⟨a, ha, n, hp⟩, _, _, hacc⟩ := result_accepted_by_live_range tab acc header offers o hh ho h
  rw [hq a ha n r hp] at hacc
  cases hacc

-- non-vacuity: the only range that accepts text/html carries q=0 (spelled `Q=0.000`, after an empty
-- parameter and a HTAB); raw bytes follow that are not in the grammar
example : getOffer (fun _ => none) (acceptsOfferType fun _ => []) (b "text/html;;\tQ=0.000, text/plain;q=\"x, =;;")
    [b "text/html", b "text/plain"] = b "text/plain" := by
  repeat rw [b_ofList]
  decide +kernel

/-- completeness of the search — any bytes, any table: if some parsed range (weight not 0) accepts some
    non-empty offer, `getOffer` selects an offer (it never answers "nothing acceptable" wrongly) -/
theorem some_offer_when_a_live_range_accepts (tab : Bytes → Option Qual) (acc : Bytes → Bytes → Params → Bool)
    (header : Bytes) (offers : List Bytes) (hh : header ≠ [])
    (h : ∃ r ∈ parseRanges tab header, ∃ o ∈ offers, o ≠ [] ∧ acc r.spec o r.params = true) :
    getOffer tab acc header offers ≠ [] := by
  obtain ⟨r, hr, o, ho, hne, hacc⟩ := h
  rcases getOffer_cases tab acc hh offers with h' | ⟨_, _, h0⟩
  · have := List.find?_eq_none.1 (h'.2 r hr) o ho
    simp [accS, toS, hne, hacc] at this
  · exact (firstAcceptable_some h0).2.1

/-- **monotonicity in the weight-0 ranges** — any bytes, any table (the sort need not even produce a
    sorted list when NaN is around): the result depends only on the sequence of list elements that do
    not carry the weight 0. Two present headers whose list elements agree after the weight-0 ones are
    removed select the same offer; so removing (or adding) a range with q=0 anywhere never changes the
    result. -/
theorem getOffer_ignores_q0_elements (tab : Bytes → Option Qual) (acc : Bytes → Bytes → Params → Bool)
    (h h' : Bytes) (offers : List Bytes) (hh : h ≠ []) (hh' : h' ≠ [])
    (heq : (mediaRanges h).filter (live tab) = (mediaRanges h').filter (live tab)) :
    getOffer tab acc h offers = getOffer tab acc h' offers := by
  rw [getOffer_present tab acc hh, getOffer_present tab acc hh']
  unfold parseRanges
  rw [findOffer_sorted_filter_live tab acc (mediaRanges h), findOffer_sorted_filter_live tab acc (mediaRanges h'), heq]

/-- byte-level instance: a list element with weight 0 in front of a present header is irrelevant.
    `balanced e`: `e` does not start with optional whitespace, its quoted-strings are closed and it has
    no comma outside them (so `forEachMediaRange` cuts right behind it) -/
theorem q0_range_in_front_irrelevant (tab : Bytes → Option Qual) (acc : Bytes → Bytes → Params → Bool)
    (e h : Bytes) (offers : List Bytes) (he : balanced e = true) (hq : live tab e = false) (hh : h ≠ []) :
    getOffer tab acc (e ++ 44 :: h) offers = getOffer tab acc h offers := by
  apply getOffer_ignores_q0_elements tab acc _ _ offers (by simp) hh
  rw [mediaRanges_cons e h he]
  simp [hq]

-- non-vacuity: `text/html;a="x,y";q=0` is balanced and carries the weight 0
example : balanced (b "text/html;a=\"x,y\";q=0") = true ∧ live (fun _ => none) (b "text/html;a=\"x,y\";q=0") = false := by
  repeat rw [b_ofList]
  decide +kernel

/-- an absent (or empty) header selects the first offer -/
theorem absent_header_first_offer (tab : Bytes → Option Qual) (acc : Bytes → Bytes → Params → Bool)
    (o0 : Bytes) (os : List Bytes) : getOffer tab acc [] (o0 :: os) = o0 := by
  simp [getOffer]

/-- media-type parameters of an accepting range are all present in the offer
    (names and values compared ASCII case-insensitively) -/
theorem range_params_subset_of_offer (mime : Bytes → Bytes) (spec offer : Bytes) (sp : Params)
    (h : acceptsOfferType mime spec offer sp = true) :
    paramsPresent sp (visitParams (splitOffer offer).2) = true := by
  rw [acceptsOfferType_eq, Bool.and_eq_true] at h
  exact paramsMatch_present _ _ h.2

-- non-vacuity: `text/plain;a=1` accepts the offer `text/plain;b=2;A=1`, not `text/plain;b=2`
example : acceptsOfferType (fun _ => []) (b "text/plain") (b "text/plain;b=2;A=1") [(b "a", b "1")] = true := by
  repeat rw [b_ofList]
  decide +kernel
example : acceptsOfferType (fun _ => []) (b "text/plain") (b "text/plain;b=2") [(b "a", b "1")] = false := by
  repeat rw [b_ofList]
  decide +kernel

theorem lastIndexFrom_cases (l : List Bytes) (x : Bytes) (i : Nat) (acc : Option Nat) :
    (lastIndexFrom l x i acc = acc ∧ x ∉ l) ∨ ∃ k, lastIndexFrom l x i acc = some (i + k) ∧ l[k]? = some x := by
  fun_induction lastIndexFrom l x i acc
  · exact .inl ⟨rfl, List.not_mem_nil⟩
  · rename_i y ys x i acc ih
    rcases ih with ⟨h, hn⟩ | ⟨k, h, hk⟩
    · rw [h]
      by_cases hy : y = x
      · exact .inr ⟨0, by simp [hy], by simp [hy]⟩
      · exact .inl ⟨by simp [hy], by simp [hn, Ne.symm hy]⟩
    · exact .inr ⟨k + 1, by rw [h, Nat.add_right_comm, Nat.add_assoc], by simpa using hk⟩

/-- the outcomes of `Format` with at least one handler, `sel` being the negotiated type: the first handler on an
    absent header; on a present one 406, the last "default" handler, or the first handler of the negotiated type -/
theorem format_cases (tab : Bytes → Option Qual) (mime : Bytes → Bytes) (header : Bytes)
    {types : List Bytes} (ht : types ≠ []) {sel : Bytes}
    (hsel : getOffer tab (acceptsOfferType mime) header (types.filter (· != sDefault)) = sel) :
    (header = [] ∧ format tab mime [] types = ⟨some 0, 200, ctOf (types.headD []), b "Accept", false⟩) ∨
    header ≠ [] ∧
    ((sel = [] ∧ sDefault ∉ types ∧ format tab mime header types = ⟨none, 406, defaultCT, b "Accept", false⟩) ∨
    (sel = [] ∧ ∃ i, types[i]? = some sDefault ∧
      format tab mime header types = ⟨some i, 200, defaultCT, b "Accept", false⟩) ∨
    (sel ≠ [] ∧ ∃ i, types.findIdx? (· == sel) = some i ∧ types[i]? = some sel ∧
      format tab mime header types = ⟨some i, 200, sel, b "Accept", false⟩)) := by
  obtain ⟨t0, ts, rfl⟩ := List.exists_cons_of_ne_nil ht
  by_cases hh : header = []
  · exact .inl ⟨hh, by simp [format]⟩
  refine .inr ⟨hh, ?_⟩
  simp only [format, beq_iff_eq, hh, if_false, hsel]
  by_cases ha : sel = []
  · -- nothing negotiated: the third outcome is out, left are 406 and the last "default" handler
    simp only [ha, if_true, true_and, ne_eq, not_true, false_and, or_false]
    rcases lastIndexFrom_cases (t0 :: ts) sDefault 0 none with ⟨h, hn⟩ | ⟨k, h, hk⟩ <;> rw [lastIndexOf, h]
    · exact .inl ⟨hn, rfl⟩
    · exact .inr ⟨_, by simpa using hk, rfl⟩
  · have hmem : sel ∈ t0 :: ts := by
      rcases result_is_offer_or_empty tab (acceptsOfferType mime) header ((t0 :: ts).filter (· != sDefault)) with h | h
      · exact absurd (hsel ▸ h) ha
      · exact (List.mem_filter.1 (hsel ▸ h)).1
    -- a type was negotiated: only the third outcome is left
    simp only [ha, if_false, false_and, ne_eq, not_false_eq_true, true_and, false_or]
    cases hf : List.findIdx? (· == sel) (t0 :: ts) with
    | none => simpa using List.findIdx?_eq_none_iff.1 hf sel hmem
    | some i =>
      obtain ⟨hlt, hi, _⟩ := List.findIdx?_eq_some_iff_getElem.1 hf
      exact ⟨i, rfl, by rw [List.getElem?_eq_getElem hlt, beq_iff_eq.1 hi], rfl⟩

/-- `Format` answers 406 exactly when there are handlers, the header is present, no handler is a
    "default" and negotiation over the handlers' media types selects nothing; and then no handler runs -/
theorem format_406 (tab : Bytes → Option Qual) (mime : Bytes → Bytes) (header : Bytes) (types : List Bytes) :
    (format tab mime header types).status = 406 ↔
      (types ≠ [] ∧ header ≠ [] ∧ ¬ sDefault ∈ types ∧
       getOffer tab (acceptsOfferType mime) header (types.filter (· != sDefault)) = []) := by
  by_cases ht : types = []
  · simp [ht, format]
  rcases format_cases tab mime header ht rfl with ⟨hh, h3⟩ | ⟨hh, ⟨h1, h2, h3⟩ | ⟨h1, i, h2, h3⟩ | ⟨h1, i, _, _, h3⟩⟩
  · simp [h3, hh]
  · simp [h3, ht, hh, h1, h2]
  · simp [h3, List.mem_of_getElem? h2]
  · simp [h3, h1]

/-- `Format` for ARBITRARY header bytes and tables, at least one handler: it never reports an error, and
    either answers 406 without running a handler, or runs exactly the handler with a listed index and
    answers 200 -/
theorem format_runs_listed_handler_or_406 (tab : Bytes → Option Qual) (mime : Bytes → Bytes) (header : Bytes)
    (types : List Bytes) (hne : types ≠ []) :
    (format tab mime header types).err = false ∧
    (((format tab mime header types).status = 406 ∧ (format tab mime header types).handler = none) ∨
     ((format tab mime header types).status = 200 ∧
        ∃ i, (format tab mime header types).handler = some i ∧ i < types.length)) := by
  rcases format_cases tab mime header hne rfl with ⟨rfl, h3⟩ | ⟨_, ⟨_, _, h3⟩ | ⟨_, i, h2, h3⟩ | ⟨_, i, _, h2, h3⟩⟩
  · simp [h3, List.length_pos_iff, hne]
  · simp [h3]
  all_goals exact ⟨by rw [h3], .inr ⟨by rw [h3], i, by rw [h3], (List.getElem?_eq_some_iff.1 h2).1⟩⟩

theorem format_406_no_handler (tab : Bytes → Option Qual) (mime : Bytes → Bytes) (header : Bytes) (types : List Bytes)
    (h : (format tab mime header types).status = 406) : (format tab mime header types).handler = none := by
  by_cases ht : types = []
  · subst ht; rfl
  · rcases (format_runs_listed_handler_or_406 tab mime header types ht).2 with h' | h'
    · exact h'.2
    · rw [h'.1] at h; cases h

/-- `Format` on a header of the grammar dispatches as the property demands: the handler whose media
    type is the negotiated one (and that Content-Type), else a "default" handler, else 406 -/
theorem format_meets_spec (tab : Bytes → Option Qual) (mime : Bytes → Bytes) (es : List Elem) (types : List Bytes)
    (hwf : wf es = true)
    (hoff : ∀ o ∈ types, o ≠ [] → offerSane mime o = true ∧ offerParamsDistinct o) :
    specViolationFormat mime (some es) (render es) types (some (format tab mime (render es) types)) = none := by
  have hsel := accepts_media_eq_spec tab mime es (types.filter (· != sDefault)) hwf
    fun o ho hne => hoff o (List.mem_filter.1 ho).1 hne
  by_cases ht : types = []
  · simp [ht, specViolationFormat]
  rcases format_cases tab mime _ ht hsel with ⟨hh, h3⟩ | ⟨hh, ⟨h1, h2, h3⟩ | ⟨h1, i, h2, h3⟩ | ⟨h1, i, h2, h4, h3⟩⟩
  · simp [specViolationFormat, ht, hh, h3]
  · simp [specViolationFormat, ht, hh, h3, h1, h2]
  · simp [specViolationFormat, ht, hh, h3, h1, h2]
  · simp [specViolationFormat, ht, hh, h3, h1, h2, h4]

-- non-vacuity of `format_406`
example : (format (fun _ => none) (fun _ => []) (b "image/png") [b "text/html", b "application/json"]).status = 406 := by
  repeat rw [b_ofList]
  decide +kernel
example : (format (fun _ => none) (fun _ => []) (b "image/png") [b "text/html", b "default"]).status = 200 := by
  repeat rw [b_ofList]
  decide +kernel

end C09
