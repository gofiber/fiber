import FiberModel.C09.SortLemmas
/-
C09 — `acceptsOfferType` (first parameter with the name decides) is the specification's
`accMedia` (some parameter with the name and value) on offers without repeated parameter names. The
offer's own parameter scanner (`visitParams`, fasthttp) is not characterised: both sides use it as it is.
-/
namespace C09
open B

def offerParamsDistinct (offer : Bytes) : Prop :=
  (visitParams (splitOffer offer).2).Pairwise fun a c => equalFold a.1 c.1 = false

theorem equalFold_trans {a c d : Bytes} (h1 : equalFold a c = true) (h2 : equalFold c d = true) : equalFold a d = true := by
  unfold equalFold at *
  simp only [beq_iff_eq] at *
  rw [h1, h2]

theorem equalFold_symm {a c : Bytes} (h : equalFold a c = true) : equalFold c a = true := by
  unfold equalFold at *
  simp only [beq_iff_eq] at *
  exact h.symm

theorem find?_of_distinct_names (ops : Params) (k : Bytes) (p' : Bytes × Bytes) (hd : ops.Pairwise fun a c => equalFold a.1 c.1 = false)
    (hm : p' ∈ ops) (hk : equalFold k p'.1 = true) : ops.find? (fun p => equalFold k p.1) = some p' := by
  obtain ⟨s, t, rfl⟩ := List.append_of_mem hm
  refine List.find?_eq_some_iff_append.2 ⟨hk, s, t, rfl, fun a ha => ?_⟩
  have := (List.pairwise_append.1 hd).2.2 a ha p' (by simp)
  rw [Bool.not_eq_true', Bool.eq_false_iff]
  intro h
  rw [equalFold_trans (equalFold_symm h) hk] at this
  cases this

theorem paramsMatch_present (sp : Params) (op : Bytes) (h : paramsMatch sp op = true) :
    paramsPresent sp (visitParams op) = true := by
  simp only [paramsMatch, paramsPresent, List.all_eq_true] at h ⊢
  intro ⟨k, v⟩ hkv
  have := h _ hkv
  simp only at this ⊢
  split at this
  · rename_i p hp
    exact List.any_eq_true.2 ⟨p, List.mem_of_find?_eq_some hp, by simp [List.find?_some hp, this]⟩
  · cases this

theorem paramsMatch_eq_present (sp : Params) (op : Bytes)
    (hd : (visitParams op).Pairwise fun a c => equalFold a.1 c.1 = false) :
    paramsMatch sp op = paramsPresent sp (visitParams op) := by
  refine Bool.eq_iff_iff.2 ⟨paramsMatch_present sp op, fun h => ?_⟩
  simp only [paramsMatch, paramsPresent, List.all_eq_true] at h ⊢
  intro ⟨k, v⟩ hkv
  obtain ⟨p', hm, hp'⟩ := List.any_eq_true.1 (h _ hkv)
  simp only [Bool.and_eq_true] at hp'
  simp only [find?_of_distinct_names _ k p' hd hm hp'.1]
  exact hp'.2

def offerSane (mime : Bytes → Bytes) (offer : Bytes) : Bool :=
  let mt := offerMime mime offer
  mt != [] && mt.head? != some 47

theorem acceptsOfferType_eq (mime : Bytes → Bytes) (spec offer : Bytes) (sp : Params) :
    acceptsOfferType mime spec offer sp =
      (typeMatches spec (offerMime mime offer) && paramsMatch sp (splitOffer offer).2) := by
  simp only [acceptsOfferType, typeMatches, offerMime]
  generalize (if (splitOffer offer).1.contains 47 then (splitOffer offer).1 else mime (splitOffer offer).1) = mt
  generalize paramsMatch sp (splitOffer offer).2 = pm
  -- both sides are the same decision on two Booleans and an option; only "neither equal, a `/` found" is left to `split`
  cases spec == b "*/*" <;> cases spec == mt <;> cases indexByte mt 47 <;>
    simp only [Bool.false_eq_true, if_false, if_true, Bool.false_or, Bool.true_or, Bool.true_and, Bool.false_and]
  split <;> simp only [*, Bool.true_and, Bool.false_and]

theorem acceptsOfferType_eq_accMedia (mime : Bytes → Bytes) (r : SRange) (offer : Bytes)
    (hd : offerParamsDistinct offer) :
    accS (acceptsOfferType mime) r offer = accMedia mime r offer := by
  rw [accS, acceptsOfferType_eq, paramsMatch_eq_present _ _ hd]; rfl

theorem typeMatches_empty {mt : Bytes} (hne : mt ≠ []) (hhead : mt.head? ≠ some 47) : typeMatches [] mt = false := by
  obtain ⟨c, cs, rfl⟩ := List.exists_cons_of_ne_nil hne
  have hc : (c == 47) = false := by simpa using hhead
  simp only [typeMatches, indexByte, hc, show (([] : Bytes) == b "*/*") = false by decide,
    show (([] : Bytes) == c :: cs) = false from rfl, Bool.false_or, Bool.false_eq_true, if_false]
  cases indexByte cs 47 <;> simp [hasPrefix]

theorem acceptsOfferType_empty (mime : Bytes → Bytes) (offer : Bytes) (ps : Params) (hs : offerSane mime offer = true) :
    acceptsOfferType mime [] offer ps = false := by
  simp only [offerSane, Bool.and_eq_true, bne_iff_ne, ne_eq] at hs
  rw [acceptsOfferType_eq, typeMatches_empty hs.1 hs.2, Bool.false_and]

end C09
