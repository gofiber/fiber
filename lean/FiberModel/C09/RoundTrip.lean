import FiberModel.C09.ElemLemmas
import FiberModel.C09.ParseLemmas
/-
C09 — parsing a rendered header gives back its meaning: `parseRanges (render es)` is `denote es`
(plus harmless empty ranges for empty list elements).
-/
namespace C09
open B

/-- a specification range as `getOffer` stores it -/
def fromS (s : SRange) : Range :=
  { spec := s.spec, q := s.q, spcf := specificity s.spec, params := s.params, order := s.pos }

theorem toS_fromS (s : SRange) : toS (fromS s) = s := rfl

theorem weight_qvalue {ps : List Param} (h : ∀ p ∈ ps, wfParam p = true) {w : Param} (hw : weightOf ps = some w) :
    ∃ qq, qvalue? w.value = some qq := by
  have hisw : isWeight w = true := List.find?_some hw
  obtain ⟨_, _, hv⟩ | ⟨hw', _⟩ | ⟨hw', _⟩ := (wfParam_named (h w (List.mem_of_find?_eq_some hw)) (isWeight_name_ne hisw)).2
  · exact Option.isSome_iff_exists.1 hv
  all_goals rw [hisw] at hw'; cases hw'

theorem parseElem_rendered (tab : Bytes → Option Qual) (e : Elem) (n : Nat) (h : wfElem e = true) (hr : e.rng ≠ []) :
    parseElem tab (bodyOf e) n = (denoteElem e n).map fromS := by
  obtain ⟨_, htrail, hparams, _, hrange⟩ := wfElem_parts h
  have hr' : (e.rng == []) = false := beq_eq_false_iff_ne.2 hr
  rw [bodyOf, List.append_assoc, parseElem_tail tab hr (fun c hc => (range_chars (hrange hr) c hc).2)
    (Tail.of_wf hparams htrail), slowParams_scanned, denoteElem]
  simp only [hr', Bool.false_eq_true, if_false]
  cases hw : weightOf e.params with
  | none => simp [fromS, paramMap, Qual.isZero, Qual.one]
  | some w =>
    obtain ⟨qq, hqq⟩ := weight_qvalue hparams hw
    simp only [ufloat_qvalue tab hqq, hqq, Option.getD_some]
    cases qq.isZero <;> simp [fromS, paramMap]

theorem parseElem_nil (tab : Bytes → Option Qual) (n : Nat) :
    parseElem tab [] n = some { spec := [], q := .one, spcf := 4, params := [], order := n } := by
  simp [parseElem, splitSemi, trimOWS, trimRightOWS, show specificity [] = 4 by decide]

theorem render_cons_cons (e e2 : Elem) (es : List Elem) :
    render (e :: e2 :: es) = renderElem e ++ 44 :: render (e2 :: es) := by
  simp [render, join]

theorem render_single (e : Elem) : render [e] = renderElem e := by simp [render, join]

theorem denoteElem_empty (e : Elem) (n : Nat) (hr : e.rng = []) : denoteElem e n = none := by
  simp [denoteElem, hr]

theorem qvalue_fin {v : Bytes} {q : Qual} (h : qvalue? v = some q) : q.isFin = true :=
  parseSimple_fin (parseSimple_qvalue h)

theorem denoteElem_some {e : Elem} {n : Nat} {s : SRange} (h : denoteElem e n = some s) :
    s.spec = e.rng ∧ s.q.isZero = false ∧ s.q.isFin = true := by
  -- what gets through: a range that is not empty with a weight that is not 0
  revert h
  fun_cases denoteElem e n <;> intro h <;> cases h
  rename_i q hz
  refine ⟨rfl, by simpa using hz, ?_⟩
  dsimp only [q]
  split
  · rename_i w _
    cases hq : qvalue? w.value with
    | none => rfl
    | some qq => exact qvalue_fin hq
  · rfl

theorem denoteFrom_q (es : List Elem) (n : Nat) : ∀ s ∈ denoteFrom es n, s.q.isZero = false ∧ s.q.isFin = true := by
  -- no element; the element means nothing; it means `r`
  fun_induction denoteFrom es n
  · simp
  · assumption
  · rename_i hd ih
    exact List.forall_mem_cons.2 ⟨(denoteElem_some hd).2, ih⟩

/-- the list elements `as` parse (positions from `n + 1`) to the meaning of `es`, interleaved with empty
    ranges (quality 1) for empty list elements -/
structure ParsedAs (tab : Bytes → Option Qual) (as : List Bytes) (n : Nat) (es : List Elem) : Prop where
  ranges : (parseRangesFrom tab as n).filter (fun r => r.spec != []) = (denoteFrom es (n + 1)).map fromS
  empties : ∀ r ∈ parseRangesFrom tab as n, r.spec = [] → r.q = .one

theorem parsedAs_nil (tab : Bytes → Option Qual) (n : Nat) : ParsedAs tab [] n [] :=
  ⟨rfl, by simp [parseRangesFrom]⟩

theorem parsedAs_cons {tab : Bytes → Option Qual} {as : List Bytes} {n : Nat} {e : Elem} {es : List Elem}
    (he : wfElem e = true) (h : ParsedAs tab as (n + 1) es) : ParsedAs tab (elemBytes e :: as) n (e :: es) := by
  unfold elemBytes
  split
  · -- an empty list element: the code makes an empty range of quality 1 of it, the meaning nothing
    rename_i hr
    refine ⟨?_, ?_⟩ <;> simp only [parseRangesFrom, parseElem_nil, denoteFrom, denoteElem_empty e _ hr]
    · simpa using h.ranges
    · exact List.forall_mem_cons.2 ⟨fun _ => rfl, h.empties⟩
  · rename_i hr
    have hp := parseElem_rendered tab e (n + 1) he hr
    cases hd : denoteElem e (n + 1) with
    | none =>
      rw [hd, Option.map_none] at hp
      refine ⟨?_, ?_⟩ <;> simp only [parseRangesFrom, hp, denoteFrom, hd]
      · exact h.ranges
      · exact h.empties
    | some s =>
      rw [hd, Option.map_some] at hp
      have hsp : (fromS s).spec = e.rng := (denoteElem_some hd).1
      have hf : ((fromS s).spec != []) = true := by rw [hsp]; simpa using hr
      refine ⟨?_, ?_⟩ <;> simp only [parseRangesFrom, hp, denoteFrom, hd]
      · simp only [List.filter_cons, hf, if_true, List.map_cons, h.ranges]
      · exact List.forall_mem_cons.2 ⟨fun hnil => absurd (hsp ▸ hnil) hr, h.empties⟩

theorem parse_render (tab : Bytes → Option Qual) (es : List Elem) (hs : ∀ e ∈ es, wfElem e = true) :
    ∀ n : Nat, ParsedAs tab (mediaRanges (render es)) n es := by
  induction es with
  | nil => exact parsedAs_nil tab
  | cons e es ih =>
    intro n
    have he := hs e (by simp)
    obtain ⟨lead, hl, hre, hb⟩ := renderElem_split he
    cases es with
    | nil =>
      rw [render_single, hre, mediaRanges_end hl hb]
      split
      · -- nothing rendered, nothing handed over: the element is an empty one and means nothing
        rename_i h0
        have hr : e.rng = [] := Decidable.byContradiction fun hr => by simp [elemBytes, hr, bodyOf] at h0
        exact ⟨by simp [parseRangesFrom, denoteFrom, denoteElem_empty e _ hr], by simp [parseRangesFrom]⟩
      · exact parsedAs_cons he (parsedAs_nil tab _)
    | cons e2 es' =>
      rw [render_cons_cons, hre, List.append_assoc, mediaRanges_comma hl hb]
      exact parsedAs_cons he (ih (fun x hx => hs x (by simp [hx])) (n + 1))

theorem ParsedAs.qualities_fin {tab : Bytes → Option Qual} {as : List Bytes} {n : Nat} {es : List Elem}
    (h : ParsedAs tab as n es) : ∀ r ∈ parseRangesFrom tab as n, r.q.isFin = true := by
  intro r hr
  by_cases hsp : r.spec = []
  · rw [h.empties r hr hsp]; rfl
  · obtain ⟨d, hd, rfl⟩ := List.mem_map.1 (h.ranges ▸ List.mem_filter.2 ⟨hr, by simpa using hsp⟩)
    exact (denoteFrom_q es _ d hd).2

theorem ParsedAs.candidates {tab : Bytes → Option Qual} {as : List Bytes} {n : Nat} {es : List Elem}
    (h : ParsedAs tab as n es) (P : SRange → Bool) (hP : ∀ r : Range, r.spec = [] → P (toS r) = false) :
    ((parseRangesFrom tab as n).map toS).filter P = (denoteFrom es (n + 1)).filter P := by
  have : (parseRangesFrom tab as n).filter (P ∘ toS) =
      ((parseRangesFrom tab as n).filter fun r => r.spec != []).filter (P ∘ toS) := by
    rw [List.filter_filter]
    refine List.filter_congr fun r _ => ?_
    by_cases hs : r.spec = []
    · simp [hP r hs, hs]
    · simp [hs]
  rw [List.filter_map, this, h.ranges, ← List.filter_map, List.map_map]
  exact congrArg _ (List.map_id _)

end C09
