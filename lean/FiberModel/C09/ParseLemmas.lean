import FiberModel.C09.SortLemmas
/-
C09 — invariants of `parseRanges` (positions strictly increase, specificity field is computed from
the spelling, qualities are never zero, finite when `ParseFloat` is; the position enters only through
the `order` field).
-/
namespace C09
open B

def tabFinite (tab : Bytes → Option Qual) : Prop := ∀ s q, tab s = some q → q.isFin = true

theorem parseSimple_fin {s : Bytes} {q : Qual} (h : parseSimple s = some q) : q.isFin = true := by
  -- `parseSimple` answers `some` in two places, each time with a `.fin`
  revert h
  fun_cases parseSimple s <;> intro h <;> cases h <;> rfl

theorem ufloat_getD_fin {tab : Bytes → Option Qual} (ht : tabFinite tab) (s : Bytes) {q : Qual} (hq : q.isFin = true) :
    ((ufloat tab s).getD q).isFin = true := by
  fun_cases ufloat tab s
  · exact parseSimple_fin ‹_›
  · cases hu : tab s with
    | none => exact hq
    | some q' => exact ht _ _ hu

theorem slowParams_fin {tab : Bytes → Option Qual} (ht : tabFinite tab) (ps : Params) (q : Qual) (m : Params)
    (hq : q.isFin = true) : (slowParams tab ps q m).1.isFin = true := by
  -- no pair left; the weight; a media parameter
  fun_induction slowParams tab ps q m
  · exact hq
  · exact ufloat_getD_fin ht _ hq
  · rename_i ih
    exact ih hq

theorem qualityParams_fin {tab : Bytes → Option Qual} (ht : tabFinite tab) (rest : Bytes) :
    (qualityParams tab rest).1.isFin = true := by
  fun_cases qualityParams tab rest
  · exact ufloat_getD_fin ht _ rfl
  · exact slowParams_fin ht _ _ _ rfl

/-- what `getOffer`'s functor establishes of the accepted type it builds for the list element at position `n` -/
structure Parsed (tab : Bytes → Option Qual) (n : Nat) (r : Range) : Prop where
  order : r.order = n
  spcf : r.spcf = specificity r.spec
  nonzero : r.q.isZero = false
  finite : tabFinite tab → r.q.isFin = true

theorem parseElem_props {tab : Bytes → Option Qual} {a : Bytes} {n : Nat} {r : Range} (h : parseElem tab a n = some r) :
    Parsed tab n r := by
  -- what gets through: no `;` (quality 1), or a `;` and a weight that is not 0
  revert h
  fun_cases parseElem tab a n <;> intro h <;> cases h
  · exact ⟨rfl, rfl, rfl, fun _ => rfl⟩
  · rename_i rest _ _ _ hq hz _
    exact ⟨rfl, rfl, by simpa using hz, fun ht => by simpa [hq] using qualityParams_fin ht rest⟩

theorem parseRangesFrom_origin (tab : Bytes → Option Qual) (as : List Bytes) (n : Nat) :
    ∀ r ∈ parseRangesFrom tab as n, n < r.order ∧ ∃ a ∈ as, parseElem tab a r.order = some r := by
  -- no element; the element is skipped (weight 0); it is accepted
  fun_induction parseRangesFrom tab as n
  · simp
  · rename_i ih
    exact fun r hr => let ⟨h1, a', ha', h2⟩ := ih r hr; ⟨by omega, a', by simp [ha'], h2⟩
  · rename_i a as n r0 hp ih
    have ho := (parseElem_props hp).order
    refine List.forall_mem_cons.2 ⟨⟨by omega, a, by simp, ho ▸ hp⟩, fun r hr => ?_⟩
    obtain ⟨h1, a', ha', h2⟩ := ih r hr
    exact ⟨by omega, a', by simp [ha'], h2⟩

theorem parseRangesFrom_ordered (tab : Bytes → Option Qual) (as : List Bytes) (n : Nat) :
    (parseRangesFrom tab as n).Pairwise (fun a c => a.order < c.order) := by
  -- no element; the element is skipped (weight 0); it is accepted
  fun_induction parseRangesFrom tab as n
  · exact .nil
  · assumption
  · rename_i as n _ hp ih
    have ho := (parseElem_props hp).order
    exact List.pairwise_cons.2 ⟨fun c hc => by have := (parseRangesFrom_origin tab as (n + 1) c hc).1; omega, ih⟩

theorem parseRanges_origin {tab : Bytes → Option Qual} {header : Bytes} {r : Range} (h : r ∈ parseRanges tab header) :
    ∃ a ∈ mediaRanges header, parseElem tab a r.order = some r :=
  (parseRangesFrom_origin tab (mediaRanges header) 0 r h).2

theorem parseRanges_parsed {tab : Bytes → Option Qual} {header : Bytes} {r : Range} (h : r ∈ parseRanges tab header) :
    Parsed tab r.order r := by
  obtain ⟨a, _, ha⟩ := parseRanges_origin h
  exact parseElem_props ha

theorem parseElem_order (tab : Bytes → Option Qual) (a : Bytes) (n m : Nat) :
    parseElem tab a m = (parseElem tab a n).map fun r => { r with order := m } := by
  unfold parseElem
  split
  · rfl
  · simp only
    split <;> rfl

/-- the list element does not carry the weight 0 -/
def live (tab : Bytes → Option Qual) (a : Bytes) : Bool := (parseElem tab a 0).isSome

theorem live_eq_isSome (tab : Bytes → Option Qual) (a : Bytes) (n : Nat) : live tab a = (parseElem tab a n).isSome := by
  unfold live
  rw [parseElem_order tab a n 0]
  cases parseElem tab a n <;> rfl

end C09
