import FiberModel.C09.ParseLemmas
/-
C09 — lemmas about `getOffer` on ARBITRARY header bytes and arbitrary `ParseFloat` tables (NaN/Inf
included), where the sort need not produce a sorted list: the sort is driven by the comparison `after`
alone, so it treats two lists alike whose elements agree in everything but their positions and whose
positions are ordered alike (`sort_map`) — which is what removing list elements with weight 0 does to the
parsed ranges: it numbers them anew and changes nothing else (`parseRangesFrom_filter_live`).
-/
namespace C09
open B

/-- the loop sees the list only through the comparisons with its elements -/
theorem bsearch_map {α : Type} (P : List α) (f g : α → Range) (x x' : Range)
    (h : ∀ p ∈ P, after x (f p) = after x' (g p)) :
    ∀ fuel lo hiX, bsearch (P.map f) x fuel lo hiX = bsearch (P.map g) x' fuel lo hiX := by
  intro fuel
  induction fuel with
  | zero => intro lo hiX; rfl
  | succ n ih =>
    intro lo hiX
    simp only [bsearch, List.getElem?_map]
    split
    · cases hp : P[(lo + (hiX - 1)) / 2]? with
      | none => rfl
      | some p => simp only [Option.map_some, h p (List.mem_of_getElem? hp), ih]
    · rfl

/-- the sort sees its input only through the comparison: two readings `f`, `g` of the same list that the comparison
    cannot tell apart are sorted by one and the same rearrangement -/
theorem sort_map {α : Type} (f g : α → Range) (Z0 : List α)
    (hc : ∀ p ∈ Z0, ∀ q ∈ Z0, after (f p) (f q) = after (g p) (g q)) :
    ∃ Zs : List α, sortAccepted (Z0.map f) = Zs.map f ∧ sortAccepted (Z0.map g) = Zs.map g := by
  -- by induction on the part `Z` still to be inserted, `P` being the part sorted so far
  suffices ∀ Z P : List α, (∀ p ∈ Z, p ∈ Z0) → (∀ p ∈ P, p ∈ Z0) →
      ∃ Zs : List α, (Z.map f).foldl insertSorted (P.map f) = Zs.map f ∧
        (Z.map g).foldl insertSorted (P.map g) = Zs.map g from this Z0 [] (fun _ h => h) (by simp)
  intro Z
  induction Z with
  | nil => exact fun P _ _ => ⟨P, rfl, rfl⟩
  | cons z Z ih =>
    intro P hZ hP
    have hz := hZ z (by simp)
    -- both readings of `z` go to the same place `lo` of the part sorted so far
    have hb := bsearch_map P f g (f z) (g z) (fun p hp => hc z hz p (hP p hp)) (P.length + 1) 0 P.length
    generalize hlo : bsearch (P.map f) (f z) (P.length + 1) 0 P.length = lo at hb
    obtain ⟨Zs, h2, h3⟩ := ih (P.take lo ++ z :: P.drop lo) (fun p hp => hZ p (by simp [hp]))
      (List.forall_mem_append.2 ⟨fun p h => hP p (List.mem_of_mem_take h),
        List.forall_mem_cons.2 ⟨hz, fun p h => hP p (List.mem_of_mem_drop h)⟩⟩)
    refine ⟨Zs, ?_, ?_⟩
    · simpa [insertSorted, insertAt, hlo, List.map_take, List.map_drop] using h2
    · simpa [insertSorted, insertAt, ← hb, List.map_take, List.map_drop] using h3

/-- an accepted type moved to another position -/
def atPos (p : Range × Nat) : Range := { p.1 with order := p.2 }

theorem parseRangesFrom_filter_live (tab : Bytes → Option Qual) (as : List Bytes) (n n' : Nat) :
    parseRangesFrom tab (as.filter (live tab)) n' = ((parseRangesFrom tab as n).zipIdx (n' + 1)).map atPos := by
  -- no element; the element is skipped (weight 0, not live); it is accepted (live)
  fun_induction parseRangesFrom tab as n generalizing n'
  · rfl
  · rename_i a as n hp ih
    have hl := live_eq_isSome tab a (n + 1)
    simp only [hp, Option.isSome_none] at hl
    simp only [List.filter_cons, hl, Bool.false_eq_true, if_false]
    exact ih _
  · rename_i a as n r hp ih
    have hl := live_eq_isSome tab a (n + 1)
    simp only [hp, Option.isSome_some] at hl
    simp only [List.filter_cons, hl, if_true, parseRangesFrom, parseElem_order tab a (n + 1) (n' + 1), hp,
      Option.map_some, List.zipIdx_cons, List.map_cons, ih (n' + 1)]
    rfl

theorem zipIdx_ordered {L : List Range} (h : L.Pairwise fun a c => a.order < c.order) (k : Nat) :
    (L.zipIdx k).Pairwise fun p q => p.1.order < q.1.order ∧ p.2 < q.2 := by
  induction L generalizing k with
  | nil => exact .nil
  | cons r rs ih =>
    obtain ⟨hr, hrs⟩ := List.pairwise_cons.1 h
    exact List.pairwise_cons.2 ⟨fun q hq => ⟨hr _ (List.fst_mem_of_mem_zipIdx hq),
      Nat.lt_of_succ_le (List.le_snd_of_mem_zipIdx hq)⟩, ih hrs _⟩

theorem after_atPos {L : List Range} (h : L.Pairwise fun a c => a.order < c.order) (k : Nat) :
    ∀ p ∈ L.zipIdx k, ∀ q ∈ L.zipIdx k, after p.1 q.1 = after (atPos p) (atPos q) := by
  intro p hp q hq
  -- along the list the old positions and the new indices both increase (`zipIdx_ordered`), so any two members, in either
  -- order, compare alike on the one and on the other
  have ho : (p.1.order > q.1.order) ↔ (p.2 > q.2) :=
    List.Pairwise.forall_of_forall_of_flip (R := fun p q : Range × Nat => p.1.order > q.1.order ↔ p.2 > q.2)
      (fun _ _ => by omega) ((zipIdx_ordered h k).imp (by omega))
      ((zipIdx_ordered h k).imp (by intro a b h; simp only [flip]; omega)) hp hq
  -- of the four keys of `after` only the last looks at `order`
  simp only [C09.after, atPos, decide_eq_decide.2 ho]
  rfl

theorem findOffer_atPos (acc : Bytes → Bytes → Params → Bool) (Zs : List (Range × Nat)) (offers : List Bytes) :
    findOffer acc (Zs.map atPos) offers = findOffer acc (Zs.map (·.1)) offers := by
  induction Zs with
  | nil => rfl
  | cons p ps ih => simp only [List.map_cons, findOffer, ih]; rfl

theorem findOffer_sorted_filter_live (tab : Bytes → Option Qual) (acc : Bytes → Bytes → Params → Bool)
    (as : List Bytes) (offers : List Bytes) :
    findOffer acc (sortAccepted (parseRangesFrom tab as 0)) offers =
      findOffer acc (sortAccepted (parseRangesFrom tab (as.filter (live tab)) 0)) offers := by
  -- the accepted types of `as`, numbered 1, 2, …: read as they are (`Prod.fst`) and at their new positions (`atPos`)
  obtain ⟨Zs, hs1, hs2⟩ := sort_map Prod.fst atPos _ (after_atPos (parseRangesFrom_ordered tab as 0) 1)
  rw [List.zipIdx_map_fst] at hs1
  rw [parseRangesFrom_filter_live tab as 0 0, hs1, hs2, findOffer_atPos]

end C09
