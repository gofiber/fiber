import FiberModel.C09.Spec
/-
C09 — lemmas for `sortAcceptedTypes`: the four-key comparison as an order on natural-number keys
(qualities scaled to a common denominator), correctness of the binary search on a sorted prefix,
insertion keeps the list sorted and is a permutation. Also what the parse and the selection lemmas share with them:
finiteness of a quality and its decimal exponent (`Qual.isFin`, `expOf`), and the view of a parsed range as a range of
the specification (`toS`, `accS`).
-/
namespace C09
open B

def expOf : Qual → Nat
  | .fin _ e => e
  | _ => 0

/-- value scaled by `10^E` (for `fin m e` with `e ≤ E`) -/
def qv (E : Nat) : Qual → Nat
  | .fin m e => m * 10 ^ (E - e)
  | _ => 0

def Qual.isFin : Qual → Bool
  | .fin _ _ => true
  | _ => false

/-- a parsed range seen by the specification -/
def toS (r : Range) : SRange := { spec := r.spec, q := r.q, params := r.params, pos := r.order }

/-- `isAccepted` of Go's `getOffer` as a predicate on specification ranges -/
def accS (acc : Bytes → Bytes → Params → Bool) : SRange → Bytes → Bool := fun s o => acc s.spec o s.params

theorem expOf_le_sum {l : List Range} {r : Range} (h : r ∈ l) : expOf r.q ≤ (l.map fun r => expOf r.q).sum := by
  obtain ⟨s, t, rfl⟩ := List.append_of_mem h
  simp only [List.map_append, List.map_cons, List.sum_append_nat, List.sum_cons]
  omega

theorem pow10_pos (n : Nat) : 0 < 10 ^ n := Nat.pow_pos (by decide)

theorem cross_lt {m e m' e' E : Nat} (h : e ≤ E) (h' : e' ≤ E) :
    m * 10 ^ e' < m' * 10 ^ e ↔ m * 10 ^ (E - e) < m' * 10 ^ (E - e') := by
  have e1 : m * 10 ^ (E - e) * (10 ^ e * 10 ^ e') = m * 10 ^ e' * 10 ^ E := by
    rw [Nat.mul_comm (10 ^ e), Nat.mul_mul_mul_comm, Nat.pow_sub_mul_pow 10 h]
  have e2 : m' * 10 ^ (E - e') * (10 ^ e * 10 ^ e') = m' * 10 ^ e * 10 ^ E := by
    rw [Nat.mul_mul_mul_comm, Nat.pow_sub_mul_pow 10 h']
  rw [← Nat.mul_lt_mul_right (Nat.mul_pos (pow10_pos e) (pow10_pos e')) (b := m * 10 ^ (E - e)), e1, e2,
    Nat.mul_lt_mul_right (pow10_pos E)]

theorem cross_eq {m e m' e' E : Nat} (h : e ≤ E) (h' : e' ≤ E) :
    m * 10 ^ e' = m' * 10 ^ e ↔ m * 10 ^ (E - e) = m' * 10 ^ (E - e') := by
  have h1 := cross_lt (m := m) (m' := m') h h'
  have h2 := cross_lt (m := m') (m' := m) h' h
  omega

theorem Qual.eq_fin_of_isFin : {q : Qual} → q.isFin = true → ∃ m e, q = .fin m e
  | .fin m e, _ => ⟨m, e, rfl⟩

theorem qv_cmp {a c : Qual} {E : Nat} (ha : a.isFin = true) (hc : c.isFin = true) (h : expOf a ≤ E)
    (h' : expOf c ≤ E) : (a.lt c = true ↔ qv E a < qv E c) ∧ (a.eq c = true ↔ qv E a = qv E c) := by
  obtain ⟨m, e, rfl⟩ := Qual.eq_fin_of_isFin ha
  obtain ⟨m', e', rfl⟩ := Qual.eq_fin_of_isFin hc
  simp only [Qual.lt, Qual.eq, qv, decide_eq_true_eq]
  exact ⟨cross_lt h h', cross_eq h h'⟩

/-- the quality is finite (no NaN/Inf) and its decimal exponent is at most `E`, so that `qv E` scales it exactly -/
def Range.ok (E : Nat) (r : Range) : Prop := r.q.isFin = true ∧ expOf r.q ≤ E

/-- `after x m` on the scaled keys -/
def afterN (E : Nat) (x m : Range) : Prop :=
  qv E x.q < qv E m.q ∨
  (qv E x.q = qv E m.q ∧ x.spcf < m.spcf) ∨
  (qv E x.q = qv E m.q ∧ x.spcf = m.spcf ∧ x.params.length < m.params.length) ∨
  (qv E x.q = qv E m.q ∧ x.spcf = m.spcf ∧ x.params.length = m.params.length ∧ x.order > m.order)

theorem afterN_lex {E : Nat} {x m : Range} : afterN E x m ↔
    (qv E x.q < qv E m.q ∨ qv E x.q = qv E m.q ∧
      (x.spcf < m.spcf ∨ x.spcf = m.spcf ∧
        (x.params.length < m.params.length ∨ x.params.length = m.params.length ∧ m.order < x.order))) := by
  simp only [afterN, and_or_left, gt_iff_lt]

theorem after_iff {E : Nat} {x m : Range} (hx : x.ok E) (hm : m.ok E) : after x m = true ↔ afterN E x m := by
  obtain ⟨hl, he⟩ := qv_cmp (E := E) hx.1 hm.1 hx.2 hm.2
  simp only [after, afterN, Bool.or_eq_true, Bool.and_eq_true, decide_eq_true_eq, beq_iff_eq, hl, he, or_assoc,
    and_assoc]

/-- `a < b ∨ a = b ∧ P` is one key of a lexicographic comparison: smaller on this key, or equal on it and
    compared by the rest (`P`); transitivity and totality pass from the rest to the whole -/
theorem lex_trans {a b c : Nat} {P Q R : Prop} (h : P → Q → R) :
    (a < b ∨ a = b ∧ P) → (b < c ∨ b = c ∧ Q) → (a < c ∨ a = c ∧ R)
  | .inl h1, .inl h2 => .inl (Nat.lt_trans h1 h2)
  | .inl h1, .inr ⟨e, _⟩ => .inl (e ▸ h1)
  | .inr ⟨e, _⟩, .inl h2 => .inl (e ▸ h2)
  | .inr ⟨e1, p⟩, .inr ⟨e2, q⟩ => .inr ⟨e1.trans e2, h p q⟩

theorem lex_total {a b : Nat} {P Q : Prop} (h : a = b → P ∨ Q) :
    (a < b ∨ a = b ∧ P) ∨ (b < a ∨ b = a ∧ Q) := by
  rcases Nat.lt_trichotomy a b with h1 | h1 | h1
  · exact .inl (.inl h1)
  · exact (h h1).imp (fun p => .inr ⟨h1, p⟩) (fun q => .inr ⟨h1.symm, q⟩)
  · exact .inr (.inl h1)

theorem afterN_trans {E : Nat} {a c d : Range} (h1 : afterN E a c) (h2 : afterN E c d) : afterN E a d := by
  rw [afterN_lex] at *
  exact lex_trans (lex_trans (lex_trans fun h1 h2 => Nat.lt_trans h2 h1)) h1 h2

theorem afterN_irrefl {E : Nat} {a : Range} : ¬ afterN E a a := by
  unfold afterN; omega

theorem afterN_total {E : Nat} {a c : Range} (h : a.order ≠ c.order) : afterN E a c ∨ afterN E c a := by
  simp only [afterN_lex]
  exact lex_total fun _ => lex_total fun _ => lex_total fun _ => (Nat.lt_or_gt_of_ne h).symm

theorem afterN_asymm {E : Nat} {a c : Range} (h : afterN E a c) : ¬ afterN E c a :=
  fun h' => afterN_irrefl (afterN_trans h h')

def AllOk (E : Nat) (l : List Range) : Prop := ∀ r ∈ l, r.ok E

theorem pairwise_after_iff_afterN {E : Nat} {l : List Range} (h : AllOk E l) :
    (l.Pairwise fun a c => after c a = true) ↔ l.Pairwise fun a c => afterN E c a :=
  ⟨.imp_of_mem fun ha hc hac => (after_iff (h _ hc) (h _ ha)).1 hac,
   .imp_of_mem fun ha hc hac => (after_iff (h _ hc) (h _ ha)).2 hac⟩

theorem mid_bounds {lo hiX : Nat} (h : lo < hiX) : lo ≤ (lo + (hiX - 1)) / 2 ∧ (lo + (hiX - 1)) / 2 < hiX := by
  omega

/-- wherever `pre` splits into elements `x` belongs after and elements it does not belong after, the
    loop ends at the split point; `lo ≤ split ≤ hiX` is its invariant -/
theorem bsearch_split (x : Range) (l1 l2 : List Range) (h1 : ∀ m ∈ l1, after x m = true)
    (h2 : ∀ m ∈ l2, after x m = false) :
    ∀ fuel lo hiX, lo ≤ l1.length → l1.length ≤ hiX → hiX ≤ (l1 ++ l2).length → hiX < lo + fuel →
      bsearch (l1 ++ l2) x fuel lo hiX = l1.length := by
  intro fuel
  induction fuel with
  | zero => intro lo hiX _ _ _ h; omega
  | succ f ih =>
    intro lo hiX hlo hhi hlen hf
    simp only [bsearch]
    split
    · have hmid := mid_bounds ‹lo < hiX›
      generalize (lo + (hiX - 1)) / 2 = mid at hmid ⊢
      rw [List.length_append] at hlen
      by_cases hm : mid < l1.length
      · rw [List.getElem?_append_left hm, List.getElem?_eq_getElem hm]
        simp only [h1 _ (List.getElem_mem hm), if_true]
        exact ih _ _ hm hhi (by rwa [List.length_append]) (by omega)
      · have hm2 : mid - l1.length < l2.length := Nat.sub_lt_left_of_lt_add (Nat.le_of_not_lt hm) (by omega)
        rw [List.getElem?_append_right (Nat.le_of_not_lt hm), List.getElem?_eq_getElem hm2]
        simp only [h2 _ (List.getElem_mem hm2), Bool.false_eq_true, if_false]
        exact ih _ _ hlo (Nat.le_of_not_lt hm) (by rw [List.length_append]; omega) (by omega)
    · omega

theorem sorted_split {E : Nat} (x : Range) (pre : List Range) (hs : pre.Pairwise fun a c => afterN E c a) :
    ∃ l1 l2, pre = l1 ++ l2 ∧ (∀ m ∈ l1, afterN E x m) ∧ (∀ m ∈ l2, ¬ afterN E x m) := by
  induction pre with
  | nil => exact ⟨[], [], rfl, by simp, by simp⟩
  | cons a as ih =>
    obtain ⟨ha, has⟩ := List.pairwise_cons.1 hs
    by_cases hxa : afterN E x a
    · obtain ⟨l1, l2, rfl, h1, h2⟩ := ih has
      exact ⟨a :: l1, l2, rfl, by simpa [hxa] using h1, h2⟩
    · exact ⟨[], a :: as, rfl, by simp,
        List.forall_mem_cons.2 ⟨hxa, fun m hm hxm => hxa (afterN_trans hxm (ha m hm))⟩⟩

theorem after_of_afterN {E : Nat} {x : Range} {l1 l2 : List Range} (hok : AllOk E (l1 ++ l2)) (hx : x.ok E)
    (h1 : ∀ m ∈ l1, afterN E x m) (h2 : ∀ m ∈ l2, ¬ afterN E x m) :
    (∀ m ∈ l1, after x m = true) ∧ (∀ m ∈ l2, after x m = false) :=
  ⟨fun m hm => (after_iff hx (hok m (by simp [hm]))).2 (h1 m hm),
   fun m hm => Bool.eq_false_iff.2 fun h => h2 m hm ((after_iff hx (hok m (by simp [hm]))).1 h)⟩

theorem bsearch_spec {E : Nat} (pre : List Range) (x : Range) (hok : AllOk E pre) (hx : x.ok E)
    (hs : pre.Pairwise fun a c => afterN E c a) :
    ∃ l1 l2, pre = l1 ++ l2 ∧ bsearch pre x (pre.length + 1) 0 pre.length = l1.length ∧
      (∀ m ∈ l1, afterN E x m) ∧ (∀ m ∈ l2, ¬ afterN E x m) := by
  obtain ⟨l1, l2, rfl, h1, h2⟩ := sorted_split x pre hs
  refine ⟨l1, l2, rfl, ?_, h1, h2⟩
  obtain ⟨a1, a2⟩ := after_of_afterN hok hx h1 h2
  exact bsearch_split x l1 l2 a1 a2 _ 0 _ (Nat.zero_le _) (by simp) (Nat.le_refl _) (by omega)

theorem insertAt_perm (pre : List Range) (x : Range) (lo : Nat) : (insertAt pre x lo).Perm (x :: pre) := by
  unfold insertAt
  have := List.perm_middle (a := x) (l₁ := pre.take lo) (l₂ := pre.drop lo)
  rwa [List.take_append_drop] at this

theorem insertSorted_perm (pre : List Range) (x : Range) : (insertSorted pre x).Perm (x :: pre) :=
  insertAt_perm _ _ _

theorem insertSorted_sorted {E : Nat} (pre : List Range) (x : Range) (hok : AllOk E pre) (hx : x.ok E)
    (hs : pre.Pairwise fun a c => afterN E c a) (hd : ∀ m ∈ pre, m.order ≠ x.order) :
    (insertSorted pre x).Pairwise fun a c => afterN E c a := by
  obtain ⟨l1, l2, rfl, hb, h1, h2⟩ := bsearch_spec pre x hok hx hs
  obtain ⟨hs1, hs2, hs3⟩ := List.pairwise_append.1 hs
  simp only [insertSorted, insertAt, hb, List.take_left, List.drop_left]
  exact List.pairwise_append.2 ⟨hs1,
    List.pairwise_cons.2 ⟨fun a ha => (afterN_total (hd a (by simp [ha]))).resolve_right (h2 a ha), hs2⟩,
    fun a ha => List.forall_mem_cons.2 ⟨h1 a ha, hs3 a ha⟩⟩

theorem sortAccepted_perm (l : List Range) : (sortAccepted l).Perm l :=
  -- step by step a permutation of the fold that conses each element on: the reversed list
  (List.foldl_rel (r := List.Perm) (g := fun acc x => x :: acc) (b := []) .nil
    fun a _ c c' h => (insertSorted_perm c a).trans (h.cons a)).trans
    (by rw [List.foldl_flip_cons_eq_append', List.append_nil]; exact List.reverse_perm l)

theorem sortAccepted_sorted {E : Nat} (l : List Range) (hok : AllOk E l)
    (hd : l.Pairwise fun a c => a.order ≠ c.order) : (sortAccepted l).Pairwise fun a c => afterN E c a := by
  -- the invariant of the fold: the part `acc` inserted so far is sorted
  suffices ∀ acc : List Range, AllOk E (acc ++ l) → (acc.Pairwise fun a c => afterN E c a) →
      ((acc ++ l).Pairwise fun a c => a.order ≠ c.order) →
      (l.foldl insertSorted acc).Pairwise fun a c => afterN E c a from this [] hok .nil hd
  clear hok hd
  intro acc hok hs hd
  induction l generalizing acc with
  | nil => exact hs
  | cons x xs ih =>
    have hp : (insertSorted acc x ++ xs).Perm (acc ++ x :: xs) :=
      ((insertSorted_perm acc x).append_right xs).trans List.perm_middle.symm
    refine ih (insertSorted acc x) (fun r hr => hok r (hp.mem_iff.1 hr)) ?_
      ((hp.pairwise_iff fun h => Ne.symm h).2 hd)
    exact insertSorted_sorted acc x (fun r hr => hok r (by simp [hr])) (hok x (by simp)) hs
      fun m hm => (List.pairwise_append.1 hd).2.2 m hm x (by simp)

/-- `getOffer` sorts only when there are at least two accepted types; sorting a shorter list changes nothing -/
theorem sortAccepted_short (l : List Range) (h : ¬ l.length > 1) : sortAccepted l = l := by
  match l, h with
  | [], _ => rfl
  | [x], _ => simp [sortAccepted, insertSorted, insertAt, bsearch]
  | _ :: _ :: _, h => simp at h

end C09
