import FiberModel.C09.SortLemmas
import FiberModel.ListLemmas
/-
C09 — lemmas tying the nested search over the sorted list (`findOffer`) to the argmax formulation
of the property (`select`).
-/
namespace C09
open B

theorem pref_toS {E : Nat} {a c : Range} (ha : a.ok E) (hc : c.ok E) (sa : a.spcf = specificity a.spec)
    (sc : c.spcf = specificity c.spec) :
    pref (toS a) (toS c) = true ↔ afterN E c a := by
  have hl := (qv_cmp (E := E) hc.1 ha.1 hc.2 ha.2).1
  have he := (qv_cmp (E := E) ha.1 hc.1 ha.2 hc.2).2.trans eq_comm
  dsimp only [pref, toS]
  -- `pref` compares (a, c), `afterN` compares (c, a): the `<` sides agree, the `=` sides need turning round
  simp only [afterN_lex, Bool.or_eq_true, Bool.and_eq_true, decide_eq_true_eq, beq_iff_eq, hl, he, ← sa, ← sc,
    eq_comm (a := a.spcf), eq_comm (a := a.params.length)]

theorem best_mem {l : List SRange} {m : SRange} (h : best l = some m) : m ∈ l := by
  -- what answers `some`: `best rs` is `none`; its answer is preferred to `r`; it is not
  revert h
  fun_induction best l generalizing m <;> intro h <;> cases h
  · exact List.mem_cons_self
  · rename_i hb _ ih
    exact List.mem_cons_of_mem _ (ih hb)
  · exact List.mem_cons_self

theorem best_of_dominates {l : List SRange} {m : SRange} (hm : m ∈ l)
    (hdom : ∀ x ∈ l, x = m ∨ (pref m x = true ∧ pref x m = false)) : best l = some m := by
  induction l with
  | nil => cases hm
  | cons r rs ih =>
    have hrs : m ∈ rs → best rs = some m := fun h => ih h fun x hx => hdom x (List.mem_cons_of_mem _ hx)
    simp only [best]
    rcases hdom r (by simp) with rfl | ⟨h1, h2⟩
    · cases hb : best rs with
      | none => rfl
      | some m' =>
        rcases hdom m' (List.mem_cons_of_mem _ (best_mem hb)) with rfl | ⟨_, h⟩
        · simp
        · simp [h]
    · rw [hrs ((List.mem_cons.1 hm).resolve_left fun e => by subst e; rw [h1] at h2; cases h2)]
      simp [h1]

/-- one step of the nested search in the specification's words: the first acceptable offer of the range seen as an
    `SRange` -/
theorem findOffer_cons (acc : Bytes → Bytes → Params → Bool) (r : Range) (rs : List Range) (offers : List Bytes) :
    findOffer acc (r :: rs) offers =
      match firstAcceptable (accS acc) (toS r) offers with
      | some o => o
      | none => findOffer acc rs offers := rfl

theorem findOffer_cases (acc : Bytes → Bytes → Params → Bool) (L : List Range) (offers : List Bytes) :
    (findOffer acc L offers = [] ∧ ∀ r ∈ L, firstAcceptable (accS acc) (toS r) offers = none) ∨
    ∃ pre r post, L = pre ++ r :: post ∧ (∀ r' ∈ pre, firstAcceptable (accS acc) (toS r') offers = none) ∧
      firstAcceptable (accS acc) (toS r) offers = some (findOffer acc L offers) := by
  -- no range; the first range accepts an offer; it accepts none
  fun_induction findOffer acc L offers
  · exact .inl ⟨rfl, by simp⟩
  · exact .inr ⟨[], _, _, rfl, by simp, ‹_›⟩
  · rename_i h ih
    rcases ih with ⟨h1, h2⟩ | ⟨pre, r', post, rfl, h1, h2⟩
    · exact .inl ⟨h1, List.forall_mem_cons.2 ⟨h, h2⟩⟩
    · exact .inr ⟨_ :: pre, r', post, rfl, List.forall_mem_cons.2 ⟨h, h1⟩, h2⟩

theorem firstAcceptable_some {acc : SRange → Bytes → Bool} {r : SRange} {offers : List Bytes} {o : Bytes}
    (h : firstAcceptable acc r offers = some o) : o ∈ offers ∧ o ≠ [] ∧ acc r o = true := by
  have h1 := List.find?_some h
  simp only [Bool.and_eq_true, bne_iff_ne, ne_eq] at h1
  exact ⟨List.mem_of_find?_eq_some h, h1⟩

theorem select_congr (acc1 acc2 : SRange → Bytes → Bool) (rs : List SRange) (offers : List Bytes)
    (h : ∀ r o, o ∈ offers → o ≠ [] → acc1 r o = acc2 r o) : select acc1 rs offers = select acc2 rs offers := by
  have : ∀ r, firstAcceptable acc1 r offers = firstAcceptable acc2 r offers := fun r =>
    List.find?_congr_mem fun o ho => by by_cases hoe : o = [] <;> simp [hoe, h r o ho]
  simp only [select, this]

theorem select_sound (acc : SRange → Bytes → Bool) (rs : List SRange) (offers : List Bytes) (o : Bytes)
    (h : select acc rs offers = o) (ho : o ≠ []) : ∃ r ∈ rs, o ∈ offers ∧ acc r o = true := by
  -- no candidate; the best candidate
  subst h
  revert ho
  fun_cases select acc rs offers <;> intro ho
  · exact absurd rfl ho
  · rename_i r hb
    obtain ⟨hr, hsome⟩ := List.mem_filter.1 (best_mem hb)
    obtain ⟨o', ho'⟩ := Option.isSome_iff_exists.1 hsome
    rw [ho'] at ho ⊢
    exact ⟨r, hr, (firstAcceptable_some ho').1, (firstAcceptable_some ho').2.2⟩

theorem findOffer_nil (acc : Bytes → Bytes → Params → Bool) (L : List Range) : findOffer acc L [] = [] := by
  induction L with
  | nil => rfl
  | cons r rs ih => exact ih

theorem getOffer_present (tab : Bytes → Option Qual) (acc : Bytes → Bytes → Params → Bool) {header : Bytes}
    (hh : header ≠ []) (offers : List Bytes) :
    getOffer tab acc header offers = findOffer acc (sortAccepted (parseRanges tab header)) offers := by
  cases offers with
  | nil => exact (findOffer_nil acc _).symm
  | cons o0 os =>
    simp only [getOffer, beq_iff_eq, hh, if_false]
    split
    · rfl
    · rw [sortAccepted_short _ ‹_›]

theorem getOffer_cases (tab : Bytes → Option Qual) (acc : Bytes → Bytes → Params → Bool) {header : Bytes}
    (hh : header ≠ []) (offers : List Bytes) :
    (getOffer tab acc header offers = [] ∧
      ∀ r ∈ parseRanges tab header, firstAcceptable (accS acc) (toS r) offers = none) ∨
    ∃ r ∈ parseRanges tab header,
      firstAcceptable (accS acc) (toS r) offers = some (getOffer tab acc header offers) := by
  have hperm := sortAccepted_perm (parseRanges tab header)
  rw [getOffer_present tab acc hh]
  rcases findOffer_cases acc (sortAccepted (parseRanges tab header)) offers with ⟨h1, h2⟩ | ⟨pre, r, post, hL, _, h0⟩
  · exact .inl ⟨h1, fun r hr => h2 r (hperm.mem_iff.2 hr)⟩
  · exact .inr ⟨r, hperm.mem_iff.1 (hL ▸ List.mem_append_right pre List.mem_cons_self), h0⟩

/-- **selection**: over any list of parsed ranges with finite qualities, distinct positions and the
    specificity invariant, the nested search over the sorted list is the property's argmax rule -/
theorem findOffer_sorted_eq_select {E : Nat} (acc : Bytes → Bytes → Params → Bool) (rs : List Range)
    (offers : List Bytes) (hok : AllOk E rs) (hsp : ∀ r ∈ rs, r.spcf = specificity r.spec)
    (hd : rs.Pairwise fun a c => a.order ≠ c.order) :
    findOffer acc (sortAccepted rs) offers = select (accS acc) (rs.map toS) offers := by
  have hperm := sortAccepted_perm rs
  have hsN := sortAccepted_sorted rs hok hd
  unfold select
  rcases findOffer_cases acc (sortAccepted rs) offers with ⟨h1, h2⟩ | ⟨pre, r0, post, hL, hpre, h0⟩
  · -- no range accepts anything: there is no candidate
    have : (rs.map toS).filter (fun r => (firstAcceptable (accS acc) r offers).isSome) = [] := by
      simp only [List.filter_eq_nil_iff, List.mem_map]
      rintro _ ⟨r, hr, rfl⟩
      simp [h2 r (hperm.mem_iff.2 hr)]
    rw [this, h1]; rfl
  · -- the first accepting range of the sorted list dominates every other candidate
    have hr0 : r0 ∈ rs := hperm.mem_iff.1 (hL ▸ List.mem_append_right pre List.mem_cons_self)
    rw [hL] at hsN
    have hpost := (List.pairwise_cons.1 (List.pairwise_append.1 hsN).2.1).1
    rw [best_of_dominates (m := toS r0)]
    · simp [h0]
    · exact List.mem_filter.2 ⟨List.mem_map.2 ⟨r0, hr0, rfl⟩, by simp [h0]⟩
    · intro x hx
      obtain ⟨hx, hax⟩ := List.mem_filter.1 hx
      obtain ⟨rx, hrx, rfl⟩ := List.mem_map.1 hx
      rcases List.mem_append.1 (hL ▸ hperm.mem_iff.2 hrx) with hin | hin
      · simp [hpre rx hin] at hax
      · rcases List.mem_cons.1 hin with rfl | hin
        · exact .inl rfl
        · have h := hpost rx hin
          have p0 := pref_toS (hok r0 hr0) (hok rx hrx) (hsp r0 hr0) (hsp rx hrx)
          have px := pref_toS (hok rx hrx) (hok r0 hr0) (hsp rx hrx) (hsp r0 hr0)
          exact .inr ⟨p0.2 h, Bool.eq_false_iff.2 fun h' => afterN_asymm h (px.1 h')⟩

end C09
