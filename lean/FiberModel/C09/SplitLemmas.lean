import FiberModel.C09.Spec
import FiberModel.ListLemmas
/-
C09 — `forEachMediaRange` cuts right behind any `balanced` list element (quoted-strings closed, no comma outside
them: `bodyRun … = some (false, false)`), and the list elements of a rendered header are balanced, so the splitter
cuts a rendered header exactly at the element boundaries. Also the grammar predicates unpacked, and the byte-level
grammar `Tail` of the parameters of a list element, on which the lemmas about the splitter (here) and about
`forEachParameter`, `splitSemi` and the weight parsers (ElemLemmas) are stated.
-/
namespace C09
open B

/-- simulate the inner scan over `s`; `none` if it would cut inside `s` -/
def bodyRun : Bytes → Bool → Bool → Option (Bool × Bool)
  | [], o, e => some (o, e)
  | c :: cs, o, e =>
    match bodyStep c o e with
    | .emit => none
    | .cont o' e' => bodyRun cs o' e'

theorem bodyRun_append (s t : Bytes) (o e : Bool) :
    bodyRun (s ++ t) o e = (bodyRun s o e).bind fun (o', e') => bodyRun t o' e' := by
  fun_induction bodyRun s o e <;> simp_all [bodyRun]

theorem rangesGo_body (s rest acc : Bytes) (o e o' e' : Bool) (h : bodyRun s o e = some (o', e')) :
    rangesGo (s ++ rest) (.body o e) acc = rangesGo rest (.body o' e') (s.reverse ++ acc) := by
  -- end of the bytes; a cut (excluded by `h`); one more byte inside the element
  revert h
  fun_induction bodyRun s o e generalizing acc <;> intro h
  · cases h; rfl
  · cases h
  · rename_i hb ih
    simp [rangesGo, hb, ih _ h]

/-- bytes that leave the scanner state alone outside an escape -/
def plain (c : Nat) : Bool := c != 44 && c != 34 && c != 92

theorem bodyStep_plain {c : Nat} (h : plain c = true) (o : Bool) : bodyStep c o false = .cont o false := by
  simp only [plain, Bool.and_eq_true, bne_iff_ne, ne_eq] at h
  simp [bodyStep, h.1.1, h.1.2, h.2]

theorem bodyRun_plain_append {s : Bytes} (h : s.all plain = true) (r : Bytes) :
    bodyRun (s ++ r) false false = bodyRun r false false := by
  induction s with
  | nil => rfl
  | cons c cs ih =>
    simp only [List.all_cons, Bool.and_eq_true] at h
    simp only [List.cons_append, bodyRun, bodyStep_plain h.1]
    exact ih h.2

theorem qdtext_ne {c : Nat} (h : qdtext c = true) : (c == 34) = false ∧ (c == 92) = false := by
  constructor <;> (rw [beq_eq_false_iff_ne]; rintro rfl; revert h; decide)

theorem bodyRun_content (s : Bytes) (h : isQuotedContent s = true) : bodyRun s true false = some (true, false) := by
  -- no byte left; a quoted-pair; a `qdtext` byte
  induction s using isQuotedContent.induct with
  | case1 => rfl
  | case2 c rest ih =>
    simp only [isQuotedContent, Bool.and_eq_true] at h
    -- the backslash sets the escape, the byte behind it clears it
    simp only [bodyRun, show bodyStep 92 true false = .cont true true from rfl,
      show bodyStep c true true = .cont true false from rfl]
    exact ih h.2
  | case3 c rest hne ih =>
    simp only [isQuotedContent, Bool.and_eq_true] at h
    simp only [bodyRun, bodyStep, Bool.false_eq_true, if_false, qdtext_ne h.1, if_true, ite_self]
    exact ih h.2

theorem bodyRun_quoted (s r : Bytes) (h : isQuotedContent s = true) :
    bodyRun (34 :: (s ++ 34 :: r)) false false = bodyRun r false false := by
  -- the opening quote makes the count odd, the closing one even again
  simp only [bodyRun, show bodyStep 34 false false = .cont true false from rfl]
  rw [bodyRun_append, bodyRun_content s h]
  simp only [Option.bind_some, bodyRun, show bodyStep 34 true false = .cont false false from rfl]

/-- what the scanners need to know of a token byte -/
theorem tchar_class {c : Nat} (h : tchar c = true) : plain c = true ∧ isOWSb c = false ∧ c ≠ 59 ∧ c ≠ 61 := by
  have ne : ∀ d, tchar d = false → c ≠ d := fun d hd e => by rw [e, hd] at h; cases h
  exact ⟨by simp [plain, ne 44 (by decide), ne 34 (by decide), ne 92 (by decide)],
    by simp [isOWSb, ne 32 (by decide), ne 9 (by decide)], ne 59 (by decide), ne 61 (by decide)⟩

def owsOnly (s : Bytes) : Bool := s.all isOWSb

theorem isOWSb_iff {c : Nat} : isOWSb c = true ↔ c = 32 ∨ c = 9 := by
  simp [isOWSb]

theorem owsOnly_cons {c : Nat} {cs : Bytes} (h : owsOnly (c :: cs) = true) : (c = 32 ∨ c = 9) ∧ owsOnly cs = true := by
  simp only [owsOnly, List.all_cons, Bool.and_eq_true] at h
  exact ⟨isOWSb_iff.1 h.1, h.2⟩

theorem owsOnly_mem {s : Bytes} (h : owsOnly s = true) {x : Nat} (hx : x ∈ s) : x = 32 ∨ x = 9 :=
  isOWSb_iff.1 (List.all_eq_true.1 h x hx)

theorem owsOnly_isOWS {s : Bytes} : owsOnly s = isOWS s := rfl

theorem owsOnly_plain {s : Bytes} (h : owsOnly s = true) : s.all plain = true := by
  rw [List.all_eq_true]
  intro x hx
  rcases owsOnly_mem h hx with rfl | rfl <;> decide

theorem digits_tchar {ds : Bytes} (h : ds.all isDigit = true) : ds.all tchar = true :=
  List.all_eq_true.2 fun x hx => by simp [tchar, List.all_eq_true.1 h x hx]

theorem zeros_digits {ds : Bytes} (h : ds.all (· == 48) = true) : ds.all isDigit = true :=
  List.all_eq_true.2 fun x hx => by rw [beq_iff_eq.1 (List.all_eq_true.1 h x hx)]; decide

theorem token_all {s : Bytes} (h : isToken s = true) : s ≠ [] ∧ ∀ c ∈ s, tchar c = true := by
  simpa [isToken] using h

theorem token_chars {t : Bytes} (h : isToken t = true) : ∀ c ∈ t, plain c = true ∧ isOWSb c = false ∧ c ≠ 59 :=
  fun c hc => by
    have := tchar_class ((token_all h).2 c hc)
    exact ⟨this.1, this.2.1, this.2.2.1⟩

theorem token_plain {s : Bytes} (h : isToken s = true) : s.all plain = true :=
  List.all_eq_true.2 fun x hx => (token_chars h x hx).1

theorem qvalue_shape {v : Bytes} {q : Qual} (h : qvalue? v = some q) :
    (v = [48] ∧ q = .fin 0 0) ∨ (v = [49] ∧ q = .fin 1 0) ∨
    (∃ ds, v = 48 :: 46 :: ds ∧ ds.length ≤ 3 ∧ ds.all isDigit = true ∧ q = .fin (digitsVal ds) ds.length) ∨
    (∃ ds, v = 49 :: 46 :: ds ∧ ds.length ≤ 3 ∧ ds.all (· == 48) = true ∧ q = .fin (10 ^ ds.length) ds.length) := by
  revert h
  fun_cases qvalue? v <;> intro h <;> cases h
  · exact .inl ⟨rfl, rfl⟩
  · exact .inr (.inl ⟨rfl, rfl⟩)
  · rename_i hc
    simp only [Bool.and_eq_true, decide_eq_true_eq] at hc
    exact .inr (.inr (.inl ⟨_, rfl, hc.1, hc.2, rfl⟩))
  · rename_i hc
    simp only [Bool.and_eq_true, decide_eq_true_eq] at hc
    exact .inr (.inr (.inr ⟨_, rfl, hc.1, hc.2, rfl⟩))

theorem qvalue_token {v : Bytes} {q : Qual} (h : qvalue? v = some q) : isToken v = true := by
  rcases qvalue_shape h with ⟨rfl, _⟩ | ⟨rfl, _⟩ | ⟨ds, rfl, _, hds, _⟩ | ⟨ds, rfl, _, hds, _⟩
  · decide
  · decide
  · simp [isToken, digits_tchar hds, show tchar 48 = true by decide, show tchar 46 = true by decide]
  · simp [isToken, digits_tchar (zeros_digits hds), show tchar 49 = true by decide, show tchar 46 = true by decide]

theorem wfParam_ows {p : Param} (h : wfParam p = true) : owsOnly p.ows1 = true ∧ owsOnly p.ows2 = true := by
  simp only [wfParam, Bool.and_eq_true] at h
  exact ⟨owsOnly_isOWS.trans h.1.1, owsOnly_isOWS.trans h.1.2⟩

theorem wfParam_named {p : Param} (h : wfParam p = true) (hn : p.name ≠ []) :
    isToken p.name = true ∧
      ((isWeight p = true ∧ p.quoted = false ∧ (qvalue? p.value).isSome = true) ∨
       (isWeight p = false ∧ p.quoted = true ∧ isQuotedContent p.value = true) ∨
       (isWeight p = false ∧ p.quoted = false ∧ isToken p.value = true)) := by
  have hn' : (p.name == []) = false := beq_eq_false_iff_ne.2 hn
  simp only [wfParam, hn', Bool.false_eq_true, if_false, Bool.and_eq_true] at h
  refine ⟨h.2.1, ?_⟩
  have hv := h.2.2
  -- `hv` is `wfParam`'s `if` on weight and quoted: three combinations give the three shapes, the quoted weight makes `hv` false
  cases hw : isWeight p <;> cases hq : p.quoted <;> simp [hw, hq] at hv ⊢ <;> exact hv

theorem wfElem_parts {e : Elem} (h : wfElem e = true) :
    owsOnly e.lead = true ∧ owsOnly e.trail = true ∧ (∀ p ∈ e.params, wfParam p = true) ∧
      (e.rng = [] → e.params = []) ∧ (e.rng ≠ [] → isRange e.rng = true) := by
  simp only [wfElem, Bool.and_eq_true, List.all_eq_true] at h
  have := h.1.2
  exact ⟨owsOnly_isOWS.trans h.1.1.1, owsOnly_isOWS.trans h.1.1.2, h.2, fun hr => by simpa [hr] using this,
    fun hr => by simpa [hr] using this⟩

theorem renderParams_cons (p : Param) (ps : List Param) : renderParams (p :: ps) = renderParam p ++ renderParams ps := by
  simp [renderParams]

/-- the text of one parameter behind `;` OWS and in front of `r`: nothing, `name=token`, or `name="content"` -/
inductive PBody (p : Param) (r : Bytes) : Bytes → Prop
  | empty : p.name = [] → PBody p r r
  | token : isToken p.name = true → isToken p.value = true → PBody p r (p.name ++ 61 :: (p.value ++ r))
  | quoted : isToken p.name = true → isWeight p = false → isQuotedContent p.value = true →
      PBody p r (p.name ++ 61 :: 34 :: (p.value ++ 34 :: r))

/-- `Tail ps t`: the bytes `t` spell the parameters `ps` of a list element and the optional whitespace that ends
    it, nested the way the scanners consume them. The optional whitespace around each `;` is left free (the meaning
    of a header does not look at it), so the bytes from the first `;` on are again a `Tail` of the same list. Every
    scanner lemma is stated on this relation; `Tail.of_wf` (through `PBody.of_wf`) is the only place where
    `renderParam` is unfolded. -/
inductive Tail : List Param → Bytes → Prop
  | nil {t : Bytes} : owsOnly t = true → Tail [] t
  | cons {p : Param} {ps : List Param} {o1 o2 r t : Bytes} : owsOnly o1 = true → owsOnly o2 = true →
      PBody p r t → Tail ps r → Tail (p :: ps) (o1 ++ 59 :: (o2 ++ t))

theorem PBody.of_wf {p : Param} (h : wfParam p = true) (r : Bytes) :
    ∃ t, renderParam p ++ r = p.ows1 ++ 59 :: (p.ows2 ++ t) ∧ PBody p r t := by
  by_cases hn : p.name = []
  · exact ⟨r, by simp [renderParam, hn], .empty hn⟩
  · obtain ⟨hname, ⟨_, hq, hval⟩ | ⟨hw, hq, hval⟩ | ⟨_, hq, hval⟩⟩ := wfParam_named h hn
    · -- a weight is an unquoted qvalue, and a qvalue is a token
      obtain ⟨q, hv⟩ := Option.isSome_iff_exists.1 hval
      exact ⟨_, by simp [renderParam, hn, hq], .token hname (qvalue_token hv)⟩
    · exact ⟨_, by simp [renderParam, hn, hq], .quoted hname hw hval⟩
    · exact ⟨_, by simp [renderParam, hn, hq], .token hname hval⟩

theorem Tail.of_wf {ps : List Param} {trail : Bytes} (hps : ∀ p ∈ ps, wfParam p = true) (ht : owsOnly trail = true) :
    Tail ps (renderParams ps ++ trail) := by
  induction ps with
  | nil => exact .nil ht
  | cons p ps ih =>
    have hp := hps p (by simp)
    obtain ⟨t, e, hb⟩ := PBody.of_wf hp (renderParams ps ++ trail)
    rw [renderParams_cons, List.append_assoc, e]
    exact .cons (wfParam_ows hp).1 (wfParam_ows hp).2 hb (ih fun q hq => hps q (by simp [hq]))

theorem PBody.bodyRun_eq {p : Param} {r t : Bytes} (h : PBody p r t) : bodyRun t false false = bodyRun r false false := by
  cases h with
  | empty => rfl
  | token hk hv =>
    rw [bodyRun_plain_append (token_plain hk), ← List.singleton_append, bodyRun_plain_append (s := [61]) (by decide),
      bodyRun_plain_append (token_plain hv)]
  | quoted hk _ hv =>
    rw [bodyRun_plain_append (token_plain hk), ← List.singleton_append, bodyRun_plain_append (s := [61]) (by decide),
      bodyRun_quoted _ _ hv]

theorem Tail.bodyRun_eq {ps : List Param} {t : Bytes} (h : Tail ps t) : bodyRun t false false = some (false, false) := by
  induction h with
  | @nil t ht => exact List.append_nil t ▸ bodyRun_plain_append (owsOnly_plain ht) []
  | cons h1 h2 hb _ ih =>
    rw [bodyRun_plain_append (owsOnly_plain h1), ← List.singleton_append, bodyRun_plain_append (s := [59]) (by decide),
      bodyRun_plain_append (owsOnly_plain h2), hb.bodyRun_eq, ih]

theorem range_chars {s : Bytes} (h : isRange s = true) :
    ∀ c ∈ s, plain c = true ∧ isOWSb c = false ∧ c ≠ 59 := by
  have hs := List.takeWhile_append_dropWhile (p := (· != 47)) (l := s)
  have hx := List.head?_dropWhile_not (· != 47) s
  simp only [isRange, List.drop_length_takeWhile] at h
  cases hdw : s.dropWhile (· != 47) with
  | nil =>
    rw [hdw] at h hs
    rw [List.append_nil] at hs
    rw [hs] at h
    exact token_chars h
  | cons x u =>
    rw [hdw] at h hs hx
    have hx47 : x = 47 := by simpa using hx
    simp only [Bool.and_eq_true] at h
    rw [← hs]
    exact List.forall_mem_append.2 ⟨token_chars h.1, List.forall_mem_cons.2 ⟨by subst hx47; decide, token_chars h.2⟩⟩

/-- what `forEachMediaRange` hands over for a non-empty element: everything but the leading spaces -/
def bodyOf (e : Elem) : Bytes := e.rng ++ renderParams e.params ++ e.trail

theorem rangesGo_lead_acc (s : Bytes) (saw : Bool) (acc : Bytes) :
    rangesGo s (.lead saw) acc = rangesGo s (.lead saw) [] := by
  cases s with
  | nil => simp [rangesGo]
  | cons c cs => simp [rangesGo]

theorem rangesGo_spaces (sp rest : Bytes) (saw : Bool) (h : owsOnly sp = true) :
    rangesGo (sp ++ rest) (.lead saw) [] = rangesGo rest (.lead (saw || sp != [])) [] := by
  induction sp generalizing saw with
  | nil => simp
  | cons c cs ih =>
    obtain ⟨hc, hcs⟩ := owsOnly_cons h
    have hc' : isOWSb c = true := isOWSb_iff.2 hc
    simp only [List.cons_append, rangesGo, hc', if_true]
    rw [ih true hcs]
    have : (c :: cs != []) = true := by simp
    simp [this]

theorem rangesGo_lead_run (c : Nat) (cs rest : Bytes) (saw o e : Bool) (hc : isOWSb c = false)
    (h : bodyRun (c :: cs) false false = some (o, e)) :
    rangesGo (c :: cs ++ rest) (.lead saw) [] = rangesGo rest (.body o e) (c :: cs).reverse := by
  simp only [bodyRun] at h
  simp only [List.cons_append, rangesGo, hc, Bool.false_eq_true, if_false]
  cases hb : bodyStep c false false with
  | emit => rw [hb] at h; cases h
  | cont o1 e1 =>
    rw [hb] at h
    simp only
    rw [rangesGo_body cs rest [c] o1 e1 o e h, List.reverse_cons]

/-- a list element as `forEachMediaRange` sees it: it does not start with optional whitespace, its
    quoted-strings are closed and no comma stands outside them -/
def balanced (e : Bytes) : Bool :=
  match e with
  | [] => false
  | c :: _ => !isOWSb c && bodyRun e false false == some (false, false)

theorem rangesGo_balanced {lead body : Bytes} (hl : owsOnly lead = true) (hb : balanced body = true) (rest : Bytes)
    (saw : Bool) :
    rangesGo (lead ++ (body ++ rest)) (.lead saw) [] = rangesGo rest (.body false false) body.reverse := by
  cases body with
  | nil => simp [balanced] at hb
  | cons c cs =>
    simp only [balanced, Bool.and_eq_true, Bool.not_eq_true', beq_iff_eq] at hb
    rw [rangesGo_spaces _ _ _ hl]
    exact rangesGo_lead_run c cs rest _ false false hb.1 hb.2

theorem mediaRanges_comma {lead body : Bytes} (hl : owsOnly lead = true) (hb : body = [] ∨ balanced body = true)
    (more : Bytes) : mediaRanges (lead ++ (body ++ 44 :: more)) = body :: mediaRanges more := by
  rcases hb with rfl | hb
  · rw [mediaRanges, rangesGo_spaces _ _ _ hl]
    simp [rangesGo, bodyStep, mediaRanges, show isOWSb 44 = false by decide]
  · rw [mediaRanges, rangesGo_balanced hl hb]
    simp [rangesGo, bodyStep, mediaRanges]

/-- the `if`: at the end of the header nothing is handed over when no byte at all stands behind the last comma
    (`"a, "` yields a trailing empty element, `"a,"` does not) -/
theorem mediaRanges_end {lead body : Bytes} (hl : owsOnly lead = true) (hb : body = [] ∨ balanced body = true) :
    mediaRanges (lead ++ body) = if lead ++ body = [] then [] else [body] := by
  rcases hb with rfl | hb
  · rw [mediaRanges, rangesGo_spaces _ _ _ hl]
    simp [rangesGo]
  · have hne : body ≠ [] := by rintro rfl; simp [balanced] at hb
    rw [mediaRanges, ← List.append_nil body, rangesGo_balanced hl hb]
    simp [rangesGo, hne]

theorem mediaRanges_cons (e h : Bytes) (he : balanced e = true) : mediaRanges (e ++ 44 :: h) = e :: mediaRanges h :=
  mediaRanges_comma (lead := []) rfl (.inr he) h

theorem balanced_bodyOf {e : Elem} (h : wfElem e = true) (hr : e.rng ≠ []) : balanced (bodyOf e) = true := by
  obtain ⟨_, htrail, hps, _, hrng⟩ := wfElem_parts h
  obtain ⟨c, cs, hcs⟩ := List.exists_cons_of_ne_nil hr
  have hch := range_chars (hrng hr)
  have hrun : bodyRun (bodyOf e) false false = some (false, false) := by
    rw [bodyOf, List.append_assoc, bodyRun_plain_append (List.all_eq_true.2 fun x hx => (hch x hx).1)]
    exact (Tail.of_wf hps htrail).bodyRun_eq
  rw [bodyOf, hcs] at hrun ⊢
  simp only [balanced, List.cons_append, (hch c (by simp [hcs])).2.1, Bool.not_false, Bool.true_and, beq_iff_eq]
  exact hrun

/-- what `forEachMediaRange` hands over for a list element of the grammar: the empty slice for an empty one, of any
    other everything but the leading optional whitespace -/
def elemBytes (e : Elem) : Bytes := if e.rng = [] then [] else bodyOf e

theorem renderElem_split {e : Elem} (h : wfElem e = true) :
    ∃ lead, owsOnly lead = true ∧ renderElem e = lead ++ elemBytes e ∧
      (elemBytes e = [] ∨ balanced (elemBytes e) = true) := by
  obtain ⟨h1, h2, _, hp, _⟩ := wfElem_parts h
  unfold elemBytes
  split
  · rename_i hr
    refine ⟨e.lead ++ e.trail, ?_, by simp [renderElem, hr, hp hr, renderParams], .inl rfl⟩
    unfold owsOnly at *
    simp [List.all_append, h1, h2]
  · exact ⟨e.lead, h1, by simp [renderElem, bodyOf], .inr (balanced_bodyOf h ‹_›)⟩

end C09
