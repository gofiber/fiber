import FiberModel.C11.LemmasTransport
import FiberModel.C11.LemmasFloat
/-
C11 — property theorems.

The struct-level round trip through each of the four textual sources, "splitting is the identity
without commas", content-type dispatch, and index-safety (no-panic) of the two fiber functions on the
path that do index arithmetic. The codec laws (all byte strings, all integers in range) and the
cookie / multipart transport theorems stand in Lemmas*.lean, where the round trip first needs them;
their test vectors are here.

JSON / XML / CBOR codecs are *parameters*: `BodyCodecs` carries `enc`/`dec` and the round-trip law as
a hypothesis of `bind_roundtrip_body` (never an axiom). Multipart at two levels: `bind_roundtrip_multipart`
assumes every field's values arrive under its name and quantifies over the order of the fields;
`bind_roundtrip_multipart_wire` adds the body the client writes, read back by the reader model.
`strconv.ParseFloat ∘ FormatFloat = id` is
the hypothesis `FloatOK` of the struct-level theorems; it is *discharged* for the exact decimal
expansions of representable values (both widths, `floatOK_exact`) and, by construction of the formatter
model, for the shortest text of every float64 (`floatOK_shortest64`).

Preconditions of the theorems that are not in Spec.lean: `FloatOK`, `bytesStruct` (LemmasBind.lean),
`cookieKeyOK`, `headerKeyOK`, `partNameOK`, `delimFree` over `occursIn` (LemmasTransport.lean), `ExactFloat`
(below).
-/
namespace C11
open B

example : urldecode (urlencode (b "a b&c=d+e%41/é~")) = b "a b&c=d+e%41/é~" := by
  repeat rw [b_ofList]
  decide +kernel
example : urlencode (b "a b&=+%") = b "a+b%26%3D%2B%25" := by
  repeat rw [b_ofList]
  decide +kernel

example : parseArgs (renderArgs [(b "k", b "a&b"), (b "k", []), (b "x=y", b " ")])
    = [(b "k", b "a&b"), (b "k", []), (b "x=y", b " ")] := by
  repeat rw [b_ofList]
  decide +kernel

example : parseInt 8 (formatInt (-128)) = some (-128) ∧ parseInt 8 (b "128") = none ∧
          parseInt 64 (b "+7") = some 7 ∧ parseInt 64 (b "") = none := by
  repeat rw [b_ofList]
  decide +kernel

example : parseUint 16 (formatNat 65535) = some 65535 ∧ parseUint 16 (b "65536") = none := by
  repeat rw [b_ofList]
  decide +kernel

example : parseBool (b "on") = some true ∧ parseBool (b "F") = some false ∧ parseBool (b "yes") = none := by
  repeat rw [b_ofList]
  decide +kernel

example : parseCookies (renderCookies [(b "a", b "x=y z"), (b "b", []), (b "c", b "\"")])
    = [(b "a", b "x=y z"), (b "b", []), (b "c", b "\"")] := by
  repeat rw [b_ofList]
  decide +kernel

/-- The binder's loop (`collect`) under `EnableSplittingOnParsers` behaves as without it when no value
    contains a comma — for every key, bracketed or not, every target. -/
theorem split_is_identity_without_commas (sliceKey : Bytes → Bool) (brackets : Bool)
    (pairs : List (Bytes × Bytes)) (d : List (Bytes × List Bytes))
    (h : ∀ kv ∈ pairs, kv.2.contains 44 = false) :
    collect sliceKey true brackets pairs d = collect sliceKey false brackets pairs d := by
  induction pairs generalizing d with
  | nil => rfl
  | cons kv rest ih =>
    obtain ⟨k, v⟩ := kv
    have hv : v.contains 44 = false := h (k, v) (by simp)
    have : formatBindData sliceKey true brackets d k v = formatBindData sliceKey false brackets d k v := by
      unfold formatBindData assignBindData
      rw [hv]; simp
    simp only [collect, this]
    cases formatBindData sliceKey false brackets d k v with
    | none => rfl
    | some d' => exact ih d' (fun kv hkv => h kv (by simp [hkv]))

/-- On comma-free values the binders into a struct and into a map agree with and without splitting. -/
theorem bind_split_is_identity_without_commas (floatConv : Nat → Bytes → Option Bytes) (fz : Bytes)
    (specs : List FieldSpec) (src : Source) (pairs : List (Bytes × Bytes))
    (h : ∀ kv ∈ pairs, kv.2.contains 44 = false) :
    bindPairs floatConv fz specs src true pairs = bindPairs floatConv fz specs src false pairs ∧
    bindPairsMap src true pairs = bindPairsMap src false pairs := by
  unfold bindPairs bindPairsMap
  rw [split_is_identity_without_commas _ _ pairs [] h, split_is_identity_without_commas _ _ pairs [] h]
  exact ⟨rfl, rfl⟩

/-- and it is *not* the identity with commas (non-vacuity of the hypothesis) -/
example : collect (fun _ => true) true false [(b "k", b "a,b")] [] = some [(b "k", [b "a", b "b"])] ∧
          collect (fun _ => true) false false [(b "k", b "a,b")] [] = some [(b "k", [b "a,b"])] := by
  repeat rw [b_ofList]
  decide +kernel

/-- The pairs as the client made them: what the args and cookie codecs hand back, hence what the query, form and
    cookie round trips below bind. A header arrives with its name re-spelled and a multipart map in any field order:
    `bind_roundtrip_header` and `bind_roundtrip_multipart` take `bind_clientPairs_gen` themselves. -/
theorem bind_clientPairs (floatConv : Nat → Bytes → Option Bytes) (fz : Bytes) (st : Struct)
    (src : Source) (split : Bool)
    (hspecs : specsOK (st.map (·.spec)) = true)
    (htyped : ∀ f ∈ st, f.wellTyped = true)
    (hfloat : FloatOK floatConv st)
    (hsplit : split = true → noCommas st = true) :
    bindPairs floatConv fz (st.map (·.spec)) src split (clientPairs st) = { value := st, err := false } :=
  bind_clientPairs_gen floatConv fz st st src split (fun k => k) (List.Perm.refl st) (fun _ _ => rfl) hspecs htyped hfloat
    hsplit

/-- **Query.** `Bind().Query` of what `SetParamsWithStruct` put on the wire is the struct. -/
theorem bind_roundtrip_query (floatConv : Nat → Bytes → Option Bytes) (fz : Bytes) (st : Struct) (split : Bool)
    (hspecs : specsOK (st.map (·.spec)) = true) (htyped : ∀ f ∈ st, f.wellTyped = true)
    (hfloat : FloatOK floatConv st) (hfb : ∀ f ∈ st, ∀ t, Val.float t ∈ f.vals → ∀ c ∈ t, c < 256)
    (hbytes : bytesStruct st) (hsplit : split = true → noCommas st = true) :
    bindPairs floatConv fz (st.map (·.spec)) .query split (wirePairs .query (renderArgs (clientPairs st)))
      = { value := st, err := false } := by
  simp only [wirePairs, parseArgs_clientPairs st hspecs hfb hbytes]
  exact bind_clientPairs floatConv fz st .query split hspecs htyped hfloat hsplit

/-- **Form.** `Bind().Form` of the urlencoded body `SetFormDataWithStruct` produced, under the
    content type the client sets for it, is the struct. -/
theorem bind_roundtrip_form (floatConv : Nat → Bytes → Option Bytes) (fz : Bytes) (st : Struct) (split : Bool)
    (hspecs : specsOK (st.map (·.spec)) = true) (htyped : ∀ f ∈ st, f.wellTyped = true)
    (hfloat : FloatOK floatConv st) (hfb : ∀ f ∈ st, ∀ t, Val.float t ∈ f.vals → ∀ c ∈ t, c < 256)
    (hbytes : bytesStruct st) (hsplit : split = true → noCommas st = true) :
    formIsMultipart (clientCtype .form) = false ∧
    bindPairs floatConv fz (st.map (·.spec)) .form split
        (postArgs (clientCtype .form) (renderArgs (clientPairs st)))
      = { value := st, err := false } := by
  have hm : formIsMultipart (clientCtype .form) = false := by
    simp only [formIsMultipart, clientCtype]
    repeat rw [b_ofList]
    decide +kernel
  have hp : hasPrefix (clientCtype .form) (b "application/x-www-form-urlencoded") = true :=
    List.isPrefixOf_iff_prefix.mpr List.prefix_rfl
  refine ⟨hm, ?_⟩
  simp only [postArgs, hp, if_true, parseArgs_clientPairs st hspecs hfb hbytes]
  exact bind_clientPairs floatConv fz st .form split hspecs htyped hfloat hsplit

/-- **Multipart.** `FormBinding.bindMultipart` walks `multipartForm.Value`, a Go map from field name
    to the values sent under it: every field's values in the order sent, the *fields* in an
    arbitrary order. For every such order the bound struct is the struct sent. (That mime/multipart
    delivers each value unchanged under its name is assumed here; `bind_roundtrip_multipart_wire`
    adds it.) -/
theorem bind_roundtrip_multipart (floatConv : Nat → Bytes → Option Bytes) (fz : Bytes) (st order : Struct)
    (split : Bool) (horder : order.Perm st)
    (hspecs : specsOK (st.map (·.spec)) = true) (htyped : ∀ f ∈ st, f.wellTyped = true)
    (hfloat : FloatOK floatConv st) (hsplit : split = true → noCommas st = true) :
    bindPairs floatConv fz (st.map (·.spec)) .form split (clientPairs order) = { value := st, err := false } :=
  bind_clientPairs_gen floatConv fz st order .form split (fun k => k) horder (fun _ _ => rfl) hspecs htyped hfloat hsplit

example : readMultipart (b "--FBq") (writeMultipart (b "--FBq")
      [(b "s", b "a\r\nb\"c"), (b "ss", []), (b "ss", b "--FBq"), (b "ss", b "\r\n--")] [(b "file1", b "f.txt", b "data")])
    = some [(b "s", b "a\r\nb\"c"), (b "ss", []), (b "ss", b "--FBq"), (b "ss", b "\r\n--")] ∧
    delimFree (b "--FBq") (b "x\r\n----FBq") = false ∧
    readMultipart (b "--FBq") (writeMultipart (b "--FBq") [(b "s", b "x\r\n----FBq\r\n")] []) = none := by
  repeat rw [b_ofList]
  exact ⟨readMultipart_writeMultipart _ _ _ (by decide +kernel) (by decide +kernel) (by decide +kernel),
    by decide +kernel⟩

/-- **Multipart, end to end over the wire**: the body the client writes for `SetFormDataWithStruct` +
    a file is read back as the client's pairs, and whatever order the Go map `multipartForm.Value`
    hands the *fields* over in (`order`), `FormBinding.bindMultipart` yields the struct. -/
theorem bind_roundtrip_multipart_wire (floatConv : Nat → Bytes → Option Bytes) (fz : Bytes) (st order : Struct)
    (split : Bool) (bd : Bytes) (files : List (Bytes × Bytes × Bytes)) (horder : order.Perm st)
    (hspecs : specsOK (st.map (·.spec)) = true) (htyped : ∀ f ∈ st, f.wellTyped = true)
    (hfloat : FloatOK floatConv st) (hsplit : split = true → noCommas st = true)
    (hbd : ∀ x ∈ bd, x ≠ 13)
    (hvals : ∀ f ∈ st, ∀ v ∈ f.vals, delimFree bd (textOf v) = true)
    (hfile : ∀ f ∈ files, partNameOK f.1 = true ∧ (∀ x ∈ f.2.1, x ≠ 13) ∧ delimFree bd f.2.2 = true) :
    readMultipart bd (writeMultipart bd (clientPairs st) files) = some (clientPairs st) ∧
    bindPairs floatConv fz (st.map (·.spec)) .form split (clientPairs order) = { value := st, err := false } := by
  refine ⟨?_, bind_roundtrip_multipart floatConv fz st order split horder hspecs htyped hfloat hsplit⟩
  exact readMultipart_writeMultipart bd _ files hbd
    (forall_mem_clientPairs.mpr fun f hf v hv =>
      ⟨aliasOK_partName _ (specsOK_alias hspecs hf), hvals f hf v hv⟩)
    hfile

/-- **Header.** fasthttp canonicalises header names on the client and on the server
    (`normalizeHeaderKey`: `x-request-id` travels as `X-Request-Id`); `Bind().Header` matches names
    case-insensitively, so binding the lines as they arrive gives the struct. No bracket normalisation
    on this source. (That a header *value* is written and parsed unchanged for `headerValueOK` values
    is assumed here; `bind_roundtrip_header_wire` adds it.) -/
theorem bind_roundtrip_header (floatConv : Nat → Bytes → Option Bytes) (fz : Bytes) (st : Struct) (split : Bool)
    (hspecs : specsOK (st.map (·.spec)) = true) (htyped : ∀ f ∈ st, f.wellTyped = true)
    (hfloat : FloatOK floatConv st) (hsplit : split = true → noCommas st = true) :
    bindPairs floatConv fz (st.map (·.spec)) .header split (clientPairsN normalizeHeaderKey st)
      = { value := st, err := false } ∧
    bindPairs floatConv fz (st.map (·.spec)) .header split (clientPairs st) = { value := st, err := false } := by
  refine ⟨?_, bind_clientPairs floatConv fz st .header split hspecs htyped hfloat hsplit⟩
  exact bind_clientPairs_gen floatConv fz st st .header split normalizeHeaderKey (List.Perm.refl st)
    (fun _ _ => toLower_normalizeHeaderKey _) hspecs htyped hfloat hsplit

/-- **Pairs under names no field answers to are ignored** by the header and cookie binders
    (`IgnoreUnknownKeys`; no bracket notation on these sources, so no key can be an error): whatever
    they carry, wherever they stand, the bound value and the error flag are those of the remaining pairs. -/
theorem bind_ignores_unrelated_pairs (floatConv : Nat → Bytes → Option Bytes) (fz : Bytes)
    (specs : List FieldSpec) (src : Source) (split : Bool) (pairs : List (Bytes × Bytes))
    (hsrc : src.brackets = false) :
    bindPairs floatConv fz specs src split pairs =
      bindPairs floatConv fz specs src split
        (pairs.filter fun kv => specs.any fun f => toLower kv.1 == toLower f.salias) :=
  bindPairs_ignores_unrelated floatConv fz specs src split pairs
    (fun k => specs.any fun f => toLower k == toLower f.salias) hsrc
    (fun f hf k hk => List.any_eq_true.mpr ⟨f, hf, by simpa using hk⟩)

/-- **Header lines on the wire.** What fasthttp's `headerScanner` / `parseHeaders` read back from the
    lines `appendHeaderLine` wrote (`name ": " value CRLF`, then the blank line) is the same list of
    lines — every name in canonical spelling, every value unchanged — for names that are tokens and
    values inside `headerValueOK` (HTAB / SP / VCHAR / obs-text, no outer blank: the scanner strips
    blanks around a value, `parseHeaders` refuses the other bytes). Order and repeated names kept. -/
theorem parseHeaders_writeHeaders (ps : List (Bytes × Bytes))
    (hk : ∀ kv ∈ ps, headerKeyOK kv.1 = true) (hv : ∀ kv ∈ ps, headerValueOK kv.2 = true) :
    headerTransport ps = .ok (ps.map fun kv => (normalizeHeaderKey kv.1, kv.2)) [] := by
  unfold headerTransport
  apply parseHeaderLines_write ps [] _ hk hv
  have := List.length_le_flatten_map writeHeaderLine ps fun kv _ => by simp [writeHeaderLine]
  simp only [List.length_append, List.length_cons, List.length_nil]
  unfold writeHeaderLines
  omega

example : headerTransport [(b "x-nt", b "a, b"), (b "X-S", []), (b "x-nt", b "\"q\" é")]
    = .ok [(b "X-Nt", b "a, b"), (b "X-S", []), (b "X-Nt", b "\"q\" é")] [] ∧
    -- outside the predicate: outer blanks are stripped, a control byte makes the server refuse the request
    headerTransport [(b "X-S", b " a\t")] = .ok [(b "X-S", b "a")] [] ∧
    headerTransport [(b "X-S", [1])] = .bad := by
  repeat rw [b_ofList]
  decide +kernel

/-- **Header, end to end over the wire.** The header lines `SetValWithStruct` added (one per
    element, names as tagged), written by fasthttp's request writer and read back by its header
    scanner, arrive as the client's pairs under canonical names, and `Bind().Header` of those — *together
    with any other header lines of the request* (`Host`, `User-Agent`, `Content-Length`, … : every pair
    whose name no field answers to, anywhere among the lines) — is the struct. -/
theorem bind_roundtrip_header_wire (floatConv : Nat → Bytes → Option Bytes) (fz : Bytes) (st : Struct)
    (split : Bool) (delivered : List (Bytes × Bytes))
    (hspecs : specsOK (st.map (·.spec)) = true) (htyped : ∀ f ∈ st, f.wellTyped = true)
    (hfloat : FloatOK floatConv st)
    (hwf : ∀ f ∈ st, ∀ v ∈ f.vals, headerValueOK (textOf v) = true)
    (hsplit : split = true → noCommas st = true)
    (hdel : delivered.filter (fun kv => (st.map (·.spec)).any fun f => toLower kv.1 == toLower f.salias)
              = clientPairsN normalizeHeaderKey st) :
    headerTransport (clientPairs st) = .ok (clientPairsN normalizeHeaderKey st) [] ∧
    bindPairs floatConv fz (st.map (·.spec)) .header split delivered = { value := st, err := false } := by
  constructor
  · rw [clientPairsN_eq_map]
    exact parseHeaders_writeHeaders _
      (forall_mem_clientPairs.mpr fun f hf _ _ => aliasOK_headerKey _ (specsOK_alias hspecs hf))
      (forall_mem_clientPairs.mpr hwf)
  · rw [bind_ignores_unrelated_pairs floatConv fz (st.map (·.spec)) .header split delivered rfl, hdel]
    exact (bind_roundtrip_header floatConv fz st split hspecs htyped hfloat hsplit).1

/-- The round trip holds for any transport that re-spells names by ASCII case only (any source, any
    field order). -/
theorem bind_roundtrip_names_recased (floatConv : Nat → Bytes → Option Bytes) (fz : Bytes) (st order : Struct)
    (src : Source) (split : Bool) (norm : Bytes → Bytes) (horder : order.Perm st)
    (hnorm : ∀ f ∈ st, toLower (norm f.spec.calias) = toLower f.spec.calias ∧
        (norm f.spec.calias).contains 46 = false ∧ (norm f.spec.calias).contains 91 = false)
    (hspecs : specsOK (st.map (·.spec)) = true) (htyped : ∀ f ∈ st, f.wellTyped = true)
    (hfloat : FloatOK floatConv st) (hsplit : split = true → noCommas st = true) :
    bindPairs floatConv fz (st.map (·.spec)) src split (clientPairsN norm order) = { value := st, err := false } :=
  bind_clientPairs_gen floatConv fz st order src split norm horder (fun f hf => (hnorm f hf).1) hspecs htyped
    hfloat hsplit

example : normalizeHeaderKey (b "x-request-id") = b "X-Request-Id" ∧ normalizeHeaderKey (b "X-SS") = b "X-Ss" ∧
    normalizeHeaderKey (b "a--b") = b "A--b" := by
  repeat rw [b_ofList]
  decide +kernel

/-- **Cookie, exactly.** For *every* well-typed struct with cookie-safe values, what
    `Bind().Cookie` yields from the Cookie header `SetCookiesWithStruct` produced is `lastOnly st`:
    the struct with every slice cut down to its last element (the client's `Cookie` store is a
    `map[string]string`). This is the full description of the cookie source, K1 included. -/
theorem bind_cookie_yields_lastOnly (floatConv : Nat → Bytes → Option Bytes) (fz : Bytes) (st : Struct)
    (split : Bool)
    (hspecs : specsOK (st.map (·.spec)) = true) (htyped : ∀ f ∈ st, f.wellTyped = true)
    (hfloat : FloatOK floatConv st)
    (hwf : ∀ f ∈ st, ∀ v ∈ f.vals, cookieValueOK (textOf v) = true)
    (hsplit : split = true → noCommas st = true) :
    bindPairs floatConv fz (st.map (·.spec)) .cookie split
        (wirePairs .cookie (renderCookies (cookiePairs st)))
      = { value := lastOnly st, err := false } := by
  have hall : ∀ {P : Field → Prop}, (∀ f ∈ st, P f.lastOnly) → ∀ g ∈ lastOnly st, P g := List.forall_mem_map.mpr
  rw [cookiePairs_lastOnly, ← lastOnly_specs]
  have hspecs' : specsOK ((lastOnly st).map (·.spec)) = true := by rw [lastOnly_specs]; exact hspecs
  simp only [wirePairs, parseCookies_clientPairs (lastOnly st) hspecs'
    (hall fun f hf v hv => hwf f hf v (mem_lastOnly_vals hv))]
  apply bind_clientPairs floatConv fz (lastOnly st) .cookie split hspecs'
  · exact hall fun f hf => lastOnly_wellTyped (htyped f hf)
  · exact hall fun f hf t ht => hfloat f hf t (mem_lastOnly_vals ht)
  · intro hs
    exact noCommas_iff.mpr (hall fun f hf v hv => noCommas_iff.mp (hsplit hs) f hf v (mem_lastOnly_vals hv))

/-- **Cookie (partial: K1 excluded).** Full statement — for *every* well-typed struct the cookie
    round trip returns it — is false: see `bind_roundtrip_cookie_witness_K1`. Proved for structs
    without a multi-valued slice (K1 region: `multiValuedSlice`, Spec.lean), cookie-safe values (`hwf` asks it of
    the text of every value, not only of strings). -/
theorem bind_roundtrip_cookie_partial (floatConv : Nat → Bytes → Option Bytes) (fz : Bytes) (st : Struct)
    (split : Bool)
    (hspecs : specsOK (st.map (·.spec)) = true) (htyped : ∀ f ∈ st, f.wellTyped = true)
    (hfloat : FloatOK floatConv st)
    (hwf : ∀ f ∈ st, ∀ v ∈ f.vals, cookieValueOK (textOf v) = true)
    (hsplit : split = true → noCommas st = true)
    (hK1 : multiValuedSlice st = false) :
    bindPairs floatConv fz (st.map (·.spec)) .cookie split
        (wirePairs .cookie (renderCookies (cookiePairs st)))
      = { value := st, err := false } := by
  have := bind_cookie_yields_lastOnly floatConv fz st split hspecs htyped hfloat hwf hsplit
  rwa [lastOnly_id st hK1] at this

def witnessK1 : Struct :=
  [{ spec := { calias := b "ss", salias := b "ss", qalias := b "ss", goName := b "SS", kind := .str, isSlice := true },
     vals := [.str (b "a"), .str (b "b")] }]

/-- K1 witness: `[]string{"a","b"}` sent with `SetCookiesWithStruct` comes back as `["b"]`. -/
theorem bind_roundtrip_cookie_witness_K1 :
    ¬ (bindPairs (fun _ t => some t) (b "0") (witnessK1.map (·.spec)) .cookie false
        (wirePairs .cookie (renderCookies (cookiePairs witnessK1))) = { value := witnessK1, err := false }) := by
  decide +kernel

/-- **K1 is a client-side defect only.** Had the client written one `name=value` pair per element
    into the Cookie header — as `SetValWithStruct` does for query parameters, form data and header
    lines — `Bind().Cookie` would return the struct, for *every* well-typed struct with cookie-safe
    values, with splitting on (comma-free values) and off: the request-cookie scanner keeps repeated
    names (`parseCookies_renderCookies`) and the binder appends them in order. The wire form
    `ss=a; ss=b` is therefore the one that round-trips under every configuration; the client cannot
    produce it because `Cookie` is a `map[string]string` and `RequestHeader.SetCookie` replaces. -/
theorem bind_roundtrip_cookie_repeated_pairs (floatConv : Nat → Bytes → Option Bytes) (fz : Bytes)
    (st : Struct) (split : Bool)
    (hspecs : specsOK (st.map (·.spec)) = true) (htyped : ∀ f ∈ st, f.wellTyped = true)
    (hfloat : FloatOK floatConv st)
    (hwf : ∀ f ∈ st, ∀ v ∈ f.vals, cookieValueOK (textOf v) = true)
    (hsplit : split = true → noCommas st = true) :
    bindPairs floatConv fz (st.map (·.spec)) .cookie split
        (wirePairs .cookie (renderCookies (clientPairs st)))
      = { value := st, err := false } := by
  simp only [wirePairs, parseCookies_clientPairs st hspecs hwf]
  exact bind_clientPairs floatConv fz st .cookie split hspecs htyped hfloat hsplit

/-- non-vacuity, on the K1 witness itself: `ss=a; ss=b` binds back as `["a","b"]`. The other
    candidate repair that keeps `Cookie` a `map[string]string` — joining the elements with ","
    (fiber's own convention in bind_test.go, `Hobby=golang,fiber`) — does *not* satisfy the property:
    it reads back whole only when the server splits (`EnableSplittingOnParsers`), and a `[]string`
    sent to a server that does not split comes back as the one string `"a,b"`. -/
example : renderCookies (clientPairs witnessK1) = b "ss=a; ss=b" ∧
    bindPairs (fun _ t => some t) (b "0") (witnessK1.map (·.spec)) .cookie false
      (wirePairs .cookie (renderCookies (clientPairs witnessK1))) = { value := witnessK1, err := false } ∧
    bindPairs (fun _ t => some t) (b "0") (witnessK1.map (·.spec)) .cookie true
      (wirePairs .cookie (b "ss=a,b")) = { value := witnessK1, err := false } ∧
    (bindPairs (fun _ t => some t) (b "0") (witnessK1.map (·.spec)) .cookie false
      (wirePairs .cookie (b "ss=a,b"))).value ≠ witnessK1 := by
  repeat rw [b_ofList]
  decide +kernel

/-- non-vacuity of the round-trip hypotheses: a concrete struct with reserved bytes, an empty string,
    extreme integers, a float and a slice meets every one of them, for each source (and the wire
    forms are what fasthttp writes). -/
def sampleStruct : Struct :=
  [{ spec := { calias := b "s", salias := b "s", qalias := b "s", goName := b "S", kind := .str, isSlice := false },
     vals := [.str (b "a&b=c d")] },
   { spec := { calias := b "i8", salias := b "i8", qalias := b "i8", goName := b "I8", kind := .int 8, isSlice := false },
     vals := [.int (-128)] },
   { spec := { calias := b "f", salias := b "f", qalias := b "f", goName := b "F", kind := .float 64, isSlice := false },
     vals := [.float (b "0.5")] },
   { spec := { calias := b "ss", salias := b "ss", qalias := b "ss", goName := b "SS", kind := .str, isSlice := true },
     vals := [.str [], .str (b "x")] }]

example : specsOK (sampleStruct.map (·.spec)) = true ∧ sampleStruct.all (·.wellTyped) = true ∧
    noCommas sampleStruct = true ∧ wfStruct .header sampleStruct = true ∧ wfStruct .cookie sampleStruct = true ∧
    renderArgs (clientPairs sampleStruct) = b "s=a%26b%3Dc+d&i8=-128&f=0.5&ss=&ss=x" ∧
    bindPairs (fun _ t => some t) (b "0") (sampleStruct.map (·.spec)) .query true
      (wirePairs .query (renderArgs (clientPairs sampleStruct))) = { value := sampleStruct, err := false } ∧
    bindPairs (fun _ t => some t) (b "0") (sampleStruct.map (·.spec)) .form true
      (postArgs (clientCtype .form) (renderArgs (clientPairs sampleStruct))) = { value := sampleStruct, err := false } ∧
    bindPairs (fun _ t => some t) (b "0") (sampleStruct.map (·.spec)) .form true
      (clientPairs sampleStruct.reverse) = { value := sampleStruct, err := false } ∧
    bindPairs (fun _ t => some t) (b "0") (sampleStruct.map (·.spec)) .header true
      (clientPairs sampleStruct) = { value := sampleStruct, err := false } ∧
    (clientPairsN normalizeHeaderKey sampleStruct).map (·.1) = [b "S", b "I8", b "F", b "Ss", b "Ss"] ∧
    bindPairs (fun _ t => some t) (b "0") (sampleStruct.map (·.spec)) .header true
      (clientPairsN normalizeHeaderKey sampleStruct) = { value := sampleStruct, err := false } := by
  repeat rw [b_ofList]
  decide +kernel

/-- the float hypothesis is satisfiable (by the identity on float texts, which is what
    `ParseFloat ∘ FormatFloat` is on the texts the client writes) -/
example : FloatOK (fun _ t => some t) sampleStruct := by
  intro f hf t ht
  simp only [sampleStruct, List.mem_cons, List.not_mem_nil, or_false] at hf
  rcases hf with rfl | rfl | rfl | rfl <;> simp at ht
  subst ht
  exact ⟨by decide, by decide, fun _ _ => rfl⟩

/-- non-vacuity: the sample struct's lines between the client's own headers -/
example : wfStruct .header sampleStruct = true ∧
    headerTransport (clientPairs sampleStruct) = .ok (clientPairsN normalizeHeaderKey sampleStruct) [] ∧
    bindPairs (fun _ t => some t) (b "0") (sampleStruct.map (·.spec)) .header true
      ([(b "User-Agent", b "fiber"), (b "Host", b "example.com")] ++ clientPairsN normalizeHeaderKey sampleStruct ++
        [(b "Content-Length", b "0"), (b "X-Unknown", b "1,2")])
      = { value := sampleStruct, err := false } := by
  repeat rw [b_ofList]
  decide +kernel

/-- the cookie source on the same struct: its two-element slice is cut to the last element
    (`lastOnly`), everything else arrives; with a one-element slice the struct itself arrives. -/
example : renderCookies (cookiePairs sampleStruct) = b "s=a&b=c d; i8=-128; f=0.5; ss=x" ∧
    multiValuedSlice sampleStruct = true ∧
    bindPairs (fun _ t => some t) (b "0") (sampleStruct.map (·.spec)) .cookie false
      (wirePairs .cookie (renderCookies (cookiePairs sampleStruct))) = { value := lastOnly sampleStruct, err := false } ∧
    lastOnly sampleStruct ≠ sampleStruct ∧
    multiValuedSlice (lastOnly sampleStruct) = false ∧
    bindPairs (fun _ t => some t) (b "0") ((lastOnly sampleStruct).map (·.spec)) .cookie true
      (wirePairs .cookie (renderCookies (cookiePairs (lastOnly sampleStruct))))
        = { value := lastOnly sampleStruct, err := false } := by
  repeat rw [b_ofList]
  decide +kernel

/-- The conclusion of the round-trip theorems is exactly what the executable oracle `specRoundTrip`
    (Spec.lean, evaluated on the implementation's observations on every run) accepts: a bind result
    equal to the struct sent, without error, reported with status 200, violates no clause. -/
theorem roundtrip_result_meets_spec (t : Transport) (split auto : Bool) (st : Struct) (r : BindResult)
    (h : r = { value := st, err := false }) :
    specRoundTrip t split auto st
      { panicked := false, ran := true, sendErr := false, dec := structVals r.value, err := r.err,
        code := codeOf auto r.err, status := statusOf auto r.err false } = none := by
  subst h
  simp [specRoundTrip, reportOK, statusOf]

/-- … and the oracle is not trivially satisfied: the K1 outcome is refused. -/
example : specRoundTrip .cookie false false witnessK1
    { panicked := false, ran := true, sendErr := false, dec := structVals (lastOnly witnessK1), err := false,
      code := 0, status := 200 } = some "roundtrip-equal-value" := by
  decide +kernel

/-- **Correctly rounded parsing returns a representable value unchanged (integers).** For every odd
    `m < 2^p` and every `a` with `m·2^a` below the overflow threshold of the width (24 / 128 for
    float32, 53 / 1024 for float64): `ParseFloat` of the full decimal digits of `m·2^a` is `m·2^a`. -/
theorem parseFloat_exact_int (bits : Nat) (neg : Bool) (m a : Nat) (hodd : m % 2 = 1)
    (hmp : m < 2 ^ (fmtOf bits).p) (hov : m * 2 ^ a < 2 ^ (fmtOf bits).emax) :
    parseFloat bits (exactText neg m (a : Int)) = some (some (.fin neg m (a : Int))) := by
  obtain ⟨hq, _⟩ := fmtOf_facts bits
  have h0 : (-(a : Int)).toNat = 0 := by omega
  rw [exactText_eq]
  simp only [ge_iff_le, Int.natCast_nonneg, if_true, Int.toNat_natCast, h0]
  generalize hf : fmtOf bits = f at *
  rw [parseFloat_plain (eB := a + f.bias) hf
    (roundBin_exact f _ _ m _ (by decide) hodd hmp (by omega)
      (by rw [Nat.pow_add, Nat.pow_add, ← Nat.mul_assoc]
          exact (Nat.mul_lt_mul_right (Nat.two_pow_pos _)).mpr hov)
      (by simp [Nat.pow_add, Nat.mul_assoc]))]
  congr 3
  omega

/-- **Correctly rounded parsing returns a representable value unchanged (dyadic fractions).** For every odd `m < 2^p` and `0 < k ≤ 1074` (149 for float32):
    `ParseFloat` of the full decimal expansion of `m / 2^k` (`k` fraction digits) is `m / 2^k`,
    subnormals included. -/
theorem parseFloat_exact_frac (bits : Nat) (neg : Bool) (m k : Nat) (hodd : m % 2 = 1)
    (hmp : m < 2 ^ (fmtOf bits).p) (hk : 0 < k) (hkmin : (fmtOf bits).qminB + k ≤ (fmtOf bits).bias) :
    parseFloat bits (exactText neg m (-(k : Int))) = some (some (.fin neg m (-(k : Int)))) := by
  obtain ⟨_, hpe⟩ := fmtOf_facts bits
  have h0 : ¬ (-(k : Int) ≥ 0) := by omega
  rw [exactText_eq]
  simp only [h0, if_false, Int.neg_neg, Int.toNat_natCast]
  generalize hf : fmtOf bits = f at *
  rw [parseFloat_plain (eB := f.bias - k) hf
    (roundBin_exact f _ _ m _ (Nat.pow_pos (by decide)) hodd hmp (by omega)
      (by
        have h1 : m * 2 ^ (f.bias - k) < 2 ^ f.p * 2 ^ f.bias :=
          Nat.mul_lt_mul_of_lt_of_le hmp (Nat.pow_le_pow_right (by decide) (by omega)) (Nat.two_pow_pos _)
        have h2 : 2 ^ f.p * 2 ^ f.bias ≤ 2 ^ f.emax * 2 ^ f.bias :=
          Nat.mul_le_mul_right _ (Nat.pow_le_pow_right (by decide) hpe)
        rw [Nat.pow_add]; omega)
      (by
        have h2 : 2 ^ f.bias = 2 ^ (f.bias - k) * 2 ^ k := by rw [← Nat.pow_add, Nat.sub_add_cancel (by omega)]
        have h10 : (10 : Nat) ^ k = 2 ^ k * 5 ^ k := by rw [← Nat.mul_pow]
        rw [h2, h10]
        ac_rfl))]
  congr 3
  omega

example : exactText false 987654321 (-3) = b "123456790.125" ∧ exactText true 1 (-1) = b "-0.5" ∧
    exactText false 3 10 = b "3072" ∧ exactText false 1 (-20) = b "0.00000095367431640625" ∧
    parseFloat 32 (b "123456790.125") = some (some (.fin false 15432099 3)) ∧   -- not a float32: rounded
    parseFloat 64 (b "123456790.125") = some (some (.fin false 987654321 (-3))) ∧
    parseFloat 32 (b "16777217") = some (some (.fin false 1 24)) ∧               -- tie, to even
    parseFloat 32 (b "340282356779733661637539395458142568448") = some none ∧      -- half an ulp above MaxFloat32
    parseFloat 64 (b "1e") = some none ∧ parseFloat 64 (b "1_0") = none := by
  repeat rw [b_ofList]
  decide +kernel

/-- a float text that names a value of the width `bits` by its full decimal expansion (or is a zero) -/
def ExactFloat (bits : Nat) (t : Bytes) : Prop :=
  ∃ neg : Bool, t = exactText neg 0 0 ∨
    ∃ m : Nat, m % 2 = 1 ∧ m < 2 ^ (fmtOf bits).p ∧
      ((∃ a : Nat, m * 2 ^ a < 2 ^ (fmtOf bits).emax ∧ t = exactText neg m (a : Int)) ∨
       (∃ k : Nat, 0 < k ∧ (fmtOf bits).qminB + k ≤ (fmtOf bits).bias ∧ t = exactText neg m (-(k : Int))))

theorem ExactFloat.parse {bits : Nat} {t : Bytes} (h : ExactFloat bits t) :
    ∃ neg m e, t = exactText neg m e ∧ parseFloat bits t = some (some (.fin neg m e)) := by
  obtain ⟨neg, rfl | ⟨m, hodd, hmp, ⟨a, hov, rfl⟩ | ⟨k, hk0, hkm, rfl⟩⟩⟩ := h
  · refine ⟨neg, 0, 0, rfl, ?_⟩
    simpa [exactText_eq] using parseFloat_plain (bits := bits) (neg := neg) (w := 0) rfl
      (show roundBin _ 0 _ = some (0, (fmtOf bits).bias) by simp [roundBin])
  · exact ⟨neg, m, a, rfl, parseFloat_exact_int bits neg m a hodd hmp hov⟩
  · exact ⟨neg, m, -(k : Int), rfl, parseFloat_exact_frac bits neg m k hodd hmp hk0 hkm⟩

/-- **`FloatOK` without hypothesis, exact expansions.** When every float of the struct travels as the
    full decimal expansion of its value (what `FormatFloat(v,'f',-1,64)` prints whenever that
    expansion has at most 15 significant digits: integers below 10^15, halves, quarters, …,
    `123456789.125`), the server's `ParseFloat` at the field's own width returns that value — float32
    and float64 fields alike. (`floatConvE` = parse, then name the value by its expansion.) -/
theorem floatOK_exact (st : Struct)
    (h : ∀ f ∈ st, ∀ t, Val.float t ∈ f.vals → ∃ bits, f.spec.kind = .float bits ∧ ExactFloat bits t) :
    FloatOK floatConvE st := by
  intro f hf t ht
  obtain ⟨bits, hk, hex⟩ := h f hf t ht
  obtain ⟨neg, m, e, rfl, hp⟩ := hex.parse
  refine ⟨(exactText_plain neg m e).1, noComma_of_plain _ (exactText_plain neg m e).2, ?_⟩
  intro bits' hk'
  cases Kind.float.inj (hk.symm.trans hk')
  simp [floatConvE, hp]

/-- **`ParseFloat(·, 64) ∘ FormatFloat(·,'f',-1,64) = id`** for the formatter model: `fmtShortest`
    returns the shortest decimal that reads back as the value, and says so only after reading it
    back — every finite float64, ±Inf, NaN. (The weight of this statement is the differential check:
    `fmtShortest ∘ parseFloat` is compared with strconv on every float of every run.) -/
theorem parseFloat_fmtShortest (v : FVal) (t : Bytes) (h : fmtShortest v = some t) :
    parseFloat 64 t = some (some v) :=
  (fmtShortest_spec v t h).1

/-- **`FloatOK` without hypothesis, float64 fields.** Every struct whose floats stand in float64 fields
    and travel as `fmtShortest` of their value. -/
theorem floatOK_shortest64 (st : Struct)
    (h : ∀ f ∈ st, ∀ t, Val.float t ∈ f.vals → f.spec.kind = .float 64 ∧ ∃ v, fmtShortest v = some t) :
    FloatOK floatConvM st := by
  intro f hf t ht
  obtain ⟨hk, v, hv⟩ := h f hf t ht
  obtain ⟨hp, hne, hnc⟩ := fmtShortest_spec v t hv
  refine ⟨hne, hnc, ?_⟩
  intro bits hk'
  cases Kind.float.inj (hk.symm.trans hk')
  simp [floatConvM, floatConvX, hp, hv]

example : fmtShortest (.fin false 3602879701896397 (-55)) = some (b "0.1") ∧
    fmtShortest (.fin false 13421773 (-27)) = some (b "0.10000000149011612") ∧   -- float32(0.1), widened
    fmtShortest (.fin true 1 (-1074)) ≠ none ∧ fmtShortest (.fin false 1 70) = some (b "1180591620717411300000") ∧   -- 2^70: 17 digits, then zeros
    floatConvM 64 (b "0.1000000000000000055511151231257827") = some (b "0.1") ∧
    floatConvM 32 (b "0.1") = some (b "0.10000000149011612") ∧ floatConvM 64 (b "1e400") = none := by
  repeat rw [b_ofList]
  -- 5e-324: `parseFloat_plain` reads its 324 fraction digits, which are slow to evaluate
  have h : fmtShortest (.fin true 1 (-1074)) ≠ none := by
    have hd : shortestDigits 1 (-1074) = some (5, -324) := by decide +kernel
    have hs : stripTens 5 5 (-324) = (5, -324) := by decide +kernel
    have hp := parseFloat_plain (bits := 64) (f := fmt64) (neg := true) (c := 5) (w := 324) (m := 1) (eB := 126) rfl (by decide +kernel)
    simp [fmtShortest, shortestText, hd, hs, fmtF_eq_plainBody]
    simpa [fmt64] using hp
  refine ⟨by decide +kernel, by decide +kernel, h, by decide +kernel⟩

/-- the float-free corollary, spelled out for one source: the query round trip of a struct whose floats
    are exact expansions needs no assumption about strconv. -/
theorem bind_roundtrip_query_exact_floats (fz : Bytes) (st : Struct) (split : Bool)
    (hspecs : specsOK (st.map (·.spec)) = true) (htyped : ∀ f ∈ st, f.wellTyped = true)
    (hex : ∀ f ∈ st, ∀ t, Val.float t ∈ f.vals → ∃ bits, f.spec.kind = .float bits ∧ ExactFloat bits t)
    (hbytes : bytesStruct st) (hsplit : split = true → noCommas st = true) :
    bindPairs floatConvE fz (st.map (·.spec)) .query split (wirePairs .query (renderArgs (clientPairs st)))
      = { value := st, err := false } := by
  apply bind_roundtrip_query floatConvE fz st split hspecs htyped (floatOK_exact st hex) _ hbytes hsplit
  intro f hf t ht c hc
  obtain ⟨bits, _, hexf⟩ := hex f hf t ht
  obtain ⟨neg, m, e, rfl, _⟩ := hexf.parse
  exact Nat.lt_trans (plainByte_excludes c ((exactText_plain neg m e).2 c hc)).1 (by decide)

def floatStruct : Struct :=
  [{ spec := { calias := b "f32", salias := b "f32", qalias := b "f32", goName := b "F32", kind := .float 32, isSlice := false },
     vals := [.float (b "-0.5")] },
   { spec := { calias := b "fs", salias := b "fs", qalias := b "fs", goName := b "FS", kind := .float 64, isSlice := true },
     vals := [.float (b "123456789.125"), .float (b "0"), .float (b "4294967296")] }]

/-- non-vacuity: a float32 scalar and a float64 slice of exact expansions -/
example : (∀ f ∈ floatStruct, ∀ t, Val.float t ∈ f.vals → ∃ bits, f.spec.kind = .float bits ∧ ExactFloat bits t) ∧
    bindPairs floatConvE (b "0") (floatStruct.map (·.spec)) .query true
      (wirePairs .query (renderArgs (clientPairs floatStruct))) = { value := floatStruct, err := false } ∧
    bindPairs floatConvM (b "0") (floatStruct.map (·.spec)) .query true
      (wirePairs .query (renderArgs (clientPairs floatStruct))) = { value := floatStruct, err := false } := by
  refine ⟨?hex, bind_roundtrip_query_exact_floats _ _ _ (by decide +kernel) (by decide +kernel) ?hex
    (by unfold bytesStruct; decide +kernel) (fun _ => by decide +kernel), by decide +kernel⟩
  intro f hf t ht
  simp only [floatStruct, List.mem_cons, List.not_mem_nil, or_false] at hf
  rcases hf with rfl | rfl
  · simp at ht; subst ht
    exact ⟨32, rfl, true, Or.inr ⟨1, by decide +kernel, by decide +kernel, Or.inr ⟨1, by decide +kernel, by decide +kernel, by decide +kernel⟩⟩⟩
  · simp at ht
    rcases ht with rfl | rfl | rfl
    · exact ⟨64, rfl, false, Or.inr ⟨987654313, by decide +kernel, by decide +kernel, Or.inr ⟨3, by decide +kernel, by decide +kernel, by decide +kernel⟩⟩⟩
    · exact ⟨64, rfl, false, Or.inl (by decide +kernel)⟩
    · exact ⟨64, rfl, false, Or.inr ⟨1, by decide +kernel, by decide +kernel, Or.inl ⟨32, by decide +kernel, by decide +kernel⟩⟩⟩

/-- bind.go `returnErr` + the default error handler, for every outcome of a binder: no error → 200;
    an error → a status ≥ 400, and exactly 400 with a `*fiber.Error` of code 400 under automatic
    handling; no binder for the content type → 422 (accepted by the oracle only in that case). None
    of these violates the reporting clause of the spec (`specTotal`). -/
theorem bind_reports_failure (auto err noCodec : Bool) (dec : List (List Val)) :
    specTotal auto noCodec
        ({ panicked := false, ran := true, sendErr := false, dec := dec, err := err || noCodec,
           code := if noCodec then 422 else codeOf auto err, status := statusOf auto err noCodec } : Obs)
      = none ∧
    (err = true → noCodec = false → 400 ≤ statusOf auto err noCodec ∧
        (auto = true → statusOf auto err noCodec = 400 ∧ codeOf auto err = 400)) := by
  cases auto <;> cases err <;> cases noCodec <;> simp [specTotal, reportOK, statusOf, codeOf]

/-- … while a silent failure (error, status 200) or a 500 under automatic handling is refused. -/
example : specTotal true false { panicked := false, ran := true, sendErr := false, dec := [], err := true, code := 0, status := 500 }
      = some "failure-is-400-under-auto-handling" ∧
    specTotal true false { panicked := false, ran := true, sendErr := false, dec := [], err := true, code := 422, status := 422 }
      = some "failure-is-400-under-auto-handling" ∧
    specTotal false false { panicked := false, ran := true, sendErr := false, dec := [], err := true, code := 0, status := 200 }
      = some "failure-reported-as-error" := by
  decide +kernel

/-- A binder reports an error exactly when a key has unmatched brackets or some field's texts do not
    convert: nothing else produces one, and neither is ever swallowed. -/
theorem bind_error_iff (floatConv : Nat → Bytes → Option Bytes) (fz : Bytes) (specs : List FieldSpec)
    (src : Source) (split : Bool) (pairs : List (Bytes × Bytes)) :
    (bindPairs floatConv fz specs src split pairs).err = true ↔
      collect (equalFieldType specs) split src.brackets pairs [] = none ∨
      ∃ data, collect (equalFieldType specs) split src.brackets pairs [] = some data ∧
        ∃ f ∈ specs, (decodeField floatConv fz data f).2 = true := by
  unfold bindPairs
  cases h : collect (equalFieldType specs) split src.brackets pairs [] with
  | none => simp
  | some data => simp [decodeFields, List.any_eq_true]

/-- A key in bracket notation whose brackets do not balance (`a[`, `a[b]]`, `][`) makes the query and
    form binders return an error, and nothing is bound — wherever the key stands among the pairs.
    (`malformedKey` is the oracle's own definition, Spec.lean; the header and cookie binders do not
    read bracket notation.) -/
theorem unbalanced_brackets_is_error (floatConv : Nat → Bytes → Option Bytes) (fz : Bytes)
    (specs : List FieldSpec) (src : Source) (split : Bool) (pairs : List (Bytes × Bytes))
    (hsrc : src.brackets = true) (h : pairs.any (fun kv => malformedKey kv.1) = true) :
    bindPairs floatConv fz specs src split pairs = { value := zeroStruct fz specs, err := true } ∧
    bindPairsMap src split pairs = none := by
  unfold bindPairs bindPairsMap
  rw [hsrc, collect_malformed _ split pairs [] h, collect_malformed _ split pairs [] h]
  exact ⟨rfl, rfl⟩

example : malformedKey (b "a[") = true ∧ malformedKey (b "a[b]]") = true ∧ malformedKey (b "a[b][]") = false ∧
    malformedKey (b "a]") = false ∧
    mustFail (sampleStruct.map (·.spec)) true true [(b "s", b "x"), (b "ss[", b "y")] = some "unbalanced-brackets-is-error" ∧
    mustFail (sampleStruct.map (·.spec)) true true [(b "i8", b "1"), (b "i8", b "128")] = some "unparsable-value-is-error" ∧
    mustFail (sampleStruct.map (·.spec)) true true [(b "i8", b "128"), (b "i8", b "1")] = none := by
  repeat rw [b_ofList]
  decide +kernel

/-- A non-empty text the field's converter rejects is an error for a scalar field (the field keeps
    its zero value) — e.g. `i8=128`, `b=yes`, `u=-1`. -/
theorem unparsable_scalar_is_error (floatConv : Nat → Bytes → Option Bytes) (fz : Bytes)
    (data : List (Bytes × List Bytes)) (f : FieldSpec) (ts : List Bytes) (t : Bytes)
    (hs : f.isSlice = false) (hl : lookupField data f.salias = some ts) (hlast : ts.getLast? = some t)
    (hne : t ≠ []) (hconv : convert floatConv f.kind t = none) :
    decodeField floatConv fz data f = ([zeroOf fz f.kind], true) := by
  unfold decodeField
  simp [hl, hs, decodeScalar, hlast, hne, hconv]

/-- A non-empty text the field's converter rejects is an error for a slice field when it has no comma
    to fall back on. -/
theorem unparsable_element_is_error (floatConv : Nat → Bytes → Option Bytes) (fz : Bytes)
    (data : List (Bytes × List Bytes)) (f : FieldSpec) (pre post : List Bytes) (t : Bytes)
    (hs : f.isSlice = true) (hl : lookupField data f.salias = some (pre ++ t :: post))
    (hne : t ≠ []) (hcomma : t.contains 44 = false) (hconv : convert floatConv f.kind t = none) :
    decodeField floatConv fz data f = ([], true) := by
  have hds : ∀ pre' : List Bytes,
      decodeSlice (convert floatConv f.kind) (zeroOf fz f.kind) (pre' ++ t :: post) = none := by
    intro pre'
    induction pre' with
    | nil =>
      have he : t.isEmpty = false := by simpa using hne
      simp only [List.nil_append, decodeSlice, he, hconv, hcomma]
      simp
    | cons p ps ih =>
      simp only [List.cons_append, decodeSlice, ih]
      split
      · rename_i h; cases h
      · rfl
  unfold decodeField
  simp [hl, hs, hds pre]

/-- a `[]int8` field that receives `1`, `x`, `2` -/
example : decodeField (fun _ _ => none) (b "0") [(b "is", [b "1", b "x", b "2"])]
    { calias := b "is", salias := b "is", qalias := b "is", goName := b "IS", kind := .int 8, isSlice := true }
      = ([], true) := by
  repeat rw [b_ofList]
  decide +kernel

example :
    (bindPairs (fun _ _ => none) (b "0") (sampleStruct.map (·.spec)) .query false (parseArgs (b "i8=128"))).err = true ∧
    (bindPairs (fun _ _ => none) (b "0") (sampleStruct.map (·.spec)) .query false (parseArgs (b "i8=127"))).err = false ∧
    (bindPairs (fun _ _ => none) (b "0") (sampleStruct.map (·.spec)) .query false (parseArgs (b "s[=1"))).err = true ∧
    (bindPairs (fun _ _ => none) (b "0") (sampleStruct.map (·.spec)) .cookie false (parseCookies (b "s[=1"))).err = false := by
  repeat rw [b_ofList]
  decide +kernel

/-- The content type the client sets for each body kind selects that kind's decoder. -/
theorem body_dispatch_selects_codec :
    dispatch (clientCtype .json) = .json ∧ dispatch (clientCtype .xml) = .xml ∧
    dispatch (clientCtype .cbor) = .cbor ∧ dispatch (clientCtype .form) = .form ∧
    dispatch (b "multipart/form-data") = .form ∧ dispatch (b "text/xml") = .xml := by
  unfold dispatch clientCtype
  repeat rw [b_ofList]
  decide +kernel

theorem dispatch_append_params (ct params : Bytes) (h43 : 43 ∉ ct) (h59 : 59 ∉ ct) :
    dispatch (ct ++ 59 :: params) = dispatch ct := by
  -- with parameters `parseVendor` leaves the text alone (no '+' anywhere) and `filterFlags` stops at the ';', or
  -- it cuts the text at the ';' itself (the first '+' stands behind it)
  have key : ∀ lc p : Bytes, 43 ∉ lc → 59 ∉ lc →
      filterFlags (parseVendor (lc ++ 59 :: p)) = filterFlags (parseVendor lc) := fun lc p h43 h59 => by
    unfold parseVendor
    rw [indexByte_eq_none_of_not_mem h43]
    cases hp : indexByte (lc ++ 59 :: p) 43 with
    | none => exact List.takeWhile_append_of_head lc fun x hx => by cases hx; rfl
    | some plus =>
      have := indexByte_append_ge _ h43 hp
      simp only [indexByte_append_cons_of_not_mem p h59, Nat.not_lt.mpr this, if_false, List.take_left']
  -- `dispatch` folds the case first, which brings in no '+' and no ';'
  have hfold : ∀ x, isUpper x = false → isLower x = false → x ∉ ct → x ∉ toLower ct := fun x hu hl hx hm => by
    obtain ⟨y, hy, e⟩ := List.mem_map.mp hm
    exact hx ((lowerByte_eq_iff y x hu hl).mp e ▸ hy)
  unfold dispatch
  rw [toLower_append]
  exact (key (toLower ct) (toLower params) (hfold 43 rfl rfl h43) (hfold 59 rfl rfl h59)).symm ▸ rfl

/-- Parameters after `;` never change the selection (`multipart/form-data; boundary=…`,
    `application/json; charset=utf-8`, …): for a lower-case media type without `+`, ` `, `;`, and
    any parameter text whatsoever. -/
theorem dispatch_ignores_params (ct params : Bytes)
    (hct : ∀ c ∈ ct, c ≠ 43 ∧ c ≠ 32 ∧ c ≠ 59 ∧ lowerByte c = c) :
    dispatch (ct ++ 59 :: params) = dispatch ct :=
  dispatch_append_params ct params (fun h => (hct 43 h).1 rfl) (fun h => (hct 59 h).2.2.1 rfl)

example : dispatch (b "multipart/form-data; boundary=--FiberFormBoundaryAbC+1") = .form := by
  unfold dispatch
  repeat rw [b_ofList]
  decide +kernel
example : dispatch (b "application/vnd.api+json") = .json ∧ dispatch (b "Application/JSON; charset=utf-8") = .json ∧
          dispatch (b "text/plain") = .none := by
  unfold dispatch
  repeat rw [b_ofList]
  decide +kernel

/-- **Body.** What the client encoded as JSON / XML / CBOR / form, sent with the content type it
    sets for that kind, is decoded by the matching decoder and yields the value. -/
theorem bind_roundtrip_body {V : Type} (cs : BodyCodecs V) (c : Codec) (hc : c ≠ .none) (v : V) :
    bindBody cs (clientCtype c) (cs.enc c v) = some v := by
  obtain ⟨h1, h2, h3, h4, -⟩ := body_dispatch_selects_codec
  unfold bindBody
  cases c
  case none => exact absurd rfl hc
  case json => rw [h1]; exact cs.law _ v
  case xml => rw [h2]; exact cs.law _ v
  case cbor => rw [h3]; exact cs.law _ v
  case form => rw [h4]; exact cs.law _ v

/-- the codec hypothesis is satisfiable (identity codecs), and dispatch really discriminates: a body
    sent under a content type that selects no decoder is refused whatever the codecs are. -/
def idCodecs : BodyCodecs Bytes := { enc := fun _ v => v, dec := fun _ w => some w, law := fun _ _ => rfl }

example : bindBody idCodecs (clientCtype .xml) (idCodecs.enc .xml (b "<T/>")) = some (b "<T/>") ∧
    bindBody idCodecs (b "text/plain") (b "<T/>") = none := by
  repeat rw [b_ofList]
  decide +kernel

/-- **No index panic** in `parseParamSquareBrackets`, for every key: the checked version always
    returns, and returns what the list model returns. -/
theorem squareBrackets_total (k : Bytes) :
    squareBracketsIdx k.toArray 0 0 k.length = some (parseParamSquareBrackets k) := by
  have gen : ∀ (k pre : Bytes) (n : Nat),
      squareBracketsIdx (pre ++ k).toArray pre.length n k.length = some (squareBracketsAux k n) := by
    intro k
    induction k with
    | nil => intro pre n; simp [squareBracketsIdx, squareBracketsAux]
    | cons c cs ih =>
      intro pre n
      have ih' := fun n => ih (pre ++ [c]) n
      simp only [List.append_assoc, List.singleton_append, List.length_append, List.length_singleton] at ih'
      have hlt : pre.length < (pre ++ c :: cs).toArray.size := by simp
      have hc : (pre ++ c :: cs).toArray[pre.length] = c := by simp
      -- the guarded look at the next byte is the list model's look at the head of the rest
      have hdot : (if pre.length + 1 < (pre ++ c :: cs).toArray.size
            then ((pre ++ c :: cs).toArray[pre.length + 1]?).map (· != 93) else some false) =
          some (match (generalizing := false) cs with | [] => false | d :: _ => d != 93) := by
        cases cs <;> simp
      simp only [squareBracketsIdx, List.length_cons, hlt, dite_true, hc, squareBracketsAux, ih', hdot]
      cases c == 91
      · cases c == 93
        · cases squareBracketsAux cs n <;> rfl
        · cases n == 0 <;> rfl
      · cases squareBracketsAux cs (n + 1) <;> rfl
  exact gen k [] 0

example : parseParamSquareBrackets (b "a[b][c]") = some (b "a.b.c") ∧
          parseParamSquareBrackets (b "a[]") = some (b "a") ∧
          parseParamSquareBrackets (b "a[") = none ∧ parseParamSquareBrackets (b "a]") = none := by
  repeat rw [b_ofList]
  decide +kernel

/-- **No slice-bounds panic** in `ParseVendorSpecificContentType`, for every content type. -/
theorem parseVendor_total (c : Bytes) : parseVendorChecked c = some (parseVendor c) := by
  -- a '/' found at `slash` leaves room for `c[:slash+1]`, in whichever branch it is looked for
  have hslash : ∀ slash, indexByte c 47 = some slash → slash + 1 ≤ c.length := fun slash h => by
    have := indexByte_lt h
    omega
  unfold parseVendorChecked parseVendor sliceChecked
  cases hp : indexByte c 43 with
  | none => rfl
  | some plus =>
    have hpl := indexByte_lt hp
    cases hs : indexByte c 59 with
    | none =>
      have : plus + 1 ≤ c.length ∧ c.length ≤ c.length := ⟨by omega, Nat.le_refl _⟩
      simp only [this, and_self, if_true]
      cases hsl : indexByte c 47 with
      | none => rfl
      | some slash => simp [hslash slash hsl]
    | some semi =>
      have hsm := indexByte_lt hs
      by_cases hlt : plus < semi
      · have : plus + 1 ≤ semi ∧ semi ≤ c.length := ⟨by omega, by omega⟩
        simp only [hlt, if_true, this, and_self]
        cases hsl : indexByte c 47 with
        | none => rfl
        | some slash => simp [hslash slash hsl]
      · simp [hlt, show semi ≤ c.length by omega]

example : parseVendorChecked (b "application/vnd.api+json; charset=utf-8") = some (b "application/json") ∧
    parseVendorChecked (b "application/json; a+b") = some (b "application/json") ∧
    parseVendorChecked (b "+") = some (b "+") ∧ parseVendorChecked (b "a+b/c") = some (b "a+b/b/c") := by
  repeat rw [b_ofList]
  decide +kernel

end C11
