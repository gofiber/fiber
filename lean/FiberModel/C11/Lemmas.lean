import FiberModel.C11.Codec
import FiberModel.BasicLemmas
/-
C11 — the codec laws: percent-encoding, `k=v&…`, decimal and bool text.
-/
namespace C11
open B

theorem hex2int_hexUpper (n : Nat) (h : n < 16) : hex2int (hexUpper n) = some n := by
  unfold hexUpper
  by_cases h10 : n < 10
  · have h1 : 48 ≤ 48 + n ∧ 48 + n ≤ 57 := by omega
    simp [hex2int, h10, h1]
  · have h1 : ¬ (48 ≤ 55 + n ∧ 55 + n ≤ 57) := by omega
    have h2 : ¬ (97 ≤ 55 + n ∧ 55 + n ≤ 102) := by omega
    have h3 : 65 ≤ 55 + n ∧ 55 + n ≤ 70 := by omega
    simp [hex2int, h10, h1, h2, h3]

theorem hexUpper_ne (n : Nat) : hexUpper n ≠ 38 ∧ hexUpper n ≠ 61 := by
  unfold hexUpper; split <;> omega

theorem urldecode_plus (r : Bytes) : urldecode (43 :: r) = 32 :: urldecode r := by
  rcases r with _ | ⟨d, _ | ⟨e, tl⟩⟩ <;> simp [urldecode]

theorem urldecode_plain (c : Nat) (r : Bytes) (h1 : c ≠ 37) (h2 : c ≠ 43) :
    urldecode (c :: r) = c :: urldecode r := by
  rcases r with _ | ⟨d, _ | ⟨e, tl⟩⟩ <;> simp [urldecode, h1, h2]

theorem urldecode_pct (hi lo : Nat) (r : Bytes) (a b' : Nat)
    (ha : hex2int hi = some a) (hb : hex2int lo = some b') :
    urldecode (37 :: hi :: lo :: r) = (a * 16 + b') :: urldecode r := by
  simp [urldecode, ha, hb]

theorem unreserved_ne (c : Nat) (h : unreserved c = true) : c ≠ 37 ∧ c ≠ 43 ∧ c ≠ 38 ∧ c ≠ 61 := by
  unfold unreserved isAlpha isUpper isLower isDigit at h
  simp at h
  omega

theorem urldecode_quoteByte (c : Nat) (hc : c < 256) (r : Bytes) :
    urldecode (quoteByte c ++ r) = c :: urldecode r := by
  fun_cases quoteByte c
  case case1 h32 =>
    cases beq_iff_eq.mp h32
    exact urldecode_plus r
  case case2 _ hu => exact urldecode_plain c r (unreserved_ne c hu).1 (unreserved_ne c hu).2.1
  case case3 =>
    rw [List.cons_append, List.cons_append, List.cons_append, List.nil_append,
      urldecode_pct _ _ r _ _ (hex2int_hexUpper _ (by omega)) (hex2int_hexUpper _ (by omega))]
    congr 1
    omega

theorem quoteByte_clean (c : Nat) : ∀ x ∈ quoteByte c, x ≠ 38 ∧ x ≠ 61 := by
  fun_cases quoteByte c
  case case1 => decide
  case case2 _ hu => exact List.forall_mem_singleton.mpr ⟨(unreserved_ne c hu).2.2.1, (unreserved_ne c hu).2.2.2⟩
  case case3 =>
    exact List.forall_mem_cons.mpr ⟨by decide,
      List.forall_mem_cons.mpr ⟨hexUpper_ne _, List.forall_mem_singleton.mpr (hexUpper_ne _)⟩⟩

theorem urlencode_clean (s : Bytes) : ∀ x ∈ urlencode s, x ≠ 38 ∧ x ≠ 61 := by
  induction s with
  | nil => simp [urlencode]
  | cons c cs ih => exact List.forall_mem_append.mpr ⟨quoteByte_clean c, ih⟩

theorem urldecode_urlencode_append (s r : Bytes) (hs : ∀ c ∈ s, c < 256) :
    urldecode (urlencode s ++ r) = s ++ urldecode r := by
  induction s with
  | nil => simp [urlencode]
  | cons c cs ih =>
    simp only [urlencode, List.append_assoc]
    rw [urldecode_quoteByte c (hs c (by simp)), ih (fun c hc => hs c (by simp [hc]))]
    rfl

theorem cutEq_append (k v : Bytes) (hk : ∀ x ∈ k, x ≠ 61) : cutEq (k ++ 61 :: v) = (k, v) := by
  induction k with
  | nil => simp [cutEq]
  | cons x xs ih =>
    have hx : (x == 61) = false := by simpa using hk x (by simp)
    simp [cutEq, hx, ih (fun y hy => hk y (by simp [hy]))]

/-- fasthttp `decodeArgAppend ∘ AppendQuotedArg = id` on every byte string. -/
theorem urldecode_urlencode (s : Bytes) (hs : ∀ c ∈ s, c < 256) : urldecode (urlencode s) = s := by
  have := urldecode_urlencode_append s [] hs
  simpa [urldecode] using this

theorem parseSeg_renderArg (kv : Bytes × Bytes) (hk : ∀ c ∈ kv.1, c < 256) (hv : ∀ c ∈ kv.2, c < 256) :
    parseSeg (renderArg kv) = kv := by
  unfold parseSeg renderArg
  have h1 : ∀ x ∈ urlencode kv.1, x ≠ 61 := fun x hx => (urlencode_clean kv.1 x hx).2
  rw [List.append_assoc, List.singleton_append, cutEq_append _ _ h1]
  simp [urldecode_urlencode _ hk, urldecode_urlencode _ hv]

theorem renderArg_clean (kv : Bytes × Bytes) : ∀ x ∈ renderArg kv, x ≠ 38 :=
  List.forall_mem_append.mpr ⟨List.forall_mem_append.mpr ⟨fun x hx => (urlencode_clean _ x hx).1, by decide⟩,
    fun x hx => (urlencode_clean _ x hx).1⟩

theorem parseDigits_digit (d : Nat) (hd : d < 10) (rest : Bytes) (a : Nat) :
    parseDigits ((48 + d) :: rest) a = parseDigits rest (a * 10 + d) := by
  have : isDigit (48 + d) = true := by unfold isDigit; simp; omega
  simp [parseDigits, this]

theorem natDigitsAux_spec (fuel : Nat) : ∀ (n : Nat) (acc : Bytes), n < fuel →
    ∃ ds : Bytes, natDigitsAux fuel n acc = ds ++ acc ∧ ds ≠ [] ∧ (∀ d ∈ ds, isDigit d = true) ∧
      ∀ (a : Nat) (rest : Bytes), parseDigits (ds ++ rest) a = parseDigits rest (a * 10 ^ ds.length + n) := by
  intro n acc
  fun_induction natDigitsAux fuel n acc <;> intro hn
  case case1 => omega
  case case2 fuel n acc h10 =>
    refine ⟨[48 + n], rfl, by simp, ?_, ?_⟩
    · intro d hd; simp at hd; subst hd; unfold isDigit; simp; omega
    · intro a rest; simp [parseDigits_digit n h10]
  case case3 fuel n acc h10 ih =>
    obtain ⟨ds, h1, h2, h3, h4⟩ := ih (by omega)
    refine ⟨ds ++ [48 + n % 10], by simp [h1], by simp, ?_, ?_⟩
    · exact List.forall_mem_append.mpr ⟨h3, List.forall_mem_singleton.mpr (by unfold isDigit; simp; omega)⟩
    · intro a rest
      rw [List.append_assoc, h4, List.singleton_append, parseDigits_digit _ (by omega)]
      congr 1
      simp only [List.length_append, List.length_singleton, Nat.pow_succ]
      have : (a * 10 ^ ds.length + n / 10) * 10 = a * (10 ^ ds.length * 10) + n / 10 * 10 := by
        rw [Nat.add_mul, Nat.mul_assoc]
      omega

theorem formatNat_spec (n : Nat) :
    formatNat n ≠ [] ∧ (∀ d ∈ formatNat n, isDigit d = true) ∧ ∀ (a : Nat) (rest : Bytes),
      parseDigits (formatNat n ++ rest) a = parseDigits rest (a * 10 ^ (formatNat n).length + n) := by
  obtain ⟨ds, h1, h⟩ := natDigitsAux_spec (n + 1) n [] (by omega)
  rw [formatNat, h1, List.append_nil]
  exact h

theorem parseNat_formatNat (n : Nat) : parseNat (formatNat n) = some n := by
  obtain ⟨hne, _, hp⟩ := formatNat_spec n
  have := hp 0 []
  rw [List.append_nil, Nat.zero_mul, Nat.zero_add] at this
  rw [parseNat, if_neg (by simpa using hne), this]
  rfl

/-- the text starts with a digit, so with no sign -/
theorem formatNat_head (n : Nat) : ∃ d ds, formatNat n = d :: ds ∧ (d == 43) = false ∧ (d == 45) = false := by
  obtain ⟨h1, h2, _⟩ := formatNat_spec n
  cases h : formatNat n with
  | nil => exact absurd h h1
  | cons d ds =>
    have := h2 d (by simp [h])
    simp only [isDigit, Bool.and_eq_true, decide_eq_true_eq] at this
    exact ⟨d, ds, rfl, by simp; omega, by simp; omega⟩

/-- Items written with a separator and read back by splitting: the args codec (`&`, `pad = []`; also C18's, with
    valueless keys) and the cookie codec (`"; "`, `pad = [32]`) are the instances. `hparse` asks for both forms because only
    the segments behind the first carry the padding; `hnil`: the empty segment is all that an empty
    list leaves. -/
theorem parse_split_join {α : Type} (c : Nat) (pad : Bytes) (render : α → Bytes) (parse : Bytes → α)
    (keep : α → Bool) (xs : List α) (hpad : ∀ x ∈ pad, x ≠ c)
    (hclean : ∀ a ∈ xs, ∀ x ∈ render a, x ≠ c)
    (hparse : ∀ a ∈ xs, parse (render a) = a ∧ parse (pad ++ render a) = a)
    (hkeep : ∀ a ∈ xs, keep a = true) (hnil : keep (parse []) = false) :
    ((splitOn (join (xs.map render) (c :: pad)) c).map parse).filter keep = xs := by
  cases xs with
  | nil => simp [join, splitOn, splitOn.go, hnil]
  | cons a as =>
    have has : as.map ((parse ∘ (pad ++ ·)) ∘ render) = as :=
      (List.map_congr_left fun b hb => (hparse b (by simp [hb])).2).trans (List.map_id as)
    rw [List.map_cons, splitOn_join_pad c (List.not_mem_of_forall_ne hpad) (List.not_mem_of_forall_ne (hclean a (by simp)))
        (List.forall_mem_map.mpr fun b hb => List.not_mem_of_forall_ne (hclean b (by simp [hb]))), List.map_cons,
      List.map_map, List.map_map, (hparse a (by simp)).1, has]
    exact List.filter_eq_self.mpr hkeep

/-- `Args.ParseBytes ∘ Args.QueryString = id` for args that are not entirely empty. -/
theorem parseArgs_renderArgs (args : List (Bytes × Bytes))
    (hb : ∀ kv ∈ args, (∀ c ∈ kv.1, c < 256) ∧ (∀ c ∈ kv.2, c < 256))
    (hne : ∀ kv ∈ args, ¬ (kv.1 = [] ∧ kv.2 = [])) :
    parseArgs (renderArgs args) = args :=
  parse_split_join 38 [] renderArg parseSeg (fun kv => !(kv.1.isEmpty && kv.2.isEmpty)) args nofun
    (fun kv _ => renderArg_clean kv)
    (fun kv h => ⟨parseSeg_renderArg kv (hb kv h).1 (hb kv h).2, parseSeg_renderArg kv (hb kv h).1 (hb kv h).2⟩)
    (fun kv h => by
      rcases kv with ⟨_ | _, _ | _⟩
      · exact absurd ⟨rfl, rfl⟩ (hne _ h)
      all_goals rfl)
    rfl

/-- `strconv.ParseUint(FormatUint(n), 10, bits) = n` for every `n < 2^bits`. -/
theorem parseUint_formatUint (bits n : Nat) (h : n < 2 ^ bits) : parseUint bits (formatNat n) = some n := by
  unfold parseUint
  simp [parseNat_formatNat, h]

/-- `strconv.ParseInt(FormatInt(i), 10, bits) = i` for every `i` of that bit size. -/
theorem parseInt_formatInt (bits : Nat) (i : Int)
    (h : -(2 ^ (bits - 1) : Int) ≤ i ∧ i < (2 ^ (bits - 1) : Int)) :
    parseInt bits (formatInt i) = some i := by
  have hp := parseNat_formatNat i.natAbs
  have hcast : ((2 ^ (bits - 1) : Nat) : Int) = (2 ^ (bits - 1) : Int) := by simp
  unfold formatInt
  by_cases hneg : i < 0
  · have hle : i.natAbs ≤ 2 ^ (bits - 1) := by omega
    simp [hneg, parseInt, hp, hle]
    omega
  · obtain ⟨d, ds, hd, h43, h45⟩ := formatNat_head i.natAbs
    rw [hd] at hp
    have hlt : i.natAbs < 2 ^ (bits - 1) := by omega
    simp [hneg, hd, parseInt, h45, h43, hp, hlt]
    omega

/-- `strconv.ParseBool` (plus gofiber/schema's "on") reads back what the client writes for a bool. -/
theorem parseBool_formatBool (v : Bool) : parseBool (formatBool v) = some v := by
  cases v <;> decide

end C11
