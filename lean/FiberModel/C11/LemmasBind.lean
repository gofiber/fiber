import FiberModel.C11.Spec
import FiberModel.C11.Lemmas
import FiberModel.ListLemmas
/-
C11 — the struct-level round trip: the data map built by the binders from the client's pairs, field
lookup, text → value, the core theorem `bind_clientPairs_gen`, pairs no field answers to, fasthttp's
header-name spelling, what the cookie map keeps, the bracket-error clause (`collect_malformed`); at the
end the data map read as a finite map (`keysOf`, `dataFind`, `lookupField_eq_find`).
-/
namespace C11
open B

/-- what `collect` builds when no key is bracketed and no value is split (`collect_plain`) -/
def groupPairs (pairs : List (Bytes × Bytes)) (d : List (Bytes × List Bytes)) : List (Bytes × List Bytes) :=
  pairs.foldl (fun d kv => dataAppend d kv.1 [kv.2]) d

theorem groupPairs_cons (kv : Bytes × Bytes) (rest : List (Bytes × Bytes)) (d : List (Bytes × List Bytes)) :
    groupPairs (kv :: rest) d = groupPairs rest (dataAppend d kv.1 [kv.2]) := rfl

theorem dataAppend_filter (p : Bytes → Bool) (d : List (Bytes × List Bytes)) (k : Bytes) (vs : List Bytes) :
    (dataAppend d k vs).filter (fun kv => p kv.1) =
      if p k then dataAppend (d.filter fun kv => p kv.1) k vs else d.filter fun kv => p kv.1 := by
  fun_induction dataAppend d k vs
  case case1 k vs => cases hp : p k <;> simp [dataAppend, hp]
  case case2 vs' rest k vs => cases hp : p k <;> simp [dataAppend, hp]
  case case3 k' vs' rest k vs hk ih =>
    rw [List.filter_cons, List.filter_cons, ih]
    cases p k <;> cases p k' <;> simp [dataAppend, hk]

theorem groupPairs_filter (p : Bytes → Bool) (pairs : List (Bytes × Bytes)) (d : List (Bytes × List Bytes)) :
    (groupPairs pairs d).filter (fun e => p e.1) =
      groupPairs (pairs.filter fun kv => p kv.1) (d.filter fun e => p e.1) := by
  induction pairs generalizing d with
  | nil => rfl
  | cons kv rest ih =>
    rw [groupPairs_cons, ih, dataAppend_filter, List.filter_cons]
    split <;> rfl

theorem groupPairs_sameKey (k : Bytes) (pairs : List (Bytes × Bytes)) (h : ∀ kv ∈ pairs, kv.1 = k)
    (vs : List Bytes) :
    groupPairs pairs [(k, vs)] = [(k, vs ++ pairs.map (·.2))] := by
  induction pairs generalizing vs with
  | nil => simp [groupPairs]
  | cons kv rest ih =>
    rw [groupPairs_cons, dataAppend, if_pos (h kv (by simp)).symm,
      ih (fun j hj => h j (by simp [hj])), List.map_cons, List.append_assoc]
    rfl

theorem collect_plain (sliceKey : Bytes → Bool) (split brackets : Bool) (pairs : List (Bytes × Bytes))
    (d : List (Bytes × List Bytes))
    (hb : ∀ kv ∈ pairs, kv.1.contains 91 = false)
    (hs : ∀ kv ∈ pairs, (split && kv.2.contains 44) = false) :
    collect sliceKey split brackets pairs d = some (groupPairs pairs d) := by
  induction pairs generalizing d with
  | nil => rfl
  | cons kv rest ih =>
    have : formatBindData sliceKey split brackets d kv.1 kv.2 = some (dataAppend d kv.1 [kv.2]) := by
      unfold formatBindData assignBindData
      rw [hb kv (by simp), hs kv (by simp)]; simp
    simp only [collect, this, groupPairs_cons]
    exact ih _ (fun kv h => hb kv (by simp [h])) (fun kv h => hs kv (by simp [h]))

theorem toLower_contains_dot (a : Bytes) : (toLower a).contains 46 = a.contains 46 :=
  toLower_contains a 46 rfl rfl

/-- a byte that is no letter occurs in a spelling iff it occurs in its lower-cased form: re-spelling a
    name by case only brings in no such byte -/
theorem recased_contains_false {a a' : Bytes} (h : toLower a' = toLower a) (x : Nat)
    (hu : isUpper x = false) (hw : isLower x = false) (hne : ∀ c ∈ a, c ≠ x) : a'.contains x = false := by
  rw [← toLower_contains a' x hu hw, h, toLower_contains a x hu hw]
  exact List.contains_eq_false_of_forall_ne hne

theorem aliasOK_byte {a : Bytes} (h : aliasOK a = true) :
    a ≠ [] ∧ ∀ c ∈ a, (65 ≤ c ∧ c ≤ 90) ∨ (97 ≤ c ∧ c ≤ 122) ∨ (48 ≤ c ∧ c ≤ 57) ∨ c = 45 := by
  unfold aliasOK at h
  simp only [Bool.and_eq_true, Bool.not_eq_true', List.isEmpty_eq_false_iff, List.all_eq_true] at h
  refine ⟨h.1, fun c hc => ?_⟩
  have := h.2 c hc
  simp only [isAlpha, isUpper, isLower, isDigit, Bool.or_eq_true, Bool.and_eq_true, decide_eq_true_eq,
    beq_iff_eq] at this
  omega

theorem aliasOK_ne {a : Bytes} (h : aliasOK a = true) {x : Nat}
    (hx : ¬ (65 ≤ x ∧ x ≤ 90) ∧ ¬ (97 ≤ x ∧ x ≤ 122) ∧ ¬ (48 ≤ x ∧ x ≤ 57) ∧ x ≠ 45) : ∀ c ∈ a, c ≠ x :=
  fun c hc => by have := (aliasOK_byte h).2 c hc; omega

theorem lookupField_filter (p : Bytes → Bool) (d : List (Bytes × List Bytes)) (al : Bytes)
    (hp : ∀ k, toLower k = toLower al → p k = true) :
    lookupField (d.filter fun kv => p kv.1) al = lookupField d al := by
  unfold lookupField
  rw [List.filter_filter]
  congr 2
  apply List.filter_congr
  intro kv _
  by_cases h : toLower kv.1 = toLower al
  · simp [h, hp kv.1 h]
  · simp [h]

/-- What a field finds in the data map, whatever other keys the pairs carry. `dataAppend` extends the
    first entry of a key and `lookupField` reads the last one that matches: cut down to the keys that
    match the alias (all spelled `k`, `hsame`), the map has one entry. -/
theorem lookupField_groupPairs (pairs : List (Bytes × Bytes)) (al k : Bytes)
    (hsame : ∀ kv ∈ pairs, toLower kv.1 = toLower al → kv.1 = k)
    (hlow : toLower k = toLower al) (hdot : k.contains 46 = false) :
    lookupField (groupPairs pairs []) al =
      match (pairs.filter (·.1 = k)).map (·.2) with
      | [] => none
      | vs => some vs := by
  have hcls : pairs.filter (fun kv => toLower kv.1 == toLower al) = pairs.filter (·.1 = k) :=
    List.filter_congr fun kv hkv => by
      by_cases h : kv.1 = k
      · simp [h, hlow]
      · simpa [h] using fun e => h (hsame kv hkv e)
  rw [← lookupField_filter (fun x => toLower x == toLower al) _ al (fun x hx => by simpa using hx),
    groupPairs_filter (fun x => toLower x == toLower al), hcls]
  have hall : ∀ kv ∈ pairs.filter (·.1 = k), kv.1 = k := fun kv h => of_decide_eq_true (List.mem_filter.mp h).2
  generalize pairs.filter (·.1 = k) = ps at hall
  cases ps with
  | nil => rfl
  | cons kv rest =>
    obtain ⟨k', v⟩ := kv
    cases hall (k', v) (by simp)
    have hd : ¬ 46 ∈ k' := by simpa using hdot
    rw [List.filter_nil, groupPairs_cons, dataAppend,
      groupPairs_sameKey k' rest (fun j hj => hall j (by simp [hj]))]
    simp only at hlow
    simp [lookupField, hd, hlow]

theorem forall_mem_clientPairsN {norm : Bytes → Bytes} {st : Struct} {P : Bytes × Bytes → Prop} :
    (∀ kv ∈ clientPairsN norm st, P kv) ↔ ∀ f ∈ st, ∀ v ∈ f.vals, P (norm f.spec.calias, textOf v) := by
  simp only [clientPairsN, List.forall_mem_flatMap, List.forall_mem_map]

theorem forall_mem_clientPairs {st : Struct} {P : Bytes × Bytes → Prop} :
    (∀ kv ∈ clientPairs st, P kv) ↔ ∀ f ∈ st, ∀ v ∈ f.vals, P (f.spec.calias, textOf v) :=
  forall_mem_clientPairsN (norm := fun k => k)

theorem filter_clientPairsN (norm : Bytes → Bytes) (st : Struct)
    (hn : (st.map fun f => norm f.spec.calias).Nodup) (f : Field) (hf : f ∈ st) :
    ((clientPairsN norm st).filter (·.1 = norm f.spec.calias)).map (·.2) = f.vals.map textOf := by
  have hfield : ∀ g : Field, ((g.vals.map fun v => (norm g.spec.calias, textOf v)).filter
      (·.1 = norm f.spec.calias)).map (·.2) = if norm g.spec.calias = norm f.spec.calias then g.vals.map textOf else [] := by
    intro g
    by_cases h : norm g.spec.calias = norm f.spec.calias
    · rw [if_pos h, List.filter_eq_self.mpr (by
        intro e he; obtain ⟨v, _, rfl⟩ := List.mem_map.mp he; exact decide_eq_true h), List.map_map]
      rfl
    · rw [if_neg h, List.filter_eq_nil_iff.mpr (by
        intro e he; obtain ⟨v, _, rfl⟩ := List.mem_map.mp he; simpa using h), List.map_nil]
  induction st with
  | nil => cases hf
  | cons g rest ih =>
    simp only [List.map_cons, List.nodup_cons] at hn
    rw [show clientPairsN norm (g :: rest) = _ ++ clientPairsN norm rest from List.flatMap_cons ..,
      List.filter_append, List.map_append, hfield]
    rcases List.mem_cons.mp hf with rfl | hf'
    · have h2 : (clientPairsN norm rest).filter (·.1 = norm f.spec.calias) = [] :=
        List.filter_eq_nil_iff.mpr (forall_mem_clientPairsN.mpr fun g' hg' v _ hek =>
          hn.1 (of_decide_eq_true hek ▸ List.mem_map_of_mem (f := fun x => norm x.spec.calias) hg'))
      rw [if_pos rfl, h2, List.map_nil, List.append_nil]
    · have hne : norm g.spec.calias ≠ norm f.spec.calias := fun e =>
        hn.1 (e ▸ List.mem_map_of_mem (f := fun x => norm x.spec.calias) hf')
      rw [if_neg hne, ih hn.2 hf', List.nil_append]

theorem filter_clientPairs (st : Struct) (hn : (st.map (·.spec.calias)).Nodup) (f : Field) (hf : f ∈ st) :
    ((clientPairs st).filter (·.1 = f.spec.calias)).map (·.2) = f.vals.map textOf :=
  filter_clientPairsN (fun k => k) st hn f hf

/-- the float parser agrees with the client's float formatter on the float texts of a value: parsed
    with the bit size of the field it stands in, a text comes back as the same (canonical) text -/
def FloatOK (floatConv : Nat → Bytes → Option Bytes) (st : Struct) : Prop :=
  ∀ f ∈ st, ∀ t, Val.float t ∈ f.vals → t ≠ [] ∧ t.contains 44 = false ∧
    ∀ bits, f.spec.kind = .float bits → floatConv bits t = some t

/-- One statement for the three kinds whose text the client generates (int, uint, bool), so that the consumers
    (`textOf_noComma`, `textOf_bytes`) close them by one `| _ =>` branch after their `cases v`; a string or a float
    text is arbitrary. Use at a constructor (`textOf_generated (.int i)`) or after `cases v`. -/
theorem textOf_generated (v : Val) :
    match v with
    | .str _ | .float _ => True
    | v => textOf v ≠ [] ∧ ∀ c ∈ textOf v, c = 45 ∨ (48 ≤ c ∧ c ≤ 57) ∨ (97 ≤ c ∧ c ≤ 122) := by
  have hnat : ∀ n, formatNat n ≠ [] ∧ ∀ c ∈ formatNat n, c = 45 ∨ (48 ≤ c ∧ c ≤ 57) ∨ (97 ≤ c ∧ c ≤ 122) :=
    fun n => ⟨(formatNat_spec n).1, fun c hc => by
      have := (formatNat_spec n).2.1 c hc
      simp only [isDigit, Bool.and_eq_true, decide_eq_true_eq] at this
      exact Or.inr (Or.inl this)⟩
  cases v with
  | str s => trivial
  | float t => trivial
  | uint n => exact hnat n
  | int i =>
    simp only [textOf, formatInt]
    split
    · exact ⟨by simp, fun c hc => by
        rcases List.mem_cons.mp hc with rfl | hc
        · exact Or.inl rfl
        · exact (hnat _).2 c hc⟩
    · exact hnat _
  | bool bv => cases bv <;> (simp only [textOf, formatBool]; rw [b_ofList]; decide)

theorem decode_text (floatConv : Nat → Bytes → Option Bytes) (fz : Bytes) (k : Kind) (v : Val)
    (hfit : v.fits k = true)
    (hfl : ∀ t, v = .float t → t ≠ [] ∧ ∀ bits, k = .float bits → floatConv bits t = some t) :
    (if (textOf v).isEmpty then some (zeroOf fz k) else convert floatConv k (textOf v)) = some v := by
  revert hfit
  -- the cases of `fits`: a string, an int, a uint, a bool, a float in a field of its kind; any other pairing does not fit
  fun_cases Val.fits v k <;> intro hfit
  case case1 s =>
    by_cases hs : s = []
    · subst hs; simp [textOf, zeroOf]
    · simp [textOf, hs, convert]
  case case2 i bits =>
    have : formatInt i ≠ [] := (textOf_generated (.int i)).1
    simp [textOf, this, convert, parseInt_formatInt bits i (of_decide_eq_true hfit)]
  case case3 n bits =>
    have : formatNat n ≠ [] := (textOf_generated (.uint n)).1
    simp [textOf, this, convert, parseUint_formatUint bits n (of_decide_eq_true hfit)]
  case case4 bv =>
    have : formatBool bv ≠ [] := (textOf_generated (.bool bv)).1
    simp [textOf, this, convert, parseBool_formatBool]
  case case5 t bits =>
    obtain ⟨h1, h2⟩ := hfl t rfl
    simp [textOf, h1, convert, h2 bits rfl]
  case case6 => cases hfit

theorem decodeSlice_texts (floatConv : Nat → Bytes → Option Bytes) (fz : Bytes) (k : Kind) (vs : List Val)
    (hfit : ∀ v ∈ vs, v.fits k = true)
    (hfl : ∀ t, Val.float t ∈ vs → t ≠ [] ∧ ∀ bits, k = .float bits → floatConv bits t = some t) :
    decodeSlice (convert floatConv k) (zeroOf fz k) (vs.map textOf) = some vs := by
  induction vs with
  | nil => simp [decodeSlice]
  | cons v rest ih =>
    have h := decode_text floatConv fz k v (hfit v (by simp)) (fun t e => hfl t (by simp [e]))
    have ih' := ih (fun v hv => hfit v (by simp [hv])) (fun t ht => hfl t (by simp [ht]))
    simp only [List.map_cons, decodeSlice, ih']
    -- `decode_text` says `some v` whether the text is empty or not; the split only feeds the two `if`s
    cases he : (textOf v).isEmpty <;> simp [he] at h ⊢ <;> simp [h]

theorem textOf_noComma (v : Val) (h : hasComma v = false) (hf : ∀ t, v = .float t → t.contains 44 = false) :
    (textOf v).contains 44 = false := by
  have g := textOf_generated v
  cases v with
  | str s => simpa [hasComma, textOf] using h
  | float t => exact hf t rfl
  | _ => exact List.contains_eq_false_of_forall_ne fun c hc => by have := g.2 c hc; omega

theorem nodupB_iff (l : List Bytes) : nodupB l = true ↔ l.Nodup := by
  induction l with
  | nil => simp [nodupB]
  | cons x xs ih => simp [nodupB, ih]

/-- every string value holds bytes only. Float texts are not looked at (`bytesOK (.float _) = true`): the theorems
    that put them on the wire (`bind_roundtrip_query`, `_form`) ask it of them separately (`hfb`). -/
def bytesStruct (st : Struct) : Prop := ∀ f ∈ st, ∀ v ∈ f.vals, bytesOK v = true

theorem textOf_bytes (v : Val) (hb : bytesOK v = true) (hf : ∀ t, v = .float t → ∀ c ∈ t, c < 256) :
    ∀ c ∈ textOf v, c < 256 := by
  have g := textOf_generated v
  cases v with
  | str s => simpa [bytesOK, textOf] using hb
  | float t => exact hf t rfl
  | _ => exact fun c hc => by have := g.2 c hc; omega

theorem specsOK_iff (st : Struct) : specsOK (st.map (·.spec)) = true ↔
    (∀ f ∈ st, aliasOK f.spec.calias = true ∧ f.spec.salias = f.spec.calias) ∧
      (st.map fun f => toLower f.spec.salias).Nodup := by
  unfold specsOK
  simp only [Bool.and_eq_true, List.all_eq_true, List.mem_map, forall_exists_index, and_imp,
    forall_apply_eq_imp_iff₂, beq_iff_eq, List.map_map, nodupB_iff, Function.comp_def]

theorem specsOK_alias {st : Struct} (hspecs : specsOK (st.map (·.spec)) = true) {f : Field} (hf : f ∈ st) :
    aliasOK f.spec.calias = true :=
  (((specsOK_iff st).mp hspecs).1 f hf).1

theorem parseArgs_clientPairs (st : Struct)
    (hspecs : specsOK (st.map (·.spec)) = true)
    (hfb : ∀ f ∈ st, ∀ t, Val.float t ∈ f.vals → ∀ c ∈ t, c < 256)
    (hbytes : bytesStruct st) :
    parseArgs (renderArgs (clientPairs st)) = clientPairs st := by
  have hal := fun f (hf : f ∈ st) => aliasOK_byte (specsOK_alias hspecs hf)
  apply parseArgs_renderArgs <;> rw [forall_mem_clientPairs]
  · exact fun f hf v hv => ⟨fun c hc => by have := (hal f hf).2 c hc; omega,
      textOf_bytes v (hbytes f hf v hv) (fun t e => hfb f hf t (e ▸ hv))⟩
  · exact fun f hf v _ h => (hal f hf).1 h.1

theorem clientPairsN_eq_map (norm : Bytes → Bytes) (st : Struct) :
    clientPairsN norm st = (clientPairs st).map fun kv => (norm kv.1, kv.2) := by
  simp [clientPairsN, clientPairs, List.map_flatMap, List.map_map, Function.comp_def]

theorem wellTyped_iff {f : Field} : f.wellTyped = true ↔
    (f.spec.isSlice = true ∨ f.vals.length = 1) ∧ ∀ v ∈ f.vals, v.fits f.spec.kind = true := by
  simp only [Field.wellTyped, Bool.and_eq_true, Bool.or_eq_true, beq_iff_eq, List.all_eq_true]

theorem noCommas_iff {st : Struct} : noCommas st = true ↔ ∀ f ∈ st, ∀ v ∈ f.vals, hasComma v = false := by
  simp only [noCommas, List.all_eq_true, Bool.not_eq_true']

theorem decodeField_texts (floatConv : Nat → Bytes → Option Bytes) (fz : Bytes)
    (data : List (Bytes × List Bytes)) (f : Field) (hty : f.wellTyped = true)
    (hfl : ∀ t, Val.float t ∈ f.vals → t ≠ [] ∧ ∀ bits, f.spec.kind = .float bits → floatConv bits t = some t)
    (hlook : lookupField data f.spec.salias = match f.vals.map textOf with
      | [] => none
      | vs => some vs) :
    decodeField floatConv fz data f.spec = (f.vals, false) := by
  obtain ⟨hshape, hfits⟩ := wellTyped_iff.mp hty
  unfold decodeField
  rw [hlook]
  cases hvals : f.vals with
  | nil =>
    rcases hshape with hs | hs
    · simp [hs]
    · rw [hvals] at hs; cases hs
  | cons v rest =>
    rw [hvals] at hfits hfl hshape
    by_cases hs : f.spec.isSlice = true
    · have := decodeSlice_texts floatConv fz f.spec.kind (v :: rest) hfits hfl
      simp only [List.map_cons] at this ⊢
      simp [hs, this]
    · have hrest : rest = [] := by
        rcases hshape with h | h
        · exact absurd h hs
        · simpa using h
      subst hrest
      have hd := decode_text floatConv fz f.spec.kind v (hfits v (by simp)) (fun t e => hfl t (by simp [e]))
      simp only [hs, Bool.false_eq_true, if_false, List.map_cons, List.map_nil, decodeScalar,
        List.getLast?_singleton]
      rw [hd]

theorem decodeFields_congr (floatConv : Nat → Bytes → Option Bytes) (fz : Bytes) (specs : List FieldSpec)
    (d d' : List (Bytes × List Bytes)) (h : ∀ f ∈ specs, lookupField d f.salias = lookupField d' f.salias) :
    decodeFields floatConv fz specs d = decodeFields floatConv fz specs d' := by
  unfold decodeFields
  rw [List.map_congr_left (g := fun f => (f, decodeField floatConv fz d' f)) fun f hf => by
    unfold decodeField; rw [h f hf]]

theorem decodeFields_eq (floatConv : Nat → Bytes → Option Bytes) (fz : Bytes)
    (data : List (Bytes × List Bytes)) (st : Struct)
    (h : ∀ f ∈ st, decodeField floatConv fz data f.spec = (f.vals, false)) :
    decodeFields floatConv fz (st.map (·.spec)) data = (st, false) := by
  unfold decodeFields
  rw [List.map_map, List.map_congr_left (g := fun f => (f.spec, f.vals, false)) fun f hf => by
    rw [Function.comp_apply, h f hf]]
  simp [List.map_map, Function.comp_def]

/-- Binding the pairs `SetValWithStruct` produced gives the struct back, with no error — whatever
    order `order` the transport delivers the *fields* in (a Go map iteration for multipart; the
    declaration order for the others) and however it re-spells the names (`norm`: any rewriting that
    changes ASCII case only — fasthttp's header-name canonicalisation is one). -/
theorem bind_clientPairs_gen (floatConv : Nat → Bytes → Option Bytes) (fz : Bytes) (st order : Struct)
    (src : Source) (split : Bool) (norm : Bytes → Bytes)
    (hperm : order.Perm st)
    (hnorm : ∀ f ∈ st, toLower (norm f.spec.calias) = toLower f.spec.calias)
    (hspecs : specsOK (st.map (·.spec)) = true)
    (htyped : ∀ f ∈ st, f.wellTyped = true)
    (hfloat : FloatOK floatConv st)
    (hsplit : split = true → noCommas st = true) :
    bindPairs floatConv fz (st.map (·.spec)) src split (clientPairsN norm order) = { value := st, err := false } := by
  obtain ⟨hal, hnd⟩ := (specsOK_iff st).mp hspecs
  -- no key needs bracket normalisation (an alias holds no '[', so neither does a re-spelling of it), no
  -- value is split
  have hcollect := collect_plain (equalFieldType (st.map (·.spec))) split src.brackets (clientPairsN norm order) []
    (forall_mem_clientPairsN.mpr fun f hf _ _ =>
      have hf := hperm.mem_iff.mp hf
      recased_contains_false (hnorm f hf) 91 rfl rfl (aliasOK_ne (hal f hf).1 (by omega)))
    (forall_mem_clientPairsN.mpr fun f hf v hv => by
      cases split with
      | false => rfl
      | true =>
        have hf := hperm.mem_iff.mp hf
        exact (Bool.true_and _).trans (textOf_noComma v (noCommas_iff.mp (hsplit rfl) f hf v hv)
          fun t e => (hfloat f hf t (e ▸ hv)).2.1))
  -- every field finds exactly its own texts under its key: no other field's key matches its alias
  have hlow : ∀ f ∈ st, toLower (norm f.spec.calias) = toLower f.spec.salias := fun f hf => by
    rw [hnorm f hf, (hal f hf).2]
  have hndOrder : (order.map fun f => norm f.spec.calias).Nodup :=
    (hperm.map fun f => norm f.spec.calias).nodup_iff.mpr (List.nodup_of_nodup_map toLower (by
      rw [List.map_map, Function.comp_def, List.map_congr_left (g := fun f => toLower f.spec.salias) hlow]
      exact hnd))
  have hlook : ∀ f ∈ st, lookupField (groupPairs (clientPairsN norm order) []) f.spec.salias =
      match f.vals.map textOf with
      | [] => none
      | vs => some vs := fun f hf => by
    rw [lookupField_groupPairs _ _ (norm f.spec.calias)
        (forall_mem_clientPairsN.mpr fun g hg _ _ e => by
          have hg := hperm.mem_iff.mp hg
          rw [List.inj_of_nodup_map (fun f : Field => toLower f.spec.salias) hnd hg hf ((hlow g hg).symm.trans e)])
        (hlow f hf) (recased_contains_false (hnorm f hf) 46 rfl rfl (aliasOK_ne (hal f hf).1 (by omega))),
      filter_clientPairsN norm order hndOrder f (hperm.mem_iff.mpr hf)]
  unfold bindPairs
  rw [hcollect]
  simp only
  rw [decodeFields_eq floatConv fz _ st fun f hf =>
    decodeField_texts floatConv fz _ f (htyped f hf)
      (fun t ht => ⟨(hfloat f hf t ht).1, (hfloat f hf t ht).2.2⟩) (hlook f hf)]

theorem collect_filter (p : Bytes → Bool) (sliceKey : Bytes → Bool) (split : Bool)
    (pairs : List (Bytes × Bytes)) (d : List (Bytes × List Bytes)) :
    (collect sliceKey split false pairs d).map (fun d => d.filter fun kv => p kv.1) =
      collect sliceKey split false (pairs.filter fun kv => p kv.1) (d.filter fun kv => p kv.1) := by
  induction pairs generalizing d with
  | nil => simp [collect]
  | cons kv rest ih =>
    obtain ⟨k, v⟩ := kv
    have hf : ∀ d', formatBindData sliceKey split false d' k v = some (assignBindData sliceKey split d' k v) := by
      intro d'; simp [formatBindData]
    have ha : (assignBindData sliceKey split d k v).filter (fun kv => p kv.1) =
        if p k then assignBindData sliceKey split (d.filter fun kv => p kv.1) k v else d.filter fun kv => p kv.1 := by
      unfold assignBindData
      split <;> exact dataAppend_filter p d k _
    simp only [collect, hf]
    rw [ih]
    by_cases hp : p k
    · simp [hp, collect, hf, ha]
    · simp [hp, ha]

theorem bindPairs_ignores_unrelated (floatConv : Nat → Bytes → Option Bytes) (fz : Bytes)
    (specs : List FieldSpec) (src : Source) (split : Bool) (pairs : List (Bytes × Bytes))
    (p : Bytes → Bool) (hsrc : src.brackets = false)
    (hp : ∀ f ∈ specs, ∀ k, toLower k = toLower f.salias → p k = true) :
    bindPairs floatConv fz specs src split pairs =
      bindPairs floatConv fz specs src split (pairs.filter fun kv => p kv.1) := by
  unfold bindPairs
  rw [hsrc]
  have hc := collect_filter p (equalFieldType specs) split pairs []
  simp only [List.filter_nil] at hc
  rw [← hc]
  cases hcol : collect (equalFieldType specs) split false pairs [] with
  | none => simp
  | some data =>
    simp only [Option.map_some, decodeFields_congr floatConv fz specs _ data fun f hf =>
      lookupField_filter p data f.salias (hp f hf)]

theorem toLower_normGo (s : Bytes) (up : Bool) : toLower (normalizeHeaderKey.go s up) = toLower s := by
  -- every branch emits a byte that folds as the byte read does, and goes on
  fun_induction normalizeHeaderKey.go s up <;>
    simp_all only [toLower, List.map_cons, List.map_nil, lowerByte_upperByte, lowerByte_idem]

theorem toLower_normalizeHeaderKey (s : Bytes) : toLower (normalizeHeaderKey s) = toLower s := by
  cases s with
  | nil => rfl
  | cons c cs =>
    have := toLower_normGo cs false
    simp only [normalizeHeaderKey, toLower, List.map_cons, lowerByte_upperByte] at this ⊢
    rw [this]

theorem Field.lastOnly_vals (f : Field) : f.lastOnly.vals = f.vals.getLast?.toList := by
  unfold Field.lastOnly
  cases f.vals.getLast? <;> rfl

theorem cookiePairs_lastOnly (st : Struct) : cookiePairs st = clientPairs (lastOnly st) := by
  induction st with
  | nil => rfl
  | cons f rest ih =>
    simp only [cookiePairs, clientPairs, lastOnly, List.filterMap_cons, List.flatMap_cons, List.map_cons,
      Field.lastOnly_vals] at ih ⊢
    cases f.vals.getLast? <;> simp [Field.lastOnly, ih]

theorem mem_lastOnly_vals {f : Field} {v : Val} (h : v ∈ f.lastOnly.vals) : v ∈ f.vals :=
  List.mem_of_getLast? (Option.mem_toList.mp (f.lastOnly_vals ▸ h))

theorem lastOnly_wellTyped {f : Field} (h : f.wellTyped = true) : f.lastOnly.wellTyped = true := by
  rw [wellTyped_iff] at h ⊢
  refine ⟨?_, fun v hv => h.2 v (mem_lastOnly_vals hv)⟩
  unfold Field.lastOnly
  cases hl : f.vals.getLast? with
  | none =>
    rw [List.getLast?_eq_none_iff.mp hl] at h
    exact h.1.imp_right nofun
  | some w => exact Or.inr rfl

theorem lastOnly_specs (st : Struct) : (lastOnly st).map (·.spec) = st.map (·.spec) := by
  simp [lastOnly, Field.lastOnly, List.map_map, Function.comp_def]

theorem Field.lastOnly_id {f : Field} (h : ¬ f.vals.length ≥ 2) : f.lastOnly = f := by
  obtain ⟨spec, vals⟩ := f
  rcases vals with _ | ⟨v, _ | ⟨w, ws⟩⟩
  · rfl
  · rfl
  · exact absurd (by simp) h

theorem lastOnly_id (st : Struct) (h : multiValuedSlice st = false) : lastOnly st = st := by
  unfold multiValuedSlice at h
  simp only [List.any_eq_false, decide_eq_true_eq] at h
  exact (List.map_congr_left fun f hf => Field.lastOnly_id (h f hf)).trans (List.map_id st)

theorem cookiePairs_eq_clientPairs (st : Struct) (h : multiValuedSlice st = false) :
    cookiePairs st = clientPairs st := by
  rw [cookiePairs_lastOnly, lastOnly_id st h]

theorem squareBracketsAux_none_iff (k : Bytes) (n : Nat) :
    squareBracketsAux k n = none ↔ balancedAux k n = false := by
  fun_induction squareBracketsAux k n <;> simp [balancedAux, *]
  -- left: the two cases of `[]`, where the scanner tests `n > 0` and the oracle `n == 0`
  · omega
  · omega

theorem collect_malformed (sliceKey : Bytes → Bool) (split : Bool) (pairs : List (Bytes × Bytes))
    (d : List (Bytes × List Bytes)) (h : pairs.any (fun kv => malformedKey kv.1) = true) :
    collect sliceKey split true pairs d = none := by
  have hfmt : ∀ d k v, malformedKey k = true → formatBindData sliceKey split true d k v = none := fun d k v hk => by
    unfold malformedKey at hk
    simp only [Bool.and_eq_true, Bool.not_eq_true'] at hk
    simp only [formatBindData, hk.1, Bool.and_self, if_true, parseParamSquareBrackets,
      (squareBracketsAux_none_iff k 0).mpr hk.2]
  revert h
  fun_induction collect sliceKey split true pairs d
  case case1 => simp
  case case2 => exact fun _ => rfl
  case case3 k v rest d d' hd ih =>
    intro h
    rw [List.any_cons, Bool.or_eq_true] at h
    exact ih (h.resolve_left fun hk => by rw [hfmt d k v hk] at hd; cases hd)

/-! ### the data map as a finite map

Under pairwise distinct keys (`keysOf`; `dataAppend` keeps them distinct) `lookupField` is `dataFind`, the
first entry of the key. The round trip does not come this way: `lookupField_groupPairs` asks for no
distinctness. -/

def keysOf (d : List (Bytes × List Bytes)) : List Bytes := d.map (·.1)

def dataFind (d : List (Bytes × List Bytes)) (k : Bytes) : Option (List Bytes) :=
  (d.find? (·.1 = k)).map (·.2)

theorem keysOf_dataAppend (d : List (Bytes × List Bytes)) (k : Bytes) (vs : List Bytes) :
    keysOf (dataAppend d k vs) = if k ∈ keysOf d then keysOf d else keysOf d ++ [k] := by
  unfold keysOf
  fun_induction dataAppend d k vs
  case case1 => simp
  case case2 => simp
  case case3 k' vs' rest k vs hk ih =>
    have h' : ¬ k = k' := fun e => hk e.symm
    simp only [List.map_cons, List.mem_cons, h', false_or, ih]
    split <;> simp

theorem nodup_dataAppend (d : List (Bytes × List Bytes)) (k : Bytes) (vs : List Bytes)
    (h : (keysOf d).Nodup) : (keysOf (dataAppend d k vs)).Nodup := by
  rw [keysOf_dataAppend]
  split
  · exact h
  · rename_i hk
    exact List.nodup_append.mpr ⟨h, by simp, by
      intro a ha b hb; simp at hb; subst hb; exact fun e => hk (e ▸ ha)⟩

theorem dataFind_dataAppend (d : List (Bytes × List Bytes)) (k k' : Bytes) (vs : List Bytes) :
    dataFind (dataAppend d k vs) k' =
      if k = k' then some ((dataFind d k').getD [] ++ vs) else dataFind d k' := by
  unfold dataFind
  fun_induction dataAppend d k vs
  case case1 k vs => by_cases h : k = k' <;> simp [h]
  case case2 vs0 rest k vs => by_cases h : k = k' <;> simp [h]
  case case3 k0 vs0 rest k vs h0 ih =>
    by_cases h1 : k0 = k'
    · subst h1
      have : ¬ k = k0 := fun e => h0 e.symm
      simp [this]
    · simpa only [List.find?_cons, h1, decide_false] using ih

theorem filter_getLast_eq_find (d : List (Bytes × List Bytes)) (al : Bytes) (h : (keysOf d).Nodup) :
    (d.filter (·.1 = al)).getLast? = d.find? (·.1 = al) := by
  -- the last match is the first match of the reversed list; at most one entry matches
  rw [List.getLast?_filter]
  exact List.find?_perm_unique (List.reverse_perm d) fun a ha b hb pa pb =>
    List.inj_of_nodup_map (fun e : Bytes × List Bytes => e.1) h (List.mem_reverse.mp ha) (List.mem_reverse.mp hb)
      ((of_decide_eq_true pa).trans (of_decide_eq_true pb).symm)

theorem lookupField_eq_find (d : List (Bytes × List Bytes)) (A : List Bytes) (al : Bytes)
    (hn : (keysOf d).Nodup) (hsub : ∀ k ∈ keysOf d, k ∈ A) (hal : al ∈ A)
    (hinj : ∀ x ∈ A, ∀ y ∈ A, toLower x = toLower y → x = y)
    (hdot : ∀ x ∈ A, x.contains 46 = false) :
    lookupField d al = dataFind d al := by
  unfold lookupField dataFind
  rw [List.filter_congr (q := (·.1 = al)) fun e he => by
      by_cases h : e.1 = al
      · rw [h, hdot al hal]; simp
      · have : ¬ toLower e.1 = toLower al := fun hh => h (hinj _ (hsub e.1 (List.mem_map_of_mem he)) _ hal hh)
        simp [h, this],
    filter_getLast_eq_find d al hn]

end C11
