import FiberModel.C11.Float
import FiberModel.C11.Lemmas
/-
C11 — lemmas about the float text model (Float.lean):
correct rounding is the identity on representable values; the exact decimal expansion of a dyadic
rational parses back to its digits.
-/
namespace C11
open B

theorem rne_exact (c d : Nat) (hd : 0 < d) : rne (c * d) d = c := by
  unfold rne
  simp [Nat.mul_div_cancel c hd, Nat.mul_mod_left, hd]

theorem stripTwos_odd (m : Nat) (hodd : m % 2 = 1) : ∀ (j fuel q : Nat), j ≤ fuel →
    stripTwos fuel (m * 2 ^ j) q = (m, q + j) := by
  intro j
  induction j with
  | zero =>
    intro fuel q _
    cases fuel with
    | zero => simp [stripTwos]
    | succ f => simp [stripTwos, hodd]
  | succ j ih =>
    intro fuel q hf
    cases fuel with
    | zero => omega
    | succ f =>
      have h2 : m * 2 ^ (j + 1) = (m * 2 ^ j) * 2 := by rw [Nat.pow_succ, Nat.mul_assoc]
      have hpos : 0 < m * 2 ^ j := Nat.mul_pos (by omega) (Nat.two_pow_pos j)
      have he : (m * 2 ^ j * 2) % 2 = 0 := Nat.mul_mod_left _ _
      have hne : m * 2 ^ j * 2 ≠ 0 := by omega
      have hdiv : m * 2 ^ j * 2 / 2 = m * 2 ^ j := Nat.mul_div_cancel _ (by decide)
      rw [h2]
      simp only [stripTwos, he, hne, ne_eq, not_false_eq_true, and_self, if_true, hdiv]
      rw [ih f (q + 1) (by omega)]
      congr 1; omega

theorem canon_odd_shift (bs m j q : Nat) (hodd : m % 2 = 1) : canon bs (m * 2 ^ j) q = (m, q + j) := by
  unfold canon
  have hpos : 0 < m * 2 ^ j := Nat.mul_pos (by omega) (Nat.two_pow_pos j)
  have hne : m * 2 ^ j ≠ 0 := by omega
  simp only [hne, if_false]
  apply stripTwos_odd m hodd j
  have h1 : j < 2 ^ j := Nat.lt_two_pow_self
  have h2 : 2 ^ j ≤ m * 2 ^ j := Nat.le_mul_of_pos_left _ (by omega)
  omega

/-- Correct rounding is the identity on representable values; `H` says
    `num / den = m · 2^(eB − f.bias)`. -/
theorem roundBin_exact (f : FFmt) (num den m eB : Nat)
    (hden : 0 < den) (hodd : m % 2 = 1) (hmp : m < 2 ^ f.p) (hq : f.qminB ≤ eB)
    (hov : m * 2 ^ eB < 2 ^ (f.emax + f.bias))
    (H : num * 2 ^ f.bias = m * 2 ^ eB * den) :
    roundBin f num den = some (m, eB) := by
  have hm : 0 < m := by omega
  have hnum : num ≠ 0 := by
    intro h0
    rw [h0, Nat.zero_mul] at H
    have : 0 < m * 2 ^ eB * den := Nat.mul_pos (Nat.mul_pos hm (Nat.two_pow_pos eB)) hden
    omega
  -- the estimate of the ulp exponent is not above `eB`
  have hL : num.log2 + f.bias - den.log2 - f.p ≤ eB := by
    have h1 : 2 ^ num.log2 ≤ num := Nat.log2_self_le hnum
    have h2 : den < 2 ^ (den.log2 + 1) := Nat.lt_log2_self
    have h3 : 2 ^ (num.log2 + f.bias) ≤ num * 2 ^ f.bias := by
      rw [Nat.pow_add]; exact Nat.mul_le_mul_right _ h1
    have h4 : m * 2 ^ eB * den < 2 ^ (f.p + eB + (den.log2 + 1)) := by
      rw [Nat.pow_add, Nat.pow_add]
      exact Nat.mul_lt_mul_of_le_of_lt
        (Nat.le_of_lt (Nat.mul_lt_mul_of_lt_of_le hmp (Nat.le_refl _) (Nat.two_pow_pos eB))) h2
        (Nat.mul_pos (Nat.two_pow_pos _) (Nat.two_pow_pos _))
    have h5 : 2 ^ (num.log2 + f.bias) < 2 ^ (f.p + eB + (den.log2 + 1)) := by
      rw [← H] at h4; exact Nat.lt_of_le_of_lt h3 h4
    have := (Nat.pow_lt_pow_iff_right (by decide : 1 < 2)).mp h5
    omega
  -- the value is a whole multiple of every ulp candidate `2^q`, `q ≤ eB`
  have hpow : ∀ q, q ≤ eB → 2 ^ (eB - q) * 2 ^ q = 2 ^ eB := fun q hqe => by
    rw [← Nat.pow_add, Nat.sub_add_cancel hqe]
  have hB : ∀ q, q ≤ eB → num * 2 ^ f.bias = (m * 2 ^ (eB - q)) * (den * 2 ^ q) := by
    intro q hqe
    rw [H, ← hpow q hqe]
    ac_rfl
  have hq0 : max f.qminB (num.log2 + f.bias - den.log2 - f.p) ≤ eB := Nat.max_le.mpr ⟨hq, hL⟩
  have hulp : ∃ q, ulpExp f num den = q ∧ q ≤ eB := by
    unfold ulpExp
    generalize max f.qminB (num.log2 + f.bias - den.log2 - f.p) = q0 at hq0
    have hpos : 0 < den * 2 ^ q0 := Nat.mul_pos hden (Nat.two_pow_pos _)
    simp only [hB q0 hq0, Nat.mul_div_cancel _ hpos]
    by_cases hlt : m * 2 ^ (eB - q0) < 2 ^ f.p
    · exact ⟨q0, by simp [hlt], hq0⟩
    · refine ⟨q0 + 1, by simp [hlt], ?_⟩
      have : eB - q0 ≠ 0 := by
        intro h0
        rw [h0] at hlt
        simp at hlt
        omega
      omega
  obtain ⟨q, hqeq, hqle⟩ := hulp
  unfold roundBin
  simp only [hnum, if_false, hqeq]
  have hpos : 0 < den * 2 ^ q := Nat.mul_pos hden (Nat.two_pow_pos _)
  rw [hB q hqle, rne_exact _ _ hpos]
  have hval : m * 2 ^ (eB - q) * 2 ^ q = m * 2 ^ eB := by rw [Nat.mul_assoc, hpow q hqle]
  have hno : ¬ (m * 2 ^ (eB - q) * 2 ^ q ≥ 2 ^ (f.emax + f.bias)) := by rw [hval]; omega
  simp only [hno, if_false]
  rw [canon_odd_shift f.bias m (eB - q) q hodd]
  rw [Nat.add_sub_cancel' hqle]

theorem formatNat_digits (n : Nat) : ∀ d ∈ formatNat n, isDigit d = true := (formatNat_spec n).2.1

theorem padNat_length (w n : Nat) : (padNat w n).length = w := by
  induction w generalizing n with
  | zero => rfl
  | succ w ih => simp [padNat, ih]

theorem padNat_digits (w n : Nat) : ∀ d ∈ padNat w n, isDigit d = true := by
  induction w generalizing n with
  | zero => exact nofun
  | succ w ih => exact List.forall_mem_append.mpr ⟨ih _, List.forall_mem_singleton.mpr (by unfold isDigit; simp; omega)⟩

theorem parseDigits_padNat (w : Nat) : ∀ (n a : Nat) (rest : Bytes),
    parseDigits (padNat w n ++ rest) a = parseDigits rest (a * 10 ^ w + n % 10 ^ w) := by
  induction w with
  | zero => intro n a rest; simp [padNat, Nat.mod_one]
  | succ w ih =>
    intro n a rest
    simp only [padNat, List.append_assoc, List.singleton_append]
    rw [ih, parseDigits_digit _ (by omega)]
    congr 1
    have hm : n % 10 ^ (w + 1) = n % 10 + 10 * (n / 10 % 10 ^ w) := by
      rw [Nat.pow_succ, Nat.mul_comm (10 ^ w) 10]; exact Nat.mod_mul
    rw [hm, Nat.pow_succ, Nat.add_mul, Nat.mul_assoc]
    omega

theorem spanDigits_append (ds rest : Bytes) (hd : ∀ d ∈ ds, isDigit d = true)
    (hr : ∀ c, rest.head? = some c → isDigit c = false) : spanDigits (ds ++ rest) = (ds, rest) := by
  induction ds with
  | nil =>
    cases rest with
    | nil => rfl
    | cons c cs => simp [spanDigits, hr c rfl]
  | cons d ds ih =>
    have := ih (fun x hx => hd x (by simp [hx]))
    simp [spanDigits, hd d (by simp), this]

/-- bytes of a plain decimal text: '-', '.', digits -/
def plainByte (c : Nat) : Bool := c == 45 || c == 46 || isDigit c

theorem plainByte_excludes (c : Nat) (h : plainByte c = true) : c < 65 ∧ c ≠ 95 ∧ c ≠ 120 ∧ c ≠ 88 ∧ c ≠ 44 := by
  unfold plainByte isDigit at h
  simp only [Bool.or_eq_true, beq_iff_eq, Bool.and_eq_true, decide_eq_true_eq] at h
  omega

theorem parseSpecial_plain (t : Bytes) (ht : ∀ c ∈ t, plainByte c = true) : parseSpecial t = none := by
  have h : ∀ c ∈ t, c < 65 := fun c hc => (plainByte_excludes c (ht c hc)).1
  have hl : toLower t = t := toLower_id t fun c hc => by
    have : ¬ (65 ≤ c) := by have := h c hc; omega
    simp [lowerByte, isUpper, this]
  -- every literal `special` compares with holds an 'n'; the text holds no letter
  have key : ∀ lit : Bytes, 110 ∈ lit → (t = lit) = False := fun lit hn =>
    eq_false fun e => absurd (h 110 (e ▸ hn)) (by decide)
  unfold parseSpecial
  repeat rw [b_ofList]
  simp [hl, key]

theorem hexPrefix_plain (r : Bytes) (h : ∀ c ∈ r, plainByte c = true) : hexPrefix r = false := by
  fun_cases hexPrefix r
  case case1 c x _ =>
    obtain ⟨_, _, h120, h88, _⟩ := plainByte_excludes x (h x (by simp))
    simp [h120, h88]
  case case2 => rfl

/-- the unsigned body of `exactText`: integer digits, and `w` fraction digits when `w > 0` -/
def plainBody (c w : Nat) : Bytes :=
  if w = 0 then formatNat c else formatNat (c / 10 ^ w) ++ [46] ++ padNat w (c % 10 ^ w)

theorem plainBody_bytes (c w : Nat) : ∀ x ∈ plainBody c w, plainByte x = true := by
  intro x hx
  unfold plainBody at hx
  unfold plainByte
  split at hx
  · simp [formatNat_digits c x hx]
  · simp only [List.mem_append, List.mem_singleton] at hx
    rcases hx with (hx | hx) | hx
    · simp [formatNat_digits _ x hx]
    · simp [hx]
    · simp [padNat_digits _ _ x hx]

theorem plainBody_head (c w : Nat) : ∃ d ds, plainBody c w = d :: ds ∧ (d == 43) = false ∧ (d == 45) = false := by
  unfold plainBody
  split
  · exact formatNat_head c
  · obtain ⟨d, ds, h1, h2⟩ := formatNat_head (c / 10 ^ w)
    exact ⟨d, ds ++ [46] ++ padNat w (c % 10 ^ w), by simp [h1], h2⟩

theorem plain_text (neg : Bool) (c w : Nat) :
    (if neg then [45] else []) ++ plainBody c w ≠ [] ∧
      ∀ x ∈ (if neg then [45] else []) ++ plainBody c w, plainByte x = true := by
  obtain ⟨d, ds, hd, _⟩ := plainBody_head c w
  exact ⟨by simp [hd], List.forall_mem_append.mpr ⟨by cases neg <;> decide, plainBody_bytes c w⟩⟩

theorem noComma_of_plain (t : Bytes) (h : ∀ x ∈ t, plainByte x = true) : t.contains 44 = false :=
  List.contains_eq_false_of_forall_ne fun x hx => by
    obtain ⟨_, _, _, _, h44⟩ := plainByte_excludes x (h x hx)
    exact h44

theorem parseDecimal_plain (neg : Bool) (c w : Nat) :
    parseDecimal ((if neg then [45] else []) ++ plainBody c w)
      = .ok { neg := neg, digits := c, scale := w, exp10 := 0 } := by
  obtain ⟨d, ds, hhd, hno43, hno45⟩ := plainBody_head c w
  have hall := (plain_text neg c w).2
  have hspecial := parseSpecial_plain _ hall
  have hunders : ((if neg then [45] else []) ++ plainBody c w).contains 95 = false :=
    List.contains_eq_false_of_forall_ne fun x hx => (plainByte_excludes x (hall x hx)).2.1
  have hsign : cutSign ((if neg then [45] else []) ++ plainBody c w) = (neg, plainBody c w) := by
    cases neg
    · simp [hhd, cutSign, hno43, hno45]
    · simp [cutSign]
  have hhex := hexPrefix_plain _ (plainBody_bytes c w)
  unfold parseDecimal
  simp only [hspecial, hsign, hunders, hhex, Bool.false_eq_true, if_false]
  -- integer digits, then nothing (`w = 0`: `c / 10^0 = c`, `padNat 0 _ = []`) or '.' and `w` digits
  obtain ⟨frac, hfrac, hnd, hcut⟩ : ∃ frac, plainBody c w = formatNat (c / 10 ^ w) ++ frac ∧
      (∀ x, frac.head? = some x → isDigit x = false) ∧ cutFrac frac = (padNat w (c % 10 ^ w), []) := by
    unfold plainBody
    by_cases hw : w = 0
    · subst hw
      exact ⟨[], by simp, nofun, rfl⟩
    · refine ⟨46 :: padNat w (c % 10 ^ w), by simp [hw], fun x hx => by cases hx; decide, ?_⟩
      have := spanDigits_append (padNat w (c % 10 ^ w)) [] (padNat_digits _ _) (by simp)
      simpa [cutFrac] using this
  have hsp : spanDigits (plainBody c w) = (formatNat (c / 10 ^ w), frac) :=
    hfrac ▸ spanDigits_append _ frac (formatNat_digits _) hnd
  have hne : (formatNat (c / 10 ^ w)).isEmpty = false := by simpa using (formatNat_spec (c / 10 ^ w)).1
  have hval : digitsVal (formatNat (c / 10 ^ w) ++ padNat w (c % 10 ^ w)) = c := by
    have h1 := (formatNat_spec (c / 10 ^ w)).2.2 0 (padNat w (c % 10 ^ w))
    have h2 := parseDigits_padNat w (c % 10 ^ w) (c / 10 ^ w) []
    simp only [List.append_nil] at h2
    simp only [Nat.zero_mul, Nat.zero_add] at h1
    have hpos : 0 < 10 ^ w := Nat.pow_pos (by decide)
    have hmm : c % 10 ^ w % 10 ^ w = c % 10 ^ w := Nat.mod_eq_of_lt (Nat.mod_lt _ hpos)
    unfold digitsVal
    rw [h1, h2, hmm, Nat.div_add_mod']
    simp [parseDigits]
  simp [hsp, hcut, hne, parseExp10, hval, padNat_length]

theorem fmtOf_facts (bits : Nat) :
    (fmtOf bits).qminB ≤ (fmtOf bits).bias ∧ (fmtOf bits).p ≤ (fmtOf bits).emax := by
  unfold fmtOf
  split <;> decide

theorem parseFloat_plain {bits : Nat} {f : FFmt} {neg : Bool} {c w m eB : Nat} (hf : fmtOf bits = f)
    (h : roundBin f c (10 ^ w) = some (m, eB)) :
    parseFloat bits ((if neg then [45] else []) ++ plainBody c w) = some (some (.fin neg m ((eB : Int) - f.bias))) := by
  subst hf
  have hr : Dec.ratio { neg := neg, digits := c, scale := w, exp10 := 0 } = (c, 10 ^ w) := by
    unfold Dec.ratio
    cases w with
    | zero => simp
    | succ n =>
      have h1 : ¬ ((0 : Int) - ((n + 1 : Nat) : Int) ≥ 0) := by omega
      have h2 : (-((0 : Int) - ((n + 1 : Nat) : Int))).toNat = n + 1 := by omega
      simp only [h1, if_false, h2]
  unfold parseFloat
  rw [parseDecimal_plain]
  simp only [hr, h]

theorem fmtF_eq_plainBody (c : Nat) (k : Int) :
    fmtF c k = plainBody (if k ≥ 0 then c * 10 ^ k.toNat else c) (-k).toNat := by
  unfold fmtF plainBody
  by_cases hk : k ≥ 0
  · have : (-k).toNat = 0 := by omega
    simp only [hk, if_true, this]
  · have : (-k).toNat ≠ 0 := by omega
    simp only [hk, if_false, this]

theorem exactText_eq (neg : Bool) (m : Nat) (e : Int) :
    exactText neg m e = (if neg then [45] else []) ++
      plainBody (if e ≥ 0 then m * 2 ^ e.toNat else m * 5 ^ (-e).toNat) (-e).toNat := by
  unfold exactText
  by_cases he : e ≥ 0
  · have : (-e).toNat = 0 := by omega
    simp only [he, if_true, this, plainBody]
  · simp only [he, if_false, fmtF_eq_plainBody]

theorem exactText_plain (neg : Bool) (m : Nat) (e : Int) :
    exactText neg m e ≠ [] ∧ ∀ x ∈ exactText neg m e, plainByte x = true := by
  rw [exactText_eq]
  exact plain_text neg _ _

theorem shortestText_nonempty_noComma (v : FVal) (t : Bytes) (h : shortestText v = some t) :
    t ≠ [] ∧ t.contains 44 = false := by
  revert h
  -- NaN, ±Inf, ±0: literals; no digits found: no text; digits: a plain text
  fun_cases shortestText v <;> intro h <;> cases h
  case case1 => decide
  case case2 => split <;> decide
  case case3 neg _ _ => cases neg <;> decide
  case case5 =>
    rw [fmtF_eq_plainBody]
    exact ⟨(plain_text _ _ _).1, noComma_of_plain _ (plain_text _ _ _).2⟩

/-- `parseFloat 64 ∘ fmtShortest = id`, by construction of `fmtShortest` -/
theorem fmtShortest_spec (v : FVal) (t : Bytes) (h : fmtShortest v = some t) :
    parseFloat 64 t = some (some v) ∧ t ≠ [] ∧ t.contains 44 = false := by
  revert h
  fun_cases fmtShortest v <;> intro h <;> cases h
  case case2 ht hp => exact ⟨hp, shortestText_nonempty_noComma v _ ht⟩

end C11
