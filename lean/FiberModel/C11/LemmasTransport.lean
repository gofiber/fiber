import FiberModel.C11.LemmasBind
/-
C11 — the transports that carry values as a Cookie header / lines / parts: the request cookie scanner
on what the cookie writer wrote; the header lines fasthttp writes (`appendHeaderLine`) read back by
`headerScanner.next` + `RequestHeader.parseHeaders`; the multipart reader model on what the writer
model wrote.
-/
namespace C11
open B

theorem isPrefixOf_append (l r : Bytes) : l.isPrefixOf (l ++ r) = true :=
  List.isPrefixOf_iff_prefix.mpr (List.prefix_append l r)

theorem dropRightWhile_id (p : Nat → Bool) (s : Bytes) (h : ∀ c, s.getLast? = some c → p c = false) :
    dropRightWhile p s = s :=
  List.reverse_dropWhile_reverse_of_getLast h

theorem trim_cons_self (s : Bytes) (c : Nat) : trim (c :: s) c = trim s c := by
  rw [trim, trimLeft, List.dropWhile_cons, beq_self_eq_true, if_pos rfl]
  rfl

/-- a cookie name the request scanner returns unchanged -/
def cookieKeyOK (k : Bytes) : Bool :=
  !k.isEmpty && !k.contains 61 && !k.contains 59 && k.head? != some 32 && k.getLast? != some 32

theorem cookieKeyOK_iff {k : Bytes} : cookieKeyOK k = true ↔
    k ≠ [] ∧ (∀ x ∈ k, x ≠ 61) ∧ (∀ x ∈ k, x ≠ 59) ∧ k.head? ≠ some 32 ∧ k.getLast? ≠ some 32 := by
  simp [cookieKeyOK, and_assoc, List.forall_mem_ne']

theorem aliasOK_cookieKey (a : Bytes) (h : aliasOK a = true) : cookieKeyOK a = true :=
  cookieKeyOK_iff.mpr ⟨(aliasOK_byte h).1, aliasOK_ne h (by omega), aliasOK_ne h (by omega),
    fun e => aliasOK_ne h (by omega) 32 (List.mem_of_mem_head? e) rfl,
    fun e => aliasOK_ne h (by omega) 32 (List.mem_of_getLast? e) rfl⟩

theorem noOuterBlank_ends (v : Bytes) (h : noOuterBlank v = true) :
    (∀ c, v.head? = some c → isBlank c = false) ∧ (∀ c, v.getLast? = some c → isBlank c = false) := by
  unfold noOuterBlank at h
  unfold isBlank
  constructor <;> intro c hc <;> simp only [hc, Bool.and_eq_true, bne_iff_ne, ne_eq] at h
  · simp [h.1.1, h.1.2]
  · simp [h.2.1, h.2.2]

theorem cookieValueOK_iff {v : Bytes} : cookieValueOK v = true ↔
    (∀ c ∈ v, headerByteOK c = true) ∧ noOuterBlank v = true ∧ (∀ x ∈ v, x ≠ 59) ∧ quoted v = false := by
  simp [cookieValueOK, and_assoc, List.forall_mem_ne']

theorem cookieValue_decode (v : Bytes) (h : cookieValueOK v = true) : decodeCookieArg v true = v := by
  obtain ⟨_, hno, _, hq⟩ := cookieValueOK_iff.mp h
  obtain ⟨hhead, hlast⟩ := noOuterBlank_ends v hno
  unfold decodeCookieArg trimSpaces
  rw [trim_id v 32 (fun e => absurd (hhead 32 e) (by decide)) (fun e => absurd (hlast 32 e) (by decide))]
  unfold quoted at hq
  simp only [hq, Bool.true_and, Bool.false_eq_true, if_false]

theorem cookieKey_decode (k : Bytes) (h : cookieKeyOK k = true) :
    decodeCookieArg k false = k ∧ decodeCookieArg (32 :: k) false = k := by
  obtain ⟨_, _, _, h1, h2⟩ := cookieKeyOK_iff.mp h
  unfold decodeCookieArg trimSpaces
  simp [trim_cons_self, trim_id k 32 h1 h2]

theorem parseCookieSeg_item (kv : Bytes × Bytes) (hk : cookieKeyOK kv.1 = true) (hv : cookieValueOK kv.2 = true) :
    parseCookieSeg (kv.1 ++ [61] ++ kv.2) = kv ∧ parseCookieSeg ([32] ++ (kv.1 ++ [61] ++ kv.2)) = kv := by
  obtain ⟨k, v⟩ := kv
  have hk61 := (cookieKeyOK_iff.mp hk).2.1
  have hkd := cookieKey_decode k hk
  have gen : ∀ sp : Bytes, (∀ x ∈ sp, x ≠ 61) → decodeCookieArg (sp ++ k) false = k →
      parseCookieSeg (sp ++ (k ++ [61] ++ v)) = (k, v) := fun sp hsp hd => by
    rw [List.append_assoc k, List.singleton_append, ← List.append_assoc]
    unfold parseCookieSeg
    simp only [show hasEq (sp ++ k ++ 61 :: v) = true by simp [hasEq], if_true,
      cutEq_append (sp ++ k) v (List.forall_mem_append.mpr ⟨hsp, hk61⟩), hd, cookieValue_decode v hv]
  exact ⟨gen [] nofun hkd.1, gen [32] (by decide) hkd.2⟩

/-- request cookie scanner ∘ request cookie writer = id, for names and values the header can carry. -/
theorem parseCookies_renderCookies (ps : List (Bytes × Bytes))
    (hk : ∀ kv ∈ ps, cookieKeyOK kv.1 = true) (hv : ∀ kv ∈ ps, cookieValueOK kv.2 = true) :
    parseCookies (renderCookies ps) = ps :=
  parse_split_join 59 [32] (fun kv : Bytes × Bytes => kv.1 ++ [61] ++ kv.2) parseCookieSeg
    (fun kv => !(kv.1.isEmpty && kv.2.isEmpty)) ps (by decide)
    (fun kv h => List.forall_mem_append.mpr ⟨List.forall_mem_append.mpr
      ⟨(cookieKeyOK_iff.mp (hk kv h)).2.2.1, by decide⟩, (cookieValueOK_iff.mp (hv kv h)).2.2.1⟩)
    (fun kv h => parseCookieSeg_item kv (hk kv h) (hv kv h))
    (fun kv h => by
      rcases kv with ⟨_ | _, _⟩
      · exact absurd rfl (cookieKeyOK_iff.mp (hk _ h)).1
      · rfl)
    rfl

theorem parseCookies_clientPairs (st : Struct)
    (hspecs : specsOK (st.map (·.spec)) = true)
    (hwf : ∀ f ∈ st, ∀ v ∈ f.vals, cookieValueOK (textOf v) = true) :
    parseCookies (renderCookies (clientPairs st)) = clientPairs st := by
  apply parseCookies_renderCookies <;> rw [forall_mem_clientPairs]
  · exact fun f hf v _ => aliasOK_cookieKey _ (specsOK_alias hspecs hf)
  · exact hwf

/-- a header name the scanner accepts and leaves alone: a non-empty token -/
def headerKeyOK (k : Bytes) : Bool := !k.isEmpty && k.all tokenByte

theorem headerValueOK_iff {v : Bytes} : headerValueOK v = true ↔
    (∀ c ∈ v, headerByteOK c = true) ∧ noOuterBlank v = true := by
  simp only [headerValueOK, Bool.and_eq_true, List.all_eq_true]

theorem headerKeyOK_iff {k : Bytes} : headerKeyOK k = true ↔ k ≠ [] ∧ ∀ c ∈ k, tokenByte c = true := by
  simp only [headerKeyOK, Bool.and_eq_true, Bool.not_eq_true', List.isEmpty_eq_false_iff, List.all_eq_true]

theorem headerValueByte_eq (c : Nat) : headerValueByte c = headerByteOK c := rfl

theorem cutAt_append (c : Nat) (a r : Bytes) (ha : ∀ x ∈ a, x ≠ c) :
    cutAt c (a ++ c :: r) = some (a, r) := by
  induction a with
  | nil => simp [cutAt]
  | cons x xs ih =>
    have hx : (x == c) = false := by simpa using ha x (by simp)
    have := ih (fun y hy => ha y (by simp [hy]))
    simp [cutAt, hx, this]

theorem tokenByte_ne (c : Nat) (h : tokenByte c = true) :
    c ≠ 10 ∧ c ≠ 13 ∧ c ≠ 58 ∧ c ≠ 32 ∧ c ≠ 9 := by
  unfold tokenByte isAlpha isUpper isLower isDigit at h
  simp only [Bool.or_eq_true, Bool.and_eq_true, decide_eq_true_eq, beq_iff_eq] at h
  omega

theorem headerByteOK_ne (c : Nat) (h : headerByteOK c = true) : c ≠ 10 ∧ c ≠ 13 := by
  unfold headerByteOK at h
  simp only [Bool.or_eq_true, Bool.and_eq_true, decide_eq_true_eq, beq_iff_eq] at h
  omega

theorem aliasOK_headerKey (a : Bytes) (h : aliasOK a = true) : headerKeyOK a = true := by
  obtain ⟨hne, hb⟩ := aliasOK_byte h
  refine headerKeyOK_iff.mpr ⟨hne, fun c hc => ?_⟩
  unfold tokenByte isAlpha isUpper isLower isDigit
  rcases hb c hc with h | h | h | h <;> simp [h]

theorem headerNext_line (k v rest : Bytes) (hk : headerKeyOK k = true) (hv : headerValueOK v = true)
    (hrest : startsBlank rest = false) :
    headerNext (writeHeaderLine (k, v) ++ rest) = .line k v rest := by
  obtain ⟨hkne, hktok⟩ := headerKeyOK_iff.mp hk
  obtain ⟨hvb, hvo⟩ := headerValueOK_iff.mp hv
  cases k with
  | nil => exact absurd rfl hkne
  | cons c cs =>
    have hc := tokenByte_ne c (hktok c (by simp))
    have hline : writeHeaderLine (c :: cs, v) ++ rest = c :: ((cs ++ 58 :: 32 :: (v ++ [13])) ++ 10 :: rest) := by
      simp [writeHeaderLine]
    have hno10 : ∀ x ∈ cs ++ 58 :: 32 :: (v ++ [13]), x ≠ 10 :=
      List.forall_mem_append.mpr ⟨fun x hx => (tokenByte_ne x (hktok x (by simp [hx]))).1,
        List.forall_mem_cons.mpr ⟨by decide, List.forall_mem_cons.mpr ⟨by decide,
          List.forall_mem_append.mpr ⟨fun x hx => (headerByteOK_ne x (hvb x hx)).1, by decide⟩⟩⟩⟩
    have hcut : cutAt 58 (c :: (cs ++ 58 :: 32 :: (v ++ [13]))) = some (c :: cs, 32 :: (v ++ [13])) :=
      cutAt_append 58 (c :: cs) _ fun x hx => by
        obtain ⟨_, _, h58, _⟩ := tokenByte_ne x (hktok x hx)
        exact h58
    have hv1 : (32 :: (v ++ [13])).dropWhile isBlank = v ++ [13] := by
      have : isBlank 32 = true := by decide
      simp only [List.dropWhile, this]
      apply List.dropWhile_of_head
      intro d hd
      cases v with
      | nil => simp at hd; subst hd; decide
      | cons y ys => simp at hd; subst hd; exact (noOuterBlank_ends _ hvo).1 _ rfl
    have hv3 : dropRightWhile isBlank v = v := dropRightWhile_id isBlank v (noOuterBlank_ends v hvo).2
    have hv4 : v.filter (· != 13) = v :=
      List.filter_eq_self.mpr fun x hx => by simpa using (headerByteOK_ne x (hvb x hx)).2
    have hcut1 : cutAt 10 (c :: (cs ++ 58 :: 32 :: (v ++ [13]) ++ 10 :: rest))
        = some (c :: (cs ++ 58 :: 32 :: (v ++ [13])), rest) :=
      cutAt_append 10 (c :: _) rest (List.forall_mem_cons.mpr ⟨hc.1, hno10⟩)
    have e10 : (c == 10) = false := by simpa using hc.1
    have e13 : (c == 13) = false := by simpa using hc.2.1
    rw [hline]
    simp only [headerNext, e10, e13, Bool.false_and, Bool.false_eq_true, if_false, hcut1, hcut, hrest, hv1,
      List.getLast?_concat, beq_self_eq_true, if_true, List.dropLast_concat, hv3, hv4, ite_self]

/-- A reader that takes one item per unit of fuel reads back what a writer wrote item by item: the
    header scanner on header lines, the multipart reader on the header lines of a part and on the
    parts. `Next` is what the reader has to see behind an item (its look-ahead: the header scanner
    takes a line that starts with a blank for a continuation); the terminator and every item begin
    that way (`hnextT`, `hnextI`). -/
theorem read_written {α β ρ : Type} (read : Nat → Bytes → ρ) (ok : List β → Bytes → ρ)
    (render : α → Bytes) (out : α → β) (term : Bytes) (Good : α → Prop) (Next : Bytes → Prop)
    (hterm : ∀ fuel body, read (fuel + 1) (term ++ body) = ok [] body)
    (hitem : ∀ fuel a rest ys r, Good a → Next rest → read fuel rest = ok ys r →
      read (fuel + 1) (render a ++ rest) = ok (out a :: ys) r)
    (hnextT : ∀ body, Next (term ++ body)) (hnextI : ∀ a rest, Good a → Next (render a ++ rest))
    (xs : List α) (body : Bytes) (fuel : Nat) (hg : ∀ a ∈ xs, Good a) (hfuel : xs.length < fuel) :
    read fuel ((xs.map render).flatten ++ (term ++ body)) = ok (xs.map out) body := by
  induction xs generalizing fuel with
  | nil =>
    obtain ⟨f, rfl⟩ := Nat.exists_eq_add_one_of_ne_zero (Nat.ne_zero_of_lt hfuel)
    exact hterm f body
  | cons a as ih =>
    obtain ⟨f, rfl⟩ := Nat.exists_eq_add_one_of_ne_zero (Nat.ne_zero_of_lt hfuel)
    have hnext : Next ((as.map render).flatten ++ (term ++ body)) := by
      cases as with
      | nil => exact hnextT body
      | cons b bs =>
        rw [List.map_cons, List.flatten_cons, List.append_assoc]
        exact hnextI b _ (hg b (by simp))
    rw [List.map_cons, List.flatten_cons, List.append_assoc]
    exact hitem f a _ _ _ (hg a (by simp)) hnext
      (ih f (fun b hb => hg b (by simp [hb])) (Nat.lt_of_succ_lt_succ hfuel))

theorem parseHeaderLines_write (ps : List (Bytes × Bytes)) (body : Bytes) (fuel : Nat)
    (hk : ∀ kv ∈ ps, headerKeyOK kv.1 = true) (hv : ∀ kv ∈ ps, headerValueOK kv.2 = true)
    (hfuel : ps.length < fuel) :
    parseHeaderLines fuel (writeHeaderLines ps ++ 13 :: 10 :: body)
      = .ok (ps.map fun kv => (normalizeHeaderKey kv.1, kv.2)) body := by
  refine read_written parseHeaderLines HdrParse.ok writeHeaderLine (fun kv => (normalizeHeaderKey kv.1, kv.2))
    [13, 10] (fun kv => headerKeyOK kv.1 = true ∧ headerValueOK kv.2 = true)
    (fun rest => startsBlank rest = false)
    (fun fuel body => by simp [parseHeaderLines, headerNext]) ?_ (fun body => rfl) ?_
    ps body fuel (fun kv h => ⟨hk kv h, hv kv h⟩) hfuel
  · rintro fuel ⟨k, v⟩ rest ys r ⟨hk1, hv1⟩ hrest ih
    obtain ⟨hkne, hktok⟩ := headerKeyOK_iff.mp hk1
    have hvb := (headerValueOK_iff.mp hv1).1
    have e1 : k.isEmpty = false := by simpa using hkne
    have e2 : k.any (fun c => !tokenByte c && c != 32) = false :=
      List.any_eq_false.mpr fun c hc => by simp [hktok c hc]
    have e3 : v.all headerValueByte = true :=
      List.all_eq_true.mpr fun c hc => (headerValueByte_eq c).trans (hvb c hc)
    have e4 : k.contains 32 = false := List.contains_eq_false_of_forall_ne fun c hc => by
      obtain ⟨_, _, _, h32, _⟩ := tokenByte_ne c (hktok c hc)
      exact h32
    unfold parseHeaderLines
    rw [headerNext_line k v _ hk1 hv1 hrest]
    simp only [e1, e2, e3, Bool.or_self, Bool.not_true, Bool.false_eq_true, if_false, ih, e4]
  · -- the scanner takes a line that starts with a blank for a continuation; a name starts with a token byte
    rintro ⟨k, v⟩ rest ⟨hk1, _⟩
    obtain ⟨hne, htok⟩ := headerKeyOK_iff.mp hk1
    cases k with
    | nil => exact absurd rfl hne
    | cons y ys =>
      obtain ⟨_, _, _, h32, h9⟩ := tokenByte_ne y (htok y (by simp))
      simp [writeHeaderLine, startsBlank, isBlank, h32, h9]

def occursIn (pat : Bytes) : Bytes → Bool
  | [] => pat.isEmpty
  | c :: cs => pat.isPrefixOf (c :: cs) || occursIn pat cs

/-- a pattern whose only 13 is its first byte cannot start inside `cs` and run on into a following 13 -/
theorem isPrefixOf_no_straddle (d cs t : Bytes) (hd : ∀ x ∈ d, x ≠ 13)
    (h : d.isPrefixOf (cs ++ 13 :: t) = true) : d.isPrefixOf cs = true := by
  induction cs generalizing d with
  | nil =>
    cases d with
    | nil => rfl
    | cons x xs =>
      simp only [List.nil_append, List.isPrefixOf, Bool.and_eq_true, beq_iff_eq] at h
      exact absurd h.1 (hd x (by simp))
  | cons c cs ih =>
    cases d with
    | nil => rfl
    | cons x xs =>
      simp only [List.cons_append, List.isPrefixOf, Bool.and_eq_true, beq_iff_eq] at h ⊢
      exact ⟨h.1, ih xs (fun y hy => hd y (by simp [hy])) h.2⟩

theorem cutAtPat_after (d v r : Bytes) (hd : ∀ x ∈ d, x ≠ 13) (hv : occursIn (13 :: d) v = false) :
    cutAtPat (13 :: d) (v ++ (13 :: d) ++ r) = some (v, r) := by
  induction v with
  | nil =>
    have hp : (13 :: d).isPrefixOf (13 :: (d ++ r)) = true :=
      isPrefixOf_append (13 :: d) r
    show cutAtPat (13 :: d) (13 :: (d ++ r)) = some ([], r)
    unfold cutAtPat
    simp [hp]
  | cons c cs ih =>
    simp only [occursIn, Bool.or_eq_false_iff] at hv
    have hno : (13 :: d).isPrefixOf (c :: (cs ++ (13 :: d) ++ r)) = false := by
      apply Bool.eq_false_iff.mpr
      intro hp
      simp only [List.isPrefixOf, Bool.and_eq_true, beq_iff_eq] at hp
      have h2 : d.isPrefixOf (cs ++ 13 :: (d ++ r)) = true := by simpa using hp.2
      have := isPrefixOf_no_straddle d cs (d ++ r) hd h2
      have hpre : (13 :: d).isPrefixOf (c :: cs) = true := by simp [List.isPrefixOf, hp.1, this]
      rw [hpre] at hv
      exact absurd hv.1 (by decide)
    show cutAtPat (13 :: d) (c :: (cs ++ (13 :: d) ++ r)) = some (c :: cs, r)
    unfold cutAtPat
    simp only [hno, Bool.false_eq_true, if_false]
    rw [ih hv.2]
    rfl

theorem occursIn_of_no13 (d v : Bytes) (hv : ∀ x ∈ v, x ≠ 13) : occursIn (13 :: d) v = false := by
  induction v with
  | nil => rfl
  | cons c cs ih =>
    have hc : (13 == c) = false := by
      have := hv c (by simp)
      simp; omega
    simp [occursIn, List.isPrefixOf, hc, ih (fun x hx => hv x (by simp [hx]))]

theorem readHeaderLines_write (lines : List Bytes) (rest : Bytes) (fuel : Nat)
    (hl : ∀ l ∈ lines, l ≠ [] ∧ ∀ x ∈ l, x ≠ 13) (hfuel : lines.length < fuel) :
    readHeaderLines fuel ((lines.map (· ++ [13, 10])).flatten ++ ([13, 10] ++ rest)) = some (lines, rest) := by
  have := read_written readHeaderLines (fun ls r => some (ls, r)) (· ++ [13, 10]) id [13, 10]
    (fun l => l ≠ [] ∧ ∀ x ∈ l, x ≠ 13) (fun _ => True)
    (fun fuel body => by
      have := cutAtPat_after [10] [] body (by simp) rfl
      simp only [List.nil_append, List.cons_append] at this
      simp [readHeaderLines, this])
    (fun fuel l r ys r' ⟨hne, h13⟩ _ ih => by
      have hcut := cutAtPat_after [10] l r (by simp) (occursIn_of_no13 [10] l h13)
      have he : l.isEmpty = false := by simpa using hne
      unfold readHeaderLines
      rw [hcut]
      simp only [he, Bool.false_eq_true, if_false, ih]
      rfl)
    (fun _ => trivial) (fun _ _ _ => trivial) lines rest fuel hl hfuel
  simpa using this

/-- names the multipart writer does not escape and the reader reads back as written -/
def partNameOK (k : Bytes) : Bool := k.all fun c => c != 13 && c != 34 && c != 92

theorem partNameOK_iff {k : Bytes} : partNameOK k = true ↔ ∀ c ∈ k, c ≠ 13 ∧ c ≠ 34 ∧ c ≠ 92 := by
  simp only [partNameOK, List.all_eq_true, Bool.and_eq_true, bne_iff_ne, ne_eq, and_assoc]

theorem aliasOK_partName (a : Bytes) (h : aliasOK a = true) : partNameOK a = true :=
  partNameOK_iff.mpr fun c hc => by have := (aliasOK_byte h).2 c hc; omega

theorem cdPrefix_no13 : ∀ x ∈ cdPrefix, x ≠ 13 := by
  unfold cdPrefix
  rw [b_ofList]
  decide +kernel

theorem partName_line (k tail : Bytes) (rest : List Bytes) (hk : ∀ x ∈ k, x ≠ 34) :
    partName ((cdPrefix ++ k ++ 34 :: tail) :: rest) = some (k, (b "; filename=\"").isPrefixOf tail) := by
  have hp : cdPrefix.isPrefixOf (cdPrefix ++ k ++ 34 :: tail) = true := by
    rw [List.append_assoc]; exact isPrefixOf_append _ _
  have hd : (cdPrefix ++ k ++ 34 :: tail).drop cdPrefix.length = k ++ 34 :: tail := by
    rw [List.append_assoc, List.drop_left]
  simp only [partName, hp, if_true, hd, cutAt_append 34 k tail hk, Option.map_some]

theorem partName_field (k : Bytes) (hk : partNameOK k = true) : partName (fieldHeader k) = some (k, false) := by
  rw [fieldHeader, partName_line k [] [] fun x hx => (partNameOK_iff.mp hk x hx).2.1, b_ofList]
  rfl

theorem partName_file (k fn : Bytes) (hk : partNameOK k = true) :
    partName (fileHeader k fn) = some (k, true) := by
  have hq : b "\"; filename=\"" = 34 :: b "; filename=\"" := by rw [b_ofList, b_ofList]; rfl
  rw [fileHeader, hq, show cdPrefix ++ k ++ 34 :: b "; filename=\"" ++ fn ++ [34]
      = cdPrefix ++ k ++ 34 :: (b "; filename=\"" ++ fn ++ [34]) by simp,
    partName_line k _ _ fun x hx => (partNameOK_iff.mp hk x hx).2.1, List.append_assoc,
    isPrefixOf_append _ _]

/-- a part as the reader meets it: from behind one delimiter up to and including the next -/
def partBytes (bd : Bytes) (p : List Bytes × Bytes) : Bytes :=
  13 :: 10 :: ((p.1.map (· ++ [13, 10])).flatten ++ ([13, 10] ++ (p.2 ++ 13 :: ([10] ++ dashBoundary bd))))

theorem writeParts_eq (bd : Bytes) (parts : List (List Bytes × Bytes)) :
    (parts.map fun p => writePart bd p.1 p.2).flatten ++ dashBoundary bd ++ [45, 45, 13, 10]
      = dashBoundary bd ++ ((parts.map (partBytes bd)).flatten ++ [45, 45, 13, 10]) := by
  induction parts with
  | nil => simp
  | cons p rest ih =>
    simp only [List.map_cons, List.flatten_cons, List.append_assoc] at ih ⊢
    rw [ih]
    simp [writePart, partBytes, List.append_assoc]

/-- a part content the reader model returns whole: `CRLF--boundary` does not occur in it -/
def delimFree (bd v : Bytes) : Bool := !occursIn ([13, 10] ++ dashBoundary bd) v

/-- a part the reader model reads back as `(name, content, isFile)` (`readParts_written`) -/
structure PartOK (bd : Bytes) (p : List Bytes × Bytes) (name : Bytes) (isFile : Bool) : Prop where
  lines : ∀ l ∈ p.1, l ≠ [] ∧ ∀ x ∈ l, x ≠ 13
  name : partName p.1 = some (name, isFile)
  content : delimFree bd p.2 = true

theorem fieldPart_ok {bd k v : Bytes} (hk : partNameOK k = true) (hv : delimFree bd v = true) :
    PartOK bd (fieldHeader k, v) k false :=
  ⟨List.forall_mem_singleton.mpr ⟨by simp, List.forall_mem_append.mpr
      ⟨List.forall_mem_append.mpr ⟨cdPrefix_no13, fun x hx => (partNameOK_iff.mp hk x hx).1⟩, by decide⟩⟩,
    partName_field k hk, hv⟩

theorem filePart_ok {bd k fn v : Bytes} (hk : partNameOK k = true) (hfn : ∀ x ∈ fn, x ≠ 13)
    (hv : delimFree bd v = true) : PartOK bd (fileHeader k fn, v) k true := by
  have hq : ∀ x ∈ b "\"; filename=\"", x ≠ 13 := by rw [b_ofList]; decide +kernel
  refine ⟨List.forall_mem_cons.mpr ⟨⟨by simp, ?_⟩, List.forall_mem_singleton.mpr (by rw [b_ofList]; decide +kernel)⟩,
    partName_file k fn hk, hv⟩
  exact List.forall_mem_append.mpr ⟨List.forall_mem_append.mpr ⟨List.forall_mem_append.mpr
    ⟨List.forall_mem_append.mpr ⟨cdPrefix_no13, fun x hx => (partNameOK_iff.mp hk x hx).1⟩, hq⟩, hfn⟩, by decide⟩

theorem readParts_written (bd : Bytes) (hbd : ∀ x ∈ bd, x ≠ 13)
    (parts : List ((List Bytes × Bytes) × Bytes × Bool)) (body : Bytes) (fuel : Nat)
    (hlen : parts.length < fuel)
    (hok : ∀ q ∈ parts, PartOK bd q.1 q.2.1 q.2.2) :
    readParts bd fuel ((parts.map fun q => partBytes bd q.1).flatten ++ ([45, 45, 13, 10] ++ body))
      = some (parts.map fun q => (q.2.1, q.1.2, q.2.2)) := by
  have hd : ∀ x ∈ [10] ++ dashBoundary bd, x ≠ 13 :=
    List.forall_mem_cons.mpr ⟨by decide, List.forall_mem_cons.mpr ⟨by decide,
      List.forall_mem_cons.mpr ⟨by decide, hbd⟩⟩⟩
  refine read_written (readParts bd) (fun ps _ => some ps)
    (fun q : (List Bytes × Bytes) × Bytes × Bool => partBytes bd q.1)
    (fun q => (q.2.1, q.1.2, q.2.2)) [45, 45, 13, 10] (fun q => PartOK bd q.1 q.2.1 q.2.2) (fun _ => True)
    (fun fuel body => by simp [readParts, List.isPrefixOf]) ?_ (fun _ => trivial) (fun _ _ _ => trivial)
    parts body fuel hok hlen
  rintro fuel ⟨⟨lines, content⟩, name, isFile⟩ rest ys r ⟨hlines, hname, hocc⟩ _ ih
  rw [partBytes, List.cons_append, List.cons_append, readParts]
  simp only [List.isPrefixOf, List.drop_succ_cons, List.drop_zero]
  rw [List.append_assoc, List.append_assoc,
    readHeaderLines_write lines _ _ hlines (by
      have := List.length_le_flatten_map (fun l : List Nat => l ++ [13, 10]) lines (by simp)
      simp only [List.length_append, List.length_cons]
      omega)]
  have := cutAtPat_after _ content rest hd (by simpa [delimFree] using hocc)
  simp only [List.append_assoc, List.cons_append, List.nil_append] at this
  simp only [List.cons_append, List.nil_append, List.append_assoc, this, hname, ih]
  rfl

/-- **Multipart body, writer and reader.** What the multipart reader model finds in the body
    `parserRequestBodyFile` wrote (one `WriteField` per form argument in order, then the files, then
    the closing delimiter) is the list of form arguments — same order, repeated names kept, every
    value byte for byte (CR, LF, quotes, `--`, anything) — provided the boundary has no CR, the names
    need no escaping, and **no value contains `CRLF "--" boundary`** (`delimFree`: the one thing a
    multipart value cannot carry; the client draws 16 random characters per request). -/
theorem readMultipart_writeMultipart (bd : Bytes) (fields : List (Bytes × Bytes))
    (files : List (Bytes × Bytes × Bytes))
    (hbd : ∀ x ∈ bd, x ≠ 13)
    (hf : ∀ kv ∈ fields, partNameOK kv.1 = true ∧ delimFree bd kv.2 = true)
    (hfile : ∀ f ∈ files, partNameOK f.1 = true ∧ (∀ x ∈ f.2.1, x ≠ 13) ∧ delimFree bd f.2.2 = true) :
    readMultipart bd (writeMultipart bd fields files) = some fields := by
  let quads : List ((List Bytes × Bytes) × Bytes × Bool) :=
    fields.map (fun kv => ((fieldHeader kv.1, kv.2), kv.1, false)) ++
    files.map (fun f => ((fileHeader f.1 f.2.1, f.2.2), f.1, true))
  have hbody : writeMultipart bd fields files =
      dashBoundary bd ++ ((quads.map fun q => partBytes bd q.1).flatten ++ ([45, 45, 13, 10] ++ [])) := by
    have h := writeParts_eq bd (quads.map (·.1))
    rw [List.map_map, List.map_map] at h
    rw [List.append_nil]
    refine Eq.trans ?_ h
    unfold writeMultipart
    simp [quads, List.map_append, List.flatten_append, Function.comp_def]
  have hok : ∀ q ∈ quads, PartOK bd q.1 q.2.1 q.2.2 :=
    List.forall_mem_append.mpr ⟨List.forall_mem_map.mpr fun kv h => fieldPart_ok (hf kv h).1 (hf kv h).2,
      List.forall_mem_map.mpr fun f h => filePart_ok (hfile f h).1 (hfile f h).2.1 (hfile f h).2.2⟩
  unfold readMultipart
  rw [hbody, isPrefixOf_append, if_pos rfl, List.drop_left,
    readParts_written bd hbd quads [] _ (by
    have := List.length_le_flatten_map (fun q : (List Bytes × Bytes) × Bytes × Bool => partBytes bd q.1) quads
      (fun _ _ => List.cons_ne_nil _ _)
    simp only [List.length_append]
    omega) hok]
  simp only [Option.map_some]
  congr 1
  simp only [quads, List.map_append, List.filter_append, List.map_map, List.filter_map, Function.comp_def]
  have h1 : fields.filter (fun _ => true) = fields := List.filter_eq_self.mpr (fun _ _ => rfl)
  have h2 : files.filter (fun _ => false) = [] := List.filter_eq_nil_iff.mpr (fun _ _ => by simp)
  simp [h1, h2]

end C11
