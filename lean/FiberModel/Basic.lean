/-
Shared byte-string vocabulary for all models.

Go strings and []byte are byte sequences. We model a byte as a `Nat` (the driver only ever
produces values < 256) so that `omega` and `decide` work directly; every theorem is therefore
stated for a superset of the real inputs. Core Lean only: this file is linked into the drivers.
-/

abbrev Bytes := List Nat

namespace B

/-- ASCII/UTF-8 literal as bytes (`b "text/html"`); reduces under `decide`. -/
def b (s : String) : Bytes := s.toList.map Char.toNat

def hexDigit (n : Nat) : Char :=
  if n < 10 then Char.ofNat (48 + n) else Char.ofNat (87 + n)

def toHex (bs : Bytes) : String :=
  String.ofList (bs.flatMap fun x => [hexDigit (x / 16 % 16), hexDigit (x % 16)])

def hexVal (c : Char) : Option Nat :=
  let n := c.toNat
  if 48 ≤ n ∧ n ≤ 57 then some (n - 48)
  else if 97 ≤ n ∧ n ≤ 102 then some (n - 87)
  else if 65 ≤ n ∧ n ≤ 70 then some (n - 55)
  else none

def fromHexAux : List Char → Option Bytes
  | [] => some []
  | [_] => none
  | c :: d :: rest =>
    match hexVal c, hexVal d, fromHexAux rest with
    | some x, some y, some r => some ((x * 16 + y) :: r)
    | _, _, _ => none

/-- Parse a hex field; the single character `-` denotes the empty string. -/
def fromHex (s : String) : Option Bytes :=
  if s == "-" then some [] else fromHexAux s.toList

def toHexField (bs : Bytes) : String := if bs.isEmpty then "-" else toHex bs

/-- Printable rendering for samples / messages (non-printables as \xNN). -/
def render (bs : Bytes) : String :=
  String.ofList (bs.flatMap fun x =>
    if 32 ≤ x ∧ x < 127 ∧ x ≠ 92 then [Char.ofNat x]
    else ['\\', 'x', hexDigit (x / 16 % 16), hexDigit (x % 16)])

/-! ### ASCII helpers (as gofiber/utils) -/

def isUpper (c : Nat) : Bool := 65 ≤ c && c ≤ 90
def isLower (c : Nat) : Bool := 97 ≤ c && c ≤ 122
def isDigit (c : Nat) : Bool := 48 ≤ c && c ≤ 57
def isAlpha (c : Nat) : Bool := isUpper c || isLower c

/-- `utils.ToLower` on one byte: ASCII only. -/
def lowerByte (c : Nat) : Nat := if isUpper c then c + 32 else c
def upperByte (c : Nat) : Nat := if isLower c then c - 32 else c
def toLower (s : Bytes) : Bytes := s.map lowerByte
def toUpper (s : Bytes) : Bytes := s.map upperByte

/-- `utils.EqualFold` (ASCII). -/
def equalFold (a b : Bytes) : Bool := toLower a == toLower b

def trimLeft (s : Bytes) (c : Nat) : Bytes := s.dropWhile (· == c)
def trimRight (s : Bytes) (c : Nat) : Bytes := (s.reverse.dropWhile (· == c)).reverse
def trim (s : Bytes) (c : Nat) : Bytes := trimRight (trimLeft s c) c

def hasPrefix (s p : Bytes) : Bool := p.isPrefixOf s
def hasSuffix (s p : Bytes) : Bool := p.isSuffixOf s

/-- `bytes.IndexByte`: position of the first `c`, if any. -/
def indexByte : Bytes → Nat → Option Nat
  | [], _ => none
  | x :: xs, c => if x == c then some 0 else (indexByte xs c).map (· + 1)

/-- `strings.Index`: least offset at which `pat` occurs. -/
def indexOf : Bytes → Bytes → Option Nat
  | [], pat => if pat.isEmpty then some 0 else none
  | x :: xs, pat =>
    if pat.isPrefixOf (x :: xs) then some 0 else (indexOf xs pat).map (· + 1)

/-- Split on a single byte, like `strings.Split(s, string(c))` (always ≥ 1 piece). -/
def splitOn (s : Bytes) (c : Nat) : List Bytes :=
  let rec go : Bytes → Bytes → List Bytes
    | [], acc => [acc.reverse]
    | x :: xs, acc => if x == c then acc.reverse :: go xs [] else go xs (x :: acc)
  go s []

def join (parts : List Bytes) (sep : Bytes) : Bytes :=
  match parts with
  | [] => []
  | [p] => p
  | p :: ps => p ++ sep ++ join ps sep

def natToDec (n : Nat) : Bytes := (toString n).toList.map Char.toNat

/-- Decimal `Nat` parser: non-empty, digits only. -/
def decToNat? (s : Bytes) : Option Nat :=
  if s.isEmpty then none
  else s.foldl (fun acc c => acc.bind fun a => if isDigit c then some (a * 10 + (c - 48)) else none) (some 0)

theorem lowerByte_idem (c : Nat) : lowerByte (lowerByte c) = lowerByte c := by
  unfold lowerByte isUpper
  split <;> simp_all <;> omega

theorem toLower_idem (s : Bytes) : toLower (toLower s) = toLower s := by
  simp [toLower, List.map_map, Function.comp_def, lowerByte_idem]

theorem toLower_append (s t : Bytes) : toLower (s ++ t) = toLower s ++ toLower t := by
  simp [toLower]

theorem toLower_length (s : Bytes) : (toLower s).length = s.length := by simp [toLower]

/-- `b` of a literal as the list of its characters. A literal unifies with `String.ofList` of its
    characters at no cost, whereas evaluating `String.toList` on it runs the UTF-8 decoder, in the
    elaborator and in the kernel alike. Test vectors therefore begin with `repeat rw [b_ofList]`;
    where the statement contains a `match`, with `repeat (conv in b _ => rw [b_ofList])`, so that the
    rewrite's motive does not run through the matcher. -/
theorem b_ofList (l : List Char) : b (String.ofList l) = l.map Char.toNat := by simp [b]

end B
