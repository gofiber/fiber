import FiberModel.C15.Ops
/-
C15 — what an operation does to the shared state, said once. The storage is written by `Storage.Set` only, and
that is called by `saveSession` only: every other operation of the model deletes entries, calls the key generator
or moves pooled objects. `Moves` says so, with the ids an operation may touch (`D`) and the pairs it may store (`W`)
as parameters; the invariants of the later files are closed under it, and the frame rule is its clause `get`.
-/
namespace C15
open B

/-- `c'` arises from `c` by deleting storage entries and storing pairs of `W` (both only under ids in `D`),
    calling the key generator, taking a pooled object, putting back an empty one, and recording a newly
    generated id in `Locals` -/
structure Moves (gen : Nat → Bytes) (D : Bytes → Prop) (W : Bytes → SData → Prop) (c c' : RCtx) : Prop where
  nid : c.st.nid ≤ c'.st.nid
  pool : ∀ d ∈ c'.st.pool, d = SData.empty ∨ d ∈ c.st.pool
  mem : ∀ e ∈ c'.st.store, e ∈ c.st.store ∨ W e.1 e.2.blob
  get : ∀ y, c'.st.get y = c.st.get y ∨ D y ∧ ∀ b, c'.st.get y = some b → W y b
  locals : ∀ i, c'.locals = some i → c.locals = some i ∨ ∃ n, c.st.nid ≤ n ∧ i = gen n

namespace Moves
variable {gen : Nat → Bytes} {D D' : Bytes → Prop} {W W' : Bytes → SData → Prop} {c c' c'' : RCtx}

theorem of_pool (hn : c'.st.nid = c.st.nid) (hs : c'.st.store = c.st.store) (ht : c'.st.now = c.st.now)
    (hp : ∀ d ∈ c'.st.pool, d = SData.empty ∨ d ∈ c.st.pool) (hl : c'.locals = c.locals) :
    Moves gen D W c c' :=
  ⟨Nat.le_of_eq hn.symm, hp, fun _ he => .inl (hs ▸ he), fun y => .inl (get_congr hs ht y),
    fun _ hi => .inl (hl ▸ hi)⟩

theorem refl (c : RCtx) : Moves gen D W c c := of_pool rfl rfl rfl (fun _ hd => .inr hd) rfl

theorem mono (h : Moves gen D W c c') (hD : ∀ y, D y → D' y) (hW : ∀ y b, W y b → W' y b) :
    Moves gen D' W' c c' :=
  ⟨h.nid, h.pool, fun e he => (h.mem e he).imp id (hW _ _),
    fun y => (h.get y).imp id fun ⟨hd, hw⟩ => ⟨hD y hd, fun b hb => hW y b (hw b hb)⟩, h.locals⟩

theorem trans (h : Moves gen D W c c') (h' : Moves gen D W c' c'') : Moves gen D W c c'' := by
  refine ⟨Nat.le_trans h.nid h'.nid, ?_, ?_, ?_, ?_⟩
  · intro d hd
    rcases h'.pool d hd with e | hd'
    · exact .inl e
    · exact h.pool d hd'
  · intro e he
    rcases h'.mem e he with he' | hw
    · exact h.mem e he'
    · exact .inr hw
  · intro y
    rcases h'.get y with e | hw
    · rw [e]; exact h.get y
    · exact .inr hw
  · intro i hi
    rcases h'.locals i hi with hi' | ⟨n, h1, e⟩
    · exact h.locals i hi'
    · exact .inr ⟨n, Nat.le_trans h.nid h1, e⟩

theorem del (x : Bytes) (hs : c'.st = c.st.del x) (hl : c'.locals = c.locals) : Moves gen (· = x) W c c' := by
  refine ⟨by rw [hs]; simp, by rw [hs]; simpa using fun d hd => Or.inr hd, ?_, ?_, fun i hi => .inl (hl ▸ hi)⟩
  · rw [hs]
    fun_cases St.del c.st x
    · exact fun e he => .inl he
    · exact fun e he => .inl (mem_erase he)
  · intro y
    rw [hs]
    by_cases hy : y = x
    · exact .inr ⟨hy, fun b hb => by rw [hy, get_del_self] at hb; cases hb⟩
    · exact .inl (get_del_ne _ hy)

theorem clear (hs : c'.st = { c.st with store := [] }) (hl : c'.locals = c.locals) :
    Moves gen (fun _ => True) W c c' := by
  refine ⟨by rw [hs]; exact Nat.le_refl _, by rw [hs]; exact fun d hd => Or.inr hd,
    (by rw [hs]; intro e he; cases he), ?_, fun i hi => .inl (hl ▸ hi)⟩
  intro y
  exact .inr ⟨trivial, fun b hb => by rw [hs] at hb; simp [St.get, lookup] at hb⟩

/-- `KeyGenerator()`, with or without `c.Locals(sessionIDContextKey, id)` -/
theorem bump (hs : c'.st = { c.st with nid := c.st.nid + 1 })
    (hl : c'.locals = c.locals ∨ c'.locals = some (gen c.st.nid)) : Moves gen D W c c' := by
  refine ⟨by rw [hs]; exact Nat.le_succ _, by rw [hs]; exact fun d hd => Or.inr hd,
    by rw [hs]; exact fun e he => Or.inl he, fun y => .inl (by rw [hs]; rfl), ?_⟩
  intro i hi
  rcases hl with hl | hl
  · exact .inl (hl ▸ hi)
  · rw [hl] at hi
    cases hi
    exact .inr ⟨_, Nat.le_refl _, rfl⟩

theorem set (x : Bytes) (d : SData) (ttl : Nat) (hs : c'.st = c.st.set x d ttl) (hl : c'.locals = c.locals) :
    Moves gen (· = x) (fun y b => y = x ∧ b = d) c c' := by
  refine ⟨by rw [hs]; simp, by rw [hs]; simpa using fun d hd => Or.inr hd, ?_, ?_, fun i hi => .inl (hl ▸ hi)⟩
  · rw [hs]
    fun_cases St.set c.st x d ttl
    · exact fun e he => .inl he
    · intro e he
      rcases mem_put he with rfl | hm
      · exact .inr ⟨rfl, rfl⟩
      · exact .inl hm
  · intro y
    rw [hs]
    by_cases hy : y = x
    · exact .inr ⟨hy, fun b hb => ⟨hy, by rw [hy] at hb; exact eq_of_get_set_self hb⟩⟩
    · exact .inl (get_set_ne _ hy _ _)

/-- time passing only ever makes entries disappear -/
theorem adv (t : Nat) (hs : c'.st = { c.st with now := c.st.now + t }) (hl : c'.locals = c.locals) :
    Moves gen (fun _ => True) W c c' := by
  refine ⟨by rw [hs]; exact Nat.le_refl _, by rw [hs]; exact fun d hd => Or.inr hd,
    by rw [hs]; exact fun e he => Or.inl he, ?_, fun i hi => .inl (hl ▸ hi)⟩
  intro y
  rw [hs]
  cases h : ({ c.st with now := c.st.now + t } : St).get y with
  | none => exact .inr ⟨trivial, fun b hb => by cases hb⟩
  | some b => exact .inl (get_adv_some h).symm

/-- another request's context sees the same change of the shared state -/
theorem withSt (m : Moves gen D W c c') (c2 : RCtx) : Moves gen D W { c2 with st := c.st } { c2 with st := c'.st } :=
  ⟨m.nid, m.pool, m.mem, m.get, fun _ hi => .inl hi⟩

end Moves

def PoolEmpty (st : St) : Prop := ∀ d ∈ st.pool, d = SData.empty

/-- nothing is written -/
abbrev NoW : Bytes → SData → Prop := fun _ _ => False

theorem Moves.ofNoW {gen : Nat → Bytes} {D D' : Bytes → Prop} {W : Bytes → SData → Prop} {c c' : RCtx}
    (h : Moves gen D NoW c c') (hD : ∀ y, D y → D' y) : Moves gen D' W c c' :=
  h.mono hD nofun

section ops
variable {gen : Nat → Bytes} {D : Bytes → Prop} {W : Bytes → SData → Prop} (cfg : Cfg) (c : RCtx) (s : Sess)

theorem acquire_moves : Moves gen D W c (acquire c).1 := by
  exact .of_pool (acquire_nid c) (acquire_store c) (acquire_now c) (fun d hd => .inr (acquire_pool c d hd))
    (acquire_locals c)

theorem release_moves : Moves gen D W c (release c s) :=
  .of_pool rfl rfl rfl (fun d hd => by simpa [release, eq_comm] using hd) rfl

theorem sessDestroy_moves : Moves gen (· = s.id) NoW c (sessDestroy cfg c s).1 :=
  .del s.id (sessDestroy_st cfg c s) (sessDestroy_locals cfg c s)

theorem sessRegenerate_moves : Moves gen (· = s.id) NoW c (sessRegenerate gen c s).1 :=
  (Moves.del (c' := { c with st := c.st.del s.id }) s.id rfl rfl).trans
    (.bump (by rw [sessRegenerate_st]; simp) (.inl (sessRegenerate_locals gen c s)))

theorem sessReset_moves : Moves gen (· = s.id) NoW c (sessReset cfg gen c s).1 :=
  (Moves.del (c' := { c with st := c.st.del s.id }) s.id rfl rfl).trans
    (.bump (by rw [sessReset_st]; simp) (.inl (sessReset_locals cfg gen c s)))

theorem sessSave_moves : Moves gen (· = s.id) (fun y b => y = s.id ∧ b = s.data) c (sessSave cfg c s).1 :=
  .set s.id s.data _ (sessSave_st cfg c s) (sessSave_locals cfg c s)

theorem finishLoad_moves :
    Moves gen (fun y => y = s.id ∧ absExpired c.st.now s.data = true) NoW c (finishLoad cfg gen c s).1 := by
  fun_cases finishLoad cfg gen c s
  · exact .refl c
  · exact (sessReset_moves cfg c s).ofNoW fun y hy => ⟨hy, ‹_›⟩
  · exact .refl c

theorem afterNew_moves : Moves gen D W c (afterNew gen c) :=
  .bump (afterNew_st gen c) (.inr (by simp [afterNew, newID_eq]))

/-- a lookup deletes at most the entry it looked up (and only one past its absolute deadline); with leftovers
    in a pooled object it may take the new session for an expired one and delete under the new id as well -/
theorem getSession_moves :
    Moves gen (fun y => y = lookupId cfg c ∨ ¬ PoolEmpty c.st) NoW c (getSession cfg gen c).1 := by
  cases hg : c.st.get (lookupId cfg c) with
  | none =>
    rw [getSession_none hg]
    refine ((afterNew_moves c).trans (acquire_moves _)).trans ((finishLoad_moves cfg _ _).ofNoW ?_)
    rintro y ⟨_, hexp⟩
    refine .inr fun hp => ?_
    rcases acquire_obj (afterNew gen c) with h1 | h1
    · simp [h1, absExpired, SData.empty] at hexp
    · rw [afterNew_st] at h1
      simp [hp _ h1, absExpired, SData.empty] at hexp
  | some blob =>
    rw [getSession_some hg]
    exact (acquire_moves c).trans ((finishLoad_moves cfg _ _).ofNoW fun y hy => .inl hy.1)

theorem getByID_moves (x : Bytes) : Moves gen (· = x) NoW c (getByID cfg c x).1 := by
  rw [getByID_eq]
  cases c.st.get x with
  | none => exact .refl c
  | some blob =>
    simp only
    split
    · exact (acquire_moves c).trans (sessDestroy_moves cfg _ (byIDSess c x blob))
    · exact acquire_moves c

end ops

section loads
variable (cfg : Cfg) (gen : Nat → Bytes) (c : RCtx)

/-- the session `getSession` returns is the stored one under the looked-up id — with the stored absolute
    deadline unless that id is this request's own (`Locals`) — or one under a newly generated id -/
theorem getSession_kept_or_new :
    (∃ blob, c.st.get (lookupId cfg c) = some blob ∧ (getSession cfg gen c).2.id = lookupId cfg c ∧
      ((getSession cfg gen c).2.data.abs = ((acquire c).2.merge blob).abs ∨ c.locals = some (lookupId cfg c))) ∨
    ∃ n, c.st.nid ≤ n ∧ n < (getSession cfg gen c).1.st.nid ∧ (getSession cfg gen c).2.id = gen n := by
  have fin : ∀ (c1 : RCtx) (s : Sess), c.st.nid ≤ c1.st.nid →
      ((finishLoad cfg gen c1 s).2.id = s.id ∧ c1.st.nid ≤ (finishLoad cfg gen c1 s).1.st.nid ∧
        ((finishLoad cfg gen c1 s).2.data.abs = s.data.abs ∨ s.fresh = true)) ∨
      ∃ n, c.st.nid ≤ n ∧ n < (finishLoad cfg gen c1 s).1.st.nid ∧ (finishLoad cfg gen c1 s).2.id = gen n := by
    intro c1 s hle
    fun_cases finishLoad cfg gen c1 s
    · rename_i hf
      exact .inl ⟨rfl, Nat.le_refl _, .inr (by simp at hf; exact hf.1)⟩
    · refine .inr ⟨c1.st.nid, hle, ?_, ?_⟩
      · rw [sessReset_st]; exact Nat.lt_succ_self _
      · rw [sessReset_snd]
    · exact .inl ⟨rfl, Nat.le_refl _, .inl rfl⟩
  cases hg : c.st.get (lookupId cfg c) with
  | none =>
    rw [getSession_none hg]
    have hn : (acquire (afterNew gen c)).1.st.nid = c.st.nid + 1 := by rw [acquire_nid, afterNew_st]
    right
    rcases fin (acquire (afterNew gen c)).1 { id := gen c.st.nid, data := (acquire (afterNew gen c)).2, fresh := true }
      (by omega) with ⟨h1, h2, _⟩ | h
    · exact ⟨c.st.nid, Nat.le_refl _, by omega, h1⟩
    · exact h
  | some blob =>
    rw [getSession_some hg]
    rcases fin (acquire c).1 { id := lookupId cfg c, data := (acquire c).2.merge blob, fresh := c.locals.isSome }
      (Nat.le_of_eq (acquire_nid c).symm) with ⟨h1, _, h3⟩ | h
    · refine .inl ⟨blob, rfl, h1, h3.imp id fun hf => ?_⟩
      cases hl : c.locals with
      | none => simp [hl] at hf
      | some i => simp [lookupId, hl]
    · exact .inr h

theorem getByID_ok {x : Bytes} {s : Sess} (h : (getByID cfg c x).2 = .ok s) :
    ∃ blob, c.st.get x = some blob ∧ s = byIDSess c x blob := by
  rw [getByID_eq] at h
  cases hg : c.st.get x with
  | none => rw [hg] at h; cases h
  | some blob =>
    rw [hg] at h
    simp only at h
    split at h
    · cases h
    · cases h; exact ⟨blob, rfl, rfl⟩

end loads

section requests
variable {cfg : Cfg} {gen : Nat → Bytes}

theorem startReq_moves (st : St) (q : Req) :
    Moves gen (fun _ => True) NoW { st := st, ck := q.ck, hd := q.hd, qr := q.qr }
      (startReq cfg gen st q).c := by
  unfold startReq
  simp only
  split
  · exact (getSession_moves cfg _).ofNoW fun _ _ => trivial
  · exact .refl _

theorem endCtx_moves (q : Req) (h : HSt) :
    Moves gen (fun _ => True) (fun y b => h.destroyed = false ∧ ∃ s, h.mw = some s ∧ s.id = y ∧ s.data = b)
      h.c (endCtx cfg q h) := by
  unfold endCtx
  split
  · fun_cases mwFinish cfg h
    · exact .refl _
    · rename_i s hs hd
      exact ((sessSave_moves cfg h.c s).trans (release_moves _ _)).mono (fun _ _ => trivial)
        fun y b ⟨hy, hb⟩ => ⟨by simpa using hd, s, hs, hy.symm, hb.symm⟩
    · exact .refl _
  · exact .refl _

end requests

end C15
