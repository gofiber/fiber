import FiberModel.C15.Frame
/-
C15 — refinement: the store + pool + middleware model simulates the abstract session table of Spec.lean.
`StRel` relates a storage state to an abstract table, `ViewRel` a Session object to an abstract view;
every primitive of the model is matched with its abstract counterpart.
-/
namespace C15
open B

variable {cfg : Cfg} {gen : Nat → Bytes} {c : RCtx} {st : St}

/-- the configurations and key generators the theorems are about: `configDefault` guarantees a positive
    idle timeout; the generator never repeats an id and never returns the empty string -/
structure WF (cfg : Cfg) (gen : Nat → Bytes) : Prop where
  idle : 0 < cfg.idle
  inj : ∀ i j, gen i = gen j → i = j
  nonempty : ∀ i, gen i ≠ []

-- `abs0`: without an `AbsoluteTimeout` no deadline is ever written. `GetByID` looks at the stored deadline only
-- when one is configured, the oracle always; the two agree because there is none to look at.
structure EntryRel (cfg : Cfg) (e : Entry) (se : SEntry) : Prop where
  deadline : e.deadline = some se.idleDeadline
  data : se.data = e.blob.kv
  abs : se.absDeadline = e.blob.abs
  nodup : NoDupKeys e.blob.kv
  abs0 : cfg.abs = 0 → e.blob.abs = none

structure StRel (cfg : Cfg) (gen : Nat → Bytes) (st : St) (s : SpecSt) : Prop where
  now : s.now = st.now
  issued : s.issued = (List.range st.nid).map gen
  inv : Inv gen st
  nodupStore : NoDupKeys st.store
  nodupSess : NoDupKeys s.sessions
  fwd : ∀ id e, lookup st.store id = some e → e.live st.now = true →
    ∃ se, lookup s.sessions id = some se ∧ EntryRel cfg e se
  bwd : ∀ id se, lookup s.sessions id = some se → st.now < se.idleDeadline →
    ∃ e, lookup st.store id = some e ∧ EntryRel cfg e se

theorem EntryRel.live {e : Entry} {se : SEntry} (h : EntryRel cfg e se) (now : Nat) :
    e.live now = decide (now < se.idleDeadline) := by
  simp [Entry.live, h.deadline]

theorem strel_init (cfg : Cfg) (gen : Nat → Bytes) : StRel cfg gen {} specInit := by
  refine ⟨rfl, rfl, inv_init gen, trivial, trivial, ?_, ?_⟩
  · intro id e h; simp [lookup] at h
  · intro id se h; simp [specInit, lookup] at h

theorem strel_adv {s : SpecSt} (h : StRel cfg gen st s) (d : Nat) :
    StRel cfg gen { st with now := st.now + d } { s with now := s.now + d } := by
  refine ⟨by simp [h.now], h.issued, h.inv, h.nodupStore, h.nodupSess, ?_, ?_⟩
  · intro id e he hl
    exact h.fwd id e he (Entry.live_of_later hl)
  · intro id se hs hl
    exact h.bwd id se hs (by simp only at hl; omega)

/-- `fwd` and `bwd` of `StRel` at one key: what the storage holds under it against what the table holds -/
def KeyRel (cfg : Cfg) (now : Nat) (oe : Option Entry) (ose : Option SEntry) : Prop :=
  (∀ e, oe = some e → e.live now = true → ∃ se, ose = some se ∧ EntryRel cfg e se) ∧
  (∀ se, ose = some se → now < se.idleDeadline → ∃ e, oe = some e ∧ EntryRel cfg e se)

theorem StRel.key {s : SpecSt} (h : StRel cfg gen st s) (id : Bytes) :
    KeyRel cfg st.now (lookup st.store id) (lookup s.sessions id) := ⟨h.fwd id, h.bwd id⟩

theorem KeyRel.none (cfg : Cfg) (now : Nat) : KeyRel cfg now none none :=
  ⟨fun _ h => (by cases h), fun _ h => (by cases h)⟩

theorem KeyRel.some {e : Entry} {se : SEntry} (h : EntryRel cfg e se) (now : Nat) :
    KeyRel cfg now (some e) (some se) :=
  ⟨fun _ he _ => (by cases he; exact ⟨_, rfl, h⟩), fun _ hs _ => (by cases hs; exact ⟨_, rfl, h⟩)⟩

theorem StRel.ofKeys {s : SpecSt} (hnow : s.now = st.now) (hiss : s.issued = (List.range st.nid).map gen)
    (hinv : Inv gen st) (hnd : NoDupKeys st.store) (hnd' : NoDupKeys s.sessions)
    (hk : ∀ id, KeyRel cfg st.now (lookup st.store id) (lookup s.sessions id)) : StRel cfg gen st s :=
  ⟨hnow, hiss, hinv, hnd, hnd', fun id => (hk id).1, fun id => (hk id).2⟩

theorem strel_del {s : SpecSt} (h : StRel cfg gen st s)
    {id : Bytes} (hid : id ≠ []) :
    StRel cfg gen (st.del id) { s with sessions := erase s.sessions id } := by
  have hd : st.del id = { st with store := erase st.store id } := by simp [St.del, hid]
  have hk : ∀ id', KeyRel cfg st.now (lookup (erase st.store id) id') (lookup (erase s.sessions id) id') := by
    intro id'
    rw [lookup_erase, lookup_erase]
    split
    · exact .none cfg _
    · exact h.key id'
  rw [hd]
  exact .ofKeys h.now h.issued (hd ▸ del_inv h.inv id) (nodup_erase h.nodupStore id) (nodup_erase h.nodupSess id) hk

theorem strel_reset {s : SpecSt} (h : StRel cfg gen st s) :
    StRel cfg gen { st with store := [] } { s with sessions := [] } :=
  ⟨h.now, h.issued, ⟨fun _ he => (by cases he), h.inv.2⟩, trivial, trivial,
    fun _ => (KeyRel.none cfg _).1, fun _ => (KeyRel.none cfg _).2⟩

/-- TTL 0 means "never expires" in memory.go, which `EntryRel.deadline = some _` cannot express: positive TTL only -/
theorem strel_set {s : SpecSt} (h : StRel cfg gen st s)
    {id : Bytes} (hid : Issued gen st.nid id) (hne : id ≠ []) (d : SData) {ttl : Nat} (httl : 0 < ttl)
    (hnd : NoDupKeys d.kv) (habs0 : cfg.abs = 0 → d.abs = none) :
    StRel cfg gen (st.set id d ttl)
      { s with sessions := put s.sessions id { data := d.kv, idleDeadline := s.now + ttl, absDeadline := d.abs } } := by
  have hne0 : ttl ≠ 0 := by omega
  have hd : st.set id d ttl = { st with store := put st.store id { blob := d, deadline := some (st.now + ttl) } } := by
    simp [St.set, hne, hne0]
  have her : EntryRel cfg { blob := d, deadline := some (st.now + ttl) }
      { data := d.kv, idleDeadline := s.now + ttl, absDeadline := d.abs } :=
    ⟨by simp [h.now], rfl, rfl, hnd, habs0⟩
  have hk : ∀ id', KeyRel cfg st.now (lookup (put st.store id { blob := d, deadline := some (st.now + ttl) }) id')
      (lookup (put s.sessions id { data := d.kv, idleDeadline := s.now + ttl, absDeadline := d.abs }) id') := by
    intro id'
    rw [lookup_put, lookup_put]
    split
    · exact .some her _
    · exact h.key id'
  rw [hd]
  exact .ofKeys h.now h.issued (hd ▸ set_inv h.inv hid d ttl) (nodup_put h.nodupStore _ _) (nodup_put h.nodupSess _ _) hk

theorem issued_ne_nil (hw : WF cfg gen) {n : Nat} {id : Bytes}
    (h : Issued gen n id) : id ≠ [] := by
  obtain ⟨i, _, e⟩ := h
  rw [e]; exact hw.nonempty i

theorem issued_contains {n : Nat} {id : Bytes} (h : Issued gen n id) :
    ((List.range n).map gen).contains id = true := by
  obtain ⟨i, hi, e⟩ := h
  simp only [List.contains_iff_mem, List.mem_map, List.mem_range]
  exact ⟨i, hi, e.symm⟩

theorem new_not_issued (hw : WF cfg gen) (n : Nat) :
    ((List.range n).map gen).contains (gen n) = false :=
  List.contains_eq_false_of_forall_ne fun x hx e => by
    obtain ⟨i, hi, rfl⟩ := List.mem_map.mp hx
    exact Issued.not_again hw.inj ⟨i, List.mem_range.mp hi, rfl⟩ (Nat.le_refl n) e.symm

theorem new_ne_issued {cfg : Cfg} {gen : Nat → Bytes} (hw : WF cfg gen) {n : Nat} {id : Bytes}
    (h : Issued gen n id) : id ≠ gen n :=
  fun e => h.not_again hw.inj (Nat.le_refl n) e.symm

theorem gensBetween_lt {gen : Nat → Bytes} {n m : Nat} (h : n < m) :
    gensBetween gen n m = gen n :: gensBetween gen (n + 1) m := by
  unfold gensBetween
  have : m - n = (m - (n + 1)) + 1 := by omega
  rw [this, List.range'_succ]
  rfl

theorem gensBetween_self (gen : Nat → Bytes) (n : Nat) : gensBetween gen n n = [] := by
  simp [gensBetween]

theorem gensBetween_succ (gen : Nat → Bytes) (n : Nat) : gensBetween gen n (n + 1) = [gen n] := by
  simp [gensBetween]

theorem gensBetween_append (gen : Nat → Bytes) {a b c : Nat} (hab : a ≤ b) (hbc : b ≤ c) :
    gensBetween gen a c = gensBetween gen a b ++ gensBetween gen b c := by
  unfold gensBetween
  rw [← List.map_append]
  congr 1
  have h1 : c - a = (b - a) + (c - b) := by omega
  have h2 : a + (b - a) = b := by omega
  have l := List.range'_append_1 (s := a) (m := b - a) (n := c - b)
  rw [h2] at l
  rw [h1]
  exact l.symm

def freshV (cfg : Cfg) (id : Bytes) (now : Nat) (ctx : Bool) : View :=
  { id := id, data := [], fresh := true, abs := if cfg.abs > 0 then some (now + cfg.abs) else none, ctx := ctx }

/-- the abstract counterpart of `KeyGenerator()`: the next observed generator output is new -/
theorem freshView_ok (hw : WF cfg gen) {r : SReq} {n : Nat} {G : List Bytes}
    (hiss : r.s.issued = (List.range n).map gen) (hg : r.gens = gen n :: G) :
    freshView cfg r = .ok
      ({ r with gens := G, s := { r.s with issued := (List.range (n + 1)).map gen } },
       freshV cfg (gen n) r.s.now true) := by
  unfold freshView
  rw [hg]
  simp only [hw.nonempty n, if_false, hiss, new_not_issued hw n, Bool.false_eq_true]
  simp [List.range_succ, freshV]

theorem strel_newid {s : SpecSt} (h : StRel cfg gen st s) :
    StRel cfg gen { st with nid := st.nid + 1 } { s with issued := (List.range (st.nid + 1)).map gen } :=
  ⟨h.now, rfl, inv_bump h.inv (Nat.le_succ _), h.nodupStore, h.nodupSess, h.fwd, h.bwd⟩

-- `abs` holds until `Destroy`: that empties the Session object's data while the view keeps its deadline.
structure ViewRel (cfg : Cfg) (gen : Nat → Bytes) (nid : Nat) (s : Sess) (v : View) : Prop where
  id : v.id = s.id
  data : v.data = s.data.kv
  nodup : NoDupKeys s.data.kv
  fresh : v.fresh = s.fresh
  abs : v.destroyed = false → v.abs = s.data.abs
  abs0 : cfg.abs = 0 → s.data.abs = none
  idle : v.idle = if s.idleT > 0 then some s.idleT.toNat else none
  issued : Issued gen nid s.id
  ctx : v.ctx = s.hasCtx

section
variable {s : Sess} {v : View} {r r' : SReq}

theorem ViewRel.mono {n m : Nat}
    (h : ViewRel cfg gen n s v) (hnm : n ≤ m) : ViewRel cfg gen m s v :=
  ⟨h.id, h.data, h.nodup, h.fresh, h.abs, h.abs0, h.idle, h.issued.mono hnm, h.ctx⟩

/-- the Session object of a newly generated id (`getSession` on a miss, `Reset`) against the view `freshView` makes -/
theorem freshV_rel (n : Nat) {now now' : Nat} (hnow : now' = now) {ctx ctx' : Bool} (hctx : ctx' = ctx) :
    ViewRel cfg gen (n + 1)
      { id := gen n, fresh := true, hasCtx := ctx,
        data := { kv := [], abs := if cfg.abs > 0 then some (now + cfg.abs) else none } }
      (freshV cfg (gen n) now' ctx') :=
  ⟨rfl, rfl, trivial, rfl, fun _ => by simp [freshV, hnow], fun h0 => by simp [h0], by simp [freshV], issued_new gen n,
    hctx⟩

/-- the reply only ever carries issued ids -/
structure OutOK (gen : Nat → Bytes) (c : RCtx) : Prop where
  ck : ∀ v, c.outCk = some (some v) → Issued gen c.st.nid v
  hd : ∀ v, c.outHd = some v → Issued gen c.st.nid v

/-- request fields a session without a context (`GetByID`) cannot touch -/
def SameReq (c c' : RCtx) : Prop := c'.ck = c.ck ∧ c'.hd = c.hd ∧ c'.qr = c.qr ∧ c'.locals = c.locals

theorem OutOK.congr {c c' : RCtx} (h : OutOK gen c) (hck : c'.outCk = c.outCk)
    (hhd : c'.outHd = c.outHd) (hn : c.st.nid ≤ c'.st.nid) : OutOK gen c' :=
  ⟨fun v hv => (h.ck v (hck ▸ hv)).mono hn, fun v hv => (h.hd v (hhd ▸ hv)).mono hn⟩

theorem delSession_out (h : OutOK gen c) (s : Sess) :
    OutOK gen (delSession cfg c s) := by
  fun_cases delSession cfg c s
  · exact h
  · exact ⟨h.ck, by intro v hv; simp at hv⟩
  · exact ⟨by intro v hv; simp at hv, h.hd⟩

theorem delSession_same (cfg : Cfg) (c : RCtx) {s : Sess} (hs : s.hasCtx = false) : delSession cfg c s = c := by
  simp [delSession, hs]

theorem setSession_out (h : OutOK gen c)
    (hs : Issued gen c.st.nid s.id) : OutOK gen (setSession cfg c s) := by
  fun_cases setSession cfg c s
  · exact h
  · exact ⟨h.ck, by intro v hv; simp only [Option.some.injEq] at hv; subst hv; exact hs⟩
  · exact ⟨by intro v hv; simp only [Option.some.injEq] at hv; subst hv; exact hs, h.hd⟩

theorem setSession_same (cfg : Cfg) (c : RCtx) {s : Sess} (hs : s.hasCtx = false) : setSession cfg c s = c := by
  simp [setSession, hs]

theorem sessSave_same (cfg : Cfg) (c : RCtx) {s : Sess} (hs : s.hasCtx = false) : SameReq c (sessSave cfg c s).1 := by
  rw [sessSave_fst, setSession_same cfg c hs]
  exact ⟨rfl, rfl, rfl, rfl⟩

theorem sessSave_carries (cfg : Cfg) (c : RCtx) (hs : s.hasCtx = true) :
    if cfg.source = .header then (sessSave cfg c s).1.outHd = some s.id
    else (sessSave cfg c s).1.outCk = some (some s.id) := by
  rw [sessSave_fst]
  split <;> simp_all [setSession]

theorem sessReset_same (cfg : Cfg) (gen : Nat → Bytes) (c : RCtx) {s : Sess} (hs : s.hasCtx = false) :
    SameReq c (sessReset cfg gen c s).1 := by
  rw [sessReset_fst, delSession_same cfg c hs]
  exact ⟨rfl, rfl, rfl, rfl⟩

def specTTL (cfg : Cfg) (v : View) : Nat := match v.idle with | some d => d | none => cfg.idle

theorem saveView_eq (cfg : Cfg) (r : SReq) (v : View) :
    saveView cfg r v =
      ({ r with s := { r.s with sessions := put r.s.sessions v.id (SEntry.mk v.data (r.s.now + specTTL cfg v) v.abs) } },
       { v with idle := some (specTTL cfg v) }) := rfl

theorem ttl_eq {n : Nat} (hv : ViewRel cfg gen n s v) :
    specTTL cfg v = saveTTL cfg s := by
  unfold specTTL saveTTL
  rw [hv.idle]
  by_cases h : s.idleT > 0
  · have : ¬ s.idleT ≤ 0 := by omega
    simp [h, this]
  · have : s.idleT ≤ 0 := by omega
    simp [h, this]

/-- the request context of the model against the abstract request state: cookie / header / query as the
    request (still) presents them, and the id a lookup of this request generated (`Locals`) -/
def CtxRel (c : RCtx) (r : SReq) : Prop :=
  c.ck = r.pres.ck ∧ c.hd = r.pres.hd ∧ c.qr = r.pres.qr ∧ c.locals = r.genId

theorem presented_eq (cfg : Cfg) (c : RCtx) (p : Pres) (h1 : c.ck = p.ck) (h2 : c.hd = p.hd) (h3 : c.qr = p.qr) :
    getSessionID cfg c = presentedId cfg p := by
  unfold getSessionID presentedId
  rw [h1, h2, h3]
  by_cases hck : p.ck = []
  · simp only [hck, ne_eq, not_true_eq_false, if_false]
    cases cfg.source <;> simp
  · simp [hck]

theorem CtxRel.lookupId (h : CtxRel c r) : lookupId cfg c = r.lookupId cfg := by
  obtain ⟨hck, hhd, hqr, hloc⟩ := h
  unfold C15.lookupId SReq.lookupId
  rw [hloc]
  cases r.genId with
  | some g => rfl
  | none => exact presented_eq cfg c r.pres hck hhd hqr

theorem delSession_ctx (h : CtxRel c r)
    (hp : r'.pres = if s.hasCtx then withdraw cfg r.pres else r.pres) (hg : r'.genId = r.genId) :
    CtxRel (delSession cfg c s) r' := by
  obtain ⟨a1, a2, a3, a4⟩ := h
  unfold CtxRel
  rw [hp, hg]
  unfold delSession withdraw
  cases s.hasCtx <;> by_cases hsrc : cfg.source = .header <;> simp [hsrc, a1, a2, a3, a4]

theorem setSession_ctx (h : CtxRel c r)
    (hp : r'.pres = if s.hasCtx then represent cfg r.pres s.id else r.pres) (hg : r'.genId = r.genId) :
    CtxRel (setSession cfg c s) r' := by
  obtain ⟨a1, a2, a3, a4⟩ := h
  unfold CtxRel
  rw [hp, hg]
  unfold setSession represent
  cases s.hasCtx <;> by_cases hsrc : cfg.source = .header <;> simp [hsrc, a1, a2, a3, a4]

end

theorem strel_congr {st st' : St} {s : SpecSt} (h : StRel cfg gen st s)
    (hnow : st'.now = st.now) (hnid : st'.nid = st.nid) (hstore : st'.store = st.store)
    (hpool : ∀ d ∈ st'.pool, d = SData.empty) : StRel cfg gen st' s := by
  refine ⟨by rw [hnow]; exact h.now, by rw [hnid]; exact h.issued, ⟨?_, hpool⟩, by rw [hstore]; exact h.nodupStore,
    h.nodupSess, ?_, ?_⟩
  · intro e he; rw [hstore] at he; rw [hnid]; exact h.inv.1 e he
  · intro id e he hl; rw [hstore] at he; rw [hnow] at hl; exact h.fwd id e he hl
  · intro id se hs hl
    rw [hnow] at hl
    obtain ⟨e, he, hr⟩ := h.bwd id se hs hl
    exact ⟨e, by rw [hstore]; exact he, hr⟩

theorem strel_erase_dead {s : SpecSt} (h : StRel cfg gen st s) {p : Bytes} (hp : p ≠ []) (hg : st.get p = none) :
    StRel cfg gen st { s with sessions := erase s.sessions p } := by
  have hk : ∀ id, KeyRel cfg st.now (lookup st.store id) (lookup (erase s.sessions p) id) := by
    intro id
    rw [lookup_erase]
    split
    · rename_i hk
      subst hk
      exact ⟨fun e he hl => (by rw [get_of_lookup hp he hl] at hg; cases hg), fun _ hs => (by cases hs)⟩
    · exact h.key id
  exact .ofKeys h.now h.issued h.inv h.nodupStore (nodup_erase h.nodupSess p) hk

theorem strel_acquire {s : SpecSt} (h : StRel cfg gen c.st s) : StRel cfg gen (acquire c).1.st s :=
  strel_congr h (acquire_now c) (acquire_nid c) (acquire_store c) fun d hd => h.inv.2 d (acquire_pool c d hd)

theorem strel_release {s : SpecSt} (h : StRel cfg gen c.st s) (x : Sess) : StRel cfg gen (release c x).st s :=
  strel_congr h rfl rfl rfl (pool_release h.inv.2 x)

/-- what a simulation step hands on: related storage and table, the generator outputs still expected,
    the Session object against its view, the reply, what the request presents, and an abstract request
    state whose handler variables are untouched (`frame`: one record equation, so that every operation lemma
    closes it by `rfl` on the successor it writes down; `Sim.fields` reads the three equations off it) -/
structure Sim (cfg : Cfg) (gen : Nat → Bytes) (G : List Bytes) (c' : RCtx) (s' : Sess) (r r' : SReq) (v : View) :
    Prop where
  st : StRel cfg gen c'.st r'.s
  gens : r'.gens = G
  view : ViewRel cfg gen c'.st.nid s' v
  out : OutOK gen c'
  req : CtxRel c' r'
  frame : r' = { r with s := r'.s, gens := r'.gens, pres := r'.pres, genId := r'.genId }

theorem Sim.fields {cfg : Cfg} {gen : Nat → Bytes} {G : List Bytes} {c' : RCtx} {s' : Sess} {r r' : SReq} {v : View}
    (h : Sim cfg gen G c' s' r r' v) :
    r'.mw = r.mw ∧ r'.mwDestroyed = r.mwDestroyed ∧ r'.cur = r.cur := by
  have hf := h.frame
  obtain ⟨rs', rg', rp', rgi', rmw', rmd', rcur'⟩ := r'
  simp only [SReq.mk.injEq] at hf
  exact ⟨hf.2.2.2.2.1, hf.2.2.2.2.2.1, hf.2.2.2.2.2.2⟩

theorem Sim.acquire {G : List Bytes} {s : Sess} {r r' : SReq} {v : View} (h : Sim cfg gen G c s r r' v) :
    Sim cfg gen G (acquire c).1 s r r' v :=
  ⟨strel_acquire h.st, h.gens, (acquire_nid c).symm ▸ h.view,
    h.out.congr (by rw [acquire_req]) (by rw [acquire_req]) (Nat.le_of_eq (acquire_nid c).symm),
    by rw [acquire_req]; exact h.req, h.frame⟩

/-! The session operations. Each takes the `Sim` of the Session object in hand in which nothing has moved yet
    (`r r`: from a handler state `Rel.sim`, after a hit in the storage `hit_sim`) and returns the `Sim` after the
    operation; `G` = the generator outputs still expected afterwards. -/

section
variable {s : Sess} {v : View} {r : SReq} {G : List Bytes}

/-- the abstract request state after `Destroy` of the view `v` -/
abbrev dropR (cfg : Cfg) (r : SReq) (v : View) : SReq :=
  { r with s := { r.s with sessions := erase r.s.sessions v.id },
           pres := if v.ctx then withdraw cfg r.pres else r.pres }

/-- the abstract request state after `Save` of the view `v` -/
abbrev savedR (cfg : Cfg) (r : SReq) (v : View) : SReq :=
  { (saveView cfg r v).1 with pres := if v.ctx then represent cfg r.pres v.id else r.pres }

/-- the abstract request state after the session `id` was dropped and the generator called once -/
def regenR (gen : Nat → Bytes) (G' : List Bytes) (n : Nat) (r : SReq) (id : Bytes) (pres : Pres) : SReq :=
  { r with gens := G', pres := pres,
           s := { r.s with sessions := erase r.s.sessions id, issued := (List.range (n + 1)).map gen } }

theorem destroy_sim (hw : WF cfg gen) (sim : Sim cfg gen G c s r r v) :
    Sim cfg gen G (sessDestroy cfg c s).1 (sessDestroy cfg c s).2 r (dropR cfg r v)
      { v with data := [], destroyed := true } := by
  have hv := sim.view
  rw [sessDestroy_fst, sessDestroy_snd]
  have hst : StRel cfg gen (c.st.del s.id) (dropR cfg r v).s := by
    simp only [hv.id]; exact strel_del sim.st (issued_ne_nil hw hv.issued)
  exact ⟨hst, sim.gens,
    (del_nid c.st s.id).symm ▸ { hv with data := rfl, nodup := trivial, abs := nofun, abs0 := fun _ => rfl },
    (delSession_out sim.out s).congr rfl rfl (by simp), delSession_ctx sim.req (by simp [hv.ctx]) rfl, rfl⟩

theorem save_sim (hw : WF cfg gen) (sim : Sim cfg gen G c s r r v) (hnd : v.destroyed = false) :
    Sim cfg gen G (sessSave cfg c s).1 (sessSave cfg c s).2 r (savedR cfg r v) (saveView cfg r v).2 := by
  have hv := sim.view
  have hst : StRel cfg gen (c.st.set s.id s.data (saveTTL cfg s)) (savedR cfg r v).s := by
    simp only [saveView_eq, ttl_eq hv, hv.id, hv.data, hv.abs hnd]
    exact strel_set sim.st hv.issued (issued_ne_nil hw hv.issued) s.data (saveTTL_pos hw.idle s) hv.nodup hv.abs0
  rw [sessSave_fst, sessSave_snd]
  refine ⟨hst, sim.gens, (set_nid ..).symm ▸ { hv with idle := ?_ },
    (setSession_out sim.out hv.issued).congr rfl rfl (by simp),
    setSession_ctx sim.req (by simp [hv.ctx, hv.id]) rfl, rfl⟩
  have hi := hw.idle
  simp only [saveView_eq, ttl_eq hv, saveTTL]
  by_cases h : s.idleT ≤ 0
  · simp [h]; omega
  · simp [h, Int.not_le.mp h]

/-- `freshView` where `Regenerate` / `Reset` call it: the session's id dropped, the request presenting `pres` -/
theorem regen_fresh (hw : WF cfg gen) {n : Nat} (hiss : r.s.issued = (List.range n).map gen)
    (hg : r.gens = gen n :: G) (id : Bytes) (pres : Pres) :
    freshView cfg { r with s := { r.s with sessions := erase r.s.sessions id }, pres := pres } =
      .ok (regenR gen G n r id pres, freshV cfg (gen n) r.s.now true) :=
  freshView_ok hw hiss hg

theorem regenerate_sim (hw : WF cfg gen) (sim : Sim cfg gen (gen c.st.nid :: G) c s r r v) :
    Sim cfg gen G (sessRegenerate gen c s).1 (sessRegenerate gen c s).2 r (regenR gen G c.st.nid r v.id r.pres)
      { v with id := gen c.st.nid, fresh := true } := by
  have hv := sim.view
  rw [sessRegenerate_fst, sessRegenerate_snd]
  exact ⟨by simpa [regenR, hv.id] using strel_newid (strel_del sim.st (issued_ne_nil hw hv.issued)), rfl,
    { hv with id := rfl, fresh := rfl, issued := issued_new gen c.st.nid },
    sim.out.congr rfl rfl (by simp), sim.req, rfl⟩

theorem reset_sim (hw : WF cfg gen) (sim : Sim cfg gen (gen c.st.nid :: G) c s r r v) :
    Sim cfg gen G (sessReset cfg gen c s).1 (sessReset cfg gen c s).2 r
      (regenR gen G c.st.nid r v.id (if v.ctx then withdraw cfg r.pres else r.pres))
      (freshV cfg (gen c.st.nid) r.s.now v.ctx) := by
  have hv := sim.view
  rw [sessReset_fst, sessReset_snd]
  exact ⟨by simpa [regenR, hv.id] using strel_newid (strel_del sim.st (issued_ne_nil hw hv.issued)), rfl,
    freshV_rel c.st.nid sim.st.now hv.ctx,
    (delSession_out sim.out s).congr rfl rfl (by simp), delSession_ctx sim.req (by simp [regenR, hv.ctx]) rfl, rfl⟩

end

theorem absExpired_iff (now : Nat) (d : SData) :
    absExpired now d = !(match d.abs with | some a => decide (now ≤ a) | none => true) := by
  unfold absExpired
  cases d.abs with
  | none => rfl
  | some a => by_cases h : a < now <;> simp [h] <;> omega

theorem StRel.get_isSome {s : SpecSt} (h : StRel cfg gen st s) (id : Bytes) :
    (st.get id).isSome = (id ≠ [] && match lookup s.sessions id with
      | some e => decide (s.now < e.idleDeadline)
      | none => false) := by
  cases hg : st.get id with
  | some blob =>
    obtain ⟨hid, e, he, hl, _⟩ := get_some_lookup hg
    obtain ⟨se, hs, hr⟩ := h.fwd id e he hl
    simp [hid, hs, h.now, ← hr.live, hl]
  | none =>
    by_cases hid : id = []
    · simp [hid]
    cases hs : lookup s.sessions id with
    | none => simp
    | some se =>
      by_cases hl : st.now < se.idleDeadline
      · obtain ⟨e, he, hr⟩ := h.bwd id se hs hl
        rw [get_of_lookup hid he (by rw [hr.live]; simpa using hl)] at hg
        cases hg
      · simp [h.now, hl]

theorem StRel.dead_of_get_none {s : SpecSt} (hst : StRel cfg gen st s) {id : Bytes} (hg : st.get id = none)
    (hid : id ≠ []) {se : SEntry} (hl : lookup s.sessions id = some se) :
    decide (s.now < se.idleDeadline) = false := by
  simpa [hg, hid, hl] using (hst.get_isSome id).symm

/-- a live hit in the storage under `id` against its table entry `se`; `sim`: the loaded object, in the context
    after `acquire`, against its view -/
structure Hit (cfg : Cfg) (gen : Nat → Bytes) (c : RCtx) (r : SReq) (id : Bytes) (blob : SData) (se : SEntry) :
    Prop where
  ne : id ≠ []
  entry : lookup r.s.sessions id = some se
  idle : decide (r.s.now < se.idleDeadline) = true
  absOK : se.absOK r.s.now = !(absExpired c.st.now blob)
  abs0 : cfg.abs = 0 → blob.abs = none
  merge : (acquire c).2.merge blob = blob
  sim : ∀ fresh hasCtx, Sim cfg gen r.gens (acquire c).1 { id := id, data := blob, fresh := fresh, hasCtx := hasCtx } r r
    { id := id, data := se.data, fresh := fresh, abs := se.absDeadline, ctx := hasCtx }

theorem hit_sim {id : Bytes} {blob : SData} (hst : StRel cfg gen c.st r.s) (hout : OutOK gen c) (hctx : CtxRel c r)
    (hg : c.st.get id = some blob) : ∃ se, Hit cfg gen c r id blob se := by
  obtain ⟨hp, e, he, hlive, hblob⟩ := get_some_lookup hg
  obtain ⟨se, hs, hr⟩ := hst.fwd _ e he hlive
  have hnd : NoDupKeys blob.kv := by rw [← hblob]; exact hr.nodup
  have habs0 : cfg.abs = 0 → blob.abs = none := fun h0 => by rw [← hblob]; exact hr.abs0 h0
  refine ⟨se, hp, hs, ?_, ?_, habs0, ?_, fun fresh hasCtx => Sim.acquire ⟨hst, rfl, ?_, hout, hctx, rfl⟩⟩
  · rw [hst.now, ← hr.live]; exact hlive
  · unfold SEntry.absOK
    rw [absExpired_iff, hr.abs, hblob, hst.now, Bool.not_not]
    cases blob.abs <;> rfl
  · rw [acquire_empty hst.inv.2, merge_empty_of_nodup hnd]
  · exact ⟨rfl, by rw [hr.data, hblob], hnd, rfl, by intro _; rw [hr.abs, hblob], habs0, by simp,
      hst.inv.1 _ (lookup_some_mem he), rfl⟩

theorem abs_pos_of_expired {now : Nat} {blob : SData} (h0 : cfg.abs = 0 → blob.abs = none)
    (hexp : absExpired now blob = true) : cfg.abs > 0 := by
  cases h : cfg.abs with
  | zero => simp [absExpired, h0 h] at hexp
  | succ n => omega

/-- the abstract request state after a lookup that made the server generate an id -/
def genR (gen : Nat → Bytes) (G : List Bytes) (n : Nat) (r : SReq) (sessions : List (Bytes × SEntry)) : SReq :=
  { r with gens := G, s := { r.s with sessions := sessions, issued := (List.range (n + 1)).map gen },
           genId := some (gen n) }

section
variable {r : SReq} {se : SEntry}

theorem loadView_unknown
    (hl : (if r.lookupId cfg = [] then none else lookup r.s.sessions (r.lookupId cfg)) = none) :
    loadView cfg r = freshView cfg r >>= fun p => pure ({ p.1 with genId := some p.2.id }, p.2) := by
  unfold loadView
  simp only [hl]

theorem loadView_idleExpired (hp : r.lookupId cfg ≠ []) (hl : lookup r.s.sessions (r.lookupId cfg) = some se)
    (hidle : decide (r.s.now < se.idleDeadline) = false) :
    loadView cfg r =
      freshView cfg { r with s := { r.s with sessions := erase r.s.sessions (r.lookupId cfg) } } >>=
        fun p => pure ({ p.1 with genId := some p.2.id }, p.2) := by
  unfold loadView
  simp only [hp, if_false, hl, hidle, Bool.false_and, Bool.false_eq_true]

theorem loadView_live (hp : r.lookupId cfg ≠ []) (hl : lookup r.s.sessions (r.lookupId cfg) = some se)
    (hidle : decide (r.s.now < se.idleDeadline) = true)
    (hok : ((r.genId.isSome && decide (cfg.abs > 0)) || se.absOK r.s.now) = true) :
    loadView cfg r = .ok (r,
      { id := r.lookupId cfg, data := se.data, fresh := r.genId.isSome,
        abs := if r.genId.isSome && decide (cfg.abs > 0) then some (r.s.now + cfg.abs) else se.absDeadline }) := by
  unfold loadView
  simp only [hp, if_false, hl, hidle, hok, Bool.and_self, if_true]

theorem loadView_absExpired (hp : r.lookupId cfg ≠ []) (hl : lookup r.s.sessions (r.lookupId cfg) = some se)
    (hidle : decide (r.s.now < se.idleDeadline) = true)
    (hok : ((r.genId.isSome && decide (cfg.abs > 0)) || se.absOK r.s.now) = false) :
    loadView cfg r =
      freshView cfg { r with s := { r.s with sessions := erase r.s.sessions (r.lookupId cfg) },
                             pres := withdraw cfg r.pres } >>= fun p => pure (p.1, p.2) := by
  unfold loadView
  simp only [hp, if_false, hl, hidle, hok, Bool.and_false, Bool.false_eq_true, if_true]

end

/-- `getSession` — the first or a later lookup of a request — against the abstract `loadView` -/
theorem load_sim (hw : WF cfg gen) {r : SReq} {G : List Bytes}
    (hst : StRel cfg gen c.st r.s) (hctx : CtxRel c r) (hout : OutOK gen c)
    (hle : r.gens = gensBetween gen c.st.nid (getSession cfg gen c).1.st.nid ++ G) :
    ∃ r' v, loadView cfg r = .ok (r', v) ∧
      Sim cfg gen G (getSession cfg gen c).1 (getSession cfg gen c).2 r r' v ∧ v.destroyed = false ∧ v.ctx = true := by
  have hlid := hctx.lookupId (cfg := cfg)
  have ⟨hck, hhd, hqr, hgid⟩ := hctx
  have hmine : r.genId.isSome = c.locals.isSome := by rw [hgid]
  cases hget : c.st.get (lookupId cfg c) with
  | none =>
    rw [getSession_miss c hst.inv.2 hget] at hle ⊢
    rw [hlid] at hget
    have hnid1 : (acquire (afterNew gen c)).1.st.nid = c.st.nid + 1 := by
      rw [acquire_nid, afterNew_st]
    have hg : r.gens = gen c.st.nid :: G := by
      rw [hnid1, gensBetween_succ] at hle; exact hle
    -- a new id is generated, whatever the lookup leaves of the table (`ss`)
    have fresh : ∀ ss, StRel cfg gen c.st { r.s with sessions := ss } →
        loadView cfg r = (freshView cfg { r with s := { r.s with sessions := ss } } >>=
          fun p => pure ({ p.1 with genId := some p.2.id }, p.2)) →
        ∃ r' v, loadView cfg r = .ok (r', v) ∧
          Sim cfg gen G (acquire (afterNew gen c)).1
            { id := gen c.st.nid, fresh := true,
              data := { kv := [], abs := if cfg.abs > 0 then some (c.st.now + cfg.abs) else none } } r r' v ∧
          v.destroyed = false ∧ v.ctx = true :=
      fun ss h2 hlv =>
        have hlv' : loadView cfg r = .ok (genR gen G c.st.nid r ss, freshV cfg (gen c.st.nid) r.s.now true) := by
          rw [hlv, freshView_ok hw (r := { r with s := { r.s with sessions := ss } }) hst.issued hg]; rfl
        ⟨_, _, hlv',
          Sim.acquire (c := afterNew gen c)
            { st := by rw [afterNew_st]; exact strel_newid h2
              gens := rfl
              view := freshV_rel c.st.nid hst.now rfl
              out := hout.congr rfl rfl (by rw [afterNew_st]; exact Nat.le_succ _)
              req := ⟨hck, hhd, hqr, rfl⟩
              frame := rfl }, rfl, rfl⟩
    cases hl : (if r.lookupId cfg = [] then none else lookup r.s.sessions (r.lookupId cfg)) with
    | none => exact fresh _ hst (loadView_unknown hl)
    | some se =>
      have hp : r.lookupId cfg ≠ [] := by
        intro h; simp [h] at hl
      simp only [hp, if_false] at hl
      exact fresh _ (strel_erase_dead hst hp hget)
        (loadView_idleExpired hp hl (hst.dead_of_get_none hget hp hl))
  | some blob =>
    rw [getSession_some hget] at hle ⊢
    rw [hlid] at hget hle ⊢
    obtain ⟨se, hit⟩ := hit_sim hst hout hctx hget
    have hnid := acquire_nid c
    have hnow := acquire_now c
    rw [hit.merge] at hle ⊢
    -- the session is handed out as stored (up to a restarted lifetime): nothing is generated, the table stays
    have keep : ∀ {s' : Sess} {v : View},
        r.gens = gensBetween gen c.st.nid (acquire c).1.st.nid ++ G → loadView cfg r = .ok (r, v) →
        ViewRel cfg gen (acquire c).1.st.nid s' v → v.destroyed = false → v.ctx = true →
        ∃ r' v, loadView cfg r = .ok (r', v) ∧ Sim cfg gen G (acquire c).1 s' r r' v ∧
          v.destroyed = false ∧ v.ctx = true :=
      fun hle hlv hvr hd hc => ⟨r, _, hlv,
        { hit.sim true true with gens := by rw [hnid, gensBetween_self] at hle; exact hle, view := hvr }, hd, hc⟩
    cases hloc : c.locals with
    | some i =>
      -- the id was generated by an earlier lookup of this request
      have hm : r.genId.isSome = true := by rw [hmine, hloc]; rfl
      have hv := (hit.sim true true).view
      simp only [hloc, Option.isSome_some] at hle ⊢
      by_cases ha : cfg.abs > 0
      · rw [finishLoad_fresh _ _ _ rfl ha, hnow] at hle ⊢
        refine keep (v := { id := r.lookupId cfg, data := se.data, fresh := true, abs := some (r.s.now + cfg.abs) }) hle
          (by rw [loadView_live hit.ne hit.entry hit.idle (by simp [hm, ha])]; simp [hm, ha])
          ⟨rfl, hv.data, hv.nodup, rfl, by intro _; simp [hst.now], by intro h0; omega,
            by simp, hv.issued, rfl⟩ rfl rfl
      · have ha0 : cfg.abs = 0 := by omega
        have hbn : blob.abs = none := hit.abs0 ha0
        rw [finishLoad_keep _ _ _ (.inr ha0) (by simp [absExpired, hbn])] at hle ⊢
        exact keep hle (by rw [loadView_live hit.ne hit.entry hit.idle (by simp [hit.absOK, absExpired, hbn])]; simp [hm, ha])
          hv rfl rfl
    | none =>
      have hm : r.genId.isSome = false := by rw [hmine, hloc]; rfl
      simp only [hloc, Option.isSome_none] at hle ⊢
      cases hexp : absExpired c.st.now blob with
      | false =>
        rw [finishLoad_keep _ _ _ (.inl rfl) (by rw [hnow]; exact hexp)] at hle ⊢
        exact keep hle (by rw [loadView_live hit.ne hit.entry hit.idle (by simp [hit.absOK, hexp])]; simp [hm]) (hit.sim false true).view
          rfl rfl
      | true =>
        have habs := abs_pos_of_expired hit.abs0 hexp
        have hres : finishLoad cfg gen (acquire c).1 { id := r.lookupId cfg, data := blob, fresh := false } =
            sessReset cfg gen (acquire c).1 { id := r.lookupId cfg, data := blob, fresh := false } := by
          rw [finishLoad_expired _ _ _ rfl (by rw [hnow]; exact hexp)]
          exact Prod.ext rfl (by rw [sessReset_snd, sessReset_st]; simp [habs, hnow])
        rw [hres] at hle ⊢
        rw [sessReset_st] at hle
        have hg : r.gens = gen (acquire c).1.st.nid :: G := by
          simpa [hnid, gensBetween_succ] using hle
        have sim0 : Sim cfg gen _ _ _ r r _ := { hit.sim false true with gens := hg }
        have sim := reset_sim hw sim0
        have hfv := regen_fresh hw sim0.st.issued sim0.gens (r.lookupId cfg) (withdraw cfg r.pres)
        rw [hnid] at sim hfv
        refine ⟨_, _, ?_, sim, rfl, rfl⟩
        rw [loadView_absExpired hit.ne hit.entry hit.idle (by simp [hm, hit.absOK, hexp]), hfv]
        rfl

def CurRel (cfg : Cfg) (gen : Nat → Bytes) (nid : Nat) : Cur → SCur → Prop
  | .none, .none => True
  | .mw, .mw => True
  | .other s, .other v => ViewRel cfg gen nid s v
  | _, _ => False

def OptViewRel (cfg : Cfg) (gen : Nat → Bytes) (nid : Nat) : Option Sess → Option View → Prop
  | none, none => True
  | some s, some v => ViewRel cfg gen nid s v
  | _, _ => False

/-- the simulation relation between a handler state of the model and the abstract request state;
    `G` = the generator outputs the request will still see -/
structure Rel (cfg : Cfg) (gen : Nat → Bytes) (G : List Bytes) (q : Req) (h : HSt) (r : SReq) : Prop where
  st : StRel cfg gen h.c.st r.s
  gens : r.gens = G
  out : OutOK gen h.c
  mw : OptViewRel cfg gen h.c.st.nid h.mw r.mw
  cur : CurRel cfg gen h.c.st.nid h.cur r.cur
  destroyed : r.mwDestroyed = h.destroyed
  viaMw : q.viaMw = h.mw.isSome
  mwCtx : ∀ s, h.mw = some s → s.hasCtx = true
  mwLive : h.destroyed = false → ∀ v, r.mw = some v → v.destroyed = false
  req : CtxRel h.c r

theorem OptViewRel.mono {n m : Nat} {a : Option Sess} {b : Option View}
    (h : OptViewRel cfg gen n a b) (hnm : n ≤ m) : OptViewRel cfg gen m a b := by
  revert h
  fun_cases OptViewRel cfg gen n a b <;> intro h
  · trivial
  · exact h.mono hnm
  · exact h.elim

theorem CurRel.mono {n m : Nat} {a : Cur} {b : SCur}
    (h : CurRel cfg gen n a b) (hnm : n ≤ m) : CurRel cfg gen m a b := by
  revert h
  fun_cases CurRel cfg gen n a b <;> intro h
  · trivial
  · trivial
  · exact h.mono hnm
  · exact h.elim

theorem OptViewRel.cases {n : Nat} {a : Option Sess} {b : Option View} (h : OptViewRel cfg gen n a b) :
    match a with
    | none => b = none
    | some s => ∃ v, b = some v ∧ ViewRel cfg gen n s v := by
  cases a <;> cases b <;> first | exact h.elim | rfl | exact ⟨_, rfl, h⟩

theorem CurRel.cases {n : Nat} {a : Cur} {b : SCur} (h : CurRel cfg gen n a b) :
    (a = .none ∧ b = .none) ∨ (a = .mw ∧ b = .mw) ∨ ∃ s v, a = .other s ∧ b = .other v ∧ ViewRel cfg gen n s v := by
  cases a <;> cases b <;> first | exact h.elim | simp
  exact h

section
variable {G : List Bytes} {q : Req} {h : HSt} {r : SReq} (hrel : Rel cfg gen G q h r)
include hrel

theorem Rel.sess : OptViewRel cfg gen h.c.st.nid h.sess r.view := by
  unfold HSt.sess SReq.view
  rcases hrel.cur.cases with ⟨ha, hb⟩ | ⟨ha, hb⟩ | ⟨s, v, ha, hb, hv⟩ <;> rw [ha, hb]
  · trivial
  · exact hrel.mw
  · exact hv

theorem Rel.cur_mw : (h.cur = .mw ∧ r.cur = .mw) ∨ (h.cur ≠ .mw ∧ r.cur ≠ .mw) := by
  rcases hrel.cur.cases with ⟨ha, hb⟩ | ⟨ha, hb⟩ | ⟨s, v, ha, hb, _⟩ <;> simp [ha, hb]

end

end C15
