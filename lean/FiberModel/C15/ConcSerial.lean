import FiberModel.C15.ConcModel
/-
C15 — the sequential model is the serial case of the model with overlapping requests: a request that
arrives, performs all its actions and returns while nothing else happens leaves the shared state exactly
as `handle` does, and a history of such requests ends in the state `run` computes.
-/
namespace C15
open B

def serialOf (rid : Nat) (q : Req) : List Ev :=
  .start rid q :: (List.replicate q.script.length (.step rid) ++ [.finish rid])

def serialize : List Op → List Ev
  | [] => []
  | .adv d :: ops => .adv d :: serialize ops
  | .req q :: ops => serialOf 0 q ++ serialize ops

theorem World.set_set (w : World) (a b : St) (rid : Nat) (x y : Option Fl) :
    (w.set a rid x).set b rid y = w.set b rid y := by
  simp only [World.set]
  congr 1
  funext i
  by_cases h : i = rid <;> simp [h]

theorem World.set_none_of_free (w : World) (st : St) (rid : Nat) (h : w.fl rid = none) :
    w.set st rid none = { st := st, fl := w.fl } := by
  simp only [World.set]
  congr 1
  funext i
  by_cases hi : i = rid
  · simp [hi, h]
  · simp [hi]

theorem World.set_fl_self (w : World) (st : St) (rid : Nat) (f : Option Fl) : (w.set st rid f).fl rid = f := by
  simp [World.set]

theorem crun_append (cfg : Cfg) (gen : Nat → Bytes) (w : World) (es es' : List Ev) :
    (crun cfg gen w (es ++ es')).1 = (crun cfg gen (crun cfg gen w es).1 es').1 := by
  induction es generalizing w with
  | nil => rfl
  | cons e es ih => simp only [List.cons_append, crun]; exact ih _

theorem crun_steps (cfg : Cfg) (gen : Nat → Bytes) (w0 : World) (rid : Nat) (q : Req) :
    ∀ (as : List Act) (h : HSt),
      (crun cfg gen (w0.set h.c.st rid (some { q := q, h := h, todo := as }))
          (List.replicate as.length (.step rid))).1 =
        w0.set (runScript cfg gen h as).1.c.st rid (some { q := q, h := (runScript cfg gen h as).1, todo := [] }) := by
  intro as
  induction as with
  | nil => intro h; rfl
  | cons a as ih =>
    intro h
    simp only [List.length_cons, List.replicate_succ, crun, runScript, cstep, World.set_fl_self, World.set_set]
    exact ih _

theorem crun_serial (cfg : Cfg) (gen : Nat → Bytes) (w0 : World) (rid : Nat) (q : Req) (hfree : w0.fl rid = none) :
    (crun cfg gen w0 (serialOf rid q)).1 = { st := (handle cfg gen w0.st q).1, fl := w0.fl } := by
  unfold serialOf
  simp only [crun, cstep, hfree]
  rw [crun_append, crun_steps]
  simp only [crun, cstep, World.set_fl_self, World.set_set]
  exact World.set_none_of_free _ _ _ hfree

theorem crun_serialize (cfg : Cfg) (gen : Nat → Bytes) (ops : List Op) (st : St) :
    (crun cfg gen { st := st } (serialize ops)).1 = { st := (run cfg gen st ops).1 } := by
  induction ops generalizing st with
  | nil => rfl
  | cons o ops ih =>
    cases o with
    | adv d =>
      simp only [serialize, crun, cstep, run, step]
      exact ih _
    | req q =>
      simp only [serialize, run, step]
      rw [crun_append, crun_serial cfg gen { st := st } 0 q rfl]
      exact ih _

/-- histories are serial schedules: whatever every schedule keeps true of the world, every history keeps true of
    the server state -/
theorem run_of_crun {cfg : Cfg} {gen : Nat → Bytes} {Φ : World → Prop}
    (hΦ : ∀ (es : List Ev) {w : World}, Φ w → Φ (crun cfg gen w es).1) (ops : List Op) {st : St}
    (h : Φ { st := st }) : Φ { st := (run cfg gen st ops).1 } :=
  crun_serialize cfg gen ops st ▸ hΦ (serialize ops) h

end C15
