import FiberModel.C15.Refine
/-
C15 — every handler action, request and history of the model is accepted by the oracle of Spec.lean
(forward simulation over `Rel`).
-/
namespace C15
open B

variable {cfg : Cfg} {gen : Nat → Bytes}

/-- the only answers of the oracle that are not a verdict: the history is outside the property's domain -/
def OutsideDomain (e : String) : Prop := e = "outside-domain: Save after Destroy"

/-- the situation in which the oracle declares a history outside the domain -/
def Trigger (r : SReq) (a : Act) : Prop := a = .save ∧ ∃ v, r.view = some v ∧ v.destroyed = true

theorem Trigger.not_allowed {r : SReq} {a : Act} {d : Bool} (ht : Trigger r a) (hf : Flags r d) :
    actAllowed d a = false := by
  obtain ⟨rfl, v, hv, hd⟩ := ht
  rw [hf.view hv hd]
  rfl

/-- an operation on the current session: new context, new Session object, and their abstract
    counterparts; `d'` is the middleware's `destroyed` flag afterwards (it changes with `Destroy` of the
    middleware's session only: `Rel.update` is the case `d' = h.destroyed`) -/
theorem Rel.update_flag {G : List Bytes} {q : Req} {h : HSt} {r : SReq}
    (hrel : Rel cfg gen G q h r) {s : Sess} {v : View} (hs : h.sess = some s) (hv : r.view = some v)
    {c' : RCtx} {s' : Sess} {r' : SReq} {v' : View} (d' : Bool)
    {G' : List Bytes} (sim : Sim cfg gen G' c' s' r r' v') (hmono : h.c.st.nid ≤ c'.st.nid)
    (hctx : s'.hasCtx = s.hasCtx)
    (hd' : d' = h.destroyed ∨ d' = true)
    (hdes : h.cur = .mw → d' = false → v'.destroyed = true → v.destroyed = true) :
    Rel cfg gen G' q (({ h with c := c', destroyed := d' } : HSt).putSess s')
      (({ r' with mwDestroyed := d' } : SReq).putView v') := by
  obtain ⟨hmw', _, hcur'⟩ := sim.fields
  have hdfalse : d' = false → h.destroyed = false := by
    rcases hd' with h1 | h1 <;> intro h0 <;> rw [h1] at h0
    · exact h0
    · cases h0
  unfold HSt.sess at hs
  unfold SReq.view at hv
  unfold HSt.putSess SReq.putView
  rcases hrel.cur.cases with ⟨ha, hb⟩ | ⟨ha, hb⟩ | ⟨s0, v0, ha, hb, _⟩ <;> rw [ha] at hs <;> rw [hb] at hv <;>
    simp only [ha, hcur', hb]
  · cases hs
  · dsimp only at hs hv
    refine { st := sim.st, gens := sim.gens, out := sim.out, mw := sim.view, cur := trivial, destroyed := rfl,
             viaMw := hrel.viaMw.trans (by rw [hs]; rfl), mwCtx := ?_, mwLive := ?_, req := sim.req }
    · intro s0 hs0
      cases hs0
      rw [hctx]; exact hrel.mwCtx s hs
    · intro h0 v1 hv1
      cases hv1
      cases hvd : v'.destroyed with
      | false => rfl
      | true =>
        have h2 := hrel.mwLive (hdfalse h0) v hv
        rw [hdes ha h0 hvd] at h2; cases h2
  · dsimp only at hs hv
    exact { st := sim.st, gens := sim.gens, out := sim.out, mw := hmw' ▸ hrel.mw.mono hmono, cur := sim.view,
            destroyed := rfl, viaMw := hrel.viaMw, mwCtx := hrel.mwCtx,
            mwLive := fun h0 => hmw' ▸ hrel.mwLive (hdfalse h0), req := sim.req }

theorem Rel.update {cfg : Cfg} {gen : Nat → Bytes} {G : List Bytes} {q : Req} {h : HSt} {r : SReq}
    (hrel : Rel cfg gen G q h r) {s : Sess} {v : View} (hs : h.sess = some s) (hv : r.view = some v)
    {c' : RCtx} {s' : Sess} {r' : SReq} {v' : View}
    {G' : List Bytes} (sim : Sim cfg gen G' c' s' r r' v') (hmono : h.c.st.nid ≤ c'.st.nid)
    (hctx : s'.hasCtx = s.hasCtx)
    (hdes : h.cur = .mw → v'.destroyed = true → v.destroyed = true) :
    Rel cfg gen G' q (({ h with c := c' } : HSt).putSess s') (r'.putView v') := by
  have h1 := hrel.update_flag hs hv h.destroyed sim hmono hctx (Or.inl rfl) (fun a _ b => hdes a b)
  have e : ({ r' with mwDestroyed := h.destroyed } : SReq) = r' := by rw [← hrel.destroyed, ← sim.fields.2.1]
  rwa [e] at h1

/-- what the simulation promises for one action: the oracle accepts what the model observed and lands in a related
    state (with the domain flag still an over-approximation), or it refuses as outside the domain — and then the
    action is `Save` of a destroyed view (`Trigger`) -/
def ActOK (cfg : Cfg) (gen : Nat → Bytes) (G : List Bytes) (q : Req) (h : HSt) (r : SReq) (a : Act) : Prop :=
  (∃ r', specAct cfg q.viaMw q r a (act cfg gen h a).2 = .ok r' ∧ Rel cfg gen G q (act cfg gen h a).1 r' ∧
    FlagsStep r r' a) ∨
  (∃ e, specAct cfg q.viaMw q r a (act cfg gen h a).2 = .error e ∧ OutsideDomain e ∧ Trigger r a)

section actions
variable {G : List Bytes} {q : Req} {h : HSt} {r : SReq}

/-- the action did not call the key generator: the outputs still expected are the same afterwards -/
theorem ActOK.of_no_gen {a : Act} {G' : List Bytes} (ha : a.generates = false)
    (hG : G = gensBetween gen h.c.st.nid (act cfg gen h a).1.c.st.nid ++ G') (hok : ActOK cfg gen G q h r a) :
    ActOK cfg gen G' q h r a := by
  rw [act_nid ha, gensBetween_self, List.nil_append] at hG
  exact hG ▸ hok

variable (hrel : Rel cfg gen G q h r)
include hrel

theorem act_sim_nosess {a : Act} (ha : a.onSess = true) (hs : h.sess = none) :
    ActOK cfg gen G q h r a := by
  refine .inl ⟨r, ?_, ?_, .same rfl rfl⟩ <;> rw [act_nosess cfg gen ha hs]
  · rw [specAct_noview cfg _ q _ ha (hs ▸ hrel.sess).cases]; rfl
  · exact hrel

/-- the handler's current session against its view, nothing moved yet -/
theorem Rel.sim {s : Sess} {v : View} (hvr : ViewRel cfg gen h.c.st.nid s v) : Sim cfg gen G h.c s r r v :=
  ⟨hrel.st, hrel.gens, hvr, hrel.out, hrel.req, rfl⟩

/-- an operation that leaves the handler's variables alone -/
theorem Rel.of_sim {G' : List Bytes} {c' : RCtx} {s' : Sess} {r' : SReq} {v' : View}
    (sim : Sim cfg gen G' c' s' r r' v') (hmono : h.c.st.nid ≤ c'.st.nid) :
    Rel cfg gen G' q { h with c := c' } r' := by
  obtain ⟨hmw, hmd, hcur⟩ := sim.fields
  exact { st := sim.st, gens := sim.gens, out := sim.out, mw := hmw ▸ hrel.mw.mono hmono,
          cur := hcur ▸ hrel.cur.mono hmono, destroyed := hmd ▸ hrel.destroyed, viaMw := hrel.viaMw,
          mwCtx := hrel.mwCtx, mwLive := hmw ▸ hrel.mwLive, req := sim.req }

/-- … and then hands the new Session object to the handler's variable -/
theorem Rel.of_sim_cur {G' : List Bytes} {c' : RCtx} {s' : Sess} {r' : SReq} {v' : View}
    (sim : Sim cfg gen G' c' s' r r' v') (hmono : h.c.st.nid ≤ c'.st.nid) :
    Rel cfg gen G' q { h with c := c', cur := .other s' } { r' with cur := .other v' } :=
  { hrel.of_sim sim hmono with cur := sim.view }

/-- an action that calls the generator once expects its output first -/
theorem gens_of_bump {a : Act} {G' : List Bytes} (hn : (act cfg gen h a).1.c.st.nid = h.c.st.nid + 1)
    (hG : G = gensBetween gen h.c.st.nid (act cfg gen h a).1.c.st.nid ++ G') :
    Rel cfg gen (gen h.c.st.nid :: G') q h r := by
  rw [hn, gensBetween_succ] at hG
  subst hG
  exact hrel

/-- an action on the current session, from the `Sim` of its operation: the Session object goes back into the
    handler's variable, the view into the abstract one -/
theorem ActOK.update {a : Act} {s s' : Sess} {v v' : View} {G' : List Bytes} {c' : RCtx} {r' : SReq} {o : AObs}
    (hs : h.sess = some s) (hv : r.view = some v) (sim : Sim cfg gen G' c' s' r r' v')
    (hmono : h.c.st.nid ≤ c'.st.nid) (hctx : s'.hasCtx = s.hasCtx)
    (hdes : v'.destroyed = true → v.destroyed = true)
    (hact : act cfg gen h a = (({ h with c := c' } : HSt).putSess s', o))
    (hspec : specAct cfg q.viaMw q r a o = .ok (r'.putView v')) : ActOK cfg gen G' q h r a :=
  .inl ⟨_, by rw [hact]; exact hspec, by rw [hact]; exact hrel.update hs hv sim hmono hctx (fun _ => hdes),
    .putView hv sim.fields.1 sim.fields.2.2 hdes⟩

section sess
variable {s : Sess} {v : View} (hs : h.sess = some s) (hv : r.view = some v)
  (hvr : ViewRel cfg gen h.c.st.nid s v)
include hs hv hvr

theorem act_sim_info : ActOK cfg gen G q h r .info :=
  .inl ⟨r, by simp [specAct, act, hs, hv, hvr.id, hvr.fresh], by simpa [act, hs] using hrel, .same rfl rfl⟩

theorem act_sim_get (k : Bytes) : ActOK cfg gen G q h r (.get k) :=
  .inl ⟨r, by simp [specAct, act, hs, hv, hvr.data], by simpa [act, hs] using hrel, .same rfl rfl⟩

theorem act_sim_keys : ActOK cfg gen G q h r .keys :=
  .inl ⟨r, by simp [specAct, act, hs, hv, hvr.data], by simpa [act, hs] using hrel, .same rfl rfl⟩

theorem act_sim_set (k val : Bytes) : ActOK cfg gen G q h r (.set k val) :=
  .update hrel hs hv (o := .dash)
    (hrel.sim (s := { s with data := { s.data with kv := put s.data.kv k val } }) (v := { v with data := put v.data k val })
      { hvr with data := by simp [hvr.data], nodup := nodup_put hvr.nodup k val })
    (Nat.le_refl _) rfl id (by simp [act, hs]) (by simp [specAct, hv])

theorem act_sim_del (k : Bytes) : ActOK cfg gen G q h r (.del k) :=
  .update hrel hs hv (o := .dash)
    (hrel.sim (s := { s with data := { s.data with kv := erase s.data.kv k } }) (v := { v with data := erase v.data k })
      { hvr with data := by simp [hvr.data], nodup := nodup_erase hvr.nodup k })
    (Nat.le_refl _) rfl id (by simp [act, hs]) (by simp [specAct, hv])

theorem act_sim_idle (secs : Int) : ActOK cfg gen G q h r (.idle secs) :=
  .update hrel hs hv (o := .dash)
    (hrel.sim (s := { s with idleT := secs }) (v := { v with idle := if secs > 0 then some secs.toNat else none })
      { hvr with idle := rfl })
    (Nat.le_refl _) rfl id (by simp [act, hs]) (by simp [specAct, hv])

theorem act_sim_destroy (hw : WF cfg gen) : ActOK cfg gen G q h r .destroy := by
  have sim := destroy_sim hw (hrel.sim hvr)
  have hmono := (sessDestroy_moves (gen := gen) cfg h.c s).nid
  rcases hrel.cur_mw with ⟨hcur, hrc⟩ | ⟨hcur, hrc⟩
  · have hup := hrel.update_flag hs hv true sim hmono rfl (Or.inr rfl) (by intro _ hf; cases hf)
    refine .inl ⟨{ ((dropR cfg r v).putView { v with data := [], destroyed := true }) with mwDestroyed := true }, ?_, ?_,
      fun _ _ => .of_true _⟩
    · simp only [specAct, hv]
      rw [if_pos ((putView_cur (dropR cfg r v) _).mpr hrc)]
    · -- `update_flag` sets `mwDestroyed` before `putView`, the oracle (and the witness above) after it: with
      -- `cur = .mw` on both sides `putView` only replaces `mw`, so the two orders are the same record
      simpa [act, hs, hcur, hrc, HSt.putSess, SReq.putView] using hup
  · have hup := hrel.update hs hv sim hmono rfl (fun hc => absurd hc hcur)
    refine .inl ⟨(dropR cfg r v).putView { v with data := [], destroyed := true }, ?_, ?_, fun _ _ => .of_true _⟩
    · simp only [specAct, hv]
      rw [if_neg (fun e => hrc ((putView_cur (dropR cfg r v) _).mp e))]
    · simpa [act, hs, hcur] using hup

theorem act_sim_regenerate (hw : WF cfg gen) {G' : List Bytes}
    (hG : G = gensBetween gen h.c.st.nid (act cfg gen h .regenerate).1.c.st.nid ++ G') :
    ActOK cfg gen G' q h r .regenerate := by
  have hrel' := gens_of_bump hrel (by simp [act, hs, sessRegenerate_st]) hG
  have sim0 := hrel'.sim hvr
  refine .update hrel' hs hv (o := .ok) (regenerate_sim hw sim0) (sessRegenerate_moves (gen := gen) h.c s).nid
    (by rw [sessRegenerate_snd]) id (by simp [act, hs]) ?_
  simp only [specAct, hv, regen_fresh hw sim0.st.issued sim0.gens v.id r.pres, ok_bind]
  rfl

theorem act_sim_reset (hw : WF cfg gen) {G' : List Bytes}
    (hG : G = gensBetween gen h.c.st.nid (act cfg gen h .reset).1.c.st.nid ++ G') :
    ActOK cfg gen G' q h r .reset := by
  have hrel' := gens_of_bump hrel (by simp [act, hs, sessReset_st]) hG
  have sim0 := hrel'.sim hvr
  refine .update hrel' hs hv (o := .ok) (reset_sim hw sim0) (sessReset_moves (gen := gen) cfg h.c s).nid
    (by rw [sessReset_snd]) (fun hd => by cases hd) (by simp [act, hs]) ?_
  simp only [specAct, hv, regen_fresh hw sim0.st.issued sim0.gens v.id, ok_bind]
  rfl

theorem act_sim_save (hw : WF cfg gen) : ActOK cfg gen G q h r .save := by
  rcases hrel.cur_mw with ⟨hcur, hrc⟩ | ⟨hcur, hrc⟩
  · exact .inl ⟨r, by simp [specAct, hv, hrc], by simpa [act, hs, hcur] using hrel, .same rfl rfl⟩
  · cases hd : v.destroyed with
    | true => exact .inr ⟨_, by simp [specAct, hv, hrc, hd], rfl, ⟨rfl, v, hv, hd⟩⟩
    | false =>
      exact .update hrel hs hv (o := .ok) (save_sim hw (hrel.sim hvr) hd) (sessSave_moves (gen := gen) cfg h.c s).nid
        (by rw [sessSave_snd]) id (by simp [act, hs, hcur]) (by simp [specAct, hv, hrc, hd, savedR, saveView_eq])

end sess

variable {s : Sess} {v : View}

theorem act_sim_release (hs : h.sess = some s) (hv : r.view = some v) :
    ActOK cfg gen G q h r .release := by
  rcases hrel.cur_mw with ⟨hcur, hrc⟩ | ⟨hcur, hrc⟩
  · exact .inl ⟨r, by simp [specAct, hv, hrc], by simpa [act, hs, hcur] using hrel, .same rfl rfl⟩
  · have : Rel cfg gen G q { h with c := release h.c s, cur := .none } { r with cur := .none } :=
      { hrel with st := strel_release hrel.st s, out := hrel.out.congr rfl rfl (Nat.le_refl _), cur := trivial }
    exact .inl ⟨{ r with cur := .none }, by simp [specAct, hv, hrc], by simpa [act, hs, hcur] using this,
      .setCur rfl (fun _ hc => by cases hc)⟩

/-- the shared state moves on (a Store-level operation; what other requests did in between), the handler's
    variables stay: only the storage / the table change and the generator's counter may have grown -/
theorem Rel.update_st {st' : St} {s' : SpecSt} (hst : StRel cfg gen st' s') (hn : h.c.st.nid ≤ st'.nid) :
    Rel cfg gen G q { h with c := { h.c with st := st' } } { r with s := s' } :=
  { hrel with st := hst, mw := hrel.mw.mono hn, cur := hrel.cur.mono hn,
              out := hrel.out.congr rfl rfl hn }

theorem act_sim_storeDelete (id : Bytes) :
    ActOK cfg gen G q h r (.storeDelete id) := by
  left
  by_cases hid : id = []
  · refine ⟨r, ?_, ?_, .same rfl rfl⟩
    · simp [specAct, act, hid]
    · simpa [act, hid] using hrel
  · refine ⟨{ r with s := { r.s with sessions := erase r.s.sessions id } }, ?_, ?_, .same rfl rfl⟩
    · simp [specAct, hid]
    · have := hrel.update_st (strel_del hrel.st hid) (by simp)
      simpa [act, hid] using this

theorem act_sim_storeReset : ActOK cfg gen G q h r .storeReset := by
  left
  refine ⟨{ r with s := { r.s with sessions := [] } }, ?_, ?_, .same rfl rfl⟩
  · simp [specAct]
  · have := hrel.update_st (strel_reset hrel.st) (Nat.le_refl _)
    simpa [act] using this

theorem act_sim_storeGet (hw : WF cfg gen) {G' : List Bytes}
    (hG : G = gensBetween gen h.c.st.nid (act cfg gen h .storeGet).1.c.st.nid ++ G') :
    ActOK cfg gen G' q h r .storeGet := by
  left
  have hvia := hrel.viaMw
  cases hm : h.mw with
  | some s0 =>
    rw [hm] at hvia
    have hGG : G = G' := by simpa [act, hm, gensBetween_self] using hG
    subst hGG
    exact ⟨r, by simp [specAct, act, hm, hvia], by simpa [act, hm] using hrel, .same rfl rfl⟩
  | none =>
    rw [hm] at hvia
    simp only [act, hm, Option.isSome_none, Bool.false_eq_true, if_false] at hG
    obtain ⟨r', v, hlv, sim, hvd, _⟩ := load_sim hw hrel.st hrel.req hrel.out (hrel.gens.trans hG)
    refine ⟨{ r' with cur := .other v }, ?_, ?_, .setCur sim.fields.1 (fun _ hc => by cases hc; exact hvd)⟩
    · simp [specAct, hlv, hvia, ok_bind, act, hm, pure, Except.pure]
    · simpa [act, hm] using hrel.of_sim_cur sim (getSession_moves cfg h.c).nid

theorem act_sim_byID (hw : WF cfg gen) (id : Bytes) :
    ActOK cfg gen G q h r (.byID id) := by
  left
  rw [act_byID, getByID_eq]
  cases hg : h.c.st.get id with
  | none =>
    by_cases hid : id = []
    · exact ⟨r, by simp [specAct, hid], by simpa using hrel, .same rfl rfl⟩
    cases hl : lookup r.s.sessions id with
    | none => exact ⟨r, by simp [specAct, hid, hl], by simpa using hrel, .same rfl rfl⟩
    | some se =>
      have hnl : se.live r.s.now = false := by
        rw [SEntry.live, hrel.st.dead_of_get_none hg hid hl]; rfl
      refine ⟨{ r with s := { r.s with sessions := erase r.s.sessions id } }, by simp [specAct, hid, hl, hnl], ?_,
        .same rfl rfl⟩
      simpa using hrel.update_st (strel_erase_dead hrel.st hid hg) (Nat.le_refl _)
  | some blob =>
    obtain ⟨se, hit⟩ := hit_sim hrel.st hrel.out hrel.req hg
    have sim := hrel.gens ▸ hit.sim false false
    have hb : byIDSess h.c id blob = { id := id, data := blob, fresh := false, hasCtx := false } := by
      rw [byIDSess, hit.merge]
    dsimp only
    rw [hb, acquire_now]
    have hlive_eq : se.live r.s.now = !(absExpired h.c.st.now blob) := by
      rw [SEntry.live, hit.idle, Bool.true_and, hit.absOK]
    cases hexp : absExpired h.c.st.now blob with
    | false =>
      rw [hexp] at hlive_eq
      simp only [Bool.and_false, Bool.false_eq_true, if_false]
      exact ⟨{ r with cur := .other { id := id, data := se.data, fresh := false, abs := se.absDeadline, ctx := false } },
        by simp [specAct, hit.ne, hit.entry, hlive_eq], hrel.of_sim_cur sim (Nat.le_of_eq (acquire_nid _).symm),
        .setCur rfl (fun _ hc => by cases hc; rfl)⟩
    | true =>
      rw [hexp] at hlive_eq
      simp only [abs_pos_of_expired hit.abs0 hexp, decide_true, Bool.and_self, if_true]
      exact ⟨{ r with s := { r.s with sessions := erase r.s.sessions id } }, by simp [specAct, hit.ne, hit.entry, hlive_eq],
        hrel.of_sim (destroy_sim hw sim) (by rw [sessDestroy_st, del_nid, acquire_nid]; exact Nat.le_refl _),
        .same rfl rfl⟩

/-- every handler action of the model is accepted by the oracle, which lands in a related state;
    `G` = the generator outputs still expected before the action, `G'` = after it (the same unless the
    action is `store.Get`, `Regenerate` or `Reset`) -/
theorem act_sim (hw : WF cfg gen) (a : Act) {G' : List Bytes}
    (hG : G = gensBetween gen h.c.st.nid (act cfg gen h a).1.c.st.nid ++ G') : ActOK cfg gen G' q h r a := by
  by_cases hon : a.onSess = true
  · cases hs : h.sess with
    | none =>
      rw [act_nosess cfg gen hon hs, gensBetween_self, List.nil_append] at hG
      exact hG ▸ act_sim_nosess hrel hon hs
    | some s =>
      obtain ⟨v, hv, hvr⟩ := (hs ▸ hrel.sess).cases
      cases a with
      | storeGet | byID | storeDelete | storeReset => cases hon
      | regenerate => exact act_sim_regenerate hrel hs hv hvr hw hG
      | reset => exact act_sim_reset hrel hs hv hvr hw hG
      | info => exact .of_no_gen rfl hG (act_sim_info hrel hs hv hvr)
      | get k => exact .of_no_gen rfl hG (act_sim_get hrel hs hv hvr k)
      | keys => exact .of_no_gen rfl hG (act_sim_keys hrel hs hv hvr)
      | set k x => exact .of_no_gen rfl hG (act_sim_set hrel hs hv hvr k x)
      | del k => exact .of_no_gen rfl hG (act_sim_del hrel hs hv hvr k)
      | idle secs => exact .of_no_gen rfl hG (act_sim_idle hrel hs hv hvr secs)
      | destroy => exact .of_no_gen rfl hG (act_sim_destroy hrel hs hv hvr hw)
      | save => exact .of_no_gen rfl hG (act_sim_save hrel hs hv hvr hw)
      | release => exact .of_no_gen rfl hG (act_sim_release hrel hs hv)
  · cases a with
    | storeGet => exact act_sim_storeGet hrel hw hG
    | byID id => exact .of_no_gen rfl hG (act_sim_byID hrel hw id)
    | storeDelete id => exact .of_no_gen rfl hG (act_sim_storeDelete hrel id)
    | storeReset => exact .of_no_gen rfl hG (act_sim_storeReset hrel)
    | _ => exact absurd rfl hon

end actions

/-- what the simulation promises for a script run from the domain flag `d`: accepted and related again, or
    refused as outside the domain — and then the script is indeed not in the domain from `d` -/
def ScriptOK (cfg : Cfg) (gen : Nat → Bytes) (G : List Bytes) (q : Req) (h : HSt) (r : SReq) (d : Bool)
    (as : List Act) : Prop :=
  (∃ r', specScript cfg q.viaMw q r as (runScript cfg gen h as).2 = .ok r' ∧
      Rel cfg gen G q (runScript cfg gen h as).1 r') ∨
  (∃ e, specScript cfg q.viaMw q r as (runScript cfg gen h as).2 = .error e ∧ OutsideDomain e ∧
      scriptInDomain d as = false)

theorem script_sim (hw : WF cfg gen) {q : Req} (as : List Act) :
    ∀ (h : HSt) (r : SReq) (G G' : List Bytes) (d : Bool), Rel cfg gen G q h r → Flags r d →
      G = gensBetween gen h.c.st.nid (runScript cfg gen h as).1.c.st.nid ++ G' →
      ScriptOK cfg gen G' q h r d as := by
  induction as with
  | nil =>
    intro h r G G' d hrel _ hG
    have : G = G' := by simpa [runScript, gensBetween_self] using hG
    exact .inl ⟨r, rfl, this ▸ hrel⟩
  | cons a as ih =>
    intro h r G G' d hrel hf hG
    simp only [runScript] at hG
    rw [gensBetween_append gen (act_moves (cfg := cfg) h a).nid (runScript_nid_le as _), List.append_assoc] at hG
    rcases act_sim hrel hw a hG with ⟨r1, hs1, hrel1, hf1⟩ | ⟨e, he, hd, ht⟩
    · have hstep : specScript cfg q.viaMw q r (a :: as) (runScript cfg gen h (a :: as)).2 =
          specScript cfg q.viaMw q r1 as (runScript cfg gen (act cfg gen h a).1 as).2 := by
        simp only [runScript, specScript, hs1, ok_bind]
      rw [ScriptOK, hstep]
      rcases ih _ r1 _ G' _ hrel1 (hf1 _ hf) rfl with ⟨r2, hs2, hrel2⟩ | ⟨e, he, hd, hdom⟩
      · exact .inl ⟨r2, hs2, hrel2⟩
      · exact .inr ⟨e, he, hd, by simp [scriptInDomain, hdom]⟩
    · refine .inr ⟨e, ?_, hd, by simp [scriptInDomain, ht.not_allowed hf]⟩
      simp only [runScript, specScript, he, error_bind]

theorem start_sim (hw : WF cfg gen) {st : St} {s : SpecSt} {q : Req} (G : List Bytes)
    (hst : StRel cfg gen st s) :
    ∃ r0, specStart cfg s q (gensBetween gen st.nid (startReq cfg gen st q).c.st.nid ++ G) = .ok r0 ∧
      Rel cfg gen G q (startReq cfg gen st q) r0 ∧ Flags r0 false := by
  have hout : OutOK gen ({ st := st, ck := q.ck, hd := q.hd, qr := q.qr } : RCtx) :=
    ⟨by intro v hv; simp at hv, by intro v hv; simp at hv⟩
  cases hvia : q.viaMw with
  | true =>
    simp only [startReq, hvia, if_true]
    obtain ⟨r', v, hlv, sim, hvd, hvc⟩ :=
      load_sim hw (c := { st := st, ck := q.ck, hd := q.hd, qr := q.qr }) (G := G)
        (r := { s := s, pres := q.pres, gens := gensBetween gen st.nid (getSession cfg gen { st := st, ck := q.ck, hd := q.hd, qr := q.qr }).1.st.nid ++ G })
        hst ⟨rfl, rfl, rfl, rfl⟩ hout rfl
    refine ⟨{ r' with mw := some v, cur := .mw }, ?_, ?_,
      ⟨fun _ hv hd => (by cases hv; rw [hvd] at hd; cases hd), fun _ hv => (by cases hv)⟩⟩
    · simp [specStart, hvia, hlv, ok_bind, pure, Except.pure]
    · refine { st := sim.st, gens := sim.gens, out := sim.out, mw := sim.view, cur := trivial, req := sim.req,
               destroyed := ?_, viaMw := ?_, mwCtx := ?_, mwLive := ?_ }
      · simp only; rw [sim.fields.2.1]
      · simp [hvia]
      · intro s0 hs0; simp only [Option.some.injEq] at hs0; subst hs0; rw [← sim.view.ctx]; exact hvc
      · intro _ v1 hv1; simp only [Option.some.injEq] at hv1; subst hv1; exact hvd
  | false =>
    simp only [startReq, hvia]
    refine ⟨{ s := s, gens := G, pres := q.pres }, ?_, ?_, ⟨fun _ hv => (by cases hv), fun _ hv => (by cases hv)⟩⟩
    · simp [specStart, hvia, pure, Except.pure, gensBetween_self]
    · refine { st := hst, gens := rfl, out := hout, mw := trivial, cur := trivial, destroyed := rfl,
               req := ⟨rfl, rfl, rfl, rfl⟩, viaMw := ?_, mwCtx := ?_, mwLive := ?_ }
      · simp [hvia]
      · intro s0 hs0; simp at hs0
      · intro _ v1 hv1; simp at hv1

theorem handle_eq (cfg : Cfg) (gen : Nat → Bytes) (st : St) (q : Req) :
    handle cfg gen st q =
      ((endCtx cfg q (runScript cfg gen (startReq cfg gen st q) q.script).1).st,
       { acts := (runScript cfg gen (startReq cfg gen st q) q.script).2,
         outCk := (endCtx cfg q (runScript cfg gen (startReq cfg gen st q) q.script).1).outCk,
         outHd := (endCtx cfg q (runScript cfg gen (startReq cfg gen st q) q.script).1).outHd,
         gens := gensBetween gen st.nid (endCtx cfg q (runScript cfg gen (startReq cfg gen st q) q.script).1).st.nid,
         keys := (endCtx cfg q (runScript cfg gen (startReq cfg gen st q) q.script).1).st.liveKeys }) := rfl

theorem endCtx_mono {cfg : Cfg} {gen : Nat → Bytes} {G : List Bytes} {q : Req} {h : HSt} {r : SReq}
    (hrel : Rel cfg gen G q h r) : h.c.st.nid ≤ (endCtx cfg q h).st.nid := by
  have _ := hrel
  exact Nat.le_of_eq (endCtx_nid cfg q h).symm

theorem finish_sim (hw : WF cfg gen) {G : List Bytes} {q : Req} {h : HSt} {r : SReq}
    (hrel : Rel cfg gen G q h r) (o : Obs) (hck : o.outCk = (endCtx cfg q h).outCk)
    (hhd : o.outHd = (endCtx cfg q h).outHd) :
    ∃ r2, specFinish cfg r o = .ok r2 ∧ StRel cfg gen (endCtx cfg q h).st r2.s ∧ OutOK gen (endCtx cfg q h) := by
  -- behind the middleware or not, the request ends in `mwFinish` (which does nothing without a middleware session)
  have he : endCtx cfg q h = mwFinish cfg h := by
    unfold endCtx
    rw [hrel.viaMw]
    cases hm : h.mw <;> simp [mwFinish, hm]
  rw [he] at hck hhd ⊢
  clear he
  -- the cases of `mwFinish`: the session was destroyed; it is saved and released; there is none
  revert hck hhd
  fun_cases mwFinish cfg h <;> intro hck hhd
  case case1 s hs hd =>
    obtain ⟨v, hrm, -⟩ := (hs ▸ hrel.mw).cases
    exact ⟨r, by simp [specFinish, hrm, hrel.destroyed, hd, pure, Except.pure], hrel.st, hrel.out⟩
  case case2 s hs hd =>
    obtain ⟨v, hrm, hm⟩ := (hs ▸ hrel.mw).cases
    have hd : h.destroyed = false := by simpa using hd
    have hrd : r.mwDestroyed = false := by rw [hrel.destroyed]; exact hd
    have sim := save_sim hw (r := { r with cur := .mw }) ⟨hrel.st, hrel.gens, hm, hrel.out, hrel.req, rfl⟩
      (hrel.mwLive hd v hrm)
    have hcar := sessSave_carries cfg h.c (hrel.mwCtx s hs)
    have hid : ∀ r0 : SReq, (saveView cfg r0 v).2.id = s.id := by intro r0; rw [saveView_eq]; exact hm.id
    refine ⟨(saveView cfg { r with cur := .mw } v).1, ?_, strel_release sim.st s, sim.out.congr rfl rfl (Nat.le_refl _)⟩
    unfold specFinish
    rw [hrm]
    simp only [hrd, Bool.false_eq_true, if_false, hid]
    by_cases hsrc : cfg.source = .header
    · simp only [hsrc, if_true] at hcar ⊢
      simp [hhd, release, hcar, pure, Except.pure]
    · simp only [hsrc, if_false] at hcar ⊢
      simp [hck, release, hcar, pure, Except.pure]
  case case3 hs =>
    exact ⟨r, by simp [specFinish, (hs ▸ hrel.mw).cases, pure, Except.pure], hrel.st, hrel.out⟩

theorem end_sim {c : RCtx} {s : SpecSt} (hst : StRel cfg gen c.st s)
    (hout : OutOK gen c) (acts : List AObs) (gens : List Bytes) :
    specEnd s ⟨acts, c.outCk, c.outHd, gens, c.st.liveKeys, 200⟩ = .ok s := by
  have h1 : ∀ v, c.outCk = some (some v) → s.issued.contains v = true := by
    intro v hv
    rw [hst.issued]
    exact issued_contains (hout.ck v hv)
  have h2 : ∀ v, c.outHd = some v → s.issued.contains v = true := by
    intro v hv
    rw [hst.issued]
    exact issued_contains (hout.hd v hv)
  have h3 : c.st.liveKeys.all s.issued.contains = true := by
    rw [List.all_eq_true]
    intro k hkm
    obtain ⟨e, hm, _⟩ := mem_liveKeys.mp hkm
    rw [hst.issued]
    exact issued_contains (hst.inv.1 (k, e) hm)
  have h4 : c.st.liveKeys.all ((s.sessions.filter fun e => decide (s.now < e.2.idleDeadline)).map (·.1)).contains = true := by
    rw [List.all_eq_true]
    intro k hkm
    obtain ⟨e, hm, hl⟩ := mem_liveKeys.mp hkm
    obtain ⟨se, hs, hr⟩ := hst.fwd k e (lookup_of_mem_nodup hst.nodupStore hm) hl
    rw [hr.live] at hl
    simp only [List.contains_iff_mem, List.mem_map, List.mem_filter]
    exact ⟨(k, se), ⟨lookup_some_mem hs, by rw [hst.now]; exact hl⟩, rfl⟩
  have h5 : ((s.sessions.filter fun e => decide (s.now < e.2.idleDeadline)).map (·.1)).all c.st.liveKeys.contains = true := by
    rw [List.all_eq_true]
    intro k hkm
    simp only [List.mem_map, List.mem_filter] at hkm
    obtain ⟨⟨k', se⟩, ⟨hm, hl⟩, rfl⟩ := hkm
    simp only [decide_eq_true_eq, hst.now] at hl
    obtain ⟨e, he, hr⟩ := hst.bwd k' se (lookup_of_mem_nodup hst.nodupSess hm) hl
    simp only [List.contains_iff_mem]
    exact mem_liveKeys.mpr ⟨e, lookup_some_mem he, by rw [hr.live]; simpa using hl⟩
  unfold specEnd
  simp only [h3, h4, h5, Bool.not_true, Bool.false_eq_true, if_false]
  -- what is left are the two `reply-carries-id-not-issued` guards, per shape of `outCk` / `outHd`: `h1`, `h2`
  clear h3 h4 h5 hst hout
  rcases hoc : c.outCk with _ | _ | v <;> rcases hoh : c.outHd with _ | w <;>
    simp_all [pure, Except.pure]

theorem specReq_eq (cfg : Cfg) (s : SpecSt) (q : Req) (o : Obs) (h : o.status = 200) :
    specReq cfg s q o =
      specStart cfg s q o.gens >>= fun r => specScript cfg q.viaMw q r q.script o.acts >>= fun r =>
        specFinish cfg r o >>= fun r => specEnd r.s o := by
  simp [specReq, h]

/-- one request of the model is accepted by the oracle, or refused as outside the domain — and then its script
    is not in the domain -/
theorem req_sim (hw : WF cfg gen) {st : St} {s : SpecSt}
    (hst : StRel cfg gen st s) (q : Req) :
    (∃ s', specReq cfg s q (handle cfg gen st q).2.toObs = .ok s' ∧ StRel cfg gen (handle cfg gen st q).1 s') ∨
    (∃ e, specReq cfg s q (handle cfg gen st q).2.toObs = .error e ∧ OutsideDomain e ∧
      scriptInDomain false q.script = false) := by
  -- `++ []`: `script_sim` is called with nothing expected after the script (`G' = []`), and its hypothesis on `G` is then this very term,
  -- closed by `rfl`
  have hg : (handle cfg gen st q).2.toObs.gens =
      gensBetween gen st.nid (startReq cfg gen st q).c.st.nid ++
        (gensBetween gen (startReq cfg gen st q).c.st.nid
          (runScript cfg gen (startReq cfg gen st q) q.script).1.c.st.nid ++ []) := by
    -- (this and `ha` below are components of `handle_eq`)
    have : (handle cfg gen st q).2.toObs.gens =
        gensBetween gen st.nid (endCtx cfg q (runScript cfg gen (startReq cfg gen st q) q.script).1).st.nid := rfl
    rw [this, endCtx_nid, List.append_nil, ← gensBetween_append gen (startReq_moves st q).nid (runScript_nid_le q.script _)]
  obtain ⟨r0, hs0, hrel0, hf0⟩ := start_sim hw (q := q)
    (gensBetween gen (startReq cfg gen st q).c.st.nid
      (runScript cfg gen (startReq cfg gen st q) q.script).1.c.st.nid ++ []) hst
  have ha : (handle cfg gen st q).2.toObs.acts = (runScript cfg gen (startReq cfg gen st q) q.script).2 := rfl
  rcases script_sim hw q.script _ r0 _ [] _ hrel0 hf0 rfl with ⟨r1, hs1, hrel1⟩ | ⟨e, he, hd, hdom⟩
  · left
    obtain ⟨r2, hs2, hst2, hout2⟩ := finish_sim hw hrel1 (handle cfg gen st q).2.toObs rfl rfl
    have he := end_sim hst2 hout2 (handle cfg gen st q).2.acts (handle cfg gen st q).2.gens
    refine ⟨r2.s, ?_, hst2⟩
    rw [specReq_eq _ _ _ _ rfl, hg, ha, hs0, ok_bind, hs1, ok_bind, hs2]
    exact he
  · right
    refine ⟨e, ?_, hd, hdom⟩
    rw [specReq_eq _ _ _ _ rfl, hg, ha, hs0, ok_bind, he]
    rfl

/-- the observations the harness would record of the model: one per operation -/
def obsOf : List (Option Resp) → List (Option Obs) := List.map (Option.map Resp.toObs)

/-- every history of the model is accepted by the oracle, or refused as outside the domain — and then some
    script of the history is not in the domain -/
theorem run_sim (hw : WF cfg gen) (ops : List Op) :
    ∀ (st : St) (s : SpecSt), StRel cfg gen st s →
      specRun cfg s ops (obsOf (run cfg gen st ops).2) = none ∨
      ∃ e, specRun cfg s ops (obsOf (run cfg gen st ops).2) = some e ∧ OutsideDomain e ∧
        ops.all Op.inDomain = false := by
  induction ops with
  | nil => intro st s _; left; rfl
  | cons o ops ih =>
    intro st s hst
    have tail {st' : St} {s' : SpecSt} (hst' : StRel cfg gen st' s') (b : Bool) :
        specRun cfg s' ops (obsOf (run cfg gen st' ops).2) = none ∨
        ∃ e, specRun cfg s' ops (obsOf (run cfg gen st' ops).2) = some e ∧ OutsideDomain e ∧
          (b && ops.all Op.inDomain) = false :=
      (ih _ _ hst').imp id fun ⟨e, he, hd, hdom⟩ => ⟨e, he, hd, by simp [hdom]⟩
    cases o with
    | adv d =>
      simp only [run, step, obsOf, List.map, Option.map, specRun, List.all_cons]
      exact tail (strel_adv hst d) _
    | req q =>
      simp only [run, step, obsOf, List.map, Option.map, specRun, List.all_cons]
      rcases req_sim hw hst q with ⟨s', hs', hst'⟩ | ⟨e, he, hd, hdom⟩
      · rw [hs']
        exact tail hst' _
      · exact .inr ⟨e, by rw [he], hd, by simp [Op.inDomain, hdom]⟩

end C15
