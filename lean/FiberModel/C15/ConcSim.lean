import FiberModel.C15.Domain
import FiberModel.C15.ConcSpec
/-
C15 — overlapping requests refine the abstract table as well: every schedule of the model (ConcModel.lean)
is accepted by the event-wise oracle (ConcSpec.lean). The per-action simulation of Sim.lean is reused as
is; what is new is `Rel.transfer`: the relation between a request's private state and its abstract views
survives whatever other requests do to the shared state in between.
-/
namespace C15
open B

variable {cfg : Cfg} {gen : Nat → Bytes}

theorem withSt_st (h : HSt) (st : St) : (h.withSt st).c.st = st := rfl

/-- a request that was related to the abstract state at its last event is related again once its view of
    the shared state is refreshed: other requests only change the storage / table (related by `StRel`) and
    let the generator's counter grow -/
theorem Rel.transfer {G : List Bytes} {q : Req} {h : HSt} {r : SReq}
    (hrel : Rel cfg gen G q h r) {st' : St} {s' : SpecSt} (hst : StRel cfg gen st' s')
    (hn : h.c.st.nid ≤ st'.nid) (G' : List Bytes) :
    Rel cfg gen G' q (h.withSt st') { r with s := s', gens := G' } :=
  { hrel.update_st hst hn with gens := rfl }

structure FRel (cfg : Cfg) (gen : Nat → Bytes) (nid : Nat) (f : Fl) (sf : SFl) : Prop where
  q : sf.q = f.q
  todo : sf.todo = f.todo
  -- the outputs expected at the request's last event: `Rel.transfer` resets them at its next one, so any `G` will do
  rel : ∃ G, Rel cfg gen G f.q f.h sf.r
  le : f.h.c.st.nid ≤ nid
  dom : ∃ d, Flags sf.r d ∧ scriptInDomain d f.todo = true

def OFRel (cfg : Cfg) (gen : Nat → Bytes) (nid : Nat) : Option Fl → Option SFl → Prop
  | none, none => True
  | some f, some sf => FRel cfg gen nid f sf
  | _, _ => False

structure WRel (cfg : Cfg) (gen : Nat → Bytes) (w : World) (sw : SWorld) : Prop where
  st : StRel cfg gen w.st sw.s
  fl : ∀ rid, OFRel cfg gen w.st.nid (w.fl rid) (sw.fl rid)

theorem FRel.mono {n m : Nat} {f : Fl} {sf : SFl} (h : FRel cfg gen n f sf)
    (hnm : n ≤ m) : FRel cfg gen m f sf := ⟨h.q, h.todo, h.rel, Nat.le_trans h.le hnm, h.dom⟩

theorem OFRel.mono {n m : Nat} {f : Option Fl} {sf : Option SFl}
    (h : OFRel cfg gen n f sf) (hnm : n ≤ m) : OFRel cfg gen m f sf := by
  revert h
  fun_cases OFRel cfg gen n f sf <;> intro h
  · trivial
  · exact h.mono hnm
  · exact h.elim

theorem WRel.set {w : World} {sw : SWorld} (hrel : WRel cfg gen w sw)
    {st' : St} {s' : SpecSt} (hst : StRel cfg gen st' s') (hn : w.st.nid ≤ st'.nid) (rid : Nat)
    {f : Option Fl} {sf : Option SFl} (hf : OFRel cfg gen st'.nid f sf) :
    WRel cfg gen (w.set st' rid f) (sw.set s' rid sf) := by
  refine ⟨hst, ?_⟩
  intro i
  simp only [World.set, SWorld.set]
  by_cases hi : i = rid
  · simp only [hi, if_true]; exact hf
  · simp only [hi, if_false]; exact (hrel.fl i).mono hn

theorem WRel.fl_cases {w : World} {sw : SWorld} (hrel : WRel cfg gen w sw) (rid : Nat) :
    (w.fl rid = none ∧ sw.fl rid = none) ∨
    ∃ f sf, w.fl rid = some f ∧ sw.fl rid = some sf ∧ FRel cfg gen w.st.nid f sf := by
  have h := hrel.fl rid
  cases hf : w.fl rid <;> cases hsf : sw.fl rid <;> rw [hf, hsf] at h
  · exact .inl ⟨rfl, rfl⟩
  · exact h.elim
  · exact h.elim
  · exact .inr ⟨_, _, rfl, rfl, h⟩

theorem wrel_init (cfg : Cfg) (gen : Nat → Bytes) : WRel cfg gen {} {} :=
  ⟨strel_init cfg gen, fun _ => trivial⟩

section step

theorem cstep_start (hw : WF cfg gen) (hrel : WRel cfg gen w sw) (rid : Nat) (q : Req)
    (hdom : scriptInDomain false q.script = true) :
    ∃ sw', cspecStep cfg sw (.start rid q) (cstep cfg gen w (.start rid q)).2 = .ok sw' ∧
      WRel cfg gen (cstep cfg gen w (.start rid q)).1 sw' := by
  rcases hrel.fl_cases rid with ⟨hf, hsf⟩ | ⟨f, sf, hf, hsf, _⟩
  case inr => exact ⟨sw, by simp [cspecStep, hsf], by simpa [cstep, hf] using hrel⟩
  obtain ⟨r0, hs0, hrel0, hf0⟩ := start_sim hw (q := q) [] hrel.st
  rw [List.append_nil] at hs0
  have hmono := (startReq_moves (cfg := cfg) (gen := gen) w.st q).nid
  refine ⟨sw.set r0.s rid (some { q := q, r := r0, todo := q.script }), ?_, ?_⟩
  · simp [cspecStep, cstep, hf, hsf, hs0, ok_bind, pure, Except.pure]
  · simp only [cstep, hf]
    exact hrel.set hrel0.st hmono rid
      ⟨rfl, rfl, ⟨[], hrel0⟩, Nat.le_refl _, ⟨false, hf0, hdom⟩⟩

theorem cstep_step (hw : WF cfg gen) (hrel : WRel cfg gen w sw) (rid : Nat) :
    ∃ sw', cspecStep cfg sw (.step rid) (cstep cfg gen w (.step rid)).2 = .ok sw' ∧
      WRel cfg gen (cstep cfg gen w (.step rid)).1 sw' := by
  rcases hrel.fl_cases rid with ⟨hf, hsf⟩ | ⟨f, sf, hf, hsf, hfl⟩
  · exact ⟨sw, by simp [cspecStep, hsf], by simpa [cstep, hf] using hrel⟩
  cases htodo : f.todo with
  | nil =>
    have hst' : sf.todo = [] := by rw [hfl.todo, htodo]
    refine ⟨sw, ?_, ?_⟩
    · simp [cspecStep, hsf, hst']
    · simpa [cstep, hf, htodo] using hrel
  | cons a rest =>
    have hst' : sf.todo = a :: rest := by rw [hfl.todo, htodo]
    obtain ⟨G0, hr0⟩ := hfl.rel
    obtain ⟨d, hflags, hdom⟩ := hfl.dom
    rw [htodo] at hdom
    simp only [scriptInDomain, Bool.and_eq_true] at hdom
    -- refresh the request's view of the shared state, then one action of Sim.lean
    have hrT := hr0.transfer hrel.st hfl.le
      (gensBetween gen w.st.nid (act cfg gen (f.h.withSt w.st) a).1.c.st.nid)
    have hmono := (act_moves (cfg := cfg) (gen := gen) (f.h.withSt w.st) a).nid
    rcases act_sim hrT hw a (G' := []) (by rw [withSt_st, List.append_nil]) with
      ⟨r1, hs1, hrel1, hf1⟩ | ⟨e, _, _, ht⟩
    · refine ⟨sw.set r1.s rid (some { sf with r := r1, todo := rest }), ?_, ?_⟩
      · simp only [cspecStep, hsf, hst', cstep, hf, htodo]
        rw [hfl.q]
        simp only [hs1, ok_bind, pure, Except.pure]
      · simp only [cstep, hf, htodo]
        exact hrel.set hrel1.st hmono rid
          ⟨hfl.q, rfl, ⟨[], hrel1⟩, Nat.le_refl _, ⟨_, hf1 _ (hflags.congr rfl rfl id), hdom.2⟩⟩
    · rw [ht.not_allowed (hflags.congr rfl rfl id)] at hdom
      cases hdom.1

theorem cstep_finish (hw : WF cfg gen) (hrel : WRel cfg gen w sw) (rid : Nat) :
    ∃ sw', cspecStep cfg sw (.finish rid) (cstep cfg gen w (.finish rid)).2 = .ok sw' ∧
      WRel cfg gen (cstep cfg gen w (.finish rid)).1 sw' := by
  rcases hrel.fl_cases rid with ⟨hf, hsf⟩ | ⟨f, sf, hf, hsf, hfl⟩
  · exact ⟨sw, by simp [cspecStep, hsf], by simpa [cstep, hf] using hrel⟩
  cases htodo : f.todo with
  | cons a rest =>
    have hst' : sf.todo = a :: rest := by rw [hfl.todo, htodo]
    refine ⟨sw, ?_, ?_⟩
    · simp [cspecStep, hsf, hst']
    · simpa [cstep, hf, htodo] using hrel
  | nil =>
    have hst' : sf.todo = [] := by rw [hfl.todo, htodo]
    obtain ⟨G0, hr0⟩ := hfl.rel
    have hrT := hr0.transfer hrel.st hfl.le []
    obtain ⟨r2, hs2, hst2, hout2⟩ := finish_sim hw hrT
      (Obs.mk [] (endCtx cfg f.q (f.h.withSt w.st)).outCk (endCtx cfg f.q (f.h.withSt w.st)).outHd []
        (endCtx cfg f.q (f.h.withSt w.st)).st.liveKeys 200) rfl rfl
    have he := end_sim hst2 hout2 [] []
    have hnid : w.st.nid ≤ (endCtx cfg f.q (f.h.withSt w.st)).st.nid := by
      rw [endCtx_nid, withSt_st]; exact Nat.le_refl _
    refine ⟨sw.set r2.s rid none, ?_, ?_⟩
    · simp only [cspecStep, hsf, hst', cstep, hf, htodo]
      simp only [hs2, he, ok_bind, pure, Except.pure]
    · simp only [cstep, hf, htodo]
      exact hrel.set hst2 hnid rid trivial

theorem cstep_sim (hw : WF cfg gen) (hrel : WRel cfg gen w sw) (e : Ev) (hdom : e.inDomain = true) :
    ∃ sw', cspecStep cfg sw e (cstep cfg gen w e).2 = .ok sw' ∧ WRel cfg gen (cstep cfg gen w e).1 sw' := by
  cases e with
  | adv d => exact ⟨_, rfl, strel_adv hrel.st d, hrel.fl⟩
  | start rid q => exact cstep_start hw hrel rid q hdom
  | step rid => exact cstep_step hw hrel rid
  | finish rid => exact cstep_finish hw hrel rid

end step

theorem crun_sim (hw : WF cfg gen) (es : List Ev) :
    ∀ (w : World) (sw : SWorld), WRel cfg gen w sw → es.all Ev.inDomain = true →
      cspecRun cfg sw es (crun cfg gen w es).2 = none := by
  induction es with
  | nil => intro w sw _ _; rfl
  | cons e es ih =>
    intro w sw hrel hdom
    simp only [List.all_cons, Bool.and_eq_true] at hdom
    obtain ⟨sw', hs, hrel'⟩ := cstep_sim hw hrel e hdom.1
    simp only [crun, cspecRun, hs]
    exact ih _ _ hrel' hdom.2

end C15
