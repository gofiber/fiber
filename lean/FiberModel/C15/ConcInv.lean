import FiberModel.C15.ConcSerial
import FiberModel.C15.Dead
import FiberModel.C15.Frame
/-
C15 — the invariants of Invariants.lean and Dead.lean for overlapping requests: for every schedule (no
hypothesis on configuration, generator or domain) every storage key was issued, every pooled object is
clean, and an id that yields nothing and is never generated again stays dead. One induction over the events
serves every UNGUARDED invariant of the lifting (`lift_cstep`, for `OpsKeep … false`): what the acting request does to
the shared state is a `Moves`, and the same `Moves` holds for the context of every other request in flight. The
histories of Model.lean are the serial schedules, so their invariants are the special case (`run_of_crun`).
The guarded instance (the absolute deadline, AbsFixed.lean) is not covered here: it is proved for histories only,
by its own induction (`run_abs`), and not for schedules.
-/
namespace C15
open B

/-- the invariant `P`/`Q` for a world: the shared state is fine for a new request (`S`), and every request in
    flight, looking at the current shared state, satisfies the lifted invariant -/
structure WLift (S : St → Prop) (P : RCtx → Prop) (Q : St → Sess → Prop) (w : World) : Prop where
  st : S w.st
  fl : ∀ rid f, w.fl rid = some f → HLift P Q false false (f.h.withSt w.st)

section wlift
variable {cfg : Cfg} {gen : Nat → Bytes} {S : St → Prop} {P : RCtx → Prop} {Q : St → Sess → Prop}
  (ok : OpsKeep cfg gen false P Q) (hS : ∀ {st} (q : Req), S st → P { st := st, ck := q.ck, hd := q.hd, qr := q.qr })
  (hP : ∀ {c}, P c → S c.st)
include ok hS hP

omit hS in
/-- one request moved the shared state from `w.st` to `c'.st`; all others still satisfy the invariant -/
theorem WLift.set {w : World} (hw : WLift S P Q w) {D : Bytes → Prop} {W : Bytes → SData → Prop} {c c' : RCtx}
    (hc : c.st = w.st) (hpc : P c) (m : Moves gen D W c c')
    (hadm : ∀ y b, W y b → ∃ s, Q c.st s ∧ s.id = y ∧ s.data = b)
    (rid : Nat) {f : Option Fl} (hf : ∀ f', f = some f' → HLift P Q false false (f'.h.withSt c'.st)) :
    WLift S P Q (w.set c'.st rid f) := by
  refine ⟨hP (ok.moves hpc m hadm).ctx, fun i f' hf' => ?_⟩
  simp only [World.set] at hf'
  by_cases hi : i = rid
  · simp only [hi, if_true] at hf'; exact hf f' hf'
  · simp only [hi, if_false] at hf'
    have h0 := hw.fl i f' hf'
    rw [← hc] at h0
    have k := ok.moves h0.c (m.withSt f'.h.c) hadm
    exact h0.move k

theorem lift_cstep {w : World} (hw : WLift S P Q w) (e : Ev) : WLift S P Q (cstep cfg gen w e).1 := by
  -- the cases of `cstep`: time passes; start (rid taken / free); step (unknown rid / script done / an action);
  -- finish (unknown rid / script not done / the request ends)
  fun_cases cstep cfg gen w e
  case case1 d =>
    have m : ∀ c : RCtx, Moves gen (fun _ => True) NoW c { c with st := { c.st with now := c.st.now + d } } :=
      fun c => .adv d rfl rfl
    -- `OpsKeep` speaks of request contexts only: `S` is carried across through `P` of an empty request's context
    have := hP (ok.moves (hS ⟨false, [], [], [], []⟩ hw.st) (m _) (fun _ _ f => f.elim)).ctx
    refine ⟨this, fun rid f hf => ?_⟩
    have h0 := hw.fl rid f hf
    have k := ok.moves h0.c (m _) (fun _ _ f => f.elim)
    exact h0.move k
  case case3 rid q _ _ =>
    exact hw.set ok hP rfl (hS q hw.st)
      (startReq_moves w.st q) (fun _ _ f => f.elim) rid
      (by intro f' hf'; cases hf'; exact lift_startReq ok q (hS q hw.st))
  case case6 rid f hf a rest _ _ =>
    have hh := hw.fl rid f hf
    -- `ha` has the guards `false && _`; below it is re-packed with `false`
    have ha := lift_act ok (d := false) hh a (fun h => nomatch h)
    exact hw.set ok hP rfl hh.c (act_moves _ a)
      (fun y b ⟨_, hcur, s, hs, e, eb⟩ => ⟨s, HLift.sess hh hs (by cases (f.h.withSt w.st).cur <;> rfl), e, eb⟩)
      rid (by intro f' hf'; cases hf'; exact ⟨ha.c, ha.mw, ha.cur⟩)
  case case9 rid f hf _ _ =>
    have hh := hw.fl rid f hf
    exact hw.set ok hP rfl hh.c (endCtx_moves f.q _)
      (fun y b ⟨_, s, hs, e, eb⟩ => ⟨s, hh.mw rfl s hs, e, eb⟩) rid (by intro f' hf'; cases hf')
  all_goals exact hw

theorem lift_crun (es : List Ev) {w : World} (hw : WLift S P Q w) : WLift S P Q (crun cfg gen w es).1 := by
  induction es generalizing w with
  | nil => exact hw
  | cons e es ih => simp only [crun]; exact ih (lift_cstep ok hS hP hw e)

end wlift

section
variable {gen : Nat → Bytes} {cfg : Cfg}

/-- every storage key was issued and every pooled object is clean; the sessions held by the requests in flight
    are under issued ids -/
abbrev CInv (gen : Nat → Bytes) : World → Prop :=
  WLift (Inv gen) (fun c => Inv gen c.st) (fun st s => Issued gen st.nid s.id)

theorem cinv_init : CInv gen {} := ⟨inv_init gen, fun _ _ hf => by cases hf⟩

theorem crun_inv (es : List Ev) {w : World} (hi : CInv gen w) : CInv gen (crun cfg gen w es).1 :=
  lift_crun (inv_ops cfg gen) (fun _ hs => hs) (fun hc => hc) es hi

theorem run_inv (cfg : Cfg) (ops : List Op) {st : St} (hi : Inv gen st) : Inv gen (run cfg gen st ops).1 :=
  (run_of_crun (Φ := CInv gen) (cfg := cfg) crun_inv ops ⟨hi, fun _ _ hf => nomatch hf⟩).st

/-- nothing a request in flight holds refers to `id` -/
structure FDead (id : Bytes) (h : HSt) : Prop where
  locals : ∀ i, h.c.locals = some i → i ≠ id
  mw : ∀ s, h.mw = some s → s.id ≠ id
  cur : ∀ s, h.cur = .other s → s.id ≠ id

structure CDead (gen : Nat → Bytes) (id : Bytes) (w : World) : Prop where
  get : w.st.get id = none
  never : NeverGen gen w.st.nid id
  fl : ∀ rid f, w.fl rid = some f → FDead id f.h

theorem CDead.wlift {id : Bytes} {w : World} :
    CDead gen id w ↔
      WLift (fun st => st.get id = none ∧ NeverGen gen st.nid id) (DeadC gen id) (fun _ s => s.id ≠ id) w :=
  ⟨fun hd => ⟨⟨hd.get, hd.never⟩, fun rid f hf =>
      ⟨⟨hd.get, hd.never, (hd.fl rid f hf).locals⟩, fun _ => (hd.fl rid f hf).mw, fun _ => (hd.fl rid f hf).cur⟩⟩,
    fun hw => ⟨hw.st.1, hw.st.2, fun rid f hf =>
      ⟨(hw.fl rid f hf).c.locals, (hw.fl rid f hf).mw rfl, (hw.fl rid f hf).cur rfl⟩⟩⟩

theorem crun_dead {id : Bytes} (es : List Ev) {w : World} (hd : CDead gen id w) :
    CDead gen id (crun cfg gen w es).1 :=
  CDead.wlift.mpr (lift_crun (dead_ops cfg gen id) (fun _ hs => ⟨hs.1, hs.2, fun i hi => by cases hi⟩)
    (fun hc => ⟨hc.get, hc.never⟩) es (CDead.wlift.mp hd))

theorem run_dead {id : Bytes} (ops : List Op) {st : St} (hg : st.get id = none) (hn : NeverGen gen st.nid id) :
    (run cfg gen st ops).1.get id = none :=
  (run_of_crun (Φ := CDead gen id) (cfg := cfg) crun_dead ops ⟨hg, hn, fun _ _ hf => nomatch hf⟩).get

end

end C15
