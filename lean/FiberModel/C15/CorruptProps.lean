import FiberModel.C15.Sim
import FiberModel.C15.Corrupt
/-
C15 — a load that fails on a damaged blob leaves no trace (isolation across a decode failure).
-/
namespace C15
open B

/-- what the decode-error path does to the state: time, storage and the id counter are untouched; every
    pooled object was pooled before or is the one put back, which is EMPTY -/
theorem failedLoad_spec (c : RCtx) :
    (failedLoad c).st.now = c.st.now ∧ (failedLoad c).st.store = c.st.store ∧
    (failedLoad c).st.nid = c.st.nid ∧
    (∀ d ∈ (failedLoad c).st.pool, d = SData.empty ∨ d ∈ c.st.pool) := by
  refine ⟨acquire_now c, acquire_store c, acquire_nid c, ?_⟩
  intro d hd
  simp only [failedLoad, release, List.mem_cons] at hd
  rcases hd with rfl | hd
  · exact Or.inl rfl
  · exact Or.inr (acquire_pool c d hd)

/-- nothing of the request context changes either: no Locals, no reply cookie / header -/
theorem failedLoad_ctx (c : RCtx) :
    (failedLoad c).locals = c.locals ∧ (failedLoad c).outCk = c.outCk ∧ (failedLoad c).outHd = c.outHd ∧
    (failedLoad c).ck = c.ck ∧ (failedLoad c).hd = c.hd ∧ (failedLoad c).qr = c.qr := by
  unfold failedLoad release
  rw [acquire_req]
  exact ⟨rfl, rfl, rfl, rfl, rfl, rfl⟩

/-- the state after a failed load is related to the SAME abstract table as before it -/
theorem failedLoad_strel {cfg : Cfg} {gen : Nat → Bytes} {c : RCtx} {s : SpecSt}
    (h : StRel cfg gen c.st s) : StRel cfg gen (failedLoad c).st s :=
  strel_release (strel_acquire h) nobody

/-- **Isolation across a decode failure.** Take any state related to an abstract table `s` (every state a
    history inside the oracle's domain reaches is, step by step: `strel_init`, `req_sim`, `strel_adv`),
    let a load fail on a damaged blob there (`store.Get`, `GetByID` or the middleware's `initialize`, for any
    request), and continue with ANY history — requests of new visitors, of the other sessions, of the victim
    id again, through the middleware or the Store API.
    The oracle accepts everything observed afterwards AGAINST THE TABLE `s` IN WHICH THE FAILED LOAD NEVER
    HAPPENED: a fresh session is empty, every other session shows exactly its own last saved keys and
    values. Nothing the decoder had put into the pooled object before it failed is seen by anyone. -/
theorem failed_load_leaves_no_trace (cfg : Cfg) (gen : Nat → Bytes) (hw : WF cfg gen) (c : RCtx) (s : SpecSt)
    (hrel : StRel cfg gen c.st s) (ops : List Op) :
    specRun cfg s ops (obsOf (run cfg gen (failedLoad c).st ops).2) = none ∨
    ∃ e, specRun cfg s ops (obsOf (run cfg gen (failedLoad c).st ops).2) = some e ∧ OutsideDomain e :=
  (run_sim hw ops _ s (failedLoad_strel hrel)).imp id fun ⟨e, he, hd, _⟩ => ⟨e, he, hd⟩

/-- the middleware route: a request presenting a damaged live id dies in `initialize`
    (`panicked`), and the state it leaves is `failedLoad` of the state it found -/
theorem xhandle_damaged_mw (cfg : Cfg) (gen : Nat → Bytes) (x : XSt) (q : Req) (hq : q.viaMw = true)
    (hbad : isBad x.bad x.st (getSessionID cfg (reqCtx x.st q)) = true) :
    xhandle cfg gen x q = ({ x with st := (failedLoad (reqCtx x.st q)).st }, { panicked := true }) := by
  simp [xhandle, hq, hbad]

/-- `store.Get` / `GetByID` on a damaged live id: the decode error, the handler's session variable is
    unchanged, the context is `failedLoad` of the context before -/
theorem xact_damaged_get (cfg : Cfg) (gen : Nat → Bytes) (bad : List Bytes) (h : HSt) (hm : h.mw = none)
    (hbad : isBad bad h.c.st (lookupId cfg h.c) = true) :
    xact cfg gen bad h .storeGet = ({ h with c := failedLoad h.c }, .decodeErr) := by
  simp [xact, hm, hbad]

theorem xact_damaged_byID (cfg : Cfg) (gen : Nat → Bytes) (bad : List Bytes) (h : HSt) (id : Bytes)
    (hbad : isBad bad h.c.st id = true) :
    xact cfg gen bad h (.byID id) = ({ h with c := failedLoad h.c }, .decodeErr) := by
  simp [xact, hbad]

/-- model and oracle agree on which ids are damaged AND still live, in every related pair of states
    (the storage holds an entry the TTL has not removed ⇔ the table has the session within its idle deadline) -/
theorem isBad_eq_sIsBad {cfg : Cfg} {gen : Nat → Bytes} {st : St} {s : SpecSt} (h : StRel cfg gen st s)
    (bad : List Bytes) (id : Bytes) : isBad bad st id = sIsBad bad s id := by
  simp only [isBad, sIsBad, h.get_isSome, Bool.and_assoc]
  cases lookup s.sessions id <;> rfl

theorem isBad_nil (st : St) (id : Bytes) : isBad [] st id = false := by simp [isBad]

theorem xact_nil (cfg : Cfg) (gen : Nat → Bytes) (h : HSt) (a : Act) :
    xact cfg gen [] h a = ((act cfg gen h a).1, .plain (act cfg gen h a).2) := by
  cases a <;> simp [xact, isBad_nil]

theorem xrunScript_nil (cfg : Cfg) (gen : Nat → Bytes) (as : List Act) : ∀ h : HSt,
    xrunScript cfg gen [] h as = ((runScript cfg gen h as).1, (runScript cfg gen h as).2.map .plain) := by
  induction as with
  | nil => intro h; rfl
  | cons a as ih =>
    intro h
    simp only [xrunScript, runScript, xact_nil, ih, List.map_cons]

theorem xhandle_nil (cfg : Cfg) (gen : Nat → Bytes) (st : St) (q : Req) :
    (xhandle cfg gen { st := st, bad := [] } q).1 = { st := (handle cfg gen st q).1, bad := [] } ∧
    (xhandle cfg gen { st := st, bad := [] } q).2 =
      { acts := (handle cfg gen st q).2.acts.map .plain, outCk := (handle cfg gen st q).2.outCk,
        outHd := (handle cfg gen st q).2.outHd, gens := (handle cfg gen st q).2.gens,
        keys := (handle cfg gen st q).2.keys } := by
  simp [xhandle, isBad_nil, xrunScript_nil, handle]

/-- a history without `corrupt` operations: the extended model walks through exactly the states of the
    model of Model.lean (so every theorem about `run` speaks about these histories of `xrun`) -/
theorem xrun_without_damage (cfg : Cfg) (gen : Nat → Bytes) (ops : List Op) : ∀ st : St,
    (xrun cfg gen { st := st, bad := [] } (ops.map .base)).1 = { st := (run cfg gen st ops).1, bad := [] } := by
  induction ops with
  | nil => intro st; rfl
  | cons o ops ih =>
    intro st
    cases o with
    | adv d => simp only [List.map_cons, xrun, xstep, run, step, ih]
    | req q => simp only [List.map_cons, xrun, xstep, run, step, (xhandle_nil cfg gen st q).1, ih]

/-! ### non-vacuity: a concrete history with a damaged blob -/

def cxCfg : Cfg := { source := .cookie, idle := 10, abs := 0 }
def cxSet : Req := { viaMw := true, ck := [], hd := [], qr := [], script := [.set [118] [49], .set [119] [50]] }
def cxVictim : Req := { viaMw := true, ck := idGen 0, hd := [], qr := [], script := [.info, .keys] }
def cxVisitor : Req := { viaMw := true, ck := [], hd := [], qr := [], script := [.info, .keys, .get [118]] }
def cxOther : Req := { viaMw := false, ck := idGen 1, hd := [], qr := [], script := [.storeGet, .keys, .get [118], .save, .release] }
/-- two sessions are saved, the first one's blob is damaged, its id is presented (middleware, then
    `GetByID`), then a new visitor and the other session are served -/
def cxOps : List XOp :=
  [.base (.req cxSet), .base (.req { cxSet with script := [.set [97] [51]] }), .corrupt (idGen 0),
   .base (.req cxVictim),
   .base (.req { cxVictim with viaMw := false, ck := [], script := [.byID (idGen 0), .info] }),
   .base (.req cxVisitor), .base (.req cxOther)]

-- the victim's request dies, `GetByID` reports the decode error, the visitor's fresh session has no
-- keys and the other session exactly its own key `a`
example : (xrun cxCfg idGen {} cxOps).2.drop 2 =
    [.corrupted true, .resp { panicked := true },
     .resp { acts := [.decodeErr, .plain .bang], keys := [idGen 1, idGen 0] },
     .resp { acts := [.plain (.info (idGen 2) true), .plain (.keys [] false), .plain (.val none)],
             outCk := some (some (idGen 2)), gens := [idGen 2], keys := [idGen 2, idGen 1, idGen 0] },
     .resp { acts := [.plain .ok, .plain (.keys [[97]] false), .plain (.val none), .plain .ok, .plain .dash],
             outCk := some (some (idGen 1)), keys := [idGen 1, idGen 2, idGen 0] }] := by decide +kernel
-- … and the oracle accepts that history, but rejects it when the visitor's fresh session shows the
-- victim's key `v` (what a pooled object that was not reset would produce)
example : xspecRun cxCfg {} cxOps (xobsOf (xrun cxCfg idGen {} cxOps).2) = none := by decide +kernel
example : xspecRun cxCfg {} cxOps
    [some (.obs { outCk := some (some (idGen 0)), gens := [idGen 0], keys := [idGen 0], acts := [.plain .dash, .plain .dash] }),
     some (.obs { outCk := some (some (idGen 1)), gens := [idGen 1], keys := [idGen 0, idGen 1], acts := [.plain .dash] }),
     some (.corrupted true), some (.obs { panicked := true }),
     some (.obs { acts := [.decodeErr, .plain .bang], keys := [idGen 1, idGen 0] }),
     some (.obs { acts := [.plain (.info (idGen 2) true), .plain (.keys [[118]] false), .plain (.val none)],
                  outCk := some (some (idGen 2)), gens := [idGen 2], keys := [idGen 2, idGen 1, idGen 0] })]
    = some "handler-sees-keys-not-last-saved" := by decide +kernel
-- the hypothesis of `failed_load_leaves_no_trace` is met by the state in which the victim's request arrives
example : StRel cxCfg idGen (reqCtx {} cxVictim).st specInit := strel_init cxCfg idGen

example : isBad [idGen 0] {} (idGen 0) = sIsBad [idGen 0] specInit (idGen 0) :=
  isBad_eq_sIsBad (strel_init cxCfg idGen) _ _

end C15
