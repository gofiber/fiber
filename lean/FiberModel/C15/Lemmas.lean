import FiberModel.C15.Spec
import FiberModel.BasicLemmas
import FiberModel.AssocLemmas
/-
C15 — association lists (`lookup/put/erase`, `NoDupKeys`: the model's `lookup` is the shared `Assoc.lookup` by `lookup_eq`,
so these lemmas are those of `FiberModel.AssocLemmas` read on the model's functions), `merge` (gob decode into an existing
map), and the harness' key generator `idGen` (injective, never empty); the two `bind` equations of `Except`.
-/
namespace C15
open B

theorem lookup_eq : @lookup α = Assoc.lookup := Assoc.lookup_unique (fun _ => rfl) (fun _ _ _ _ => rfl)

theorem lookup_cons (k0 : Bytes) (v : α) (rest : List (Bytes × α)) (k : Bytes) :
    lookup ((k0, v) :: rest) k = if k0 = k then some v else lookup rest k := rfl

theorem lookup_erase (s : List (Bytes × α)) (k k' : Bytes) :
    lookup (erase s k) k' = if k' = k then none else lookup s k' :=
  lookup_eq ▸ Assoc.lookup_erase s k k'

theorem lookup_put (s : List (Bytes × α)) (k k' : Bytes) (v : α) :
    lookup (put s k v) k' = if k' = k then some v else lookup s k' :=
  lookup_eq ▸ Assoc.lookup_put s k k' v

theorem mem_erase {s : List (Bytes × α)} {k : Bytes} {e : Bytes × α} (h : e ∈ erase s k) : e ∈ s :=
  (List.mem_filter.mp h).1

theorem mem_put {s : List (Bytes × α)} {k : Bytes} {v : α} {e : Bytes × α} (h : e ∈ put s k v) :
    e = (k, v) ∨ e ∈ s :=
  (List.mem_cons.mp h).imp_right mem_erase

theorem lookup_some_mem {s : List (Bytes × α)} {k : Bytes} {v : α} (h : lookup s k = some v) : (k, v) ∈ s :=
  Assoc.mem_of_lookup (lookup_eq ▸ h)

theorem merge_lookup (base blob : SData) (k : Bytes) :
    lookup (base.merge blob).kv k = (lookup blob.kv k).orElse fun _ => lookup base.kv k := by
  simp only [SData.merge]
  induction blob.kv with
  | nil => simp [lookup]
  | cons e rest ih =>
    obtain ⟨k0, v0⟩ := e
    by_cases h : k0 = k
    · subst h; simp [lookup, lookup_put]
    · simp [lookup, h, lookup_put, Ne.symm h, ih]

theorem merge_empty_lookup (blob : SData) (k : Bytes) : lookup (SData.empty.merge blob).kv k = lookup blob.kv k := by
  rw [merge_lookup]
  cases lookup blob.kv k <;> rfl

theorem merge_empty_abs (blob : SData) : (SData.empty.merge blob).abs = blob.abs := by
  simp only [SData.merge, SData.empty]
  cases blob.abs <;> rfl

def NoDupKeys : List (Bytes × α) → Prop
  | [] => True
  | e :: rest => lookup rest e.1 = none ∧ NoDupKeys rest

theorem erase_of_lookup_none {s : List (Bytes × α)} {k : Bytes} (h : lookup s k = none) : erase s k = s :=
  Assoc.erase_of_lookup_none (lookup_eq ▸ h)

theorem nodupKeys_iff {s : List (Bytes × α)} : NoDupKeys s ↔ (s.map (·.1)).Nodup := by
  induction s with
  | nil => simp [NoDupKeys]
  | cons e s ih => rw [NoDupKeys, ih, lookup_eq, Assoc.lookup_eq_none_iff]; exact List.nodup_cons.symm

theorem nodup_erase {s : List (Bytes × α)} (h : NoDupKeys s) (k : Bytes) : NoDupKeys (erase s k) :=
  nodupKeys_iff.mpr (Assoc.nodup_erase (nodupKeys_iff.mp h) k)

theorem nodup_put {s : List (Bytes × α)} (h : NoDupKeys s) (k : Bytes) (v : α) : NoDupKeys (put s k v) :=
  ⟨(lookup_erase s k k).trans (if_pos rfl), nodup_erase h k⟩

theorem lookup_of_mem_nodup {s : List (Bytes × α)} (h : NoDupKeys s) {k : Bytes} {v : α} (hm : (k, v) ∈ s) :
    lookup s k = some v :=
  lookup_eq ▸ Assoc.lookup_of_mem (nodupKeys_iff.mp h) hm

theorem merge_empty_of_nodup {blob : SData} (h : NoDupKeys blob.kv) : SData.empty.merge blob = blob := by
  obtain ⟨kv, abs⟩ := blob
  have hkv : kv.foldr (fun e acc => put acc e.1 e.2) [] = kv := by
    induction kv with
    | nil => rfl
    | cons e rest ih => rw [List.foldr_cons, ih h.2, put, erase_of_lookup_none h.1]
  simp only [SData.merge, SData.empty, hkv]
  cases abs <;> rfl

theorem idGen_inj {i j : Nat} (h : idGen i = idGen j) : i = j := by
  unfold idGen at h
  have := natToDec_inj (List.append_cancel_left h)
  omega

theorem idGen_ne_nil (i : Nat) : idGen i ≠ [] := by
  unfold idGen
  intro h
  have := congrArg List.length h
  simp [b] at this

theorem ok_bind {ε α β : Type} (a : α) (f : α → Except ε β) : (Except.ok a >>= f) = f a := rfl

theorem error_bind {ε α β : Type} (e : ε) (f : α → Except ε β) : (Except.error e >>= f) = .error e := rfl

end C15
