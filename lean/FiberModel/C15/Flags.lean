import FiberModel.C15.Spec
/-
C15 — the flag of the oracle's syntactic domain (`scriptInDomain`): `d` over-approximates "some view of
the request is a destroyed one". Pure facts about Spec.lean: how the over-approximation survives the few shapes
of change an accepted action makes to the abstract request state (`FlagsStep`); the model is not involved.
-/
namespace C15
open B

variable {cfg : Cfg} {r : SReq} {d : Bool}

/-- what the flag `d` over-approximates: some view of the request is a destroyed one -/
structure Flags (r : SReq) (d : Bool) : Prop where
  mw : ∀ v, r.mw = some v → v.destroyed = true → d = true
  cur : ∀ v, r.cur = .other v → v.destroyed = true → d = true

theorem Flags.congr {r r' : SReq} {d d' : Bool} (h : Flags r d) (h1 : r'.mw = r.mw) (h2 : r'.cur = r.cur)
    (hd : d = true → d' = true) : Flags r' d' :=
  ⟨fun v hv hv' => hd (h.mw v (h1 ▸ hv) hv'), fun v hv hv' => hd (h.cur v (h2 ▸ hv) hv')⟩

theorem Flags.view (h : Flags r d) {v : View} (hv : r.view = some v)
    (hd : v.destroyed = true) : d = true := by
  unfold SReq.view at hv
  split at hv
  · cases hv
  · exact h.mw v hv hd
  · rename_i v' hc
    cases hv
    exact h.cur _ hc hd

theorem Flags.putView (h : Flags r d) {v : View} (hv : v.destroyed = true → d = true) :
    Flags (r.putView v) d := by
  unfold SReq.putView
  split
  · exact h
  · rename_i hc
    exact ⟨by intro v' hv' hd'; cases hv'; exact hv hd', by intro v' hv'; rw [hc] at hv'; cases hv'⟩
  · exact ⟨h.mw, by intro v' hv' hd'; cases hv'; exact hv hd'⟩

theorem Flags.of_true (r : SReq) : Flags r true := ⟨fun _ _ _ => rfl, fun _ _ _ => rfl⟩

theorem nextD_false {d : Bool} {a : Act} (h : nextD d a = false) : d = false := by
  cases a <;> first | exact h | cases h

theorem nextD_of_true (a : Act) (h : d = true) : nextD d a = true := by
  cases a <;> simp [nextD, h]

/-- across an accepted action that takes the abstract request state from `r` to `r'` the flag stays an
    over-approximation; the simulation states this wherever it writes `r'` down -/
def FlagsStep (r r' : SReq) (a : Act) : Prop := ∀ d, Flags r d → Flags r' (nextD d a)

theorem FlagsStep.same {r' : SReq} {a : Act} (h1 : r'.mw = r.mw) (h2 : r'.cur = r.cur) : FlagsStep r r' a :=
  fun _ hf => hf.congr h1 h2 (nextD_of_true a)

theorem FlagsStep.putView {r0 : SReq} {a : Act} {v v' : View} (hv : r.view = some v) (h1 : r0.mw = r.mw)
    (h2 : r0.cur = r.cur) (hd : v'.destroyed = true → v.destroyed = true) : FlagsStep r (r0.putView v') a :=
  fun _ hf => (hf.congr h1 h2 (nextD_of_true a)).putView fun hd' => nextD_of_true a (hf.view hv (hd hd'))

theorem FlagsStep.setCur {r0 : SReq} {a : Act} {c : SCur} (h1 : r0.mw = r.mw)
    (hc : ∀ v, c = .other v → v.destroyed = false) : FlagsStep r { r0 with cur := c } a :=
  fun _ hf => ⟨fun v hv hd => nextD_of_true a (hf.mw v (h1 ▸ hv) hd), fun v hv hd => by rw [hc v hv] at hd; cases hd⟩

end C15
