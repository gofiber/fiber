import FiberModel.C15.ConcSim
import FiberModel.C15.ConcInv
import FiberModel.C15.AbsFixed
/-
C15 — property theorems.

Sentence (properties.jsonl): "A handler sees exactly the data last saved for the session id its request
presents, if that session is unexpired and not destroyed; otherwise it sees an empty fresh session under a
server-generated id - an id the server did not issue is never adopted. After Destroy, Regenerate or Reset
the previous id no longer yields data, idle and absolute timeouts end sessions, and data of different
sessions never mix, in the middleware and the store API alike."

`model_refines_spec` is the sentence as a whole: every history of the model (requests behind the
middleware and Store-API requests of any number of clients, arbitrary scripts, arbitrary presented ids,
time steps) is accepted by the oracle of Spec.lean, i.e. the store + pool + middleware state machine
refines the abstract table `issued id ↦ (last saved data, idle deadline, absolute deadline)`.
The other theorems restate the clauses of the sentence directly on the model (no oracle involved).
Histories start from the empty server state `{}`; `Reachable` = the states between two requests.
-/
namespace C15
open B

/-- the server states that occur between two requests of some history -/
def Reachable (cfg : Cfg) (gen : Nat → Bytes) (st : St) : Prop := ∃ ops, (run cfg gen {} ops).1 = st

theorem Reachable.inv {cfg : Cfg} {gen : Nat → Bytes} {st : St} (hr : Reachable cfg gen st) : Inv gen st := by
  obtain ⟨ops, rfl⟩ := hr
  exact run_inv cfg ops (inv_init gen)

def exGen (n : Nat) : Bytes := List.replicate (n + 1) 120        -- "x", "xx", "xxx", …
def exCfg : Cfg := { source := .cookie, idle := 10, abs := 30 }

theorem exWF : WF exCfg exGen := by
  refine ⟨by decide, ?_, ?_⟩
  · intro i j h
    have := congrArg List.length h
    simpa [exGen] using this
  · intro i h
    have := congrArg List.length h
    simp [exGen] at this

/-- the generator the harness configures (`id1`, `id2`, …) is one of the generators quantified over -/
theorem idGen_wf (cfg : Cfg) (h : 0 < cfg.idle) : WF cfg idGen := ⟨h, fun _ _ e => idGen_inj e, idGen_ne_nil⟩

/-- two clients; set / regenerate / Store-API load, save, destroy; a stale id afterwards -/
def exOps : List Op :=
  [ .req { viaMw := true, ck := [], hd := [], qr := [], script := [.set [97] [49], .info] },
    .req { viaMw := true, ck := exGen 0, hd := [], qr := [], script := [.get [97], .regenerate, .info] },
    .adv 5,
    .req { viaMw := false, ck := exGen 0, hd := [], qr := [], script := [.storeGet, .info, .get [97], .save, .release] },
    .req { viaMw := false, ck := exGen 1, hd := [], qr := [], script := [.storeGet, .get [97], .destroy, .release] },
    .req { viaMw := true, ck := exGen 1, hd := [], qr := [], script := [.info, .get [97]] } ]

/-- **Refinement.** For every configuration with a positive idle timeout (what `configDefault` guarantees),
    every key generator that never repeats itself and never returns the empty string, and every history —
    any sequence of time steps and requests, each request behind the middleware or on a Store-API route,
    presenting any cookie / header / query values (forged and stale ids included), running any script of
    Get/Set/Delete/Keys/ID/Fresh/Destroy/Regenerate/Reset/SetIdleTimeout/Save/Release/store.Get/GetByID/
    store.Delete/store.Reset — the observations of the model (what every handler action returned, the
    Set-Cookie / response header, the generator outputs, the storage keys) pass the oracle of Spec.lean.
    A request may look its session up any number of times (`store.Get` in a guard middleware and again in
    the handler): every lookup sees the same session id and the data last saved under it, Fresh — and a
    restarted absolute lifetime — only if that id was generated during this very request.
    The only other answer of the oracle is `outside-domain` (`Save` of a session the same handler
    destroyed); it never reports a violated clause. -/
theorem model_refines_spec (cfg : Cfg) (gen : Nat → Bytes) (hw : WF cfg gen) (ops : List Op) :
    specRun cfg specInit ops (obsOf (run cfg gen {} ops).2) = none ∨
    ∃ e, specRun cfg specInit ops (obsOf (run cfg gen {} ops).2) = some e ∧ OutsideDomain e :=
  (run_sim hw ops {} specInit (strel_init cfg gen)).imp id fun ⟨e, he, hd, _⟩ => ⟨e, he, hd⟩

-- non-vacuity: the hypotheses are met by a concrete configuration and generator, and on a concrete
-- history that exercises load, save, regenerate, destroy and a stale id the oracle's answer is `none`
example : WF exCfg exGen := exWF
example : specRun exCfg specInit exOps (obsOf (run exCfg exGen {} exOps).2) = none := by decide +kernel
-- … and the oracle is not trivially `none`: it rejects an observation in which the stale id is adopted
example : specRun exCfg specInit
    [.req { viaMw := true, ck := [102], hd := [], qr := [], script := [.info] }]
    [some { acts := [.info [102] false], outCk := some (some [102]), outHd := none, gens := [], keys := [[102]] }]
    ≠ none := by decide +kernel

/-- **Refinement, inside the domain.** The domain of the oracle has a syntactic description: no script
    calls `Save` after `Destroy` (`Op.inDomain`, decidable on the history alone; any number of `store.Get`
    per request is inside). For every such history the oracle's answer on the model's observations is `none`:
    every clause of the sentence holds at every step. -/
theorem model_refines_spec_in_domain (cfg : Cfg) (gen : Nat → Bytes) (hw : WF cfg gen) (ops : List Op)
    (hdom : ops.all Op.inDomain = true) :
    specRun cfg specInit ops (obsOf (run cfg gen {} ops).2) = none :=
  run_sim_dom hw ops {} specInit (strel_init cfg gen) hdom

example : exOps.all Op.inDomain = true := by decide +kernel

/-- a guard middleware and a handler both look the session up (Get / work / Save / Release, twice), on a
    new, an existing and a forged id; time then passes beyond the original absolute deadline -/
def exMultiOps : List Op :=
  [ .req { viaMw := false, ck := [], hd := [], qr := [], script := [.storeGet, .set [97] [49], .save, .release, .storeGet, .info, .get [97], .save, .release] },
    .adv 8,
    .req { viaMw := false, ck := exGen 0, hd := [], qr := [], script := [.storeGet, .info, .save, .release, .storeGet, .info, .get [97], .save, .release, .storeGet, .info] },
    .adv 8,
    .req { viaMw := false, ck := [102], hd := [], qr := [], script := [.storeGet, .info, .release, .storeGet, .info, .save, .release] },
    .req { viaMw := false, ck := exGen 0, hd := [], qr := [], script := [.storeGet, .save, .release, .storeGet, .save, .release] },
    .adv 8, .req { viaMw := false, ck := exGen 0, hd := [], qr := [], script := [.storeGet, .save, .release, .storeGet, .save, .release] },
    .adv 8, .req { viaMw := false, ck := exGen 0, hd := [], qr := [], script := [.storeGet, .info, .get [97]] } ]

example : exMultiOps.all Op.inDomain = true := by decide +kernel
example : specRun exCfg specInit exMultiOps (obsOf (run exCfg exGen {} exMultiOps).2) = none := by decide +kernel
-- the second lookup of the request that created `x` reports Fresh, the three lookups of a later request do
-- not; a forged id that was not saved gets a new id per lookup; at time 32 > 30 the session `x` is gone
-- although every request looked it up and saved it twice
example : ((run exCfg exGen {} exMultiOps).2.map fun o => o.map fun r => r.acts.filter fun a => match a with | .info _ _ => true | _ => false) =
    [some [.info (exGen 0) true], none, some [.info (exGen 0) false, .info (exGen 0) false, .info (exGen 0) false], none,
     some [.info (exGen 1) true, .info (exGen 2) true], some [], none, some [], none, some [.info (exGen 3) true]] := by
  decide +kernel
-- the domain excludes what it says and nothing else in these scripts
example : Op.inDomain (.req { viaMw := false, ck := [], hd := [], qr := [], script := [.storeGet, .destroy, .save] }) = false := by
  decide +kernel
example : Op.inDomain (.req { viaMw := false, ck := [], hd := [], qr := [], script := [.byID [120], .storeGet, .save, .destroy, .reset, .regenerate, .release] }) = true := by
  decide +kernel

/-- **Refinement for overlapping requests (schedules).** Requests need not run one after the other: in
    the model of ConcModel.lean any number of requests are in flight, a schedule says which of them arrives
    (`start`), performs its next handler action (`step`) or returns (`finish`) next, or lets time pass;
    every event is atomic on the shared storage / generator / pools, everything else is private to the
    request. For every configuration and generator as above and every schedule whose scripts are in the
    domain, the event-wise oracle of ConcSpec.lean — the same abstract table and the same clauses,
    applied to the event's own observation — answers `none`: each handler action sees exactly what was
    last saved under its session's id by whichever request saved last, ids are never adopted or mixed, etc.,
    however the requests of several clients (or of one client) interleave. -/
theorem schedules_refine_spec (cfg : Cfg) (gen : Nat → Bytes) (hw : WF cfg gen) (evs : List Ev)
    (hdom : evs.all Ev.inDomain = true) :
    cspecRun cfg {} evs (crun cfg gen {} evs).2 = none :=
  crun_sim hw evs {} {} (wrel_init cfg gen) hdom

-- non-vacuity: two requests of the same client overlap (both load the session, one saves `a=1`, the other
-- then saves its own copy: the later save wins), a third request then reads what was saved last
def exEvs : List Ev :=
  [ .start 0 { viaMw := true, ck := [], hd := [], qr := [], script := [.set [97] [48]] }, .step 0, .finish 0,
    .start 1 { viaMw := true, ck := exGen 0, hd := [], qr := [], script := [.set [97] [49]] },
    .start 2 { viaMw := false, ck := exGen 0, hd := [], qr := [], script := [.storeGet, .get [97], .set [98] [50], .save, .release] },
    .step 2, .step 1, .step 2, .finish 1, .step 2, .step 2, .adv 3, .step 2, .finish 2,
    .start 3 { viaMw := true, ck := exGen 0, hd := [], qr := [], script := [.get [97], .get [98]] }, .step 3, .step 3, .finish 3 ]

example : exEvs.all Ev.inDomain = true := by decide +kernel
example : cspecRun exCfg {} exEvs (crun exCfg exGen {} exEvs).2 = none := by decide +kernel
-- request 2 loaded before request 1 saved `a=1`, and saved after it: the last request sees a=0, b=2
example : ((crun exCfg exGen {} exEvs).2.drop 15).take 2 =
    [.stepped (.val (some [48])) [], .stepped (.val (some [50])) []] := by decide +kernel

/-- The hypothesis-free invariants hold for overlapping requests too: after any schedule every storage
    key was issued by the generator and every pooled Session object is clean. -/
theorem schedules_keep_invariants (cfg : Cfg) (gen : Nat → Bytes) (evs : List Ev) :
    (∀ e ∈ (crun cfg gen {} evs).1.st.store, ∃ i, i < (crun cfg gen {} evs).1.st.nid ∧ e.1 = gen i) ∧
    (∀ d ∈ (crun cfg gen {} evs).1.st.pool, d = SData.empty) :=
  (crun_inv evs cinv_init).st

/-- … and an id outside the generator's range is never live, however requests overlap (a forged id is
    never adopted; likewise for any id that is dead when no request holds it, `crun_dead`). -/
theorem schedules_never_adopt_unissued_id (cfg : Cfg) (gen : Nat → Bytes) (id : Bytes) (hforged : ∀ i, gen i ≠ id)
    (evs : List Ev) : (crun cfg gen {} evs).1.st.get id = none :=
  (crun_dead evs (w := {}) ⟨by simp [St.get, lookup], fun i _ => hforged i, by intro rid f h; cases h⟩).get

example : (crun exCfg exGen {} exEvs).1.st.store.map (·.1) = [exGen 0] := by decide +kernel

/-- The sequential model is the serial case of the model with overlapping requests: the schedule in which
    every request arrives, performs all its actions and returns before the next one ends in exactly the
    state `run` computes (so the theorems about `run` are about particular schedules, not about another
    machine). -/
theorem serial_schedules_are_the_sequential_model (cfg : Cfg) (gen : Nat → Bytes) (ops : List Op) (st : St) :
    (crun cfg gen { st := st } (serialize ops)).1 = { st := (run cfg gen st ops).1 } :=
  crun_serialize cfg gen ops st

example : (crun exCfg exGen {} (serialize exOps)).1.st.store.map (·.1) = (run exCfg exGen {} exOps).1.store.map (·.1) := by
  decide +kernel

/-- The same statement one request at a time, from any related pair of states: the oracle accepts the
    request and the states stay related, or it answers `outside-domain` (this is the induction step of
    `model_refines_spec`). -/
theorem request_refines_spec (cfg : Cfg) (gen : Nat → Bytes) (hw : WF cfg gen) (st : St) (s : SpecSt)
    (h : StRel cfg gen st s) (q : Req) :
    (∃ s', specReq cfg s q (handle cfg gen st q).2.toObs = .ok s' ∧ StRel cfg gen (handle cfg gen st q).1 s') ∨
    (∃ e, specReq cfg s q (handle cfg gen st q).2.toObs = .error e ∧ OutsideDomain e) :=
  (req_sim hw h q).imp id fun ⟨e, he, hd, _⟩ => ⟨e, he, hd⟩

example : StRel exCfg exGen {} specInit := strel_init _ _

/-- After any history every key of the storage is an id the key generator handed out: no client-chosen id
    ever becomes a storage key (no hypothesis on configuration or generator). -/
theorem stored_ids_were_issued (cfg : Cfg) (gen : Nat → Bytes) (ops : List Op) :
    ∀ e ∈ (run cfg gen {} ops).1.store, ∃ i, i < (run cfg gen {} ops).1.nid ∧ e.1 = gen i :=
  (run_inv cfg ops (inv_init gen)).1

example : (run exCfg exGen {} exOps).1.store.map (·.1) = [exGen 3, exGen 2] := by decide +kernel

/-- An id that yields nothing at a request boundary and that the generator will not hand out later never
    yields anything again, whatever requests and time steps follow: forged ids, destroyed / regenerated /
    reset ids and expired ids are never (re-)adopted. No hypothesis on configuration or generator. -/
theorem dead_ids_stay_dead (cfg : Cfg) (gen : Nat → Bytes) (id : Bytes) (st : St) (ops : List Op)
    (hdead : st.get id = none) (hnever : ∀ i, st.nid ≤ i → gen i ≠ id) :
    (run cfg gen st ops).1.get id = none :=
  run_dead ops hdead hnever

example : ({} : St).get [102] = none ∧ ∀ i, ({} : St).nid ≤ i → exGen i ≠ [102] := by
  refine ⟨rfl, ?_⟩
  intro i _ h
  have := congrArg (fun l => l.all (· == 120)) h
  simp [exGen] at this

/-- In particular an id outside the generator's range is never live, in any state of any history: every
    request presenting it is served as below (`fresh_otherwise`), `GetByID` fails. -/
theorem unissued_id_never_adopted (cfg : Cfg) (gen : Nat → Bytes) (id : Bytes) (hforged : ∀ i, gen i ≠ id)
    (ops : List Op) : (run cfg gen {} ops).1.get id = none :=
  run_dead ops (by simp [St.get, lookup]) (fun i _ => hforged i)

/-- **Live id ⇒ exactly the stored data.** In every reachable state, when the id a request presents
    (cookie first, else the configured header / query parameter) is live in the storage and within its
    absolute lifetime, the session the handler gets — from the middleware or from `store.Get`, both are
    `getSession` — has that id, is not fresh, holds under every key exactly the stored value and carries the
    stored absolute deadline; no id is generated. Nothing of a pooled object shows through. -/
theorem handler_sees_last_saved (cfg : Cfg) (gen : Nat → Bytes) (st : St) (hr : Reachable cfg gen st)
    (c : RCtx) (hc : c.st = st) (hloc : c.locals = none) (blob : SData)
    (hlive : st.get (getSessionID cfg c) = some blob) (habs : absExpired st.now blob = false) :
    (getSession cfg gen c).2.id = getSessionID cfg c ∧ (getSession cfg gen c).2.fresh = false ∧
    (∀ k, lookup (getSession cfg gen c).2.data.kv k = lookup blob.kv k) ∧
    (getSession cfg gen c).2.data.abs = blob.abs ∧ (getSession cfg gen c).1.st.nid = st.nid := by
  subst hc
  exact getSession_live c hr.inv.2 hloc hlive habs

/-- The same for `store.GetByID`. -/
theorem getByID_sees_last_saved (cfg : Cfg) (gen : Nat → Bytes) (st : St) (hr : Reachable cfg gen st)
    (c : RCtx) (hc : c.st = st) (x : Bytes) (blob : SData) (hlive : st.get x = some blob)
    (habs : (decide (cfg.abs > 0) && absExpired st.now blob) = false) :
    ∃ s, (getByID cfg c x).2 = .ok s ∧ s.id = x ∧ s.fresh = false ∧
      (∀ k, lookup s.data.kv k = lookup blob.kv k) ∧ s.data.abs = blob.abs := by
  subst hc
  exact getByID_live c hr.inv.2 hlive habs

/-- **"Last saved".** What the storage yields for an id right after `Save` is the data of the saved session
    (so, with `sessions_do_not_mix` and `handler_sees_last_saved`, the next handler presenting the id sees
    exactly what was saved last under it). -/
theorem save_then_get (cfg : Cfg) (c : RCtx) (s : Sess) (hidle : 0 < cfg.idle) (hid : s.id ≠ []) :
    (sessSave cfg c s).1.st.get s.id = some s.data := by
  rw [sessSave_st]
  exact get_set_self _ hid _ (saveTTL_pos hidle s)

-- non-vacuity: in the example history the third request (Store API, stale cookie) saved a fresh session
-- `xxx`; a request presenting `xxx` afterwards is in the situation of `handler_sees_last_saved`
example : ∃ blob, (run exCfg exGen {} exOps).1.get (exGen 2) = some blob ∧
    absExpired (run exCfg exGen {} exOps).1.now blob = false := by decide +kernel

/-- **Otherwise ⇒ an empty fresh session under a server-generated id.** In every reachable state, when
    the presented id yields nothing (unknown, forged, empty, destroyed, regenerated away, idle-expired), the
    session the handler gets is fresh, has no data, its id is the next output of the server's key generator
    (not the presented id), and it carries a new absolute deadline if one is configured. -/
theorem fresh_otherwise (cfg : Cfg) (gen : Nat → Bytes) (st : St) (hr : Reachable cfg gen st)
    (c : RCtx) (hc : c.st = st) (hloc : c.locals = none) (hdead : st.get (getSessionID cfg c) = none) :
    (getSession cfg gen c).2.id = gen st.nid ∧ (getSession cfg gen c).2.fresh = true ∧
    (getSession cfg gen c).2.data.kv = [] ∧
    (getSession cfg gen c).2.data.abs = (if cfg.abs > 0 then some (st.now + cfg.abs) else none) ∧
    (getSession cfg gen c).1.st.nid = st.nid + 1 := by
  subst hc
  rw [← lookupId_of_locals_none (cfg := cfg) hloc] at hdead
  rw [getSession_miss c hr.inv.2 hdead]
  exact ⟨rfl, rfl, rfl, rfl, by rw [acquire_nid, afterNew_st]⟩

/-- … and `GetByID` of such an id fails without touching anything. -/
theorem getByID_fails_otherwise (cfg : Cfg) (c : RCtx) (x : Bytes) (hdead : c.st.get x = none) :
    (getByID cfg c x).2 = .error (if x = [] then .empty else .notFound) ∧ (getByID cfg c x).1 = c := by
  rw [getByID_eq, hdead]
  exact ⟨rfl, rfl⟩

example : (run exCfg exGen {} exOps).1.get (exGen 0) = none := by decide +kernel

/-- Right after `Destroy`, `Regenerate` or `Reset` the storage yields nothing for the previous id; by
    `dead_ids_stay_dead` (ids are not issued twice) it stays that way for as long as no other handler that
    still holds a session object under that id saves it again. -/
theorem destroy_regenerate_reset_invalidate_old_id (cfg : Cfg) (gen : Nat → Bytes) (c : RCtx) (s : Sess) :
    (sessDestroy cfg c s).1.st.get s.id = none ∧
    (sessRegenerate gen c s).1.st.get s.id = none ∧
    (sessReset cfg gen c s).1.st.get s.id = none := by
  refine ⟨?_, ?_, ?_⟩
  · rw [sessDestroy_st]; exact get_del_self _ _
  · rw [sessRegenerate_st]; exact (get_nid _ _ _).trans (get_del_self _ _)
  · rw [sessReset_st]; exact (get_nid _ _ _).trans (get_del_self _ _)

/-- The new id of `Regenerate` / `Reset` is the generator's next output; `Regenerate` keeps the data and
    the absolute deadline, `Reset` starts an empty session with a new absolute deadline. -/
theorem regenerate_reset_new_session (cfg : Cfg) (gen : Nat → Bytes) (c : RCtx) (s : Sess) :
    (sessRegenerate gen c s).2 = { s with id := gen c.st.nid, fresh := true } ∧
    (sessReset cfg gen c s).2 =
      { s with id := gen c.st.nid, fresh := true, idleT := 0,
               data := { kv := [], abs := if cfg.abs > 0 then some (c.st.now + cfg.abs) else none } } :=
  ⟨sessRegenerate_snd gen c s, sessReset_snd cfg gen c s⟩

/-- A request behind the middleware whose handler destroyed the session is not auto-saved: the middleware's
    end leaves the shared state as the handler left it, so the id that `Destroy` made dead
    (`destroy_regenerate_reset_invalidate_old_id`) is not revived by it. -/
theorem middleware_does_not_resave_destroyed (cfg : Cfg) (h : HSt) (hd : h.destroyed = true) :
    (mwFinish cfg h).st = h.c.st := by
  unfold mwFinish
  split <;> simp [hd]

/-- **Idle timeout.** `Save` stores the session with the idle timeout as TTL, and once that much time has
    passed without another save the storage yields nothing for the id (so the next request presenting it
    gets a fresh session, `fresh_otherwise`). -/
theorem idle_timeout_ends_session (cfg : Cfg) (c : RCtx) (s : Sess) (hidle : 0 < cfg.idle) (hid : s.id ≠ [])
    (d : Nat) (hd : saveTTL cfg s ≤ d) :
    ({ (sessSave cfg c s).1.st with now := (sessSave cfg c s).1.st.now + d } : St).get s.id = none := by
  rw [sessSave_st, get_set_adv _ hid _ (Nat.pos_iff_ne_zero.mp (saveTTL_pos hidle s)), if_neg (by omega)]

/-- … and not earlier. -/
theorem idle_timeout_not_earlier (cfg : Cfg) (c : RCtx) (s : Sess) (hid : s.id ≠ []) (d : Nat)
    (hd : d < saveTTL cfg s) :
    ({ (sessSave cfg c s).1.st with now := (sessSave cfg c s).1.st.now + d } : St).get s.id = some s.data := by
  rw [sessSave_st, get_set_adv _ hid _ (by omega), if_pos hd]

/-- **Absolute timeout.** In every reachable state, when the presented id is live but its absolute
    deadline has passed, the handler gets an empty fresh session under a new id and the old entry is
    deleted; `GetByID` fails and deletes it as well. (A fresh session gets `now + AbsoluteTimeout`,
    `fresh_otherwise`; `Set/Delete/SetIdleTimeout/Save/Regenerate` keep the deadline,
    `save_then_get` / `regenerate_reset_new_session`; the table of the oracle tracks it per id through
    whole histories, `model_refines_spec`.) -/
theorem absolute_timeout_ends_session (cfg : Cfg) (gen : Nat → Bytes) (st : St) (hr : Reachable cfg gen st)
    (c : RCtx) (hc : c.st = st) (hloc : c.locals = none) (blob : SData)
    (hlive : st.get (getSessionID cfg c) = some blob) (habs : absExpired st.now blob = true) :
    (getSession cfg gen c).2.id = gen st.nid ∧ (getSession cfg gen c).2.fresh = true ∧
    (getSession cfg gen c).2.data.kv = [] ∧
    (getSession cfg gen c).1.st.get (getSessionID cfg c) = none := by
  subst hc
  have := getSession_abs_expired (gen := gen) c hr.inv.2 hloc hlive habs
  exact ⟨this.1, this.2.1, this.2.2.1, this.2.2.2.2⟩

theorem absolute_timeout_ends_session_byID (cfg : Cfg) (gen : Nat → Bytes) (st : St)
    (hr : Reachable cfg gen st) (c : RCtx) (hc : c.st = st) (x : Bytes) (blob : SData)
    (hlive : st.get x = some blob) (habs : (decide (cfg.abs > 0) && absExpired st.now blob) = true) :
    (getByID cfg c x).2 = .error .notFound ∧ (getByID cfg c x).1.st.get x = none := by
  subst hc
  exact getByID_abs_expired c hr.inv.2 hlive habs

-- non-vacuity: a session created at time 0 with AbsoluteTimeout 30 and kept alive by a request every 8 s
-- is, at time 32, live in the storage and past its absolute deadline
def exAbsOps : List Op :=
  [ .req { viaMw := true, ck := [], hd := [], qr := [], script := [.set [97] [49]] }, .adv 8,
    .req { viaMw := true, ck := exGen 0, hd := [], qr := [], script := [] }, .adv 8,
    .req { viaMw := true, ck := exGen 0, hd := [], qr := [], script := [] }, .adv 8,
    .req { viaMw := true, ck := exGen 0, hd := [], qr := [], script := [] }, .adv 8 ]

example : ∃ blob, (run exCfg exGen {} exAbsOps).1.get (exGen 0) = some blob ∧
    absExpired (run exCfg exGen {} exAbsOps).1.now blob = true := by decide +kernel

/-- **The absolute deadline is absolute.** For as long as an id yields data, the absolute deadline stored with
    it is the one it had: from any reachable state, through any history inside the oracle's domain (any
    requests of any clients — loads, `Set`, `Save` with any idle timeout, `GetByID`, middleware auto-saves —
    and time steps), nothing extends, shortens or drops it. With `fresh_otherwise` (a new session gets
    `now + AbsoluteTimeout`) and `absolute_timeout_ends_session` (past the deadline the id is replaced and
    deleted): a session ends `AbsoluteTimeout` after its creation however active it is. (`Regenerate` moves
    data and deadline to a new id, `regenerate_reset_new_session`.) -/
theorem absolute_deadline_never_changes (cfg : Cfg) (gen : Nat → Bytes) (hinj : ∀ i j, gen i = gen j → i = j)
    (st : St) (hr : Reachable cfg gen st) (id : Bytes) (b : SData) (hlive : st.get id = some b)
    (ops : List Op) (hdom : ops.all Op.inDomain = true) (b' : SData)
    (hlive' : (run cfg gen st ops).1.get id = some b') : b'.abs = b.abs := by
  have hinv := hr.inv
  have hnever : NeverGen gen st.nid id := fun j hj => (get_issued hinv hlive).not_again hinj hj
  have ha : AbsSt gen id b.abs st :=
    ⟨by intro b0 hb0; rw [hlive] at hb0; cases hb0; rfl, hnever, hinv.2⟩
  exact (run_abs ops ha hdom).store b' hlive'

-- non-vacuity: in the keep-alive example the session `x` is live after the first request and still live,
-- with the same deadline (30), three requests and 24 seconds later
example : ∃ b, (run exCfg exGen {} (exAbsOps.take 1)).1.get (exGen 0) = some b ∧ b.abs = some 30 ∧
    ∃ b', (run exCfg exGen (run exCfg exGen {} (exAbsOps.take 1)).1 ((exAbsOps.drop 1).take 6)).1.get (exGen 0) = some b' ∧
      b'.abs = some 30 := by decide +kernel

/-- After any history every pooled Session object has an empty data map (`releaseSession` replaces the
    map), so `gob.Decode` — which MERGES into the map it is given — never merges into leftovers of another
    session. No hypothesis on configuration or generator. -/
theorem pooled_objects_are_empty (cfg : Cfg) (gen : Nat → Bytes) (ops : List Op) :
    ∀ d ∈ (run cfg gen {} ops).1.pool, d = SData.empty :=
  (run_inv cfg ops (inv_init gen)).2

example : (run exCfg exGen {} exOps).1.pool ≠ [] := by decide +kernel

/-- That the clearing is what makes this true: decoding into a map that still holds a key of another
    session keeps that key. -/
theorem merge_into_leftovers_would_mix (base blob : SData) (k : Bytes) (h : lookup blob.kv k = none) :
    lookup (base.merge blob).kv k = lookup base.kv k := by
  simp [merge_lookup, h]

/-- **Isolation in the storage.** Whatever a handler does — behind the middleware or through the Store
    API — the storage entry of every id other than the one its current session has (or the one the action
    names: `GetByID`, `store.Delete`; the id looked up, `lookupId`, for `store.Get`; `store.Reset` excepted) yields
    exactly what it yielded before. -/
theorem sessions_do_not_mix (cfg : Cfg) (gen : Nat → Bytes) (h : HSt) (hp : ∀ d ∈ h.c.st.pool, d = SData.empty)
    (a : Act) (y : Bytes) (hother : ¬ touches cfg h a y) :
    (act cfg gen h a).1.c.st.get y = h.c.st.get y :=
  act_frame h hp a y hother

example : ¬ touches exCfg { c := { st := {}, ck := [], hd := [], qr := [] }, mw := some { id := [1], data := {}, fresh := true }, cur := .mw }
    .save [2] := by
  simp [touches, HSt.sess]

/-! ### finding F1 (fixed in /repo, fe88b4e): `Reset` did not start a new absolute lifetime -/

/-- session.go `Reset` before the fix: the data map — and with it the absolute-expiration entry — is
    dropped and nothing is put in its place -/
def sessResetOld (cfg : Cfg) (gen : Nat → Bytes) (c : RCtx) (s : Sess) : RCtx × Sess :=
  ((sessReset cfg gen c s).1, { (sessReset cfg gen c s).2 with data := { kv := [], abs := none } })

/-- witness of F1: whatever `AbsoluteTimeout` is configured, the session the old `Reset` left behind is never
    past an absolute deadline (it has none), at any later time, and `Save` stores it like that -/
theorem old_reset_loses_absolute_deadline (cfg : Cfg) (gen : Nat → Bytes) (c : RCtx) (s : Sess) (now : Nat) :
    absExpired now (sessResetOld cfg gen c s).2.data = false ∧
    (sessSave cfg (sessResetOld cfg gen c s).1 (sessResetOld cfg gen c s).2).2.data.abs = none := by
  constructor
  · rfl
  · rw [sessSave_snd]; rfl

/-- … whereas the repaired `Reset` gives the new session `now + AbsoluteTimeout` -/
theorem reset_starts_new_absolute_lifetime (cfg : Cfg) (gen : Nat → Bytes) (c : RCtx) (s : Sess) (h : cfg.abs > 0) :
    (sessReset cfg gen c s).2.data.abs = some (c.st.now + cfg.abs) := by
  rw [sessReset_snd]; simp [h]

example : exCfg.abs > 0 := by decide

end C15
