import FiberModel.C15.Lemmas
/-
C15 — the operations of Model.lean in equational form: what each storage primitive, request-context
primitive and session operation does to the storage state, the Session object and the request fields.
Auxiliary definitions (not part of the model) name the pieces the equations speak of: `saveTTL`, `afterNew` (the
new-id branch of `getSession`) and `finishLoad` (the tail both its branches share), `byIDSess` (`GetByID`),
`Act.onSess`, `Act.generates`. The oracle's
`specAct` on a request without a view stands beside its counterpart `act_nosess`.
-/
namespace C15
open B

variable (cfg : Cfg) (gen : Nat → Bytes) (c : RCtx) (s : Sess)

@[simp] theorem del_nid (st : St) (id : Bytes) : (st.del id).nid = st.nid := by
  fun_cases St.del st id <;> rfl

@[simp] theorem del_pool (st : St) (id : Bytes) : (st.del id).pool = st.pool := by
  fun_cases St.del st id <;> rfl

@[simp] theorem del_now (st : St) (id : Bytes) : (st.del id).now = st.now := by
  fun_cases St.del st id <;> rfl

@[simp] theorem set_nid (st : St) (id : Bytes) (d : SData) (ttl : Nat) : (st.set id d ttl).nid = st.nid := by
  fun_cases St.set st id d ttl <;> rfl

@[simp] theorem set_pool (st : St) (id : Bytes) (d : SData) (ttl : Nat) : (st.set id d ttl).pool = st.pool := by
  fun_cases St.set st id d ttl <;> rfl

@[simp] theorem set_now (st : St) (id : Bytes) (d : SData) (ttl : Nat) : (st.set id d ttl).now = st.now := by
  fun_cases St.set st id d ttl <;> rfl

theorem get_eq (st : St) (id : Bytes) :
    st.get id = if id = [] then none
      else (lookup st.store id).bind fun e => if e.live st.now then some e.blob else none := by
  unfold St.get
  split
  · rfl
  · cases lookup st.store id <;> rfl

theorem get_some_lookup {st : St} {id : Bytes} {blob : SData} (h : st.get id = some blob) :
    id ≠ [] ∧ ∃ e, lookup st.store id = some e ∧ e.live st.now = true ∧ e.blob = blob := by
  revert h
  fun_cases St.get st id <;> intro h
  case case2 hid e he hl => exact ⟨hid, e, he, hl, Option.some.inj h⟩
  all_goals cases h

theorem get_of_lookup {st : St} {id : Bytes} (hid : id ≠ []) {e : Entry} (he : lookup st.store id = some e)
    (hl : e.live st.now = true) : st.get id = some e.blob := by
  rw [get_eq, if_neg hid, he]
  simp [hl]

theorem get_congr {st st' : St} (hs : st'.store = st.store) (hn : st'.now = st.now) (id : Bytes) :
    st'.get id = st.get id := by
  unfold St.get; rw [hs, hn]

theorem get_nid (st : St) (n : Nat) (y : Bytes) : ({ st with nid := n } : St).get y = st.get y := rfl

theorem get_del_self (st : St) (x : Bytes) : (st.del x).get x = none := by
  by_cases hx : x = [] <;> simp [get_eq, St.del, hx, lookup_erase]

theorem get_del_ne (st : St) {x id : Bytes} (h : id ≠ x) : (st.del x).get id = st.get id := by
  by_cases hx : x = [] <;> simp [get_eq, St.del, hx, lookup_erase, h]

theorem get_del_none {st : St} {id : Bytes} (h : st.get id = none) (x : Bytes) : (st.del x).get id = none := by
  by_cases hx : id = x
  · subst hx; exact get_del_self st id
  · rw [get_del_ne st hx]; exact h

theorem get_set_ne (st : St) {x id : Bytes} (h : id ≠ x) (d : SData) (ttl : Nat) :
    (st.set x d ttl).get id = st.get id := by
  by_cases hx : x = [] <;> simp [get_eq, St.set, hx, lookup_put, h]

theorem get_set_adv (st : St) {x : Bytes} (hx : x ≠ []) (d : SData) {ttl : Nat} (httl : ttl ≠ 0) (t : Nat) :
    ({ st.set x d ttl with now := (st.set x d ttl).now + t } : St).get x = if t < ttl then some d else none := by
  unfold St.set St.get
  simp only [hx, if_false, lookup_put, if_true, httl, Entry.live]
  by_cases h : t < ttl <;> simp [h]

theorem get_set_self (st : St) {x : Bytes} (hx : x ≠ []) (d : SData) {ttl : Nat} (httl : 0 < ttl) :
    (st.set x d ttl).get x = some d := by
  have := get_set_adv st hx d (Nat.pos_iff_ne_zero.mp httl) 0
  rw [if_pos httl] at this
  exact this

theorem eq_of_get_set_self {st : St} {x : Bytes} {d b : SData} {ttl : Nat} (h : (st.set x d ttl).get x = some b) :
    b = d := by
  obtain ⟨hx, e, he, _, hb⟩ := get_some_lookup h
  simp only [St.set, hx, if_false, lookup_put, if_true, Option.some.injEq] at he
  rw [← hb, ← he]

theorem Entry.live_of_later {e : Entry} {now d : Nat} (h : e.live (now + d) = true) : e.live now = true := by
  simp only [Entry.live] at h ⊢
  split at h
  · rfl
  · simp only [decide_eq_true_eq] at h ⊢; omega

theorem get_adv_some {st : St} {id : Bytes} {b : SData} {d : Nat}
    (h : ({ st with now := st.now + d } : St).get id = some b) : st.get id = some b := by
  obtain ⟨hid, e, he, hl, hb⟩ := get_some_lookup h
  exact hb ▸ get_of_lookup hid he (Entry.live_of_later hl)

theorem get_adv_none {st : St} {id : Bytes} (h : st.get id = none) (d : Nat) :
    ({ st with now := st.now + d } : St).get id = none := by
  cases h' : ({ st with now := st.now + d } : St).get id with
  | none => rfl
  | some b => rw [get_adv_some h'] at h; cases h

theorem mem_liveKeys {st : St} {k : Bytes} : k ∈ st.liveKeys ↔ ∃ e, (k, e) ∈ st.store ∧ e.live st.now = true := by
  simp [St.liveKeys]

@[simp] theorem delSession_st : (delSession cfg c s).st = c.st := by
  fun_cases delSession cfg c s <;> rfl

@[simp] theorem setSession_st : (setSession cfg c s).st = c.st := by
  fun_cases setSession cfg c s <;> rfl

theorem setSession_locals : (setSession cfg c s).locals = c.locals := by
  fun_cases setSession cfg c s <;> rfl

theorem delSession_locals : (delSession cfg c s).locals = c.locals := by
  fun_cases delSession cfg c s <;> rfl

theorem newID_eq : newID gen c = ({ c with st := { c.st with nid := c.st.nid + 1 } }, gen c.st.nid) := rfl

theorem acquire_req : (acquire c).1 = { c with st := (acquire c).1.st } := by
  fun_cases acquire c <;> rfl

theorem acquire_nid : (acquire c).1.st.nid = c.st.nid := by
  fun_cases acquire c <;> rfl

theorem acquire_store : (acquire c).1.st.store = c.st.store := by
  fun_cases acquire c <;> rfl

theorem acquire_now : (acquire c).1.st.now = c.st.now := by
  fun_cases acquire c <;> rfl

theorem acquire_locals : (acquire c).1.locals = c.locals := by
  rw [acquire_req]

theorem acquire_pool : ∀ d ∈ (acquire c).1.st.pool, d ∈ c.st.pool := by
  fun_cases acquire c
  · exact fun _ hd => hd
  · rename_i d rest hp
    exact fun d' hd' => hp ▸ List.mem_cons_of_mem _ hd'

theorem acquire_obj : (acquire c).2 = SData.empty ∨ (acquire c).2 ∈ c.st.pool := by
  fun_cases acquire c
  · exact .inl rfl
  · rename_i d rest hp
    exact .inr (hp ▸ List.mem_cons_self ..)

theorem get_acquire (y : Bytes) : (acquire c).1.st.get y = c.st.get y :=
  get_congr (acquire_store c) (acquire_now c) y

/-- the TTL `saveSession` hands to the storage -/
def saveTTL (cfg : Cfg) (s : Sess) : Nat := if s.idleT ≤ 0 then cfg.idle else s.idleT.toNat

theorem saveTTL_pos {cfg : Cfg} (h : 0 < cfg.idle) (s : Sess) : 0 < saveTTL cfg s := by
  fun_cases saveTTL cfg s
  · exact h
  · omega

theorem sessSave_fst :
    (sessSave cfg c s).1 = { setSession cfg c s with st := c.st.set s.id s.data (saveTTL cfg s) } := by
  unfold sessSave saveTTL
  split <;> simp_all
  -- `s.idleT ≤ 0`: the session handed to `setSession` has `idleT := cfg.idle`, which `setSession` does not read
  exact ⟨rfl, rfl, rfl, rfl, rfl, rfl⟩

theorem sessSave_snd :
    (sessSave cfg c s).2 = { s with idleT := if s.idleT ≤ 0 then (cfg.idle : Int) else s.idleT } := by
  unfold sessSave
  split <;> simp_all

theorem sessSave_st : (sessSave cfg c s).1.st = c.st.set s.id s.data (saveTTL cfg s) := by
  rw [sessSave_fst]

theorem sessSave_locals : (sessSave cfg c s).1.locals = c.locals := by
  rw [sessSave_fst]; exact setSession_locals cfg c s

theorem sessDestroy_fst :
    (sessDestroy cfg c s).1 = { delSession cfg c s with st := c.st.del s.id } := by
  simp only [sessDestroy, delSession]
  split
  · rfl
  · split <;> rfl

theorem sessDestroy_snd :
    (sessDestroy cfg c s).2 = { s with data := SData.empty } := rfl

theorem sessDestroy_st : (sessDestroy cfg c s).1.st = c.st.del s.id := by
  rw [sessDestroy_fst]

theorem sessDestroy_locals : (sessDestroy cfg c s).1.locals = c.locals := by
  rw [sessDestroy_fst]; exact delSession_locals cfg c s

theorem sessRegenerate_fst :
    (sessRegenerate gen c s).1 = { c with st := { c.st.del s.id with nid := c.st.nid + 1 } } := by
  simp [sessRegenerate, newID_eq]

theorem sessRegenerate_snd :
    (sessRegenerate gen c s).2 = { s with id := gen c.st.nid, fresh := true } := by
  simp [sessRegenerate, newID_eq]

theorem sessRegenerate_st :
    (sessRegenerate gen c s).1.st = { c.st.del s.id with nid := c.st.nid + 1 } := by
  rw [sessRegenerate_fst]

theorem sessRegenerate_locals : (sessRegenerate gen c s).1.locals = c.locals := by
  rw [sessRegenerate_fst]

theorem sessReset_fst :
    (sessReset cfg gen c s).1 = { delSession cfg c s with st := { c.st.del s.id with nid := c.st.nid + 1 } } := by
  simp only [sessReset, newID_eq, delSession]
  split
  · simp
  · split <;> simp

theorem sessReset_snd :
    (sessReset cfg gen c s).2 =
      { s with id := gen c.st.nid, fresh := true, idleT := 0,
               data := { kv := [], abs := if cfg.abs > 0 then some (c.st.now + cfg.abs) else none } } := by
  simp [sessReset, newID_eq]

theorem sessReset_st :
    (sessReset cfg gen c s).1.st = { c.st.del s.id with nid := c.st.nid + 1 } := by
  rw [sessReset_fst]

theorem sessReset_locals : (sessReset cfg gen c s).1.locals = c.locals := by
  rw [sessReset_fst]; exact delSession_locals cfg c s

theorem absExpired_merge_empty (now : Nat) (blob : SData) :
    absExpired now (SData.empty.merge blob) = absExpired now blob := by
  unfold absExpired
  rw [merge_empty_abs]

/-- the tail of `getSession`: the absolute deadline of a fresh session, `Reset` of an expired one -/
def finishLoad (cfg : Cfg) (gen : Nat → Bytes) (c : RCtx) (s : Sess) : RCtx × Sess :=
  if s.fresh && cfg.abs > 0 then (c, { s with data := { s.data with abs := some (c.st.now + cfg.abs) } })
  else if absExpired c.st.now s.data then
    ((sessReset cfg gen c s).1,
     { (sessReset cfg gen c s).2 with
       data := { (sessReset cfg gen c s).2.data with abs := some ((sessReset cfg gen c s).1.st.now + cfg.abs) } })
  else (c, s)

theorem finishLoad_fresh {s : Sess} (hf : s.fresh = true) (ha : cfg.abs > 0) :
    finishLoad cfg gen c s = (c, { s with data := { s.data with abs := some (c.st.now + cfg.abs) } }) := by
  simp [finishLoad, hf, ha]

theorem finishLoad_keep {s : Sess} (h1 : s.fresh = false ∨ cfg.abs = 0)
    (h2 : absExpired c.st.now s.data = false) : finishLoad cfg gen c s = (c, s) := by
  unfold finishLoad
  rcases h1 with h1 | h1 <;> simp [h1, h2]

theorem finishLoad_expired {s : Sess} (hf : s.fresh = false) (h2 : absExpired c.st.now s.data = true) :
    finishLoad cfg gen c s = ((sessReset cfg gen c s).1, { (sessReset cfg gen c s).2 with
      data := { (sessReset cfg gen c s).2.data with abs := some ((sessReset cfg gen c s).1.st.now + cfg.abs) } }) := by
  simp [finishLoad, hf, h2]

/-- the request context after `KeyGenerator()` and `c.Locals(sessionIDContextKey, id)` -/
def afterNew (gen : Nat → Bytes) (c : RCtx) : RCtx := { (newID gen c).1 with locals := some (newID gen c).2 }

theorem afterNew_st : (afterNew gen c).st = { c.st with nid := c.st.nid + 1 } := by
  simp [afterNew, newID_eq]

theorem getSession_none {cfg : Cfg} {gen : Nat → Bytes} {c : RCtx} (h : c.st.get (lookupId cfg c) = none) :
    getSession cfg gen c =
      finishLoad cfg gen (acquire (afterNew gen c)).1
        { id := gen c.st.nid, data := (acquire (afterNew gen c)).2, fresh := true } := by
  unfold getSession finishLoad
  simp only [h]
  rfl

theorem getSession_some {cfg : Cfg} {gen : Nat → Bytes} {c : RCtx} {blob : SData}
    (h : c.st.get (lookupId cfg c) = some blob) :
    getSession cfg gen c =
      finishLoad cfg gen (acquire c).1
        { id := lookupId cfg c, data := (acquire c).2.merge blob, fresh := c.locals.isSome } := by
  unfold getSession finishLoad
  simp only [h]
  rfl

theorem lookupId_of_locals_none {cfg : Cfg} {c : RCtx} (h : c.locals = none) : lookupId cfg c = getSessionID cfg c := by
  simp [lookupId, h]

def byIDSess (c : RCtx) (id : Bytes) (blob : SData) : Sess :=
  { id := id, data := (acquire c).2.merge blob, fresh := false, hasCtx := false }

theorem getByID_eq (id : Bytes) :
    getByID cfg c id =
      match c.st.get id with
      | none => (c, .error (if id = [] then .empty else .notFound))
      | some blob =>
        if cfg.abs > 0 && absExpired (acquire c).1.st.now (byIDSess c id blob).data then
          ((sessDestroy cfg (acquire c).1 (byIDSess c id blob)).1, .error .notFound)
        else ((acquire c).1, .ok (byIDSess c id blob)) := by
  unfold getByID
  by_cases hid : id = []
  · subst hid; rfl
  · simp only [hid, if_false]
    cases c.st.get id <;> rfl

theorem getByID_nid (id : Bytes) : (getByID cfg c id).1.st.nid = c.st.nid := by
  rw [getByID_eq]
  cases c.st.get id with
  | none => rfl
  | some blob =>
    simp only
    split
    · rw [sessDestroy_st, del_nid]; exact (acquire_nid c)
    · exact (acquire_nid c)

@[simp] theorem putSess_c (h : HSt) (s : Sess) : (h.putSess s).c = h.c := by
  fun_cases HSt.putSess h s <;> rfl

@[simp] theorem putSess_destroyed (h : HSt) (s : Sess) : (h.putSess s).destroyed = h.destroyed := by
  fun_cases HSt.putSess h s <;> rfl

@[simp] theorem putSess_cur (h : HSt) (s : Sess) : ((h.putSess s).cur = .mw) ↔ (h.cur = .mw) := by
  unfold HSt.putSess; split <;> simp_all

@[simp] theorem putView_cur (r : SReq) (v : View) : ((r.putView v).cur = .mw) ↔ (r.cur = .mw) := by
  unfold SReq.putView; split <;> simp_all

@[simp] theorem release_nid (c : RCtx) (s : Sess) : (release c s).st.nid = c.st.nid := rfl

/-- the actions on the handler's current session -/
def Act.onSess : Act → Bool
  | .storeGet | .byID _ | .storeDelete _ | .storeReset => false
  | _ => true

theorem act_nosess {h : HSt} {a : Act} (ha : a.onSess = true) (hs : h.sess = none) :
    act cfg gen h a = (h, .bang) := by
  cases a <;> simp [Act.onSess] at ha <;> simp [act, hs]

theorem specAct_noview (cfg : Cfg) (viaMw : Bool) (q : Req) {r : SReq} {a : Act} (o : AObs)
    (ha : a.onSess = true) (hv : r.view = none) :
    specAct cfg viaMw q r a o = if o = .bang then .ok r else .error "action-without-session" := by
  cases a <;> simp [Act.onSess] at ha <;> simp [specAct, hv]

theorem act_byID (h : HSt) (id : Bytes) :
    act cfg gen h (.byID id) =
      match (getByID cfg h.c id).2 with
      | .error e => ({ h with c := (getByID cfg h.c id).1 }, .err e)
      | .ok s => ({ h with c := (getByID cfg h.c id).1, cur := .other s }, .ok) := by
  simp only [act]
  rcases getByID cfg h.c id with ⟨c, e | s⟩ <;> rfl

/-- the actions that call the key generator -/
def Act.generates : Act → Bool
  | .storeGet | .regenerate | .reset => true
  | _ => false

theorem act_nid {cfg : Cfg} {gen : Nat → Bytes} {h : HSt} {a : Act} (ha : a.generates = false) : (act cfg gen h a).1.c.st.nid = h.c.st.nid := by
  cases a with
  | storeGet | regenerate | reset => cases ha
  | byID id => rw [act_byID]; cases (getByID cfg h.c id).2 <;> exact getByID_nid cfg h.c id
  | storeDelete id => simp only [act]; split <;> simp
  | storeReset => rfl
  | info | get | keys | set | del | idle => cases hs : h.sess <;> simp [act, hs]
  -- below: without a session `simp only` closes the goal (nothing happens); the `split` is on `cur = .mw` (of `h`; in `destroy` of the
  -- state after `putSess`)
  | destroy => cases hs : h.sess <;> simp only [act, hs]; split <;> simp [sessDestroy_st]
  | save => cases hs : h.sess <;> simp only [act, hs]; split <;> simp [sessSave_st]
  | release => cases hs : h.sess <;> simp only [act, hs]; split <;> rfl

theorem mwFinish_nid (h : HSt) : (mwFinish cfg h).st.nid = h.c.st.nid := by
  fun_cases mwFinish cfg h
  · rfl
  · simp [release, sessSave_st]
  · rfl

theorem endCtx_nid (q : Req) (h : HSt) : (endCtx cfg q h).st.nid = h.c.st.nid := by
  fun_cases endCtx cfg q h
  · exact mwFinish_nid cfg h
  · rfl

end C15
