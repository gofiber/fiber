import FiberModel.C15.Moves
import FiberModel.C15.Flags
/-
C15 — the two global invariants:
* every storage key was handed out by the key generator (`StoreIssued`);
* every pooled Session object has an empty data map (`PoolEmpty`, defined in Moves.lean, where the summary of a lookup already speaks of it);
and the lifting of invariants of this kind to handler actions and requests. The induction over histories and
schedules is in ConcInv.lean (`run_inv`, `crun_inv`).
-/
namespace C15
open B

variable {cfg : Cfg} {gen : Nat → Bytes} {c : RCtx} {st : St}

def Issued (gen : Nat → Bytes) (n : Nat) (id : Bytes) : Prop := ∃ i, i < n ∧ id = gen i

def StoreIssued (gen : Nat → Bytes) (st : St) : Prop := ∀ e ∈ st.store, Issued gen st.nid e.1

def Inv (gen : Nat → Bytes) (st : St) : Prop := StoreIssued gen st ∧ PoolEmpty st

theorem Issued.mono {n m : Nat} {id : Bytes} (h : Issued gen n id) (hnm : n ≤ m) : Issued gen m id :=
  have ⟨i, hi, e⟩ := h
  ⟨i, Nat.lt_of_lt_of_le hi hnm, e⟩

theorem inv_init (gen : Nat → Bytes) : Inv gen {} := ⟨fun _ he => (by cases he), fun _ hd => (by cases hd)⟩

theorem del_inv (h : Inv gen st) (id : Bytes) : Inv gen (st.del id) := by
  fun_cases St.del st id
  · exact h
  · exact ⟨fun e he => h.1 e (mem_erase he), h.2⟩

theorem set_inv (h : Inv gen st) {id : Bytes} (hid : Issued gen st.nid id)
    (d : SData) (ttl : Nat) : Inv gen (st.set id d ttl) := by
  fun_cases St.set st id d ttl
  · exact h
  · exact ⟨fun e he => (mem_put he).elim (· ▸ hid) (h.1 e), h.2⟩

theorem get_issued (h : Inv gen st) {id : Bytes} {blob : SData}
    (hg : st.get id = some blob) : Issued gen st.nid id := by
  obtain ⟨_, e, he, _, _⟩ := get_some_lookup hg
  exact h.1 (id, e) (lookup_some_mem he)

theorem inv_bump (h : Inv gen st) {n : Nat} (hn : st.nid ≤ n) :
    Inv gen { st with nid := n } :=
  ⟨fun e he => (h.1 e he).mono hn, h.2⟩

theorem Issued.not_again (hinj : ∀ i j, gen i = gen j → i = j) {n : Nat} {id : Bytes} (h : Issued gen n id)
    {j : Nat} (hj : n ≤ j) : gen j ≠ id := by
  obtain ⟨i, hi, e⟩ := h
  intro hg
  have := hinj j i (hg.trans e)
  omega

theorem issued_new (gen : Nat → Bytes) (n : Nat) : Issued gen (n + 1) (gen n) := ⟨n, Nat.lt_succ_self n, rfl⟩

theorem acquire_empty (hp : PoolEmpty c.st) : (acquire c).2 = SData.empty := (acquire_obj c).elim id (hp _)

theorem pool_release (hp : PoolEmpty c.st) (s : Sess) : PoolEmpty (release c s).st := by
  intro d hd
  simp only [release, List.mem_cons] at hd
  rcases hd with rfl | hd
  · rfl
  · exact hp d hd

structure Step (gen : Nat → Bytes) (c c' : RCtx) : Prop where
  inv : Inv gen c'.st
  mono : c.st.nid ≤ c'.st.nid

theorem step_refl {gen : Nat → Bytes} {c : RCtx} (h : Inv gen c.st) : Step gen c c := ⟨h, Nat.le_refl _⟩

theorem Inv.moves {D : Bytes → Prop} {W : Bytes → SData → Prop} {c' : RCtx} (h : Inv gen c.st)
    (m : Moves gen D W c c') (hw : ∀ y b, W y b → Issued gen c'.st.nid y) : Inv gen c'.st :=
  ⟨fun e he => (m.mem e he).elim (fun h0 => (h.1 e h0).mono m.nid) (hw _ _),
    fun d hd => (m.pool d hd).elim (fun e => e) (h.2 d)⟩

/-! ### invariants of handler states

Several invariants of a handler state have one shape: a predicate `P` of the request context and a predicate
`Q`, relative to the shared state, of the Session objects the handler holds (the middleware's and the script
variable's). What such an invariant must provide to survive every action, the middleware's start and its end is
said once (`OpsKeep`): `P` is closed under `Moves` as long as what is stored is a session `Q` covers, and `Q`
holds of edited, newly generated and loaded sessions. An invariant that speaks of the data of a session cannot
survive `Destroy`, which empties the object in the handler's hands; for such a one (mode `g`) a destroyed
object is exempt — the guards of `HLift`: the middleware's `destroyed` flag for its session, the domain flag of
Spec.lean for the script variable's — and the scripts must then be in the oracle's domain, so that an exempt
object is never saved. -/

structure HLift (P : RCtx → Prop) (Q : St → Sess → Prop) (gm gc : Bool) (h : HSt) : Prop where
  c : P h.c
  mw : gm = false → ∀ s, h.mw = some s → Q h.c.st s
  cur : gc = false → ∀ s, h.cur = .other s → Q h.c.st s

structure Keeps (P : RCtx → Prop) (Q : St → Sess → Prop) (c c' : RCtx) : Prop where
  ctx : P c'
  sess : ∀ s, Q c.st s → Q c'.st s

/-- what an invariant must provide to survive every handler action. `g` = sessions that were destroyed are
    exempt (and then the scripts must not `Save` after `Destroy`). -/
structure OpsKeep (cfg : Cfg) (gen : Nat → Bytes) (g : Bool) (P : RCtx → Prop) (Q : St → Sess → Prop) : Prop where
  moves : ∀ {c c' D W}, P c → Moves gen D W c c' →
    (∀ y b, W y b → ∃ s, Q c.st s ∧ s.id = y ∧ s.data = b) → Keeps P Q c c'
  edit : ∀ {st s s'}, Q st s → s'.id = s.id → s'.data.abs = s.data.abs → Q st s'
  destroyed : g = false → ∀ {st s}, Q st s → Q st { s with data := SData.empty }
  born : ∀ {c c' : RCtx} {n : Nat} (s : Sess), P c → c.st.nid ≤ n → n < c'.st.nid → s.id = gen n → Q c'.st s
  loaded : ∀ {c x blob s}, P c → c.st.get x = some blob → s.id = x →
    (s.data.abs = ((acquire c).2.merge blob).abs ∨ c.locals = some x) → Q c.st s

/-- the guard of the slot the script variable points at -/
def curGuard (gm gc : Bool) : Cur → Bool
  | .mw => gm
  | _ => gc

section lift
variable {cfg : Cfg} {gen : Nat → Bytes} {P : RCtx → Prop} {Q : St → Sess → Prop} {gm gc : Bool} {h : HSt}

theorem HLift.sess (hi : HLift P Q gm gc h) {s : Sess} (hs : h.sess = some s)
    (hg : curGuard gm gc h.cur = false) : Q h.c.st s := by
  unfold HSt.sess at hs
  split at hs
  · cases hs
  · rename_i hc; rw [hc] at hg; exact hi.mw hg s hs
  · rename_i s' hc
    rw [hc] at hg
    cases hs
    exact hi.cur hg _ hc

theorem HLift.move (hi : HLift P Q gm gc h) {c' : RCtx} (k : Keeps P Q h.c c') :
    HLift P Q gm gc { h with c := c' } :=
  ⟨k.ctx, fun hg s hs => k.sess s (hi.mw hg s hs), fun hg s hs => k.sess s (hi.cur hg s hs)⟩

theorem HLift.setCur (hi : HLift P Q gm gc h) {s : Sess} (hs : gc = false → Q h.c.st s) :
    HLift P Q gm gc { h with cur := .other s } :=
  ⟨hi.c, hi.mw, fun hg s' hs' => by cases hs'; exact hs hg⟩

theorem HLift.putSess (hi : HLift P Q gm gc h) {s : Sess} (hs : curGuard gm gc h.cur = false → Q h.c.st s) :
    HLift P Q gm gc (h.putSess s) := by
  unfold HSt.putSess
  split
  · exact hi
  · rename_i hc
    rw [hc] at hs
    exact ⟨hi.c, fun hg s' hs' => by cases hs'; exact hs hg, fun _ s' hs' => by simp only [hc] at hs'; cases hs'⟩
  · rename_i s0 hc
    rw [hc] at hs
    exact hi.setCur hs

variable {g : Bool} (ok : OpsKeep cfg gen g P Q)
include ok

theorem lift_getSession {c : RCtx} (hc : P c) :
    Keeps P Q c (getSession cfg gen c).1 ∧ Q (getSession cfg gen c).1.st (getSession cfg gen c).2 := by
  have k := ok.moves hc (getSession_moves cfg c) (fun _ _ f => f.elim)
  refine ⟨k, ?_⟩
  rcases getSession_kept_or_new cfg gen c with ⟨blob, hg, hid, habs⟩ | ⟨n, h1, h2, hid⟩
  · exact k.sess _ (ok.loaded hc hg hid habs)
  · exact ok.born _ hc h1 h2 hid

theorem lift_act {d : Bool} (hi : HLift P Q (g && h.destroyed) (g && d) h) (a : Act)
    (hal : g = true → actAllowed d a = true) :
    HLift P Q (g && (act cfg gen h a).1.destroyed) (g && nextD d a) (act cfg gen h a).1 := by
  have noW : ∀ {c : RCtx} (y : Bytes) (b : SData), False → ∃ s, Q c.st s ∧ s.id = y ∧ s.data = b :=
    fun _ _ f => f.elim
  by_cases hon : a.onSess = true
  · cases hs : h.sess with
    | none =>
      rw [act_nosess cfg gen hon hs]
      refine ⟨hi.c, hi.mw, fun hg => hi.cur ?_⟩
      cases g with
      | false => rfl
      | true => exact nextD_false (a := a) hg
    | some s =>
      have hq := fun hg => hi.sess hs hg
      cases a <;> (try exact (Bool.false_ne_true hon).elim) <;> simp only [act, hs, nextD]
      case info | get | keys => exact hi
      case set | del | idle => simp only [putSess_destroyed]; exact hi.putSess (fun hg => ok.edit (hq hg) rfl rfl)
      case destroy =>
        have k := ok.moves hi.c (sessDestroy_moves cfg h.c s) noW
        -- the destroyed object is exempt from now on (mode `g`), or still fine (otherwise)
        cases g with
        | true =>
          cases hcur : h.cur with
          | none => simp [HSt.sess, hcur] at hs
          | mw => exact ⟨k.ctx, by simp [HSt.putSess], by simp⟩
          | other s0 =>
            simp only [HSt.putSess]
            exact ⟨k.ctx, fun hg s' hs' => k.sess s' (hi.mw (by simpa [hcur] using hg) s' hs'), by simp⟩
        | false =>
          have hu := (hi.move k).putSess (s := (sessDestroy cfg h.c s).2)
            (fun hg => ok.destroyed rfl (k.sess s (hq hg)))
          split
          · exact ⟨hu.c, hu.mw, hu.cur⟩  -- `hu` again: only the `destroyed` flag of the state differs, the guards are `false`
          · exact hu
      case regenerate =>
        have k := ok.moves hi.c (sessRegenerate_moves h.c s) noW
        simp only [putSess_destroyed]
        exact (hi.move k).putSess fun _ => ok.born _ hi.c (Nat.le_refl _)
          (by rw [sessRegenerate_st]; exact Nat.lt_succ_self _) (by rw [sessRegenerate_snd])
      case reset =>
        have k := ok.moves hi.c (sessReset_moves cfg h.c s) noW
        simp only [putSess_destroyed]
        exact (hi.move k).putSess fun _ => ok.born _ hi.c (Nat.le_refl _)
          (by rw [sessReset_st]; exact Nat.lt_succ_self _) (by rw [sessReset_snd])
      case save =>
        split
        · exact hi
        · rename_i hcur
          -- `Save` is the one operation that writes: the session in hand must be one the invariant covers
          have hg : curGuard (g && h.destroyed) (g && d) h.cur = false := by
            cases hc : h.cur with
            | none => simp [HSt.sess, hc] at hs
            | mw => exact absurd hc hcur
            | other s0 =>
              cases g with
              | false => rfl
              | true => simpa [curGuard, actAllowed] using hal rfl
          have k := ok.moves hi.c (sessSave_moves cfg h.c s) (fun y b ⟨hy, hb⟩ => ⟨s, hq hg, hy.symm, hb.symm⟩)
          simp only [putSess_destroyed]
          exact (hi.move k).putSess fun hg => ok.edit (k.sess s (hq hg)) (by rw [sessSave_snd]) (by rw [sessSave_snd])
      case release =>
        split
        · exact hi
        · have k := ok.moves hi.c (release_moves (D := fun _ => False) h.c s) noW
          exact ⟨k.ctx, fun hg s' hs' => k.sess s' (hi.mw hg s' hs'), fun _ s' hs' => by cases hs'⟩
  · cases a <;> (try exact absurd rfl hon) <;> simp only [nextD]
    case storeGet =>
      simp only [act]
      split
      · exact hi
      · have ⟨k, hq⟩ := lift_getSession ok hi.c
        exact (hi.move k).setCur fun _ => hq
    case byID x =>
      rw [act_byID]
      have k := ok.moves hi.c (getByID_moves cfg h.c x) noW
      cases hr : (getByID cfg h.c x).2 with
      | error e => exact hi.move k
      | ok s =>
        obtain ⟨blob, hg, rfl⟩ := getByID_ok cfg h.c hr
        exact (hi.move k).setCur fun _ => k.sess _ (ok.loaded hi.c hg rfl (.inl rfl))
    case storeDelete x =>
      simp only [act]
      split
      · exact hi
      · exact hi.move (ok.moves hi.c (Moves.del x rfl rfl) noW)
    case storeReset => exact hi.move (ok.moves hi.c (Moves.clear rfl rfl) noW)

theorem lift_runScript (as : List Act) : ∀ {h : HSt} {d : Bool}, HLift P Q (g && h.destroyed) (g && d) h →
    (g = true → scriptInDomain d as = true) →
    HLift P Q (g && (runScript cfg gen h as).1.destroyed) (g && as.foldl nextD d) (runScript cfg gen h as).1 := by
  induction as with
  | nil => intro h d hi _; exact hi
  | cons a as ih =>
    intro h d hi hdom
    have hd : g = true → actAllowed d a = true ∧ scriptInDomain (nextD d a) as = true := fun hg => by
      simpa [scriptInDomain] using hdom hg
    exact ih (lift_act ok hi a fun hg => (hd hg).1) fun hg => (hd hg).2

theorem lift_startReq {st : St} (q : Req) (hc : P { st := st, ck := q.ck, hd := q.hd, qr := q.qr }) :
    HLift P Q gm gc (startReq cfg gen st q) := by
  unfold startReq
  simp only
  split
  · have ⟨k, hq⟩ := lift_getSession ok hc
    exact ⟨k.ctx, fun _ s hs => (by cases hs; exact hq), fun _ s hs => (by cases hs)⟩
  · exact ⟨hc, fun _ s hs => (by cases hs), fun _ s hs => (by cases hs)⟩

/-- the middleware's end: it saves only a session it has not seen destroyed -/
theorem lift_endCtx {h : HSt} {gc : Bool} (hi : HLift P Q (g && h.destroyed) gc h) (q : Req) :
    P (endCtx cfg q h) :=
  (ok.moves hi.c (endCtx_moves q h) fun y b ⟨hd, s, hs, e, eb⟩ => ⟨s, hi.mw (by simp [hd]) s hs, e, eb⟩).ctx

end lift

theorem inv_ops (cfg : Cfg) (gen : Nat → Bytes) :
    OpsKeep cfg gen false (fun c => Inv gen c.st) (fun st s => Issued gen st.nid s.id) where
  moves hc m hw :=
    ⟨Inv.moves hc m fun y b h => have ⟨_, hq, e, _⟩ := hw y b h; e ▸ hq.mono m.nid, fun _ hs => hs.mono m.nid⟩
  edit hq e _ := e ▸ hq
  destroyed _ _ _ hq := hq
  born _ _ _ h2 e := ⟨_, h2, e⟩
  loaded hc hg e _ := e ▸ get_issued hc hg

end C15
