import FiberModel.C15.Invariants
/-
C15 — an id that yields nothing stays that way: if the storage has no live entry under `id` at a request
boundary and the generator will not hand `id` out later, then no sequence of requests and time steps makes
`id` yield data again (no handler ever holds a session under it, so nothing is ever saved under it).
Covers forged ids, destroyed / regenerated / reset ids and expired ids alike. No hypothesis on the
configuration, the generator or the domain. Here: the invariant as an instance of the lifting; the induction over
histories and schedules is the one of ConcInv.lean (`run_dead`, `crun_dead`).
-/
namespace C15
open B

/-- the generator does not return `id` from its `n`-th call on -/
def NeverGen (gen : Nat → Bytes) (n : Nat) (id : Bytes) : Prop := ∀ i, n ≤ i → gen i ≠ id

theorem NeverGen.mono {gen : Nat → Bytes} {n m : Nat} {id : Bytes} (h : NeverGen gen n id) (hnm : n ≤ m) :
    NeverGen gen m id := fun i hi => h i (Nat.le_trans hnm hi)

structure DeadC (gen : Nat → Bytes) (id : Bytes) (c : RCtx) : Prop where
  get : c.st.get id = none
  never : NeverGen gen c.st.nid id
  locals : ∀ i, c.locals = some i → i ≠ id

section dead
variable {gen : Nat → Bytes} {id : Bytes} {cfg : Cfg} {c : RCtx} {h : HSt}

/-- `Locals` only ever receives generated ids, so it keeps avoiding an id that is not generated again -/
theorem Moves.locals_ne {D : Bytes → Prop} {W : Bytes → SData → Prop} {c' : RCtx} (m : Moves gen D W c c')
    (hn : NeverGen gen c.st.nid id) (hl : ∀ i, c.locals = some i → i ≠ id) : ∀ i, c'.locals = some i → i ≠ id := by
  intro i hi
  rcases m.locals i hi with h0 | ⟨n, h1, e⟩
  · exact hl i h0
  · rw [e]; exact hn n h1

theorem DeadC.moves {D : Bytes → Prop} {W : Bytes → SData → Prop} {c' : RCtx} (h : DeadC gen id c)
    (m : Moves gen D W c c') (hw : ∀ b, ¬ W id b) : DeadC gen id c' := by
  refine ⟨?_, h.never.mono m.nid, ?_⟩
  · rcases m.get id with e | ⟨_, hwb⟩
    · rw [e]; exact h.get
    · cases hb : c'.st.get id with
      | none => rfl
      | some b => exact absurd (hwb b hb) (hw b)
  · exact m.locals_ne h.never h.locals

theorem dead_ops (cfg : Cfg) (gen : Nat → Bytes) (id : Bytes) :
    OpsKeep cfg gen false (DeadC gen id) (fun _ s => s.id ≠ id) where
  moves hc m hw := ⟨hc.moves m fun b h => have ⟨_, hq, e, _⟩ := hw id b h; hq e, fun _ hs => hs⟩
  edit hq e _ := e ▸ hq
  destroyed _ _ _ hq := hq
  born _ hc h1 _ e := e ▸ hc.never _ h1
  loaded hc hg e _ := fun e' => by rw [← e, e', hc.get] at hg; cases hg

end dead

end C15
