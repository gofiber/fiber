import FiberModel.C15.Invariants
/-
C15 — the frame rule: an action only ever changes the storage entry of the session it works on (or the id it
names); what the storage yields for every other id is untouched (`act_moves`, the summary of Moves.lean for a
whole handler action). Also: what `getSession` / `GetByID` return in terms of the storage, for any state whose
pooled objects are clean.
-/
namespace C15
open B

/-- the ids whose storage entry an action may change: the handler's current session, an id the action
    names (`GetByID`, `store.Delete`), the id `store.Get` looks up (`lookupId`: the one this request made the
    server generate, else the one it presents); `store.Reset` drops all -/
def touches (cfg : Cfg) (h : HSt) (a : Act) (y : Bytes) : Prop :=
  match a with
  | .storeGet => lookupId cfg h.c = y
  | .byID x => x = y
  | .storeDelete x => x = y
  | .storeReset => True
  | _ => ∃ s, h.sess = some s ∧ s.id = y

section frame
variable {cfg : Cfg} {gen : Nat → Bytes} (c : RCtx) {s : Sess} {y : Bytes} {blob : SData}

/-- what one handler action does to the shared state: it deletes only under ids it touches, and it writes only by
    `Save`, the session in the handler's hands under that session's id. (With leftovers in a pooled object
    `store.Get` may take the new session for an expired one and delete under the new id: the second disjunct.) -/
theorem act_moves (h : HSt) (a : Act) :
    Moves gen (fun y => touches cfg h a y ∨ ¬ PoolEmpty h.c.st)
      (fun y b => a = .save ∧ h.cur ≠ .mw ∧ ∃ s, h.sess = some s ∧ s.id = y ∧ s.data = b)
      h.c (act cfg gen h a).1.c := by
  by_cases hon : a.onSess = true
  · cases hs : h.sess with
    | none => rw [act_nosess cfg gen hon hs]; exact .refl _
    | some s =>
      have hD : ∀ y, y = s.id → touches cfg h a y ∨ ¬ PoolEmpty h.c.st := by
        intro y e
        cases a <;> first | exact (Bool.false_ne_true hon).elim | exact .inl ⟨s, hs, e.symm⟩
      cases a <;> (try exact (Bool.false_ne_true hon).elim) <;> simp only [act, hs]
      case info | get | keys => exact .refl _
      case set | del | idle => rw [putSess_c]; exact .refl _
      case destroy =>
        split <;> simp only [putSess_c] <;> exact (sessDestroy_moves cfg h.c s).ofNoW hD
      case regenerate => rw [putSess_c]; exact (sessRegenerate_moves h.c s).ofNoW hD
      case reset => rw [putSess_c]; exact (sessReset_moves cfg h.c s).ofNoW hD
      case save =>
        split
        · exact .refl _
        · rename_i hcur
          rw [putSess_c]
          exact (sessSave_moves cfg h.c s).mono hD fun y b ⟨hy, hb⟩ => ⟨trivial, hcur, s, rfl, hy.symm, hb.symm⟩
      case release => split <;> first | exact .refl _ | exact release_moves h.c s
  · cases a <;> try exact absurd rfl hon
    case storeGet =>
      simp only [act]
      split
      · exact .refl _
      · exact (getSession_moves cfg h.c).ofNoW fun y hy => hy.imp (fun e => e.symm) id
    case byID x =>
      rw [act_byID]
      split <;> exact (getByID_moves cfg h.c x).ofNoW fun y e => Or.inl e.symm
    case storeDelete x =>
      simp only [act]
      split
      · exact .refl _
      · exact (Moves.del (c' := { h.c with st := h.c.st.del x }) (W := NoW) x rfl rfl).ofNoW
          fun y e => Or.inl e.symm
    case storeReset =>
      exact (Moves.clear (c' := { h.c with st := { h.c.st with store := [] } }) (W := NoW) rfl rfl).ofNoW
        fun _ _ => Or.inl trivial

theorem runScript_nid_le (as : List Act) (h : HSt) : h.c.st.nid ≤ (runScript cfg gen h as).1.c.st.nid := by
  induction as generalizing h with
  | nil => exact Nat.le_refl _
  | cons a as ih => exact Nat.le_trans (act_moves (cfg := cfg) h a).nid (ih _)

/-- sessions do not mix in the storage: whatever the handler does, the entry of an id it does not work on
    (and does not name) yields exactly what it yielded before -/
theorem act_frame (h : HSt) (hp : PoolEmpty h.c.st) (a : Act) (y : Bytes) (hnt : ¬ touches cfg h a y) :
    (act cfg gen h a).1.c.st.get y = h.c.st.get y :=
  ((act_moves (gen := gen) h a).get y).resolve_right fun ⟨hd, _⟩ => hd.elim hnt (fun np => np hp)

theorem getSession_live (hp : PoolEmpty c.st) (hloc : c.locals = none) 
    (hg : c.st.get (getSessionID cfg c) = some blob) (hexp : absExpired c.st.now blob = false) :
    (getSession cfg gen c).2.id = getSessionID cfg c ∧ (getSession cfg gen c).2.fresh = false ∧
    (∀ k, lookup (getSession cfg gen c).2.data.kv k = lookup blob.kv k) ∧
    (getSession cfg gen c).2.data.abs = blob.abs ∧ (getSession cfg gen c).1.st.nid = c.st.nid := by
  have hl := lookupId_of_locals_none (cfg := cfg) hloc
  rw [← hl] at hg
  rw [getSession_some hg, acquire_empty hp, hloc,
    finishLoad_keep _ _ _ (.inl rfl) (by rw [(acquire_now c)]; exact (absExpired_merge_empty _ _).trans hexp)]
  exact ⟨hl, rfl, merge_empty_lookup blob, merge_empty_abs blob, (acquire_nid c)⟩

theorem getSession_miss (hp : PoolEmpty c.st) (hg : c.st.get (lookupId cfg c) = none) :
    getSession cfg gen c = ((acquire (afterNew gen c)).1,
      { id := gen c.st.nid, fresh := true,
        data := { kv := [], abs := if cfg.abs > 0 then some (c.st.now + cfg.abs) else none } }) := by
  have hpe : (acquire (afterNew gen c)).2 = SData.empty := acquire_empty (by rw [afterNew_st]; exact hp)
  have hnow : (acquire (afterNew gen c)).1.st.now = c.st.now := by rw [acquire_now, afterNew_st]
  rw [getSession_none hg, hpe]
  by_cases ha : cfg.abs > 0
  · rw [finishLoad_fresh _ _ _ rfl ha]; simp [ha, hnow, SData.empty]
  · rw [finishLoad_keep _ _ _ (.inr (by omega)) rfl]; simp [ha, SData.empty]

theorem getSession_abs_expired (hp : PoolEmpty c.st) (hloc : c.locals = none) 
    (hg : c.st.get (getSessionID cfg c) = some blob) (hexp : absExpired c.st.now blob = true) :
    (getSession cfg gen c).2.id = gen c.st.nid ∧ (getSession cfg gen c).2.fresh = true ∧
    (getSession cfg gen c).2.data.kv = [] ∧
    (getSession cfg gen c).2.data.abs = some (c.st.now + cfg.abs) ∧
    (getSession cfg gen c).1.st.get (getSessionID cfg c) = none := by
  have hl := lookupId_of_locals_none (cfg := cfg) hloc
  rw [← hl] at hg ⊢
  have hnow : (acquire c).1.st.now = c.st.now := (acquire_now c)
  rw [getSession_some hg, acquire_empty hp, hloc,
    finishLoad_expired _ _ _ rfl (by rw [hnow]; exact (absExpired_merge_empty _ _).trans hexp),
    sessReset_snd, sessReset_st]
  refine ⟨by simp [(acquire_nid c)], rfl, rfl, by simp [hnow], ?_⟩
  exact (get_nid _ _ _).trans (get_del_self _ _)

theorem getByID_live (hp : PoolEmpty c.st) {x : Bytes} 
    (hg : c.st.get x = some blob) (hexp : (decide (cfg.abs > 0) && absExpired c.st.now blob) = false) :
    ∃ s, (getByID cfg c x).2 = .ok s ∧ s.id = x ∧ s.fresh = false ∧
      (∀ k, lookup s.data.kv k = lookup blob.kv k) ∧ s.data.abs = blob.abs := by
  have hb : byIDSess c x blob = { id := x, data := SData.empty.merge blob, fresh := false, hasCtx := false } := by
    rw [byIDSess, acquire_empty hp]
  refine ⟨{ id := x, data := SData.empty.merge blob, fresh := false, hasCtx := false }, ?_, rfl, rfl,
    merge_empty_lookup blob, merge_empty_abs blob⟩
  rw [getByID_eq, hg]
  simp only [hb, (acquire_now c), absExpired_merge_empty, hexp, Bool.false_eq_true, if_false]

theorem getByID_abs_expired (hp : PoolEmpty c.st) {x : Bytes} 
    (hg : c.st.get x = some blob) (hexp : (decide (cfg.abs > 0) && absExpired c.st.now blob) = true) :
    (getByID cfg c x).2 = .error .notFound ∧ (getByID cfg c x).1.st.get x = none := by
  have hb : (byIDSess c x blob).data = SData.empty.merge blob := by rw [byIDSess, acquire_empty hp]
  rw [getByID_eq, hg]
  simp only [hb, (acquire_now c), absExpired_merge_empty, hexp, if_true, sessDestroy_st]
  exact ⟨trivial, get_del_self _ _⟩

end frame

end C15
