import FiberModel.C15.Frame
import FiberModel.C15.Dead
/-
C15 — the absolute deadline of a session is fixed: for as long as an id yields data, the absolute deadline
stored with it is the one it had — no request (inside the domain of the oracle: no `Save` after `Destroy`;
any number of `store.Get` per request) extends, shortens or drops it. Together with `fresh_otherwise` (a new session gets
`now + AbsoluteTimeout`) and `absolute_timeout_ends_session` this is "absolute timeouts end sessions"
whatever the activity on the session. This is the guarded instance of the lifting (`abs_ops`), which the event induction
of ConcInv.lean (`lift_cstep`, unguarded only) does not cover: hence the induction over histories here (`run_abs`), with
`AbsSt` for the state between two requests (`AbsC` without `Locals`), as `S` beside `P` in `WLift`.
-/
namespace C15
open B

section
variable {gen : Nat → Bytes} {cfg : Cfg} {id : Bytes} {A : Option Nat} {c : RCtx} {h : HSt}

/-- the storage side: whatever `id` yields carries the deadline `A`; `id` is not generated (again) -/
structure AbsC (gen : Nat → Bytes) (id : Bytes) (A : Option Nat) (c : RCtx) : Prop where
  store : ∀ b, c.st.get id = some b → b.abs = A
  never : NeverGen gen c.st.nid id
  locals : ∀ i, c.locals = some i → i ≠ id
  pool : PoolEmpty c.st

theorem AbsC.moves {D : Bytes → Prop} {W : Bytes → SData → Prop} {c' : RCtx} (h : AbsC gen id A c)
    (m : Moves gen D W c c') (hw : ∀ b, W id b → b.abs = A) : AbsC gen id A c' := by
  refine ⟨?_, h.never.mono m.nid, ?_, fun d hd => (m.pool d hd).elim (fun e => e) (h.pool d)⟩
  · intro b hb
    rcases m.get id with e | ⟨_, hwb⟩
    · exact h.store b (e ▸ hb)
    · exact hw b (hwb b hb)
  · exact m.locals_ne h.never h.locals

/-- the handler side: a session object under `id` carries `A`. `Destroy` empties the object, so a destroyed one
    is exempt (the guarded mode of the lifting); inside the domain it is never saved. -/
theorem abs_ops (cfg : Cfg) (gen : Nat → Bytes) (id : Bytes) (A : Option Nat) :
    OpsKeep cfg gen true (AbsC gen id A) (fun _ s => s.id = id → s.data.abs = A) where
  moves hc m hw := ⟨hc.moves m fun b h => have ⟨_, hq, e, eb⟩ := hw id b h; eb ▸ hq e, fun _ hs => hs⟩
  edit hq e ea := fun hid => ea ▸ hq (e ▸ hid)
  destroyed h := nomatch h
  born _ hc h1 _ e := fun hid => absurd (e ▸ hid) (hc.never _ h1)
  loaded {c x blob s} hc hg e habs := fun hid => by
    rcases habs with habs | hl
    · rw [habs, acquire_empty hc.pool, merge_empty_abs]
      exact hc.store blob (by rw [← hid, e]; exact hg)
    · -- found under `Locals`: the id was generated in this request, which `id` was not
      exact absurd (e ▸ hid) (hc.locals x hl)

structure AbsSt (gen : Nat → Bytes) (id : Bytes) (A : Option Nat) (st : St) : Prop where
  store : ∀ b, st.get id = some b → b.abs = A
  never : NeverGen gen st.nid id
  pool : PoolEmpty st

theorem AbsSt.ctx {st : St} (ha : AbsSt gen id A st) (q : Req) :
    AbsC gen id A { st := st, ck := q.ck, hd := q.hd, qr := q.qr } :=
  ⟨ha.store, ha.never, fun _ hi => (nomatch hi), ha.pool⟩

theorem AbsC.st (h : AbsC gen id A c) : AbsSt gen id A c.st := ⟨h.store, h.never, h.pool⟩

theorem handle_abs {st : St} (ha : AbsSt gen id A st) (q : Req)
    (hdom : scriptInDomain false q.script = true) : AbsSt gen id A (handle cfg gen st q).1 := by
  have ok := abs_ops cfg gen id A
  have h1 := lift_runScript ok q.script (d := false) (lift_startReq ok q (ha.ctx q)) (fun _ => hdom)
  exact (lift_endCtx ok h1 q).st

theorem run_abs (ops : List Op) {st : St} (ha : AbsSt gen id A st) (hdom : ops.all Op.inDomain = true) :
    AbsSt gen id A (run cfg gen st ops).1 := by
  induction ops generalizing st with
  | nil => exact ha
  | cons o ops ih =>
    simp only [List.all_cons, Bool.and_eq_true] at hdom
    simp only [run]
    cases o with
    | adv d =>
      exact ih (st := { st with now := st.now + d })
        ⟨fun b hb => ha.store b (get_adv_some hb), ha.never, ha.pool⟩ hdom.2
    | req q => exact ih (handle_abs ha q hdom.1) hdom.2

end

end C15
