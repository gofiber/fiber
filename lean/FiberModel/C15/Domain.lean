import FiberModel.C15.Sim
/-
C15 — the domain of the oracle, syntactically: a history in which no script calls `Save` after `Destroy`
never makes the oracle answer `outside-domain` (any number of `store.Get` per request is inside).
-/
namespace C15
open B

theorem run_sim_dom {cfg : Cfg} {gen : Nat → Bytes} (hw : WF cfg gen) (ops : List Op) (st : St) (s : SpecSt)
    (hst : StRel cfg gen st s) (hdom : ops.all Op.inDomain = true) :
    specRun cfg s ops (obsOf (run cfg gen st ops).2) = none :=
  (run_sim hw ops st s hst).resolve_right fun ⟨_, _, _, h⟩ => by rw [hdom] at h; cases h

end C15
