/-
Association lists as the storage back-ends are modelled (`lookup` the first entry of a key, `erase` all of them, `put` in
front of the erased list). The model files of C14, C15 and C16 each define their own copy, C18 its `mapGet`; a proof
module identifies it with these by `lookup_unique`.
-/
namespace Assoc

variable {κ : Type u} {α : Type v} [DecidableEq κ]

def lookup (s : List (κ × α)) (k : κ) : Option α :=
  match s with
  | [] => none
  | (k', v) :: rest => if k' = k then some v else lookup rest k

def erase (s : List (κ × α)) (k : κ) : List (κ × α) := s.filter (fun e => e.1 ≠ k)

def put (s : List (κ × α)) (k : κ) (v : α) : List (κ × α) := (k, v) :: erase s k

theorem lookup_unique {f : List (κ × α) → κ → Option α} (nil : ∀ k, f [] k = none)
    (cons : ∀ k' v rest k, f ((k', v) :: rest) k = if k' = k then some v else f rest k) : f = lookup := by
  funext s k
  induction s with
  | nil => exact nil k
  | cons e s ih => rw [cons, ih, lookup]

/-- C14's copies of `erase` write the test `!=` -/
theorem filter_bne [BEq κ] [LawfulBEq κ] (s : List (κ × α)) (k : κ) : s.filter (·.1 != k) = erase s k :=
  List.filter_congr fun _ _ => by simp [bne, Bool.beq_eq_decide_eq]

theorem erase_cons (e : κ × α) (s : List (κ × α)) (k : κ) :
    erase (e :: s) k = if e.1 = k then erase s k else e :: erase s k := by
  by_cases h : e.1 = k <;> simp [erase, h]

theorem lookup_erase (s : List (κ × α)) (k k' : κ) :
    lookup (erase s k) k' = if k' = k then none else lookup s k' := by
  induction s with
  | nil => simp [erase, lookup]
  | cons e s ih =>
    rw [erase_cons]
    by_cases h : e.1 = k
    · -- the head goes: it is not what `k'` finds unless `k' = k`
      rw [if_pos h, ih, lookup]
      by_cases h' : k' = k
      · rw [if_pos h', if_pos h']
      · rw [if_neg h', if_neg h', if_neg fun x : e.1 = k' => h' (x ▸ h)]
    · rw [if_neg h, lookup, lookup, ih]
      by_cases h' : e.1 = k'
      · rw [if_pos h', if_neg (h' ▸ h), if_pos h']
      · rw [if_neg h', if_neg h']

theorem lookup_put (s : List (κ × α)) (k k' : κ) (v : α) :
    lookup (put s k v) k' = if k' = k then some v else lookup s k' := by
  rw [put, lookup, lookup_erase]
  by_cases h : k' = k
  · simp [h]
  · simp [h, Ne.symm h]

theorem lookup_erase_self (s : List (κ × α)) (k : κ) : lookup (erase s k) k = none := by
  rw [lookup_erase, if_pos rfl]

theorem lookup_erase_ne (s : List (κ × α)) (k k' : κ) (h : k' ≠ k) : lookup (erase s k) k' = lookup s k' := by
  rw [lookup_erase, if_neg h]

theorem lookup_put_self (s : List (κ × α)) (k : κ) (v : α) : lookup (put s k v) k = some v := by
  rw [lookup_put, if_pos rfl]

theorem lookup_put_ne (s : List (κ × α)) (k k' : κ) (v : α) (h : k' ≠ k) : lookup (put s k v) k' = lookup s k' := by
  rw [lookup_put, if_neg h]

theorem mem_of_lookup {s : List (κ × α)} {k : κ} {v : α} (h : lookup s k = some v) : (k, v) ∈ s := by
  induction s with
  | nil => cases h
  | cons e s ih =>
    rw [lookup] at h
    split at h
    · next hk => cases h; exact hk ▸ List.mem_cons_self
    · exact List.mem_cons_of_mem _ (ih h)

theorem lookup_eq_none_iff {s : List (κ × α)} {k : κ} : lookup s k = none ↔ k ∉ s.map (·.1) := by
  induction s with
  | nil => exact ⟨fun _ => List.not_mem_nil, fun _ => rfl⟩
  | cons e s ih =>
    rw [lookup, List.map_cons, List.mem_cons, not_or, ← ih]
    by_cases h : e.1 = k
    · rw [if_pos h]; exact ⟨nofun, fun x => absurd h.symm x.1⟩
    · rw [if_neg h]; exact ⟨fun x => ⟨Ne.symm h, x⟩, (·.2)⟩

theorem lookup_of_mem {s : List (κ × α)} (hn : (s.map (·.1)).Nodup) {k : κ} {v : α} (hm : (k, v) ∈ s) :
    lookup s k = some v := by
  induction s with
  | nil => cases hm
  | cons e s ih =>
    have hn := List.nodup_cons.mp hn
    rw [lookup]
    rcases List.mem_cons.mp hm with rfl | hm
    · simp
    · rw [if_neg fun h => hn.1 (List.mem_map.mpr ⟨_, hm, h.symm⟩)]; exact ih hn.2 hm

theorem erase_of_lookup_none {s : List (κ × α)} {k : κ} (h : lookup s k = none) : erase s k = s :=
  List.filter_eq_self.mpr fun e he => by
    simpa using fun hk : e.1 = k => lookup_eq_none_iff.mp h (List.mem_map.mpr ⟨e, he, hk⟩)

theorem nodup_erase {s : List (κ × α)} (h : (s.map (·.1)).Nodup) (k : κ) : ((erase s k).map (·.1)).Nodup :=
  List.Nodup.sublist (List.Sublist.map _ List.filter_sublist) h

theorem nodup_put {s : List (κ × α)} (h : (s.map (·.1)).Nodup) (k : κ) (v : α) : ((put s k v).map (·.1)).Nodup :=
  List.nodup_cons.mpr ⟨lookup_eq_none_iff.mp (lookup_erase_self s k), nodup_erase h k⟩

end Assoc
