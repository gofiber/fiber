import FiberModel.C07.Total
/-
C07 (a) — totality of the remaining models of Parsers2.lean (beside Total2.lean, not on top of it):
`sortAcceptedTypes`, `Host`/`Hostname`/`Scheme`/`Port`/`IsFromLocal`, `Params`, the `defaultValue[0]`
helpers, `configDependentPaths`, `sanitizeHeaderValue`, `tryDecodeBodyInOrder` + `Body`, `isIPv6`,
`getOffer` without a header; test vectors beside the theorems and at the end.
-/
namespace C07
open B

theorem swapL_spec {α : Type} (l : List α) (j : Int) (h : 1 ≤ j ∧ j < l.length) :
    Returns (swapL l j) fun l' => l'.length = l.length :=
  .after (idxL_ok (by omega)) fun a => .after (idxL_ok (by omega)) fun c =>
    .pure (by rw [List.length_set, List.length_set])

theorem bsearch_spec {α : Type} (after : α → α → Bool) (l : List α) (i : Int) (fuel : Nat) (lo hi : Int)
    (h : 0 ≤ i ∧ i < l.length ∧ 0 ≤ lo ∧ lo ≤ hi + 1 ∧ hi < i ∧ hi - lo + 1 < fuel) :
    Returns (bsearch after l i fuel lo hi) fun r => 0 ≤ r ∧ r ≤ i := by
  induction fuel generalizing lo hi with
  | zero => omega
  | succ fuel ih =>
    rw [bsearch]
    refine .ite (fun hle => ?_) fun _ => .pure (by omega)
    have hm : lo ≤ (lo + hi) / 2 ∧ (lo + hi) / 2 ≤ hi := by omega
    exact .after (idxL_ok ⟨h.1, h.2.1⟩) fun x => .after (idxL_ok (by omega)) fun y =>
      .ite (fun _ => ih _ _ (by omega)) fun _ => ih _ _ (by omega)

theorem shiftDown_spec {α : Type} (fuel : Nat) (l : List α) (j lo : Int)
    (h : 0 ≤ lo ∧ lo ≤ j ∧ j < l.length ∧ j - lo < fuel) :
    Returns (shiftDown fuel l j lo) fun l' => l'.length = l.length := by
  induction fuel generalizing l j with
  | zero => omega
  | succ fuel ih =>
    rw [shiftDown]
    exact .ite (fun _ => .bind (swapL_spec l j (by omega)) fun l1 hl1 =>
        (ih l1 (j - 1) (by omega)).mono fun _ h => h.trans hl1)
      fun _ => .pure rfl

theorem sortLoop_total {α : Type} (after : α → α → Bool) (fuel : Nat) (l : List α) (i : Int)
    (h : 1 ≤ i ∧ i ≤ (l.length : Int) + 1 ∧ (l.length : Int) + 1 - i < fuel) :
    Ok (sortLoop after fuel l i) := by
  induction fuel generalizing l i with
  | zero => omega
  | succ fuel ih =>
    rw [sortLoop]
    exact .when (fun hlt =>
        .bind_of_returns (bsearch_spec after l i _ 0 (i - 1) (by omega))
          fun lo hlo => .bind_of_returns (shiftDown_spec _ l i lo (by omega)) fun l' hl' =>
          ih l' (i + 1) (by omega))

/-- helpers.go `sortAcceptedTypes`: the binary insertion sort never indexes outside the slice,
    whatever the comparison answers and however many media ranges the header has -/
theorem sortAcceptedTypes_total {α : Type} (after : α → α → Bool) (l : List α) : Ok (sortAcceptedTypes after l) :=
  sortLoop_total after _ l 1 (by omega)

example : sortAcceptedTypes (fun (x y : Nat) => x < y) [3, 1, 2] = .ok [3, 2, 1] := by rfl

/-- `s[:commaPos]` behind `commaPos != -1`, as `Host` and `Scheme` cut a forwarded list -/
theorem firstElement_total (s : Bytes) (h : indexOfI s [44] ≠ -1) : Ok (sliceTo s (indexOfI s [44])) := by
  have := indexOfI_range s [44]
  exact sliceTo_ok (by omega)

theorem host_total (xfh uriHost : Bytes) : Ok (host xfh uriHost) :=
  .when (fun _ => .ite (firstElement_total xfh) fun _ => .pure _)

theorem hostname_total (xfh uriHost : Bytes) : Ok (hostname xfh uriHost) :=
  .bind (host_total xfh uriHost) fun h => .bind_pure (parseAddr_total h)

theorem schemeStep_total (s : Bytes) (kv : Bytes × Bytes) : Ok (schemeStep s kv) :=
  .unless fun _ =>
    .ite (fun _ => .ite (fun _ => .when (firstElement_total kv.2))
        fun _ => .unless fun _ => .pure _)
      fun _ => .unless fun _ => .pure _

theorem scheme_total (headers : List (Bytes × Bytes)) : Ok (scheme headers) := by
  unfold scheme
  generalize b "http" = s
  induction headers generalizing s with
  | nil => exact .pure _
  | cons kv rest ih => exact .bind (schemeStep_total s kv) fun s' => ih s'

/-- `Port()` on a TCP connection (its documented domain) -/
theorem port_total_tcp (ip : List Nat) (p : Nat) : Ok (port (.tcp ip p)) := Ok.pure _

-- on a non-TCP listener (unix socket) the type assertion in `Port()` does panic: the model shows it
example : port .other = .error .index := rfl

theorem isFromLocal_total (r : Remote) : Ok (isFromLocal r) := by
  cases r <;> exact Ok.pure _

theorem defaultString_total (value : Bytes) (dflt : List Bytes) : Ok (defaultString value dflt) :=
  .when (fun _ => idxL_ok (by omega))

theorem genericParseType_total {α : Type} (kind : GKind) (parse : Bytes → Option α) (ofText : Bytes → α) (zero : α)
    (str : Bytes) (dflt : List α) : Ok (genericParseType kind parse ofText zero str dflt) := by
  -- every `defaultValue[0]` sits behind `len(defaultValue) > 0`
  have dflt0 : dflt.length > 0 → Ok (idxL dflt 0) := fun _ => idxL_ok (by omega)
  unfold genericParseType
  cases kind with
  | parsed =>
    cases parse str with
    | some v => exact .pure _
    | none => exact .ite dflt0 fun _ => .pure _
  | text => exact .when fun h => dflt0 h.2
  | unknown => exact .ite dflt0 fun _ => .pure _

theorem paramsLoop_total (cs : Bool) (names values : List Bytes) (key : Bytes) (dflt : List Bytes)
    (fuel : Nat) (i : Int) (h : 0 ≤ i ∧ i ≤ names.length ∧ (names.length : Int) - i < fuel) :
    Ok (paramsLoop cs names values key dflt fuel i) := by
  induction fuel generalizing i with
  | zero => omega
  | succ fuel ih =>
    rw [paramsLoop]
    -- `names[i]` twice (length test, then comparison); on a hit `values[i]` twice behind `len(values) <= i`
    exact .ite (fun hlt => .bind (idxL_ok ⟨h.1, hlt⟩) fun _ =>
        .ite (fun _ => ih _ (scan_succ h hlt)) fun _ => .bind (idxL_ok ⟨h.1, hlt⟩) fun _ =>
        .ite (fun _ => .ite (fun _ => defaultString_total _ _) fun _ => .bind (idxL_ok (by omega)) fun _ =>
            .ite (fun _ => defaultString_total _ _) fun _ => idxL_ok (by omega))
          fun _ => ih _ (scan_succ h hlt))
      fun _ => defaultString_total _ _

/-- `c.Params(key, default…)`: every key, every list of declared names and of values (whatever their
    lengths), every default list -/
theorem params_total (cs : Bool) (names values : List Bytes) (key : Bytes) (dflt : List Bytes) :
    Ok (params cs names values key dflt) :=
  paramsLoop_total cs names values _ dflt _ 0 (by omega)

theorem length_ite_le {c : Prop} [Decidable c] {a d : Bytes} {n : Nat} (ha : a.length ≤ n) (hd : d.length ≤ n) :
    (if c then a else d).length ≤ n := by
  split <;> assumption

theorem fold_length_le {c : Prop} [Decidable c] (p : Bytes) : (if c then toLower p else p).length ≤ p.length :=
  length_ite_le (Nat.le_of_eq (toLower_length _)) (Nat.le_refl _)

/-- case folding keeps the length and cutting trailing slashes does not add to it: a detection path is never
    longer than its path (as `configDependentPaths` and `RoutePatternMatch` derive the one from the other) -/
theorem detection_length_le {c c' : Prop} [Decidable c] [Decidable c'] (p : Bytes) :
    (if c' then trimRight (if c then toLower p else p) 47 else if c then toLower p else p).length ≤ p.length :=
  length_ite_le (Nat.le_trans (trimRight_prefix _ 47).length_le (fold_length_le p)) (fold_length_le p)

/-- the detection path is never longer than the path the parameter values are cut from -/
theorem configDependentPaths_spec (cs strict unescape : Bool) (unq : Bytes → Bytes) (orig : Bytes) :
    Returns (configDependentPaths cs strict unescape unq orig) fun r => r.2.1.length ≤ r.1.length := by
  unfold configDependentPaths
  refine .bind (Q := fun det => det.length ≤ (cdpPath unescape unq orig).length)
    (.ite (fun _ => .after (idx_ok (by omega)) fun l => .pure (detection_length_le _))
      fun _ => .pure (fold_length_le _)) fun det hdet => ?_
  exact .ite (fun _ => .after (idx_ok (by omega)) fun _ =>
      .after (idx_ok (by omega)) fun _ =>
      .after (idx_ok (by omega)) fun _ => .pure hdet)
    fun _ => .pure hdet

theorem configDependentPaths_total (cs strict unescape : Bool) (unq : Bytes → Bytes) (orig : Bytes) :
    Ok (configDependentPaths cs strict unescape unq orig) :=
  (configDependentPaths_spec cs strict unescape unq orig).ok

theorem sanitizeLoop_total (bs : Bytes) (fuel : Nat) (i : Int) (acc : Bytes)
    (h : 0 ≤ i ∧ i ≤ bs.length ∧ (bs.length : Int) - i < fuel) : Ok (sanitizeLoop bs fuel i acc) := by
  induction fuel generalizing i acc with
  | zero => omega
  | succ fuel ih =>
    rw [sanitizeLoop]
    exact .when (fun hlt => .bind (idx_ok ⟨h.1, hlt⟩) fun _ => ih _ _ (scan_succ h hlt))

theorem sanitizeHeaderValueC_total (v : Bytes) : Ok (sanitizeHeaderValueC v) :=
  .unless fun _ => sanitizeLoop_total v _ 0 [] (by omega)

/-- `c.Body()`: every Content-Encoding value, every body, every behaviour of the decompressors -/
theorem bodyDecode_total {β : Type} (dec : Coding → β → Option β) (ce : Bytes) (raw : β) : Ok (bodyDecode dec ce raw) :=
  .unless fun _ => .bind (getSplicedStrList_total ce) fun _ =>
    .unless fun _ => .unless fun _ => .pure _

theorem ipv6GroupsLoop_total (s : Bytes) (fuel : Nat) (i : Int) (digits : Nat)
    (h : 0 ≤ i ∧ i ≤ s.length ∧ (s.length : Int) - i < fuel) : Ok (ipv6GroupsLoop s fuel i digits) := by
  induction fuel generalizing i digits with
  | zero => omega
  | succ fuel ih =>
    rw [ipv6GroupsLoop]
    refine .when (fun hlt => ?_)
    have next : ∀ d, Ok (ipv6GroupsLoop s fuel (i + 1) d) := fun d => ih _ d (scan_succ h hlt)
    exact .bind (idx_ok ⟨h.1, hlt⟩) fun _ => .ite (fun _ => next _) fun _ => .bind (idx_ok ⟨h.1, hlt⟩) fun _ =>
      .ite (fun _ => next _) fun _ => .unless fun _ => next _

/-- ctx.go `isIPv6`: every candidate segment of a proxy header, every verdict of `utils.IsIPv6` -/
theorem isIPv6_total (v6 : Bytes → Bool) (s : Bytes) : Ok (isIPv6C v6 s) :=
  .bind_pure (ipv6GroupsLoop_total s _ 0 0 (by omega))

example : isIPv6C (fun _ => true) (b "0:0:0:0:0:0:0:00001") = .ok false := by
  repeat rw [b_ofList]
  decide +kernel
example : isIPv6C (fun _ => true) (b "2001:db8::ffff:1.2.3.4") = .ok true := by
  repeat rw [b_ofList]
  decide +kernel

theorem getOfferNoHeader_total (offers : List Bytes) : Ok (getOfferNoHeader offers) :=
  .unless fun _ => idxL_ok (by omega)

/-! ### non-vacuity: the models compute the expected values on concrete inputs (so the `*_total`
    theorems are about functions that do the parsing, not about constants) -/

example : host (b "a.example:8080, b") (b "x") = .ok (b "a.example:8080") := by
  repeat rw [b_ofList]
  decide +kernel
example : hostname (b "a.example:8080, b") (b "x") = .ok (b "a.example") := by
  repeat rw [b_ofList]
  decide +kernel
example : scheme [(b "X-Forwarded-Proto", b "https,http")] = .ok (b "https") := by
  repeat rw [b_ofList]
  decide +kernel
example : params false [b "id", b "name"] [b "7", []] (b "NAME") [b "dflt"] = .ok (b "dflt") := by
  repeat rw [b_ofList]
  decide +kernel
example : params false [b "id", b "*1"] [b "7", b "a/b"] [42] [] = .ok (b "a/b") := by
  repeat rw [b_ofList]
  decide +kernel
example : configDependentPaths false false false id (b "/API/Users//") = .ok (b "/API/Users//", b "/api/users", 3105136) := by
  repeat rw [b_ofList]
  decide +kernel
-- two layers: both decoded, the request's raw body is put back afterwards
example : (bodyDecode (fun _ (n : Nat) => some (n + 1)) (b "gzip,gzip") 0) = .ok (.body (some 2), 0) := by
  repeat rw [b_ofList]
  rfl

end C07
