import FiberModel.C07.Lemmas
/-
C07 (a) — totality of the checked parser models: no input reaches a `Panic`.
-/
namespace C07
open B

theorem parseAddr_total (raw : Bytes) : Ok (parseAddr raw) := by
  unfold parseAddr
  have := lastIndexByteI_range raw 58
  exact .when (fun _ => .bind (sliceTo_ok (by omega)) fun _ =>
    .bind_pure (sliceFrom_ok (by omega)))

theorem isNoCache_total (cc : Bytes) : Ok (isNoCache cc) := by
  unfold isNoCache
  have := indexOfI_range cc noCache
  have hlen : noCache.length = 8 := rfl
  exact .unless fun _ =>
    .bind (.when (fun _ => .bind_pure (idx_ok (by omega)))) fun _ =>
    .unless fun _ => .unless fun _ =>
      .bind_pure (idx_ok (by omega))

theorem subdomains_total (host : Bytes) (offset : Nat) : Ok (subdomains host offset) := by
  unfold subdomains
  exact sliceToL_ok (by omega)

/-- In its documented domain (`offer` is an extension or a MIME type, so the MIME type looked up
    contains a `/`) `acceptsOfferType` does not panic. -/
theorem acceptsOfferType_total (spec mimetype : Bytes) (hm : mimetype.contains 47 = true) :
    Ok (acceptsOfferTypeSlices spec mimetype) := by
  unfold acceptsOfferTypeSlices
  have hidx := indexByteI_contains mimetype 47 hm
  refine .unless fun _ => .bind_of_returns (sliceTo_spec (by omega)) fun pre hpre =>
    .when (fun hp => ?_)
  -- spec has the prefix mimetype[:s], so spec is at least s long
  have := hasPrefix_length hp
  exact .bind (sliceFrom_ok (by omega)) fun _ =>
    .unless fun _ => .bind_pure (sliceFrom_ok (by omega))

/-- outside that domain the Go code does slice with -1 (e.g. `c.Accepts(";q=1")`): the model shows it -/
example : acceptsOfferTypeSlices (b "text/html") [] = .error .slice := by rfl

theorem splicedLoop_total (h rest : Bytes) (i segStart : Int) (lead : Bool) (acc : List Bytes)
    (hi : i + rest.length = h.length ∧ 0 ≤ segStart ∧ segStart ≤ i) :
    Ok (splicedLoop h rest i segStart lead acc) := by
  induction rest generalizing i segStart lead acc with
  | nil =>
    rw [List.length_nil] at hi
    rw [splicedLoop]
    exact .bind_pure (sliceFrom_ok (by omega))
  | cons c rest ih =>
    rw [List.length_cons] at hi
    rw [splicedLoop]
    -- in every branch `i` advances by one and `segStart` stays ≤ `i`
    exact .ite (fun _ => .bind_of_returns (slice_spec hi.2.1 hi.2.2 (by omega)) fun _ _ => ih _ _ _ _ (by omega))
      fun _ => .ite (fun _ => ih _ _ _ _ (by omega)) fun _ => ih _ _ _ _ (by omega)

theorem getSplicedStrList_total (h : Bytes) : Ok (getSplicedStrList h) :=
  .unless fun _ => splicedLoop_total h h 0 0 true [] (by omega)

theorem etagLoop_total (etag nm rest : Bytes) (i start end_ : Int)
    (hi : i + rest.length = nm.length ∧ 0 ≤ start ∧ start ≤ end_ ∧ end_ ≤ i) :
    Ok (etagLoop etag nm rest i start end_) := by
  induction rest generalizing i start end_ with
  | nil =>
    rw [List.length_nil] at hi
    rw [etagLoop]
    exact .bind_of_returns (slice_spec hi.2.1 hi.2.2.1 (by omega)) fun _ _ => .pure _
  | cons c rest ih =>
    rw [List.length_cons] at hi
    rw [etagLoop]
    -- in every branch `i` advances by one and `start ≤ end_ ≤ i` is kept
    exact .ite (fun _ => .ite (fun _ => ih _ _ _ (by omega)) fun _ => ih _ _ _ (by omega))
      fun _ => .ite (fun _ => .bind_of_returns (slice_spec hi.2.1 hi.2.2.1 (by omega)) fun _ _ =>
          .unless fun _ => ih _ _ _ (by omega))
        fun _ => ih _ _ _ (by omega)

theorem isEtagStale_total (etag noneMatch : Bytes) : Ok (isEtagStale etag noneMatch) :=
  etagLoop_total etag noneMatch noneMatch 0 0 0 (by omega)

theorem fresh_total (cc nm etag : Bytes) : Ok (fresh cc nm etag) := by
  unfold fresh
  exact .unless fun _ =>
    .bind (.when (fun _ => isNoCache_total cc)) fun _ =>
    .unless fun _ =>
    .when (fun _ => .unless fun _ => .bind_pure (isEtagStale_total etag nm))

theorem bodyClass_total (ce : Bytes) : Ok (bodyClass ce) := by
  unfold bodyClass
  refine .unless fun _ => .bind (getSplicedStrList_total ce) fun l => ?_
  cases l with
  | nil => exact .pure _
  | cons first _ => exact .unless fun _ => .unless fun _ => .pure _

theorem scanSeg_spec (h : Bytes) (fuel : Nat) (j : Int) (v4 v6 : Bool)
    (hj : 0 ≤ j ∧ j ≤ h.length ∧ (h.length : Int) - j < fuel) :
    Returns (scanSeg h fuel j v4 v6) fun r => j ≤ r.1 ∧ r.1 ≤ h.length := by
  induction fuel generalizing j v4 v6 with
  | zero => omega
  | succ fuel ih =>
    rw [scanSeg]
    exact .ite (fun hlt => .after (idx_ok ⟨hj.1, hlt⟩) fun c =>
        .ite (fun _ => (ih (j + 1) _ _ (scan_succ hj hlt)).mono fun _ hr => ⟨Int.le_of_lt hr.1, hr.2⟩)
          fun _ => .pure ⟨Int.le_refl _, hj.2.1⟩)
      fun _ => .pure ⟨Int.le_refl _, hj.2.1⟩

theorem skipLead_spec (h : Bytes) (commaToo : Bool) (fuel : Nat) (i j : Int)
    (hi : 0 ≤ i ∧ i ≤ j ∧ j ≤ h.length ∧ j - i < fuel) :
    Returns (skipLead h commaToo fuel i j) fun i' => i ≤ i' ∧ i' ≤ j := by
  induction fuel generalizing i with
  | zero => omega
  | succ fuel ih =>
    rw [skipLead]
    exact .ite (fun hlt => .after (idx_ok (by omega)) fun c =>
        .ite (fun _ => (ih (i + 1) (by omega)).mono fun _ hr => ⟨Int.le_of_lt hr.1, hr.2⟩)
          fun _ => .pure ⟨Int.le_refl _, hi.2.1⟩)
      fun _ => .pure ⟨Int.le_refl _, hi.2.1⟩

theorem ipLoop_total (cfg : IPCfg) (h : Bytes) (first : Bool) (fuel : Nat) (jPrev : Int) (acc : List Bytes)
    (hj : -1 ≤ jPrev ∧ jPrev ≤ h.length ∧ (h.length : Int) - jPrev < fuel) :
    Ok (ipLoop cfg h first fuel jPrev acc) := by
  induction fuel generalizing jPrev acc with
  | zero => omega
  | succ fuel ih =>
    rw [ipLoop]
    refine .unless fun hle => ?_
    refine .bind_of_returns (scanSeg_spec h _ (jPrev + 2) false false (by omega)) fun r hr => ?_
    refine .bind_of_returns (skipLead_spec h true _ (jPrev + 1) r.1 (by omega)) fun i' hi' => ?_
    refine .bind_of_returns (slice_spec (by omega) hi'.2 hr.2) fun seg _ => ?_
    exact .ite (fun _ => .unless fun _ => ih _ _ (by omega)) fun _ => ih _ _ (by omega)

/-- `c.IPs()`: for every header value, with or without validation, whatever the verdicts of
    `utils.IsIPv4` / `utils.IsIPv6` -/
theorem extractIPs_total (cfg : IPCfg) (h : Bytes) : Ok (extractIPs cfg h) :=
  ipLoop_total cfg h false _ (-1) [] (by omega)

theorem extractIP_total (cfg : IPCfg) (h : Bytes) : Ok (extractIP cfg h) :=
  ipLoop_total _ h true _ (-1) [] (by omega)

theorem mrScan_spec (h : Bytes) (fuel : Nat) (n : Int) (quotes : Nat) (esc : Bool)
    (hn : 0 ≤ n ∧ n ≤ h.length ∧ (h.length : Int) - n < fuel) :
    Returns (mrScan h fuel n quotes esc) fun n' => n ≤ n' ∧ n' ≤ h.length := by
  induction fuel generalizing n quotes esc with
  | zero => omega
  | succ fuel ih =>
    rw [mrScan]
    refine .ite (fun hlt => ?_) fun _ => .pure ⟨Int.le_refl _, hn.2.1⟩
    -- every branch but the top-level comma moves on by one byte
    have next : ∀ q e, Returns (mrScan h fuel (n + 1) q e) fun n' => n ≤ n' ∧ n' ≤ h.length := fun q e =>
      (ih (n + 1) q e (scan_succ hn hlt)).mono fun _ hr => ⟨Int.le_of_lt hr.1, hr.2⟩
    exact .ite (fun _ => next _ _) fun _ => .after (idx_ok ⟨hn.1, hlt⟩) fun c =>
      .ite (fun _ => .ite (fun _ => .pure ⟨Int.le_refl _, hn.2.1⟩) fun _ => next _ _) fun _ =>
      .ite (fun _ => next _ _) fun _ => .ite (fun _ => next _ _) fun _ => next _ _

theorem trimLeftOWS_length_le (s : Bytes) : (trimLeftOWS s).length ≤ s.length :=
  (List.dropWhile_sublist _).length_le

theorem mediaRanges_total (dq : Bool) (fuel : Nat) (header : Bytes) (acc : List Bytes)
    (hf : header.length < fuel) : Ok (mediaRanges dq fuel header acc) := by
  induction fuel generalizing header acc with
  | zero => omega
  | succ fuel ih =>
    rw [mediaRanges]
    refine .unless fun _ => ?_
    have htl := trimLeftOWS_length_le header
    have hc := indexByteI_range (trimLeftOWS header) 44
    -- the position of the next top-level comma (or the end)
    refine .bind_of_returns (Q := fun n => 0 ≤ n ∧ n ≤ (trimLeftOWS header).length)
      (.ite (fun _ => mrScan_spec _ _ 0 0 false (by omega))
        fun _ => .pure (by dsimp only; omega)) fun n hn => ?_
    refine .bind (sliceTo_ok hn) fun mr => .unless fun hlt => ?_
    exact .bind_of_returns (sliceFrom_spec (by omega)) fun rest hrest => ih rest _ (by omega)

theorem forEachMediaRange_total (header : Bytes) : Ok (forEachMediaRange header) :=
  mediaRanges_total _ _ header [] (by omega)

theorem acceptsCharsets_total (h : Bytes) (offers : List Bytes) : Ok (acceptsCharsets h offers) := by
  unfold acceptsCharsets
  cases offers with
  | nil => exact .pure _
  | cons o0 _ => exact .unless fun _ => .bind_pure (forEachMediaRange_total h)

theorem rangeLoop_total (size : Int) (fuel : Nat) (more : Bytes) (acc : List (Int × Int))
    (hf : more.length < fuel) : Ok (rangeLoop size fuel more acc) := by
  induction fuel generalizing more acc with
  | zero => omega
  | succ fuel ih =>
    rw [rangeLoop]
    refine .unless fun hne => ?_
    have hpos : 0 < more.length := List.length_pos_iff.mpr hne
    -- singleRange / moreRanges: what is left is shorter
    refine .bind_of_returns (Q := fun sm => sm.2.length < more.length)
      (.ite (fun hc => have g := indexByteI_guards (s := more) (c := 44) (by omega)
          .after (sliceTo_ok g.here) fun s => .bind (sliceFrom_spec g.behind) fun m hm => .pure (by dsimp only; omega))
        fun _ => .pure hpos) fun sm hsm => ?_
    obtain ⟨single, more'⟩ := sm
    have hlt : more'.length < fuel := Nat.lt_of_lt_of_le hsm (Nat.le_of_lt_succ hf)
    refine .unless fun hd => .bind ?_ fun ae => ?_
    · exact .bind (sliceTo_ok (indexByteI_guards hd).here) fun _ => .bind_pure (sliceFrom_ok (indexByteI_guards hd).behind)
    · exact .ite (fun _ => ih more' _ hlt) fun _ => ih more' _ hlt

/-- `c.Range(size)`: no `Range` header value reaches an out-of-range index or slice -/
theorem range_total (hdr : Bytes) (size : Int) : Ok (range hdr size) := by
  unfold range
  exact .unless fun h => have g := indexByteI_guards h
    .bind (sliceFrom_ok g.behind) fun _ => .unless fun _ => .bind (sliceTo_ok g.here) fun _ =>
    .bind (sliceFrom_ok g.behind) fun ranges =>
    .bind (rangeLoop_total size _ ranges [] (Nat.lt_succ_self _)) fun r =>
      match r with
      | none | some [] | some (_ :: _) => .pure _

end C07
