import FiberModel.C07.Parsers2
import FiberModel.BasicLemmas
/-
C07 — how the totality proofs follow a checked model: `Ok x` ("does not panic") and `Returns x Q`
("does not panic, and the value satisfies `Q`") are carried through `pure`, `>>=` and `if` by the
rules below, applied along the structure of the definition. `Ok x` amounts to `Returns x fun _ => True`
(`Returns.ok`, `Ok.returns`); its rules are those of `Returns` at that postcondition.
Then: decidable equality on `P α` (test vectors are evaluated), the checked operations under their
guards, and the byte-search functions (`indexByteI`, `indexOfI`, `lastIndexByteI`): -1 or in range.
-/
namespace C07
open B

def Ok {α : Type} (x : P α) : Prop := ∃ v, x = .ok v

def Returns {α : Type} (x : P α) (Q : α → Prop) : Prop := ∃ v, x = .ok v ∧ Q v

theorem Returns.pure {α : Type} {v : α} {Q : α → Prop} (h : Q v) : Returns (.ok v : P α) Q := ⟨v, rfl, h⟩

theorem Returns.bind {α β : Type} {x : P α} {f : α → P β} {Q : α → Prop} {R : β → Prop}
    (hx : Returns x Q) (hf : ∀ v, Q v → Returns (f v) R) : Returns (x >>= f) R := by
  obtain ⟨v, rfl, hq⟩ := hx
  exact hf v hq

theorem Returns.ite {α : Type} {c : Prop} [Decidable c] {x y : P α} {Q : α → Prop}
    (hx : c → Returns x Q) (hy : ¬ c → Returns y Q) : Returns (if c then x else y) Q := by
  by_cases h : c
  · rw [if_pos h]; exact hx h
  · rw [if_neg h]; exact hy h

theorem Returns.mono {α : Type} {x : P α} {Q R : α → Prop} (hx : Returns x Q) (h : ∀ v, Q v → R v) :
    Returns x R := by
  obtain ⟨v, hv, hq⟩ := hx
  exact ⟨v, hv, h v hq⟩

theorem Returns.ok {α : Type} {x : P α} {Q : α → Prop} (hx : Returns x Q) : Ok x := by
  obtain ⟨v, hv, _⟩ := hx
  exact ⟨v, hv⟩

theorem Ok.returns {α : Type} {x : P α} (hx : Ok x) : Returns x fun _ => True := by
  obtain ⟨v, hv⟩ := hx
  exact ⟨v, hv, trivial⟩

theorem Returns.after {α β : Type} {x : P α} {f : α → P β} {R : β → Prop}
    (hx : Ok x) (hf : ∀ v, Returns (f v) R) : Returns (x >>= f) R :=
  .bind hx.returns fun v _ => hf v

theorem Ok.pure {α : Type} (v : α) : Ok (.ok v : P α) := ⟨v, rfl⟩

theorem Ok.bind_of_returns {α β : Type} {x : P α} {f : α → P β} {Q : α → Prop}
    (hx : Returns x Q) (hf : ∀ v, Q v → Ok (f v)) : Ok (x >>= f) :=
  (Returns.bind hx fun v hq => (hf v hq).returns).ok

theorem Ok.bind {α β : Type} {x : P α} {f : α → P β} (hx : Ok x) (hf : ∀ v, Ok (f v)) : Ok (x >>= f) :=
  .bind_of_returns hx.returns fun v _ => hf v

theorem Ok.ite {α : Type} {c : Prop} [Decidable c] {x y : P α} (hx : c → Ok x) (hy : ¬ c → Ok y) :
    Ok (if c then x else y) :=
  (Returns.ite (fun h => (hx h).returns) fun h => (hy h).returns).ok

theorem Ok.unless {α : Type} {c : Prop} [Decidable c] {v : α} {y : P α} (hy : ¬ c → Ok y) :
    Ok (if c then .ok v else y) :=
  .ite (fun _ => .pure v) hy

theorem Ok.when {α : Type} {c : Prop} [Decidable c] {x : P α} {v : α} (hx : c → Ok x) :
    Ok (if c then x else .ok v) :=
  .ite hx fun _ => .pure v

theorem Ok.bind_pure {α β : Type} {x : P α} {g : α → β} (hx : Ok x) : Ok (x >>= fun v => .ok (g v)) :=
  .bind hx fun _ => .pure _

theorem Ok.map {α β : Type} {x : P α} (f : α → β) (hx : Ok x) : Ok (f <$> x) := by
  obtain ⟨v, hv⟩ := hx
  subst hv
  exact ⟨f v, rfl⟩

instance {α : Type} [DecidableEq α] : DecidableEq (P α)
  | .ok a, .ok b => if h : a = b then isTrue (h ▸ rfl) else isFalse fun e => h (Except.ok.inj e)
  | .error a, .error b => if h : a = b then isTrue (h ▸ rfl) else isFalse fun e => h (Except.error.inj e)
  | .ok _, .error _ => isFalse nofun
  | .error _, .ok _ => isFalse nofun

theorem slice_ok {s : Bytes} {i j : Int} (h1 : 0 ≤ i) (h2 : i ≤ j) (h3 : j ≤ s.length) :
    slice s i j = .ok ((s.take j.toNat).drop i.toNat) :=
  if_pos ⟨h1, h2, h3⟩

theorem slice_len {s r : Bytes} {i j : Int} (h : slice s i j = .ok r) :
    0 ≤ i ∧ i ≤ j ∧ j ≤ s.length ∧ (r.length : Int) = j - i := by
  revert h
  fun_cases slice s i j with
  | case1 hc =>
    rintro ⟨⟩
    refine ⟨hc.1, hc.2.1, hc.2.2, ?_⟩
    rw [List.length_drop, List.length_take]
    omega
  | case2 => nofun

theorem slice_spec {s : Bytes} {i j : Int} (h1 : 0 ≤ i) (h2 : i ≤ j) (h3 : j ≤ s.length) :
    ∃ r, slice s i j = .ok r ∧ (r.length : Int) = j - i :=
  ⟨_, slice_ok h1 h2 h3, (slice_len (slice_ok h1 h2 h3)).2.2.2⟩

theorem sliceFrom_spec {s : Bytes} {i : Int} (h : 0 ≤ i ∧ i ≤ s.length) :
    Returns (sliceFrom s i) fun r => (r.length : Int) = s.length - i :=
  slice_spec h.1 h.2 (Int.le_refl _)

theorem sliceTo_spec {s : Bytes} {j : Int} (h : 0 ≤ j ∧ j ≤ s.length) :
    Returns (sliceTo s j) fun r => (r.length : Int) = j :=
  Returns.mono (slice_spec (Int.le_refl _) h.1 h.2) fun _ h => by omega

theorem sliceFrom_ok {s : Bytes} {i : Int} (h : 0 ≤ i ∧ i ≤ s.length) : Ok (sliceFrom s i) :=
  (sliceFrom_spec h).ok

theorem sliceTo_ok {s : Bytes} {j : Int} (h : 0 ≤ j ∧ j ≤ s.length) : Ok (sliceTo s j) :=
  (sliceTo_spec h).ok

theorem sliceToL_ok {l : List Bytes} {j : Int} (h : 0 ≤ j ∧ j ≤ l.length) : Ok (sliceToL l j) :=
  ⟨_, if_pos h⟩

theorem idx_ok {s : Bytes} {i : Int} (h : 0 ≤ i ∧ i < s.length) : Ok (idx s i) :=
  ⟨_, if_pos h⟩

/-- the invariant of the index loops (`n` in range, fuel left for the rest) moves on from `n` to `n + 1` -/
theorem scan_succ {len fuel : Nat} {n : Int} (h : 0 ≤ n ∧ n ≤ len ∧ (len : Int) - n < (fuel + 1 : Nat))
    (hlt : n < len) : 0 ≤ n + 1 ∧ n + 1 ≤ len ∧ (len : Int) - (n + 1) < fuel := by
  omega

/-- a scanner started right behind an index in range, with fuel `len + 1`, has fuel for the rest -/
theorem scan_behind {len : Nat} {m : Int} (h : 0 ≤ m ∧ m < len) :
    0 ≤ m + 1 ∧ m + 1 ≤ len ∧ (len : Int) - (m + 1) < (len + 1 : Nat) := by
  omega

/-- what is in range at a scan position `n` behind the Go guard `n >= len(b)-1` -/
structure KeyGuards (len : Nat) (n : Int) : Prop where
  /-- `b[n]` -/
  here : 0 ≤ n ∧ n < len
  /-- `b[:n]` -/
  upTo : 0 ≤ n ∧ n ≤ len
  /-- `b[n+1]` -/
  next : 0 ≤ n + 1 ∧ n + 1 < len

theorem key_guards {len : Nat} {n : Int} (h0 : 0 ≤ n) (hc : ¬ n ≥ (len : Int) - 1) : KeyGuards len n :=
  ⟨by omega, by omega, by omega⟩

theorem idxL_ok {α : Type} {l : List α} {i : Int} (h : 0 ≤ i ∧ i < l.length) : Ok (idxL l i) := by
  unfold idxL
  rw [if_pos h, List.getElem?_eq_getElem (by omega)]
  exact Ok.pure _

-- the search lemmas go by the two cases of the definition: case1 = found at `i`, case2 = absent (-1)

theorem indexByteI_range (s : Bytes) (c : Nat) :
    indexByteI s c = -1 ∨ (0 ≤ indexByteI s c ∧ indexByteI s c < s.length) := by
  fun_cases indexByteI s c with
  | case1 i h => have := indexByte_lt h; omega
  | case2 => exact .inl rfl

/-- what is in range at a position `i` that `IndexByte` answered -/
structure CutGuards (len : Nat) (i : Int) : Prop where
  /-- `s[:i]`, `s[i:]` -/
  here : 0 ≤ i ∧ i ≤ len
  /-- `s[i+1:]` -/
  behind : 0 ≤ i + 1 ∧ i + 1 ≤ len

theorem indexByteI_guards {s : Bytes} {c : Nat} (h : indexByteI s c ≠ -1) : CutGuards s.length (indexByteI s c) := by
  have := indexByteI_range s c
  exact ⟨by omega, by omega⟩

theorem indexByteI_ne_iff (s : Bytes) (c : Nat) : indexByteI s c ≠ -1 ↔ s.contains c = true := by
  rw [← indexByte_isSome]
  fun_cases indexByteI s c with
  | case1 i h => simp [h]
  | case2 h => simp [h]

theorem indexByteI_contains (s : Bytes) (c : Nat) (h : s.contains c = true) :
    0 ≤ indexByteI s c ∧ indexByteI s c < s.length := by
  have := (indexByteI_ne_iff s c).2 h
  have := indexByteI_range s c
  omega

theorem indexByteI_pos (s : Bytes) (c : Nat) (hh : s.head? ≠ some c) (hne : indexByteI s c ≠ -1) :
    0 < indexByteI s c := by
  revert hne
  fun_cases indexByteI s c with
  | case1 i h =>
    intro _
    cases s with
    | nil => cases h
    | cons x xs =>
      rcases indexByte_cons_eq_some.mp h with ⟨rfl, _⟩ | ⟨_, k, _, rfl⟩
      · exact absurd rfl hh
      · omega
  | case2 => exact fun h => absurd rfl h

theorem indexOfI_range (s pat : Bytes) :
    indexOfI s pat = -1 ∨ (0 ≤ indexOfI s pat ∧ indexOfI s pat + pat.length ≤ s.length) := by
  fun_cases indexOfI s pat with
  | case1 i h => have := indexOf_le h; omega
  | case2 => exact .inl rfl

theorem indexOfI_ne_iff (s p : Bytes) : indexOfI s p ≠ -1 ↔ (indexOf s p).isSome = true := by
  fun_cases indexOfI s p with
  | case1 i h => simp [h]
  | case2 h => simp [h]

theorem lastIndexByteI_range (s : Bytes) (c : Nat) :
    lastIndexByteI s c = -1 ∨ (0 ≤ lastIndexByteI s c ∧ lastIndexByteI s c < s.length) := by
  fun_cases lastIndexByteI s c with
  | case1 i h =>
    have := indexByte_lt h
    rw [List.length_reverse] at this
    omega
  | case2 => exact .inl rfl

theorem hasPrefix_length {s p : Bytes} (h : hasPrefix s p = true) : p.length ≤ s.length :=
  List.IsPrefix.length_le (List.isPrefixOf_iff_prefix.mp h)

end C07
