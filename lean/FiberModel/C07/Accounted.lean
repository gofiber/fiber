import FiberModel.Generated.C07Facts
/-
C07 (a) — which Go functions the checked-index models cover, tied to /repo on every run.

`Facts.indexSites` (regenerated by translator/c07 from /repo) lists EVERY function of helpers.go,
ctx.go, path.go and binder/*.go that contains an index expression `x[i]` or a slice expression
`x[i:j]`, with the source text of each such expression. `accounted` below is the hand-maintained
counterpart, in the same order:

  * `.modelled defs` — the function is transcribed with checked operations (Lean definitions named),
    and the list of its index / slice expressions is PINNED verbatim: if the Go function gains, loses
    or changes one, `modelled_sites_pinned` no longer holds and the model has to be re-read against
    the code;
  * `.excluded reason` — not modelled, with the reason (no request data involved, map access,
    registration time, constant slices, …).

`index_sites_accounted` fails when a function with index / slice expressions appears in (or vanishes
from) those files without being entered here: a NEW hand-written parser cannot pass silently.
-/
namespace C07
namespace Accounted

inductive Status where
  | modelled (leanDefs : String)
  | excluded (reason : String)
  deriving Repr

structure Entry where
  file : String
  fn : String
  exprs : List String        -- pinned for modelled functions, `[]` for excluded ones
  status : Status
  deriving Repr

def Entry.isModelled (e : Entry) : Bool := match e.status with | .modelled _ => true | .excluded _ => false

def accounted : List Entry := [
  ⟨"helpers.go", "App.methodExist", [],
    .excluded "route-tree cursor bookkeeping: indices are method ints checked by the request handlers and positions produced by range loops / sort.Search over the same slice; dispatch is C01's model"⟩,
  ⟨"helpers.go", "App.methodExistCustom", [],
    .excluded "route-tree cursor bookkeeping: indices are method ints checked by the request handlers and positions produced by range loops / sort.Search over the same slice; dispatch is C01's model"⟩,
  ⟨"helpers.go", "uniqueRouteStack", [],
    .excluded "map lookup / assignment only (a Go map index cannot go out of range)"⟩,
  ⟨"helpers.go", "defaultString", ["defaultValue[0]"],
    .modelled "defaultString"⟩,
  ⟨"helpers.go", "getGroupPath", [],
    .excluded "registration time: group / mount prefix written by the developer; `path[0]` behind `len(path) == 0` return"⟩,
  ⟨"helpers.go", "acceptsOffer", ["spec[len(spec)-1]"],
    .modelled "acceptsOfferC"⟩,
  ⟨"helpers.go", "acceptsOfferType", ["offerType[:i]", "offerType[i:]", "mimetype[:s]", "spec[s:]", "mimetype[s:]"],
    .modelled "acceptsOfferType, acceptsOfferTypeSlices"⟩,
  ⟨"helpers.go", "getSplicedStrList", ["dst[:0]", "headerValue[segmentStart:i]", "headerValue[segmentStart:]"],
    .modelled "getSplicedStrList, splicedLoop (`dst[:0]` is a constant zero-length slice)"⟩,
  ⟨"helpers.go", "forEachMediaRange", ["header[n]", "header[:n]", "header[n+1:]"],
    .modelled "forEachMediaRange, mediaRanges, mrScan"⟩,
  ⟨"helpers.go", "forEachParameter", ["b[i+1:]", "b[0]", "b[0]", "b[1:]", "b[0]", "b[n]", "b[n]", "b[:n]", "b[n]", "b[n]", "b[m:n]", "b[n]", "b[n]", "b[n]", "b[m:n]", "b[n:]"],
    .modelled "forEachParameter, fepLoop, skipOWS, tokScan, quotedScan"⟩,
  ⟨"helpers.go", "getOffer", ["offers[0]", "accept[:i]", "accept[i:]", "accept[qIndex:]", "accept[qIndex:]", "accept[i:]", "key[0]", "key[0]", "params[lowerKey]", "spec[0]"],
    .modelled "offerRange, offerParamStep, specificityC, getOfferNoHeader, acceptsOne (`params[lowerKey]` is a map write: hpSet)"⟩,
  ⟨"helpers.go", "sortAcceptedTypes", ["at[i]", "at[mid]", "at[i]", "at[mid]", "at[i]", "at[mid]", "at[i]", "at[mid]", "at[i]", "at[mid]", "at[i]", "at[mid]", "at[i]", "at[mid]", "at[i]", "at[mid]", "at[i]", "at[mid]", "at[i]", "at[mid]", "at[j-1]", "at[j]", "at[j]", "at[j-1]"],
    .modelled "sortAcceptedTypes, sortLoop, bsearch, shiftDown, swapL"⟩,
  ⟨"helpers.go", "App.isEtagStale", ["noneMatchBytes[i]", "noneMatchBytes[start:end]", "noneMatchBytes[start:end]"],
    .modelled "isEtagStale, etagLoop"⟩,
  ⟨"helpers.go", "parseAddr", ["raw[:i]", "raw[i+1:]"],
    .modelled "parseAddr"⟩,
  ⟨"helpers.go", "isNoCache", ["cacheControl[i-1]", "cacheControl[i-1]", "cacheControl[i+len(noCacheValue)]"],
    .modelled "isNoCache"⟩,
  ⟨"helpers.go", "App.method", [],
    .excluded "index = ctx.methodInt: both request handlers answer 501 and return when it is -1 before any handler can call Method() (facts unknownMethodStatusDefault/Custom, theorem unknown_method_501; fix F4), otherwise it is a position in RequestMethods"⟩,
  ⟨"helpers.go", "Convert", ["defaultValue[0]"],
    .modelled "genericParseType (`.parsed` branch: converter error → `defaultValue[0]` behind `len(defaultValue) > 0`)"⟩,
  ⟨"helpers.go", "genericParseDefault", ["defaultValue[0]"],
    .modelled "genericParseType"⟩,
  ⟨"helpers.go", "genericParseType", ["defaultValue[0]", "defaultValue[0]", "defaultValue[0]"],
    .modelled "genericParseType"⟩,
  ⟨"ctx.go", "Ctx.Attachment", [],
    .excluded "first element of a variadic handler argument behind a len() test (handler-supplied, no request data)"⟩,
  ⟨"ctx.go", "Ctx.ClearCookie", [],
    .excluded "index variable of a `for i := range` loop over the same slice"⟩,
  ⟨"ctx.go", "Ctx.Download", [],
    .excluded "first element of a variadic handler argument behind a len() test (handler-supplied, no request data)"⟩,
  ⟨"ctx.go", "Ctx.Format", [],
    .excluded "`handlers[0]` behind the `len(handlers) == 0` return (handler-supplied)"⟩,
  ⟨"ctx.go", "Ctx.GetRespHeaders", [],
    .excluded "map lookup / assignment only (a Go map index cannot go out of range)"⟩,
  ⟨"ctx.go", "Ctx.GetReqHeaders", [],
    .excluded "map lookup / assignment only (a Go map index cannot go out of range)"⟩,
  ⟨"ctx.go", "Ctx.Host", ["host[:commaPos]"],
    .modelled "host"⟩,
  ⟨"ctx.go", "isIPv6", ["s[i]", "s[i]"],
    .modelled "isIPv6C, ipv6GroupsLoop"⟩,
  ⟨"ctx.go", "Ctx.extractIPsFromHeader", ["headerValue[j]", "headerValue[j]", "headerValue[j]", "headerValue[i]", "headerValue[i]", "headerValue[i:j]"],
    .modelled "extractIPs, ipLoop, scanSeg, skipLead"⟩,
  ⟨"ctx.go", "Ctx.extractIPFromHeader", ["headerValue[j]", "headerValue[j]", "headerValue[j]", "headerValue[i]", "headerValue[i]", "headerValue[i:j]"],
    .modelled "extractIP, ipLoop, scanSeg, skipLead"⟩,
  ⟨"ctx.go", "Ctx.JSON", [],
    .excluded "first element of a variadic handler argument behind a len() test (handler-supplied, no request data)"⟩,
  ⟨"ctx.go", "Ctx.CBOR", [],
    .excluded "first element of a variadic handler argument behind a len() test (handler-supplied, no request data)"⟩,
  ⟨"ctx.go", "Ctx.JSONP", [],
    .excluded "first element of a variadic handler argument behind a len() test (handler-supplied, no request data)"⟩,
  ⟨"ctx.go", "Ctx.Links", [],
    .excluded "index variable of a `for i := range` loop over the same slice"⟩,
  ⟨"ctx.go", "Ctx.Locals", [],
    .excluded "first element of a variadic handler argument behind a len() test (handler-supplied, no request data)"⟩,
  ⟨"ctx.go", "Locals", [],
    .excluded "first element of a variadic handler argument behind a len() test (handler-supplied, no request data)"⟩,
  ⟨"ctx.go", "Ctx.Method", [],
    .excluded "first element of a variadic handler argument behind a len() test (handler-supplied, no request data)"⟩,
  ⟨"ctx.go", "Ctx.syncIndexRouteMethod", [],
    .excluded "route-tree cursor bookkeeping: indices are method ints checked by the request handlers and positions produced by range loops / sort.Search over the same slice; dispatch is C01's model"⟩,
  ⟨"ctx.go", "Ctx.Next", [],
    .excluded "`c.route.Handlers[c.indexHandler]` behind `c.indexHandler < len(c.route.Handlers)`; handler-chain cursor, C01/C04's model"⟩,
  ⟨"ctx.go", "Ctx.Params", ["c.route.Params[i]", "route.Params[i]", "route.Params[i]", "c.values[i]", "c.values[i]"],
    .modelled "params, paramsLoop"⟩,
  ⟨"ctx.go", "Ctx.Path", [],
    .excluded "first element of a variadic handler argument behind a len() test (handler-supplied, no request data)"⟩,
  ⟨"ctx.go", "Ctx.syncIndexRoute", [],
    .excluded "route-tree cursor bookkeeping: indices are method ints checked by the request handlers and positions produced by range loops / sort.Search over the same slice; dispatch is C01's model"⟩,
  ⟨"ctx.go", "Ctx.Scheme", ["v[:commaPos]"],
    .modelled "scheme, schemeStep"⟩,
  ⟨"ctx.go", "Ctx.Queries", [],
    .excluded "map lookup / assignment only (a Go map index cannot go out of range)"⟩,
  ⟨"ctx.go", "Ctx.Range", ["rangeStr[i+1:]", "rangeStr[:i]", "rangeStr[i+1:]", "moreRanges[:i]", "moreRanges[i+1:]", "singleRange[:i]", "singleRange[i+1:]"],
    .modelled "range, rangeLoop"⟩,
  ⟨"ctx.go", "Ctx.getLocationFromRoute", [],
    .excluded "`key[0]` behind `len(key) == 1`; keys of a handler-supplied map"⟩,
  ⟨"ctx.go", "Ctx.Render", [],
    .excluded "map lookup / assignment only (a Go map index cannot go out of range); `appListKeys[i]` in a loop bounded by its length"⟩,
  ⟨"ctx.go", "Ctx.renderExtensions", [],
    .excluded "map lookup / assignment only (a Go map index cannot go out of range)"⟩,
  ⟨"ctx.go", "Ctx.SendFile", [],
    .excluded "first element of a variadic handler argument behind a len() test (handler-supplied, no request data); `file[len(file)-1]` behind `len(file) > 0` (file name given by the handler)"⟩,
  ⟨"ctx.go", "Ctx.SendStream", [],
    .excluded "first element of a variadic handler argument behind a len() test (handler-supplied, no request data)"⟩,
  ⟨"ctx.go", "sanitizeHeaderValue", ["b[i]", "b[i]", "b[i]"],
    .modelled "sanitizeHeaderValueC, sanitizeLoop"⟩,
  ⟨"ctx.go", "Ctx.Subdomains", ["offset[0]", "subdomains[:l]"],
    .modelled "subdomains (`offset[0]`: variadic argument behind a len() test)"⟩,
  ⟨"ctx.go", "Ctx.Type", [],
    .excluded "first element of a variadic handler argument behind a len() test (handler-supplied, no request data)"⟩,
  ⟨"ctx.go", "Ctx.configDependentPaths", ["c.path[:0]", "c.path[:0]", "c.detectionPath[:0]", "c.detectionPath[len(c.detectionPath)-1]", "c.detectionPath[0]", "c.detectionPath[1]", "c.detectionPath[2]"],
    .modelled "configDependentPaths (`[:0]` are constant zero-length slices)"⟩,
  ⟨"ctx.go", "Ctx.IsProxyTrusted", [],
    .excluded "map lookup / assignment only (a Go map index cannot go out of range)"⟩,
  ⟨"ctx.go", "Ctx.release", [],
    .excluded "constant zero-length slice `[:0]`"⟩,
  ⟨"path.go", "RoutePatternMatch", [],
    .excluded "pattern / config arguments of the developer: `cfg[0]` behind len() test, `pattern[0]` after the empty pattern was replaced by \"/\", `pattern[:len(patternPretty)]` with patternPretty a trimmed copy of pattern; the matching itself is getMatch (modelled: routePatternMatchC)"⟩,
  ⟨"path.go", "routeParser.reset", [],
    .excluded "constant zero-length slices `[:0]`"⟩,
  ⟨"path.go", "routeParser.parseRouteWritten", [],
    .excluded "registration time: parses a route pattern written by the developer (panics, if any, happen at start-up, never on a request); C02 models it with Option (none = registration panics)"⟩,
  ⟨"path.go", "addParameterMetaInfo", [],
    .excluded "registration time: parses a route pattern written by the developer (panics, if any, happen at start-up, never on a request); C02 models it with Option (none = registration panics)"⟩,
  ⟨"path.go", "findNextParamPosition", [],
    .excluded "registration time: parses a route pattern written by the developer (panics, if any, happen at start-up, never on a request); C02 models it with Option (none = registration panics)"⟩,
  ⟨"path.go", "routeParser.analyseConstantPart", [],
    .excluded "registration time: parses a route pattern written by the developer (panics, if any, happen at start-up, never on a request); C02 models it with Option (none = registration panics)"⟩,
  ⟨"path.go", "routeParser.analyseParameterPart", [],
    .excluded "registration time: parses a route pattern written by the developer (panics, if any, happen at start-up, never on a request); C02 models it with Option (none = registration panics)"⟩,
  ⟨"path.go", "findNextNonEscapedCharsetPosition", [],
    .excluded "registration time: parses a route pattern written by the developer (panics, if any, happen at start-up, never on a request); C02 models it with Option (none = registration panics)"⟩,
  ⟨"path.go", "findNextNonEscapedCharPosition", [],
    .excluded "registration time: parses a route pattern written by the developer (panics, if any, happen at start-up, never on a request); C02 models it with Option (none = registration panics)"⟩,
  ⟨"path.go", "splitNonEscaped", [],
    .excluded "registration time: parses a route pattern written by the developer (panics, if any, happen at start-up, never on a request); C02 models it with Option (none = registration panics)"⟩,
  ⟨"path.go", "routeParser.getMatch", ["segment.Const[:i-1]", "detectionPath[:i]", "parser.segs[idx+1:]", "params[paramsIterator]", "path[:i]", "params[paramsIterator]", "detectionPath[i:]", "path[i:]"],
    .modelled "getMatchC, advance (`params[paramsIterator]`: behind the `paramsIterator >= len(params)` return of fix 36fcb1c; `parser.segs[idx+1:]`: idx is the index variable of the `for idx, segment := range parser.segs` loop, the slice is the tail `rest` of the list getMatchC recurses on)"⟩,
  ⟨"path.go", "findParamLen", ["s[:segment.Length]", "following[0]", "comparePart[0]", "s[:constPosition]", "s[:constPosition]"],
    .modelled "paramLenC, fullConstC (`following[0]` behind `len(following) > 0`), findParamLenC (on the locals comparePart / partCount)"⟩,
  ⟨"path.go", "findGreedyParamLen", ["s[:constPosition]"],
    .modelled "findGreedyLoopC"⟩,
  ⟨"path.go", "GetTrimmedParam", [],
    .excluded "registration time: parses a route pattern written by the developer (panics, if any, happen at start-up, never on a request); C02 models it with Option (none = registration panics)"⟩,
  ⟨"path.go", "RemoveEscapeChar", [],
    .excluded "registration time: parses a route pattern written by the developer (panics, if any, happen at start-up, never on a request); C02 models it with Option (none = registration panics); `dst <= src < len(b)` by construction of the copy loop"⟩,
  ⟨"path.go", "RemoveEscapeCharBytes", [],
    .excluded "registration time: parses a route pattern written by the developer (panics, if any, happen at start-up, never on a request); C02 models it with Option (none = registration panics); `dst <= src < len(word)` by construction of the copy loop"⟩,
  ⟨"path.go", "Constraint.CheckConstraint", ["c.Data[0]", "c.Data[0]", "c.Data[0]", "c.Data[0]", "c.Data[1]", "c.Data[0]", "c.Data[0]", "c.Data[0]", "c.Data[1]", "c.Data[0]"],
    .modelled "constraintDataC"⟩,
  ⟨"binder/mapping.go", "SetParserDecoder", [],
    .excluded "map lookup / assignment only (a Go map index cannot go out of range)"⟩,
  ⟨"binder/mapping.go", "init", [],
    .excluded "map lookup / assignment only (a Go map index cannot go out of range)"⟩,
  ⟨"binder/mapping.go", "parseToStruct", [],
    .excluded "map lookup / assignment only (a Go map index cannot go out of range)"⟩,
  ⟨"binder/mapping.go", "parseToMap", ["newMap[k]", "newMap[k]", "newMap[k]", "v[len(v)-1]"],
    .modelled "parseToMapLast, lastValue (`newMap[k]` are map writes)"⟩,
  ⟨"binder/mapping.go", "parseParamSquareBrackets", ["kbytes[i+1]"],
    .modelled "parseParamSquareBrackets, bracketsLoop"⟩,
  ⟨"binder/mapping.go", "equalFieldType", [],
    .excluded "`strings.Split(tag, \",\")[0]`: strings.Split with a non-empty separator returns at least one element; the tag is a struct tag of the developer"⟩,
  ⟨"binder/mapping.go", "FilterFlags", ["content[:i]"],
    .modelled "filterFlags, filterFlagsLoop"⟩,
  ⟨"binder/mapping.go", "formatBindData", [],
    .excluded "map lookup / assignment only (a Go map index cannot go out of range)"⟩,
  ⟨"binder/mapping.go", "assignBindData", ["data[key]", "data[key]", "values[i]", "data[key]", "data[key]"],
    .modelled "assignBindData, assignSplitLoop (`data[key]` are map accesses)"⟩,
  ⟨"binder/uri.go", "URIBinding.Bind", [],
    .excluded "map lookup / assignment only (a Go map index cannot go out of range)"⟩
]

end Accounted
end C07

namespace C07
open Accounted

/-- every function of helpers.go / ctx.go / path.go / binder/*.go that contains an index or slice
    expression is entered in `accounted` (modelled or explicitly excluded), and `accounted` names
    no function that is not there: same (file, function) list, same order -/
theorem index_sites_accounted :
    Facts.indexSites.map (fun s => (s.1, s.2.1)) = accounted.map (fun e => (e.file, e.fn)) := rfl

/-- "`f` and `g` agree on every marked element" from an equality of lists: `rfl` checks that one by
    comparing the string literals as they stand, where evaluating `==` goes through them byte by byte -/
theorem all_agree_of_map_eq {α β : Type} [BEq β] [LawfulBEq β] (m : α → Bool) (f g : α → β) (l : List α)
    (h : l.map (fun p => if m p then f p else g p) = l.map g) :
    l.all (fun p => !m p || f p == g p) = true :=
  List.all_eq_true.mpr fun p hp => by
    have e := List.map_inj_left.mp h p hp
    cases hm : m p with
    | false => rfl
    | true => rw [hm, if_pos rfl] at e; rw [e, beq_self_eq_true]; rfl

/-- for every modelled function the index / slice expressions found in /repo are exactly the pinned
    ones the checked model was written against -/
theorem modelled_sites_pinned :
    (List.zip Facts.indexSites accounted).all (fun p => !p.2.isModelled || p.1.2.2 == p.2.exprs) = true :=
  all_agree_of_map_eq (α := (String × String × List String) × Entry) (·.2.isModelled) (·.1.2.2) (·.2.exprs) _ rfl

/-- no modelled entry is left without pinned expressions (non-vacuity of the pinning) -/
theorem modelled_sites_nonempty :
    accounted.all (fun e => !e.isModelled || !e.exprs.isEmpty) = true := by decide +kernel

end C07
