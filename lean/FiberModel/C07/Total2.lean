import FiberModel.C07.Total
/-
C07 (a) — totality of the checked models of Parsers2.lean, binder and content negotiation: for every
input no checked index / slice operation fails and no loop of the model runs out of fuel. Test
vectors for these models at the end.
-/
namespace C07
open B

theorem bracketsLoop_total (k rest : Bytes) (i opn : Int) (acc : Bytes)
    (hi : i + rest.length = k.length ∧ 0 ≤ i) : Ok (bracketsLoop k rest i opn acc) := by
  induction rest generalizing i opn acc with
  | nil => rw [bracketsLoop]; exact .pure _
  | cons c rest ih =>
    rw [List.length_cons] at hi
    rw [bracketsLoop]
    exact .ite (fun _ => .bind (.when (fun _ => .bind_pure (idx_ok (by omega))))
        fun _ => ih _ _ _ (by omega))
      fun _ => .ite (fun _ => .unless fun _ => ih _ _ _ (by omega))
        fun _ => ih _ _ _ (by omega)

/-- binder `parseParamSquareBrackets`: every query / form / header key -/
theorem parseParamSquareBrackets_total (k : Bytes) : Ok (parseParamSquareBrackets k) :=
  bracketsLoop_total k k 0 0 [] (by omega)

theorem filterFlagsLoop_total (content rest : Bytes) (i : Int)
    (hi : i + rest.length = content.length ∧ 0 ≤ i) : Ok (filterFlagsLoop content rest i) := by
  induction rest generalizing i with
  | nil => rw [filterFlagsLoop]; exact .pure _
  | cons c rest ih =>
    rw [List.length_cons] at hi
    rw [filterFlagsLoop]
    exact .ite (fun _ => sliceTo_ok (by omega)) fun _ => ih _ (by omega)

/-- binder `FilterFlags`: every Content-Type value -/
theorem filterFlags_total (content : Bytes) : Ok (filterFlags content) :=
  filterFlagsLoop_total content content 0 (by omega)

theorem assignSplitLoop_total (values : List Bytes) (fuel : Nat) (i : Int) (acc : List Bytes)
    (hi : 0 ≤ i ∧ i ≤ values.length ∧ (values.length : Int) - i < fuel) :
    Ok (assignSplitLoop values fuel i acc) := by
  induction fuel generalizing i acc with
  | zero => omega
  | succ fuel ih =>
    rw [assignSplitLoop]
    exact .when (fun hlt => .bind (idxL_ok ⟨hi.1, hlt⟩) fun _ => ih _ _ (scan_succ hi hlt))

theorem assignBindData_total (split : Bool) (data : List (Bytes × List Bytes)) (key value : Bytes) :
    Ok (assignBindData split data key value) :=
  .when (fun _ => .bind_pure (assignSplitLoop_total _ _ 0 [] (by omega)))

theorem formatBindData_total (split : Bool) (data : List (Bytes × List Bytes)) (key value : Bytes) :
    Ok (formatBindData split data key value) := by
  unfold formatBindData
  refine .ite (fun _ => .bind (parseParamSquareBrackets_total key) fun r => ?_)
    fun _ => .bind_pure (assignBindData_total _ _ _ _)
  cases r with
  | none => exact .pure _
  | some k => exact .bind_pure (assignBindData_total _ _ _ _)

theorem bindCollect_total (split : Bool) (args : List (Bytes × Bytes)) (data : List (Bytes × List Bytes)) :
    Ok (bindCollect split args data) := by
  induction args generalizing data with
  | nil => exact .pure _
  | cons kv rest ih =>
    refine .bind (formatBindData_total _ _ _ _) fun r => ?_
    cases r with
    | none => exact .pure _
    | some d => exact ih d

/-- `c.Bind().Query(&map[string][]string)`: every list of decoded query arguments, with or without
    `EnableSplittingOnParsers` -/
theorem bindQuery_total (split : Bool) (args : List (Bytes × Bytes)) : Ok (bindQuery split args) :=
  bindCollect_total split args []

theorem lastValue_total (v : List Bytes) : Ok (lastValue v) :=
  .unless fun _ => idxL_ok (by omega)

theorem parseToMapLast_total (d : List (Bytes × List Bytes)) : Ok (parseToMapLast d) := by
  induction d with
  | nil => exact .pure _
  | cons kv rest ih => exact .bind (lastValue_total kv.2) fun _ => .bind_pure ih

theorem bindQueryLast_total (split : Bool) (args : List (Bytes × Bytes)) : Ok (bindQueryLast split args) := by
  unfold bindQueryLast
  refine .bind (bindCollect_total split args []) fun r => ?_
  cases r with
  | none => exact .pure _
  | some d => exact .bind_pure (parseToMapLast_total d)

theorem skipOWS_spec (tab : Bool) (fuel : Nat) (b : Bytes) (hf : b.length < fuel) :
    Returns (skipOWS tab fuel b) fun b' => b'.length ≤ b.length := by
  induction fuel generalizing b with
  | zero => omega
  | succ fuel ih =>
    rw [skipOWS]
    exact .ite (fun _ => .after (idx_ok (by omega)) fun c =>
        .ite (fun _ => .bind (sliceFrom_spec (by omega)) fun b1 hb1 =>
            (ih b1 (by omega)).mono fun _ h => by omega)
          fun _ => .pure (Nat.le_refl _))
      fun _ => .pure (Nat.le_refl _)

theorem tokScan_spec (tok : Nat → Bool) (b : Bytes) (fuel : Nat) (n : Int)
    (hn : 0 ≤ n ∧ n ≤ b.length ∧ (b.length : Int) - n < fuel) :
    Returns (tokScan tok b fuel n) fun n' => n ≤ n' ∧ n' ≤ b.length := by
  induction fuel generalizing n with
  | zero => omega
  | succ fuel ih =>
    rw [tokScan]
    exact .ite (fun hlt => .after (idx_ok ⟨hn.1, hlt⟩) fun c =>
        .ite (fun _ => (ih (n + 1) (scan_succ hn hlt)).mono fun _ hr => ⟨Int.le_of_lt hr.1, hr.2⟩)
          fun _ => .pure ⟨Int.le_refl _, hn.2.1⟩)
      fun _ => .pure ⟨Int.le_refl _, hn.2.1⟩

theorem quotedScan_spec (b : Bytes) (fuel : Nat) (n : Int) (esc : Bool)
    (hn : 0 ≤ n ∧ n ≤ b.length ∧ (b.length : Int) - n < fuel) :
    Returns (quotedScan b fuel n esc) fun n' => n ≤ n' ∧ n' ≤ b.length := by
  induction fuel generalizing n esc with
  | zero => omega
  | succ fuel ih =>
    rw [quotedScan]
    exact .ite (fun hlt => .after (idx_ok ⟨hn.1, hlt⟩) fun c =>
        .ite (fun _ => .after (idx_ok ⟨hn.1, hlt⟩) fun c' =>
            (ih (n + 1) _ (scan_succ hn hlt)).mono fun _ hr => ⟨Int.le_of_lt hr.1, hr.2⟩)
          fun _ => .pure ⟨Int.le_refl _, hn.2.1⟩)
      fun _ => .pure ⟨Int.le_refl _, hn.2.1⟩

theorem semiScan_eq (b : Bytes) (fuel : Nat) (n : Int) : semiScan b fuel n = tokScan (· != 59) b fuel n := by
  induction fuel generalizing n with
  | zero => rfl
  | succ fuel ih => rw [semiScan, tokScan]; simp only [ih, bne_iff_ne]

theorem semiScan_spec (b : Bytes) (fuel : Nat) (n : Int)
    (hn : 0 ≤ n ∧ n ≤ b.length ∧ (b.length : Int) - n < fuel) :
    Returns (semiScan b fuel n) fun n' => n ≤ n' ∧ n' ≤ b.length :=
  semiScan_eq b fuel n ▸ tokScan_spec _ b fuel n hn

theorem vhpQuoted_spec (b : Bytes) (fuel : Nat) (n : Int) (esc : Bool)
    (hn : 0 ≤ n ∧ n ≤ b.length ∧ (b.length : Int) - n < fuel) :
    Returns (vhpQuoted b fuel n esc) fun r => n ≤ r.1 ∧ r.1 ≤ b.length ∧ (r.2 = true → r.1 < b.length) := by
  induction fuel generalizing n esc with
  | zero => omega
  | succ fuel ih =>
    rw [vhpQuoted]
    exact .ite (fun hlt => .after (idx_ok ⟨hn.1, hlt⟩) fun c =>
        .ite (fun _ => .pure ⟨Int.le_refl _, hn.2.1, fun _ => hlt⟩) fun _ => .after (idx_ok ⟨hn.1, hlt⟩) fun c' =>
          (ih (n + 1) _ (scan_succ hn hlt)).mono fun _ hr => ⟨Int.le_of_lt hr.1, hr.2⟩)
      fun _ => .pure ⟨Int.le_refl _, hn.2.1, fun h => nomatch h⟩

/-- what both parameter loops do once a value `b[i:j]` is delimited: hand it to the callback, then
    stop or go on with `b[k:]`, which is shorter than `b` -/
theorem valueTail_total {σ : Type} {f : σ → Bytes → Bytes → P (σ × Bool)} (hf : ∀ st k v, Ok (f st k v))
    (loop : σ → Bytes → P σ) {b : Bytes} (hloop : ∀ st rest, rest.length ≤ b.length → Ok (loop st rest))
    (st : σ) (key : Bytes) {i j k : Int} (h : 0 ≤ i ∧ i ≤ j ∧ j ≤ k ∧ k ≤ b.length) :
    Ok (slice b i j >>= fun v => f st key v >>= fun r =>
      if !r.2 then .ok r.1 else sliceFrom b k >>= fun rest => loop r.1 rest) :=
  .bind_of_returns (slice_spec h.1 h.2.1 (by omega)) fun v _ => .bind (hf st key v) fun r =>
    .unless fun _ => .bind_of_returns (sliceFrom_spec (by omega)) fun rest hrest =>
      hloop _ _ (by omega)

theorem fepLoop_total {σ : Type} (f : σ → Bytes → Bytes → P (σ × Bool)) (hf : ∀ st k v, Ok (f st k v))
    (fuel : Nat) (st : σ) (b0 : Bytes) (hlen : b0.length < fuel) : Ok (fepLoop f fuel st b0) := by
  induction fuel generalizing st b0 with
  | zero => omega
  | succ fuel ih =>
    rw [fepLoop]
    refine .unless fun hi => ?_
    have g := (indexByteI_guards hi).behind
    refine .bind_of_returns (sliceFrom_spec g) fun b1 hb1 =>
      .bind_of_returns (skipOWS_spec true _ b1 (Nat.lt_succ_self _)) fun b hb => ?_
    have hloop : ∀ st rest, rest.length ≤ b.length → Ok (fepLoop f fuel st rest) :=
      fun st rest h => ih st rest (by omega)
    refine .bind (.when (fun _ => .bind_pure (idx_ok (by omega))))
      fun _ => .ite (fun _ => hloop _ _ (Nat.le_refl _)) fun _ => ?_
    refine .bind_of_returns (tokScan_spec isTokenByte b _ 0 (by omega))
      fun n hn => .unless fun hcond => ?_
    have g := key_guards hn.1 fun h => hcond (.inr h)
    refine .bind (idx_ok g.here) fun _ => .unless fun _ => .bind (sliceTo_ok g.upTo) fun key =>
      .bind (idx_ok g.next) fun _ => .ite (fun _ => ?_) fun _ => .bind (idx_ok g.next) fun _ => .when (fun _ => ?_)
    · exact .bind_of_returns (tokScan_spec isTokenByte b _ (n + 1) (scan_behind g.here))
        fun n2 hn2 => valueTail_total hf (fepLoop f fuel) hloop st key (by omega)
    · exact .bind_of_returns (quotedScan_spec b _ (n + 1 + 1) false (scan_behind g.next))
        fun n2 hn2 => .unless fun hne =>
          valueTail_total hf (fepLoop f fuel) hloop st key (by omega)

/-- helpers.go `forEachParameter`: every parameter list and every (total) callback -/
theorem forEachParameter_total {σ : Type} (f : σ → Bytes → Bytes → P (σ × Bool)) (hf : ∀ st k v, Ok (f st k v))
    (st : σ) (b : Bytes) : Ok (forEachParameter f st b) :=
  fepLoop_total f hf _ st b (Nat.lt_succ_self _)

theorem parameters_total (b : Bytes) : Ok (parameters b) :=
  forEachParameter_total _ (fun _ _ _ => Ok.pure _) _ b

theorem vhpLoop_total {σ : Type} (f : σ → Bytes → Bytes → P (σ × Bool)) (hf : ∀ st k v, Ok (f st k v))
    (fuel : Nat) (st : σ) (b0 : Bytes) (hlen : b0.length < fuel) : Ok (vhpLoop f fuel st b0) := by
  induction fuel generalizing st b0 with
  | zero => omega
  | succ fuel ih =>
    rw [vhpLoop]
    refine .when (fun _ => ?_)
    refine .bind_of_returns (semiScan_spec b0 _ 0 (by omega)) fun idxSemi hs =>
      .unless fun _ => .bind_of_returns (sliceFrom_spec (by omega)) fun b1 hb1 =>
      .bind_of_returns (skipOWS_spec false _ b1 (Nat.lt_succ_self _)) fun b hb => ?_
    have hloop : ∀ st rest, rest.length ≤ b.length → Ok (vhpLoop f fuel st rest) :=
      fun st rest h => ih st rest (by omega)
    refine .unless fun _ => .bind (idx_ok (by omega)) fun _ => .unless fun _ =>
      .bind_of_returns (tokScan_spec validHeaderFieldByte b _ 1 (by omega)) fun n hn => .unless fun hcond => ?_
    have g := key_guards (Int.le_trans (by decide) hn.1) hcond
    refine .bind (idx_ok g.here) fun _ => .unless fun _ => .bind (sliceTo_ok g.upTo) fun param =>
      .bind (idx_ok g.next) fun _ => .ite (fun _ => ?_) fun _ => .bind (idx_ok g.next) fun _ => .when (fun _ => ?_)
    · exact .bind_of_returns
        (tokScan_spec validHeaderFieldByte b _ (n + 1 + 1) (scan_behind g.next))
        fun n2 hn2 => valueTail_total hf (vhpLoop f fuel) hloop st param (by omega)
    · refine .bind_of_returns (vhpQuoted_spec b _ (n + 1 + 1) false (scan_behind g.next))
        fun r hr => .unless fun hfound => ?_
      have hlt : r.1 < b.length := hr.2.2 (by simpa using hfound)
      exact valueTail_total hf (vhpLoop f fuel) hloop st param (by omega)

/-- fasthttp `VisitHeaderParams` as transcribed: every parameter string, every total callback -/
theorem visitHeaderParams_total {σ : Type} (f : σ → Bytes → Bytes → P (σ × Bool)) (hf : ∀ st k v, Ok (f st k v))
    (st : σ) (b : Bytes) : Ok (visitHeaderParams f st b) :=
  vhpLoop_total f hf _ st b (Nat.lt_succ_self _)

theorem paramFound_total (k v offerParams : Bytes) : Ok (paramFound k v offerParams) :=
  visitHeaderParams_total _ (fun _ _ _ => .unless fun _ => .pure _) _ _

/-- helpers.go `paramsMatch`: every parameter map of the request's media range × every offer -/
theorem paramsMatch_total (sp : HParams) (offerParams : Bytes) : Ok (paramsMatch sp offerParams) := by
  induction sp with
  | nil => exact .pure _
  | cons kv rest ih =>
    exact .bind (paramFound_total kv.1 kv.2 offerParams) fun r => .unless fun _ => ih

theorem acceptsOffer_total (spec offer : Bytes) : Ok (acceptsOfferC spec offer) :=
  .bind (.when (fun _ => .bind_pure (idx_ok (by omega)))) fun _ =>
    .unless fun _ => .pure _

/-- `acceptsOfferType` in its documented domain: the offer is a non-empty extension or a MIME type
    (possibly followed by parameters), and `utils.GetMIME` answers a MIME type for a non-empty
    extension. Spec and parameters: anything the request carries. -/
theorem acceptsOfferType_full_total (getMIME : Bytes → Bytes) (hm : ∀ e, e ≠ [] → (getMIME e).contains 47 = true)
    (spec offerType : Bytes) (specParams : HParams)
    (hoff : offerType ≠ [] ∧ offerType.head? ≠ some 59) :
    Ok (acceptsOfferType getMIME spec offerType specParams) := by
  unfold acceptsOfferType
  have hi := indexByteI_range offerType 59
  -- the MIME part in front of the first `;` is not empty
  refine .bind_of_returns (Q := fun v => v.1 ≠ [])
    (.ite (fun _ => .pure hoff.1) fun hne => .bind (sliceTo_spec (by omega)) fun m hml =>
      .after (sliceFrom_ok (by omega)) fun _ =>
      .pure (show m ≠ [] from List.ne_nil_of_length_pos (by have := indexByteI_pos offerType 59 hoff.2 hne; omega)))
    fun v hv => ?_
  refine .ite (fun _ => paramsMatch_total _ _) fun _ => .ite (fun _ => paramsMatch_total _ _) fun _ => ?_
  have hslash : (offerMimetype getMIME v.1).contains 47 = true := by
    fun_cases offerMimetype getMIME v.1 with
    | case1 h => exact (indexByteI_ne_iff _ 47).1 h
    | case2 => exact hm _ hv
  have hidx := indexByteI_contains _ 47 hslash
  refine .bind_of_returns (sliceTo_spec (by omega)) fun pre hpre => .when (fun hp => ?_)
  have := hasPrefix_length hp
  exact .bind (sliceFrom_ok (by omega)) fun _ =>
    .bind (.unless fun _ => .bind_pure (sliceFrom_ok (by omega))) fun _ =>
    .when (fun _ => paramsMatch_total _ _)

-- outside that domain the Go code slices with -1 (`c.Accepts(";q=1")`); the model shows it
example : acceptsOfferType (fun _ => []) (b "text/html") (b ";q=1") [] = .error .slice := by rfl

theorem offerParamStep_total (qv : QVerdict) (st : HParams × Nat) (key value : Bytes) :
    Ok (offerParamStep qv st key value) :=
  .bind (.when (fun _ => .bind (idx_ok (by omega)) fun _ =>
      .unless fun _ => .bind_pure (idx_ok (by omega))))
    fun _ => .unless fun _ => .pure _

theorem specificityC_total (spec : Bytes) : Ok (specificityC spec) :=
  .bind (.when (fun _ => .bind_pure (idx_ok (by omega)))) fun _ =>
    .unless fun _ => .unless fun _ => .unless fun _ =>
    .unless fun _ => .pure _

/-- the functor `getOffer` runs on every media range of `Accept*`: spec / `;q=` fast path /
    parameter scan / specificity -/
theorem offerRange_total (qv : QVerdict) (accept : Bytes) : Ok (offerRange qv accept) := by
  unfold offerRange
  have h3 : (b ";q=").length = 3 := rfl
  refine .bind (.when (fun hi => ?_)) fun r =>
    .unless fun _ => .bind_pure (specificityC_total _)
  have g := (indexByteI_guards hi).here
  refine .bind (sliceTo_ok g) fun spec => .bind_of_returns (sliceFrom_spec g) fun tail htail => ?_
  -- the fast path is taken only behind the prefix `;q=`, so `accept[qIndex:]` is in range
  refine .bind_of_returns (Q := fun fast => fast = true → indexByteI accept 59 + 3 ≤ accept.length)
    (.ite (fun hp => .after (sliceFrom_ok (by have := hasPrefix_length hp; omega)) fun _ =>
        .pure fun _ => by have := hasPrefix_length hp; omega)
      fun _ => .pure fun h => nomatch h) fun fast hfast => ?_
  exact .ite (fun hf => .bind_pure (sliceFrom_ok (by have := hfast hf; omega)))
    fun _ => .bind (sliceFrom_ok g) fun _ => .bind_pure (forEachParameter_total _ (offerParamStep_total qv) _ _)

theorem offerRanges_total (qv : QVerdict) (rs : List Bytes) : Ok (offerRanges qv rs) := by
  induction rs with
  | nil => exact .pure _
  | cons r rest ih => exact .bind (offerRange_total qv r) fun _ => .bind_pure ih

theorem anyAccepts_total (getMIME : Bytes → Bytes) (hm : ∀ e, e ≠ [] → (getMIME e).contains 47 = true)
    (offer : Bytes) (hoff : offer ≠ [] ∧ offer.head? ≠ some 59) (as : List Accepted) :
    Ok (anyAccepts getMIME offer as) := by
  induction as with
  | nil => exact .pure _
  | cons a rest ih =>
    exact .bind (acceptsOfferType_full_total getMIME hm _ _ _ hoff) fun _ => .unless fun _ => ih

/-- `c.Accepts(offer)`: for EVERY `Accept` header value, every verdict of `ParseUfloat`, and every
    offer in the documented domain (extension or MIME type, optional parameters) -/
theorem acceptsOne_total (qv : QVerdict) (getMIME : Bytes → Bytes)
    (hm : ∀ e, e ≠ [] → (getMIME e).contains 47 = true) (header offer : Bytes)
    (hoff : offer.head? ≠ some 59) : Ok (acceptsOne qv getMIME header offer) :=
  .unless fun _ => .unless fun hne =>
    .bind (forEachMediaRange_total header) fun rs => .bind (offerRanges_total qv rs) fun as =>
    anyAccepts_total getMIME hm offer ⟨hne, hoff⟩ as

example : parseParamSquareBrackets (b "a[b][c]") = .ok (some (b "a.b.c")) := by
  repeat rw [b_ofList]
  decide +kernel
example : parseParamSquareBrackets (b "a[]") = .ok (some (b "a")) := by
  repeat rw [b_ofList]
  decide +kernel
example : parseParamSquareBrackets (b "a[b") = .ok none := by
  repeat rw [b_ofList]
  decide +kernel
example : parseParamSquareBrackets (b "a]") = .ok none := by
  repeat rw [b_ofList]
  decide +kernel
example : filterFlags (b "application/json; charset=utf-8") = .ok (b "application/json") := by
  repeat rw [b_ofList]
  decide +kernel
example : bindQuery true [(b "a[b]", b "1,2"), (b "a[b]", b "3")] = .ok (some [(b "a.b", [b "1", b "2", b "3"])]) := by
  repeat rw [b_ofList]
  decide +kernel
example : parameters (b ";a=1; b=\"x y\";;c=\"p\\\"q\" ;d") = .ok [(b "a", b "1"), (b "b", b "x y"), (b "c", b "p\\\"q")] := by
  repeat rw [b_ofList]
  decide +kernel
-- a parameter list ending right after `=`: the guard `n >= len(b)-1` stops the scan
example : parameters (b ";a=") = .ok [] := by
  repeat rw [b_ofList]
  decide +kernel
example : parameters (b ";a=\"open") = .ok [] := by
  repeat rw [b_ofList]
  decide +kernel
example : offerRange (fun _ => 1) (b "text/html;q=0") = .ok none := by
  repeat rw [b_ofList]
  decide +kernel
example : offerRange (fun _ => 2) (b "text/html ;level=1;Q=0.5;x=y") =
    .ok (some ⟨b "text/html", some [(b "level", b "1")], 3⟩) := by
  repeat rw [b_ofList]
  decide +kernel
example : acceptsOne (fun _ => 2) (fun _ => b "text/html") (b "text/*;a=1, application/json") (b "html;A=\"1\"") = .ok true := by
  repeat rw [b_ofList]
  decide +kernel
example : acceptsOne (fun _ => 2) (fun _ => b "text/html") (b "text/*;a=1") (b "text/html;a=2") = .ok false := by
  repeat rw [b_ofList]
  decide +kernel

end C07
