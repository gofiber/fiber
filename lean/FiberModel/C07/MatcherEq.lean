import FiberModel.C07.Lemmas
import FiberModel.C07.Matcher
import FiberModel.C02.Match
/-
C07 — the checked-index matcher computes what C02's matcher computes.

`findParamLenC_eq`, `paramLenC_eq`: the checked parameter-length functions return `.ok` of exactly what
C02's return, for every input; that those values never exceed the input is C02's own
(`C02.findParamLen_le`, `C02.paramLen_le`, Match.lean there). `getMatchC_capped`: on well-formed segment lists
the checked `getMatchC` returns `.ok` of `C02.getMatch`'s answer, or "no match" where that answer
would not fit the value array. Totality (`getMatchC_total`) and, where the parameters fit,
`getMatchC_eq` are its two readings. So the totality theorems of MatcherTotal.lean are about the same
function C02's soundness theorems are about (C02 ties it to path.go by its own correspondence run),
not about a second, independent transcription.
-/
namespace C07
open B

/-- the only fact about the parsed segments the matcher's slicing depends on: a constant segment's
    `Length` is the length of its `Const` (`analyseConstantPart`: `Length: len(constPart)`) -/
def SegWF (s : C02.Seg) : Prop := s.isParam = false → s.length = s.const.length

def SegsWF (segs : List C02.Seg) : Prop := ∀ s ∈ segs, SegWF s

theorem SegsWF.head {s : C02.Seg} {rest : List C02.Seg} (h : SegsWF (s :: rest)) (hp : s.isParam = false) :
    s.length = s.const.length :=
  (List.forall_mem_cons.mp h).1 hp

theorem SegsWF.tail {s : C02.Seg} {rest : List C02.Seg} (h : SegsWF (s :: rest)) : SegsWF rest :=
  (List.forall_mem_cons.mp h).2

theorem lastIndexOf_le (s cp : Bytes) (k : Nat) (h : C02.lastIndexOf s cp = some k) : k ≤ s.length := by
  -- the answer is 0 (cases 1, 4), one more than the answer on the tail (case 3), or `none` (cases 2, 5)
  revert h
  fun_induction C02.lastIndexOf s cp generalizing k with
  | case1 | case4 => rintro ⟨⟩; exact Nat.zero_le _
  | case2 | case5 => nofun
  | case3 _ _ _ j hj ih => rintro ⟨⟩; exact Nat.succ_le_succ (ih j hj)

theorem ok_bind {α β : Type} (v : α) (f : α → P β) : ((.ok v : P α) >>= f) = f v := rfl

/-- a checked `if` on a proposition against the unchecked `if` on the Boolean that decides it -/
theorem ite_eq_ok {α β : Type} {c : Prop} [Decidable c] {c' : Bool} {x y : P β} {a a' : α} (g : α → β)
    (hc : c ↔ c' = true) (hx : c → x = .ok (g a)) (hy : ¬ c → y = .ok (g a')) :
    (if c then x else y) = .ok (g (if c' then a else a')) := by
  by_cases h : c
  · rw [if_pos h, if_pos (hc.1 h)]; exact hx h
  · rw [if_neg h, if_neg (fun h' => h (hc.2 h'))]; exact hy h

theorem sliceTo_nat (s : Bytes) (k : Nat) (h : k ≤ s.length) : sliceTo s (k : Int) = .ok (s.take k) := by
  unfold sliceTo
  rw [slice_ok (Int.le_refl _) (by omega) (by omega)]
  rfl

theorem sliceFrom_nat (s : Bytes) (k : Nat) (h : k ≤ s.length) : sliceFrom s (k : Int) = .ok (s.drop k) := by
  unfold sliceFrom
  rw [slice_ok (by omega) (by omega) (Int.le_refl _)]
  show Except.ok ((s.take s.length).drop k) = _
  rw [List.take_length]

theorem findGreedyLoopC_eq (cp : Bytes) (i sc : Nat) (s : Bytes) :
    findGreedyLoopC cp i sc s = .ok (C02.findGreedyLoop cp i sc s) := by
  -- case1: `i` (counting down from `partCount`) is 0, case2: `searchCount` is 0, case3: `LastIndex` finds nothing,
  -- case4: cut at `k` and go on
  fun_induction C02.findGreedyLoop cp i sc s with
  | case1 => rfl
  | case2 t => cases t <;> rfl
  | case3 i sc s h => rw [findGreedyLoopC, h]
  | case4 i sc s k h ih =>
    rw [findGreedyLoopC, h]
    show sliceTo s k >>= _ = _
    rw [sliceTo_nat s k (lastIndexOf_le s cp k h)]
    exact ih

/-- one delimiter branch of `findParamLenC`, as a function of the position found. The last two branches
    of `findParamLenC` unfold to it, at the position `indexByteI` / `indexOfI` answers: that is how
    `delimC_eq` closes them in `findParamLenC_eq`. -/
def delimC (greedy : Bool) (s : Bytes) (pos : Int) : P Int :=
  if pos ≠ -1 then
    (((if !greedy then sliceTo s pos >>= fun pre => .ok (decide (indexByteI pre 47 ≠ -1)) else .ok false) : P Bool) >>= fun slash =>
      (.ok (if slash then 0 else pos) : P Int))
  else .ok (s.length : Int)

theorem delimC_eq (greedy : Bool) (s : Bytes) (o : Option Nat) : (∀ k, o = some k → k ≤ s.length) →
    delimC greedy s (match o with | some i => (i : Int) | none => -1) =
      .ok ((match o with
        | some k => if !greedy && (s.take k).contains C02.SLASH then 0 else k
        | none => s.length : Nat) : Int) := by
  intro hle
  cases o with
  | none => rfl
  | some k =>
    show delimC greedy s (k : Int) = _
    unfold delimC
    rw [if_pos (by omega)]
    cases greedy with
    | true => rfl
    | false =>
      rw [if_pos (show (!false) = true from rfl), sliceTo_nat s k (hle k rfl)]
      show Except.ok (if decide (indexByteI (s.take k) 47 ≠ -1) = true then (0 : Int) else k) = _
      rw [apply_ite Nat.cast]
      exact congrArg Except.ok
        (ite_congr (propext (decide_eq_true_iff.trans (indexByteI_ne_iff _ 47))) (fun _ => rfl) fun _ => rfl)

theorem findParamLenC_eq (s : Bytes) (seg : C02.Seg) :
    findParamLenC s seg = .ok ((C02.findParamLen s seg : Nat) : Int) := by
  unfold findParamLenC C02.findParamLen
  -- the guards in the definition's order: last segment; `Length` fits; greedy with several occurrences; one-byte
  -- compare part; each `by simp` sets the checked guard (a `Prop`) against the Boolean of `C02.findParamLen`
  refine ite_eq_ok _ Iff.rfl (fun _ => rfl) fun _ => ite_eq_ok _ (by simp) (fun hl => ?_) fun _ =>
    ite_eq_ok _ (by simp) (fun _ => ?_) fun _ => ite_eq_ok _ (by simp) (fun hone => ?_) fun _ => ?_
  · rw [sliceTo_nat s seg.length hl.2]
    show Except.ok (if indexByteI (s.take seg.length) 47 ≠ -1 then (0 : Int) else seg.length) = _
    rw [apply_ite Nat.cast]
    exact congrArg Except.ok (ite_congr (propext (indexByteI_ne_iff _ 47)) (fun _ => rfl) fun _ => rfl)
  · rw [findGreedyLoopC_eq]; rfl
  · obtain ⟨c0, hcp⟩ : ∃ c0, seg.comparePart = [c0] := List.length_eq_one_iff.mp hone
    have hidx : idx seg.comparePart 0 = .ok c0 := by rw [hcp]; rfl
    rw [hidx, hcp]
    show delimC _ s (indexByteI s c0) = _
    exact delimC_eq _ s (indexByte s c0) fun k hk => Nat.le_of_lt (indexByte_lt hk)
  · show delimC _ s (indexOfI s seg.comparePart) = _
    exact delimC_eq _ s (indexOf s seg.comparePart) fun k hk => by
      have := indexOf_le hk; omega

theorem findParamLen_le (s : Bytes) (seg : C02.Seg) : C02.findParamLen s seg ≤ s.length :=
  C02.findParamLen_le s seg

theorem findParamLenC_spec (s : Bytes) (seg : C02.Seg) :
    ∃ i, findParamLenC s seg = .ok i ∧ 0 ≤ i ∧ i ≤ s.length :=
  ⟨_, findParamLenC_eq s seg, Int.natCast_nonneg _, Int.ofNat_le.mpr (findParamLen_le s seg)⟩

theorem paramLenC_eq (s : Bytes) (seg : C02.Seg) (following : List C02.Seg) :
    paramLenC s seg following = .ok ((C02.paramLen s seg following : Nat) : Int) := by
  fun_cases paramLenC s seg following with
  | case1 hg =>
    rw [C02.paramLen_guard following hg]
    exact findParamLenC_eq s seg
  | case2 hg =>
    unfold fullConstC
    cases following with
    | nil => rw [C02.paramLen_nil]; exact findParamLenC_eq s seg
    | cons n tl =>
      rw [C02.paramLen_cons hg, if_pos (show (n :: tl).length > 0 from Nat.zero_lt_succ _),
        show idxL (n :: tl) 0 = .ok n by simp [idxL], ok_bind, ok_bind]
      by_cases hc : n.const.length > seg.comparePart.length ∧ indexOfI s n.const ≠ -1
      · rw [if_pos hc, if_pos ⟨hc.1, (indexOfI_ne_iff _ _).mp hc.2⟩]
        cases seg.isGreedy with
        | false => exact findParamLenC_eq s _
        | true =>
          show (findGreedyLoopC _ _ _ s >>= _) = _
          rw [findGreedyLoopC_eq]
          rfl
      · rw [if_neg hc, if_neg fun h => hc ⟨h.1, (indexOfI_ne_iff _ _).mpr h.2⟩]
        exact findParamLenC_eq s seg

/-- a test of the checked matcher - a comparison `R` with the prefix `s[:j]`, behind the guard `c` that
    keeps the slice in range - evaluates to the Boolean `t` that C02's matcher computes for it -/
theorem prefixTest_eq {c : Prop} [Decidable c] {s : Bytes} {j : Int} {k : Nat} (R : Bytes → Prop)
    [DecidablePred R] {t : Bool} (hk : c → j = k ∧ k ≤ s.length) (ht : t = true ↔ c ∧ R (s.take k)) :
    ((if c then sliceTo s j >>= fun x => .ok (decide (R x)) else .ok false) : P Bool) = .ok t := by
  by_cases h : c
  · rw [if_pos h, (hk h).1, sliceTo_nat s k (hk h).2, ok_bind]
    exact congrArg Except.ok (Bool.eq_iff_iff.mpr (by rw [decide_eq_true_iff, ht]; exact (and_iff_right h).symm))
  · rw [if_neg h]
    exact congrArg Except.ok (Eq.symm (Bool.eq_false_iff.mpr fun e => h (ht.1 e).1))

/-- with an empty detection path the offset is 0 as well, so `advance` always slices (as C02's
    `getMatch_const` / `getMatch_param` put it) -/
theorem advance_drop (det path : Bytes) (i : Nat) (h1 : i ≤ det.length) (hl : det.length ≤ path.length) :
    advance det path (i : Int) = .ok (det.drop i, path.drop i) := by
  unfold advance
  split
  · rw [sliceFrom_nat det i h1, sliceFrom_nat path i (by omega)]; rfl
  · obtain rfl : i = 0 := by omega
    rfl

/-- `getMatch` answers "no match" rather than write beyond the value array (fix 36fcb1c): `r` while
    the `k` parameters still to come fit behind the `it` values written so far. The subtraction is
    truncated: with no parameter to come nothing is cut, whatever `it` is. -/
def capped (it k : Nat) (r : Option (List Bytes)) : Option (List Bytes) :=
  if k ≤ maxParams - it then r else none

theorem capped_of_le {it k : Nat} (h : k ≤ maxParams - it) (r : Option (List Bytes)) : capped it k r = r :=
  if_pos h

theorem capped_succ (it k : Nat) (r : Option (List Bytes)) :
    capped it (k + 1) r = if it ≥ maxParams then none else capped (it + 1) k r := by
  by_cases h : it ≥ maxParams
  · rw [if_pos h]; exact if_neg (by omega)
  · rw [if_neg h]; exact ite_congr (propext (by omega)) (fun _ => rfl) fun _ => rfl

theorem capped_none (it k : Nat) : capped it k none = none := ite_self _

theorem capped_map (it k : Nat) (r : Option (List Bytes)) (f : List Bytes → List Bytes) :
    (capped it k r).map f = capped it k (r.map f) :=
  apply_ite (Option.map f) _ r none

/-- On well-formed segments the checked matcher is C02's matcher, cut off at the capacity of the value
    array - for every value of `paramsIterator`. -/
theorem getMatchC_capped (chk : C02.Constraint → Bytes → Bool) (segs : List C02.Seg) (hwf : SegsWF segs)
    (det path : Bytes) (hl : det.length ≤ path.length) (pc : Bool) (it : Nat) :
    getMatchC chk segs det path pc it =
      .ok (capped it (segs.filter (·.isParam)).length (C02.getMatch chk segs det path pc)) := by
  induction segs generalizing det path it with
  | nil => exact congrArg Except.ok (capped_of_le (Nat.zero_le _) _).symm
  | cons seg rest ih =>
    have hrest := hwf.tail
    rw [getMatchC]
    -- both matchers go on the same way once `i` bytes are consumed
    have step : ∀ (i it' : Nat), i ≤ det.length →
        (advance det path i >>= fun (d, p) => getMatchC chk rest d p pc it') =
          .ok (capped it' (rest.filter (·.isParam)).length
            (C02.getMatch chk rest (det.drop i) (path.drop i) pc)) := fun i it' hi => by
      rw [advance_drop det path i hi hl]
      exact ih hrest _ _ (by simp only [List.length_drop]; omega) it'
    cases hp : seg.isParam with
    | false =>
      have hlen := hwf.head hp
      rw [C02.getMatch_const hp,
        show ((seg :: rest).filter (·.isParam)).length = (rest.filter (·.isParam)).length by simp [hp],
        if_pos (show (!false) = true from rfl)]
      -- the two tests of the checked matcher evaluate to the Booleans C02's matcher branches on: `hopt` to the first
      -- `if` of `C02.getMatch_const` (optional trailing slash), `hsame` to the second (the constant itself)
      have hopt := prefixTest_eq (c := seg.hasOptionalSlash = true ∧ (det.length : Int) = (seg.length : Int) - 1)
        (s := seg.const) (j := (seg.length : Int) - 1) (k := seg.length - 1) (fun c => det = c)
        (t := seg.hasOptionalSlash && decide (seg.length > 0) && det.length == seg.length - 1 &&
          det == seg.const.take (seg.length - 1))
        (fun h => ⟨by omega, by omega⟩) (by
          simp only [Bool.and_eq_true, decide_eq_true_eq, beq_iff_eq]
          exact ⟨fun ⟨⟨⟨a, _⟩, _⟩, d⟩ => ⟨⟨a, by omega⟩, d⟩, fun ⟨⟨a, _⟩, d⟩ => ⟨⟨⟨a, by omega⟩, by omega⟩, d⟩⟩)
      have hsame := prefixTest_eq (c := (seg.length : Int) ≤ (det.length : Int)) (s := det) (j := (seg.length : Int))
        (k := seg.length) (· = seg.const) (t := decide (seg.length ≤ det.length) && det.take seg.length == seg.const)
        (fun h => ⟨rfl, by omega⟩) (by simp only [Bool.and_eq_true, decide_eq_true_eq, beq_iff_eq, Int.ofNat_le])
      dsimp only
      rw [hopt, ok_bind]
      refine ite_eq_ok (capped it _) Iff.rfl (fun ho => ?_) fun _ => ?_
      · simp only [Bool.and_eq_true, decide_eq_true_eq, beq_iff_eq] at ho
        -- nothing is left of the detection path, which C02's equation writes as `[]`
        rw [show ((seg.length : Int) - 1) = ((seg.length - 1 : Nat) : Int) by omega, step _ _ (by omega),
          List.drop_eq_nil_of_le (Nat.le_of_eq ho.1.2)]
      · rw [hsame, ok_bind]
        by_cases hs : (decide (seg.length ≤ det.length) && det.take seg.length == seg.const) = true
        · rw [if_neg (by simp [hs]), if_pos hs]
          exact step _ _ (by simp only [Bool.and_eq_true, decide_eq_true_eq] at hs; exact hs.1)
        · rw [if_pos ((Bool.not_eq_true' _).mpr (Bool.eq_false_iff.mpr hs)), if_neg hs, capped_none]
    | true =>
      have hn := C02.paramLen_le det seg rest
      rw [C02.getMatch_param hp,
        show ((seg :: rest).filter (·.isParam)).length = (rest.filter (·.isParam)).length + 1 by simp [hp],
        if_neg (show ¬ (!true) = true from Bool.false_ne_true)]
      dsimp only
      rw [paramLenC_eq, ok_bind]
      generalize C02.paramLen det seg rest = n at hn ⊢
      refine ite_eq_ok (capped it _) (by simp) (fun _ => by rw [capped_none]) fun _ => ?_
      -- when the value array is full the checked matcher stops here, and `capped` cuts C02's answer
      rw [capped_succ, apply_ite Except.ok]
      refine ite_congr rfl (fun _ => rfl) fun _ => ?_
      rw [sliceTo_nat path n (by omega), ok_bind]
      refine ite_eq_ok (capped (it + 1) _) (by simp) (fun _ => by rw [capped_none]) fun _ => ?_
      rw [advance_drop det path n hn hl, ← capped_map]
      show (getMatchC chk rest _ _ pc (it + 1) >>= _) = _
      rw [ih hrest _ _ (by simp only [List.length_drop]; omega) _]; rfl

theorem getMatchC_total (chk : C02.Constraint → Bytes → Bool) (segs : List C02.Seg) (hwf : SegsWF segs)
    (det path : Bytes) (hl : det.length ≤ path.length) (partialCheck : Bool) (it : Nat) :
    Ok (getMatchC chk segs det path partialCheck it) :=
  ⟨_, getMatchC_capped chk segs hwf det path hl partialCheck it⟩

theorem getMatchC_eq (chk : C02.Constraint → Bytes → Bool) (segs : List C02.Seg) (hwf : SegsWF segs)
    (det path : Bytes) (hl : det.length ≤ path.length) (pc : Bool) (it : Nat)
    (hcap : it + (segs.filter (·.isParam)).length ≤ maxParams) :
    getMatchC chk segs det path pc it = .ok (C02.getMatch chk segs det path pc) :=
  (getMatchC_capped chk segs hwf det path hl pc it).trans (congrArg Except.ok (capped_of_le (by omega) _))

-- non-vacuity: on the segments of a registered pattern both matchers give the values
example : (C02.register {} false (b "/u/:id/*")).map (fun r =>
    (getMatchC (fun _ _ => true) r.parser.segs (b "/u/7/a/b") (b "/u/7/a/b") false 0,
     C02.getMatch (fun _ _ => true) r.parser.segs (b "/u/7/a/b") (b "/u/7/a/b") false))
    = some (.ok (some [b "7", b "a/b"]), some [b "7", b "a/b"]) := by
  repeat rw [b_ofList]
  decide +kernel

end C07
