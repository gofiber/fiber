import FiberModel.C07.Total3
import FiberModel.C07.MatcherEq
import FiberModel.C02.Meta
/-
C07 (a) — the checked-index route matcher is total: for every registered pattern (every segment list
the route parser can produce) and every request path, `getMatch` / `Route.match` reach no
out-of-range index or slice. `getMatchC_total` (MatcherEq.lean) asks for well-formed segments; here:
the route parser produces nothing else (C02 proves it of its parser model: `C02.parseRouteW_segsOK`),
and the callers of `getMatch`. Last: the `c.Data[i]` accesses of `CheckConstraint` (`constraintData_total`).
-/
namespace C07
open B

theorem SegsWF.of_segsOK {segs : List C02.Seg} (h : C02.SegsOK segs) : SegsWF segs :=
  fun s hs hp => (h s hs hp).1

/-- whatever pattern is parsed (as written or case-folded with the constraints as written): the
    segments satisfy the matcher's precondition, which is the first half of C02's `SegOK` -/
theorem parseRouteW_wf (pattern written : Bytes) (pr : C02.Parser)
    (h : C02.parseRouteW pattern written = some pr) : SegsWF pr.segs :=
  .of_segsOK (C02.parseRouteW_segsOK h)

theorem parseRoute_wf (pattern : Bytes) (pr : C02.Parser)
    (h : C02.parseRoute pattern = some pr) : SegsWF pr.segs :=
  .of_segsOK (C02.parseRoute_segsOK h)

theorem register_wf (cfg : C02.Config) (use : Bool) (pattern : Bytes) (r : C02.Route)
    (h : C02.register cfg use pattern = some r) : SegsWF r.parser.segs := by
  obtain ⟨_, _, _, hpp, _⟩ := C02.register_inv h
  exact parseRouteW_wf _ _ _ hpp

/-- `Route.match` of any route `register` accepts, on any detection path / path pair as
    `configDependentPaths` produces them (the detection path is never longer than the path):
    no out-of-range index, no out-of-range slice. -/
theorem route_match_total (cfg : C02.Config) (use : Bool) (pattern : Bytes) (r : C02.Route)
    (hreg : C02.register cfg use pattern = some r)
    (chk : C02.Constraint → Bytes → Bool) (det path : Bytes) (hl : det.length ≤ path.length) :
    Ok (routeMatchC chk r det path) := by
  unfold routeMatchC
  -- in the order of `Route.match`: the root test `detectionPath[0]`; `*` (`path[1:]`); parameters (`getMatch`);
  -- `Use` (root: `detectionPath[0]`, else the prefix `detectionPath[:plen]`); the plain comparison
  exact .bind (.when (fun h => .bind_pure (idx_ok (by omega)))) fun _ =>
    .unless fun _ =>
    .ite (fun _ => .when (fun _ => .bind_pure (sliceFrom_ok (by omega)))) fun _ =>
    .ite (fun _ => getMatchC_total chk _ (register_wf cfg use pattern r hreg) det path hl _ _) fun _ =>
    .when (fun _ =>
        .ite (fun _ => .ite (fun _ => .bind_pure (idx_ok (by omega))) fun _ => .pure _) fun _ =>
        .ite (fun _ => .bind_pure (sliceTo_ok (by omega))) fun _ => .pure _)

/-- a request through the router: for EVERY registered pattern, every configuration of
    CaseSensitive / StrictRouting / UnescapePath, every request path (any bytes), every behaviour of
    the constraint checkers and of `AppendUnquotedArg`: normalising the path and matching it against
    the route panics nowhere. -/
theorem request_match_total (cfg : C02.Config) (use : Bool) (pattern : Bytes) (r : C02.Route)
    (hreg : C02.register cfg use pattern = some r)
    (chk : C02.Constraint → Bytes → Bool) (orig : Bytes) : Ok (requestMatch chk cfg r orig) :=
  .bind_of_returns (configDependentPaths_spec _ _ _ _ orig) fun v hv =>
    route_match_total cfg use pattern r hreg chk v.2.1 v.1 hv

theorem rpmPaths_len (cfg : C02.Config) (path : Bytes) : (rpmPaths cfg path).2.length ≤ (rpmPaths cfg path).1.length :=
  detection_length_le _

/-- the public `RoutePatternMatch(path, pattern, cfg)`: whenever the pattern parses, matching any
    path against it panics nowhere -/
theorem routePatternMatch_total (chk : C02.Constraint → Bytes → Bool) (cfg : C02.Config) (path pattern : Bytes)
    (x : P Bool) (h : routePatternMatchC chk cfg path pattern = some x) : Ok x := by
  revert h
  fun_cases routePatternMatchC chk cfg path pattern with
  | case1 => nofun
  | case2 _ pp hpp =>
    rintro ⟨⟩
    exact .unless fun _ => .unless fun _ =>
      .when (fun _ => .bind_pure (getMatchC_total chk _ (parseRouteW_wf _ _ _ hpp) _ _ (rpmPaths_len cfg path) _ _))

-- non-vacuity: a pattern with constants, a parameter, an optional parameter and a wildcard registers,
-- and a request is matched with the values cut where expected
example : (C02.register {} false (b "/api/:user/files-:id?/*")).isSome = true := by
  repeat rw [b_ofList]
  decide +kernel
example : (C02.register {} false (b "/api/:user/files-:id?/*")).bind
    (fun r => match requestMatch (fun _ _ => true) {} r (b "/API/bob/files-7/a/b/") with
      | .ok v => v | .error _ => none) = some [b "bob", b "7", b "a/b"] := by
  repeat (conv in b _ => rw [b_ofList])
  decide +kernel

/-- path.go `CheckConstraint`: whatever data a pattern's constraint was written with (none, one,
    two, more items), the accesses `c.Data[0]` / `c.Data[1]` stay in range -/
theorem constraintData_total (id : C02.CType) (data : List Bytes) : Ok (constraintDataC id data) := by
  -- cases 1, 2: refused by the gate; 3-8: one datum behind the first gate; 9, 10: two behind the second; 11: none read
  fun_cases constraintDataC id data with
  | case1 | case2 | case11 => exact .pure _
  | case3 h1 | case4 h1 | case5 h1 | case6 h1 | case7 h1 | case8 h1 =>
    have : data.length ≠ 0 := fun hl => h1 ⟨rfl, hl⟩
    exact .bind_pure (idxL_ok (by omega))
  | case9 _ h2 | case10 _ h2 =>
    have : ¬ data.length < 2 := fun hl => h2 ⟨rfl, hl⟩
    exact .bind (idxL_ok (by omega)) fun _ => .bind_pure (idxL_ok (by omega))

end C07
