import FiberModel.C06.Spec
namespace C06
open B

theorem okImmutable_atom {r : Row} (hr : r.okImmutable = true) {ret : Ret} (hret : ret ∈ r.rets)
    (hreach : ret.reachableImmutable = true) {s : Src} (hs : s ∈ ret.srcs) (hobj : s ≠ .reqobj) :
    s.copiesWhenImmutable = true := by
  unfold Row.okImmutable at hr
  have h1 := List.all_eq_true.mp hr ret hret
  simp only [hreach, Bool.not_true, Bool.false_or, Bool.and_eq_true, List.all_eq_true] at h1
  rcases Bool.or_eq_true _ _ |>.mp (h1.2 s hs) with h | h
  · exact h
  · exact absurd (beq_iff_eq.mp (Bool.and_eq_true_iff.mp h).2) hobj

theorem yieldsText_atom {r : Row} (hr : r.yieldsText = true) {ret : Ret} (hret : ret ∈ r.rets)
    {s : Src} (hs : s ∈ ret.srcs) : s ≠ .unknown := by
  rintro rfl
  have h1 := Bool.and_eq_true_iff.mp (List.all_eq_true.mp hr ret hret)
  cases List.all_eq_true.mp h1.2 _ hs

theorem sub_read (v : Val) (off len : Nat) (st : Store) :
    (v.sub off len).read st = ((v.read st).drop off).take len := by
  cases v with
  | owned bs => rfl
  | view buf o l =>
    simp only [Val.sub, Val.read]
    rw [List.drop_take, List.drop_drop, List.take_take]

end C06
