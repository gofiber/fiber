import FiberModel.C06.Lemmas
import FiberModel.Generated.C06Facts
/-
C06 — property theorems (helper lemmas: Lemmas.lean). The table `C06.Facts.rows` is regenerated from the fiber sources by
translator/c06 on every check run; the four theorems marked **Obligation** are closed by evaluation over the
WHOLE table, so a source change that makes any accessor skip the copying conversion, write recycled
storage in place, hand a request object to an unknown binder (or that the translator cannot
classify) breaks the build of this module.
-/
namespace C06
open B

theorem owned_stable (st : Store) (h : List Overwrite) (bs : Bytes) :
    (Val.owned bs).read (st.after h) = (Val.owned bs).read st := rfl

/-- Despite the name: for every atom, not only views. Until the handler returns (no request has been served in between, so the storage is still
    `st`) every value – owned or view, either configuration – reads as the text it was taken from. -/
theorem view_valid_until_return (immutable : Bool) (st : Store) (site : Site) (s : Src) (v : Val)
    (hv : materialise immutable st site s = some v) : v.read st = expected st site s := by
  cases s with
  | imm => cases immutable <;> cases hv <;> rfl
  | reqobj | unknown => cases hv
  | _ => cases hv; rfl

theorem copying_atom_owned (st : Store) (site : Site) (s : Src) (hs : s.copiesWhenImmutable = true) :
    ∃ v, materialise true st site s = some v ∧ v.isOwned = true := by
  cases s with
  | owned | imm | arg => exact ⟨_, rfl, rfl⟩
  | alias | reqobj | unknown => cases hs

/-- **Obligation over the regenerated table.** Every accessor row (context methods, generic helpers,
    redirect readers, binder key/value extraction, binder sources, the conversion itself) returns,
    on every return site reachable with `Immutable` set, only through copying atoms. -/
theorem all_accessors_copy_when_immutable : Facts.rows.all Row.okImmutable = true := by decide +kernel

/-- **Obligation over the regenerated table** for the half without the option: every return site
    of every row is classified (no `unknown`). -/
theorem all_accessors_yield_text : Facts.rows.all Row.yieldsText = true := by decide +kernel

/-- **Obligation over the regenerated table.** Wherever a method of `Bind` hands a request or response
    object (not text) to a binder, the binder's own extraction – keys, values and the decoded data – is
    in the table too, hence (by `all_accessors_copy_when_immutable`) copying. This closes the one
    exception (`reqobj`) the main theorems make. -/
theorem bind_request_objects_extracted : Facts.rows.all (Row.bindCovered Facts.rows) = true := by decide +kernel

/-- What a copying atom yields under `Immutable` is owned, so no later history changes it. -/
theorem read_after_of_copying {s : Src} (hc : s.copiesWhenImmutable = true) (st : Store) (site : Site) (h : List Overwrite) :
    ∃ v, materialise true st site s = some v ∧ v.read (st.after h) = expected st site s := by
  obtain ⟨v, hm, ho⟩ := copying_atom_owned st site s hc
  refine ⟨v, hm, ?_⟩
  rw [← view_valid_until_return true st site s v hm]
  cases v with
  | owned bs => exact owned_stable st h bs
  | view => cases ho

/-- **Main theorem (Immutable half).** For every accessor of the regenerated table, every return
    site reachable with `Immutable` set, every atom it may yield, every state of the recycled storage
    at capture time and EVERY later history of overwrites: the value the handler obtained reads, after
    that history, exactly as the text it was taken from. -/
theorem immutable_values_stable (r : Row) (hr : r ∈ Facts.rows) (ret : Ret) (hret : ret ∈ r.rets)
    (hreach : ret.reachableImmutable = true) (s : Src) (hs : s ∈ ret.srcs) (hobj : s ≠ .reqobj)
    (st : Store) (site : Site) (h : List Overwrite) :
    ∃ v, materialise true st site s = some v ∧ v.read (st.after h) = expected st site s :=
  read_after_of_copying
    (okImmutable_atom (List.all_eq_true.mp all_accessors_copy_when_immutable r hr) hret hreach hs hobj) st site h

/-- **Main theorem (half without the option).** For every accessor of the table, every return site
    and atom, in either configuration: the value exists and is correct read in the store it was taken
    from (across accessor calls: `values_valid_across_accessor_calls`). -/
theorem values_valid_until_return (immutable : Bool) (r : Row) (hr : r ∈ Facts.rows) (ret : Ret)
    (hret : ret ∈ r.rets) (s : Src) (hs : s ∈ ret.srcs) (hobj : s ≠ .reqobj) (st : Store) (site : Site) :
    ∃ v, materialise immutable st site s = some v ∧ v.read st = expected st site s := by
  have hne := yieldsText_atom (List.all_eq_true.mp all_accessors_yield_text r hr) hret hs
  -- the cases of `materialise` are the atoms in order; only `reqobj` and `unknown`, the last two, denote no text
  fun_cases materialise immutable st site s
  case case5 => exact absurd rfl hobj
  case case6 => exact absurd rfl hne
  all_goals exact ⟨_, rfl, view_valid_until_return immutable st site _ _ rfl⟩

/-- **Obligation over the regenerated table.** No accessor (method of DefaultCtx / DefaultReq /
    DefaultRes, generic helper) writes recycled storage in place – context buffers reused through
    `append(f[:0], …)`, emptied containers, fasthttp mutators – apart from `Path` (on the handler's own
    override) and `Body` (installs and restores private copies). -/
theorem accessors_do_not_write_recycled_storage : Facts.rows.all Row.writesAllowed = true := by decide +kernel

theorem readOnly_trace_keeps_store (st : Store) (tr : List Step) (h : tr.all Step.isReadOnly = true) :
    st.afterSteps tr = st :=
  List.foldlRecOn (motive := (· = st)) tr _ rfl fun _ hst s hs => by
    cases s with
    | readOnlyCall => exact hst
    | otherCall ws => cases List.all_eq_true.mp h _ hs

/-- **Half without the option, across accessor calls.** In either configuration, a value obtained from
    any accessor of the table is still correct after the handler has called any number of read-only
    accessors (every row of the table except `Path` with an override and `Body`, by
    `accessors_do_not_write_recycled_storage`): it stays valid until the handler returns. -/
theorem values_valid_across_accessor_calls (immutable : Bool) (r : Row) (hr : r ∈ Facts.rows) (ret : Ret)
    (hret : ret ∈ r.rets) (s : Src) (hs : s ∈ ret.srcs) (hobj : s ≠ .reqobj) (st : Store) (site : Site)
    (tr : List Step) (htr : tr.all Step.isReadOnly = true) :
    ∃ v, materialise immutable st site s = some v ∧ v.read (st.afterSteps tr) = expected st site s := by
  obtain ⟨v, hm, hv⟩ := values_valid_until_return immutable r hr ret hret s hs hobj st site
  exact ⟨v, hm, by rw [readOnly_trace_keeps_store st tr htr, hv]⟩

/-- rows that are read-only outright: everything but `Path`, `Body` and their `Req.` twins -/
example : (Facts.rows.filter fun r => !r.readOnly).map (·.name) = ["Body", "Path", "Req.Body", "Req.Path"] := by decide +kernel
/-- a scratch buffer refilled by an accessor is rejected -/
example : (Row.mk .ctx "Cookies" [⟨.always, [.imm, .arg]⟩] ["scratch"]).writesAllowed = false := by decide +kernel
/-- without the read-only hypothesis the statement fails: a call that rewrites the buffer changes a view -/
example :
    let st : Store := fun _ => b "sid=alpha"
    (Val.view 0 4 5).read (st.afterSteps [.otherCall [⟨0, b "sid=omega"⟩]]) ≠ (Val.view 0 4 5).read st := by
  repeat rewrite [b_ofList]
  decide +kernel

/-- **Values derived from stable values are stable.** A sub-slice (substring, split piece, trimmed
    value) of a value that reads the same after a history reads the same after that history. -/
theorem derived_stable (v : Val) (off len : Nat) (st : Store) (h : List Overwrite)
    (hv : v.read (st.after h) = v.read st) :
    (v.sub off len).read (st.after h) = (v.sub off len).read st := by
  rw [sub_read, sub_read, hv]

/-- With `Immutable`, every value DERIVED by slicing from what an accessor of the table yields keeps
    its content after every later history. -/
theorem immutable_derived_values_stable (r : Row) (hr : r ∈ Facts.rows) (ret : Ret) (hret : ret ∈ r.rets)
    (hreach : ret.reachableImmutable = true) (s : Src) (hs : s ∈ ret.srcs) (hobj : s ≠ .reqobj)
    (st : Store) (site : Site) (h : List Overwrite) (off len : Nat) :
    ∃ v, materialise true st site s = some v ∧
      (v.sub off len).read (st.after h) = ((expected st site s).drop off).take len := by
  obtain ⟨v, hm, hv⟩ := immutable_values_stable r hr ret hret hreach s hs hobj st site h
  exact ⟨v, hm, by rw [sub_read, hv]⟩

example : ((Val.owned (b "front.test, back.test")).sub 0 10).read (fun _ => []) = b "front.test" := by
  repeat rewrite [b_ofList]
  decide +kernel

/-- A non-empty view that lies inside its buffer is NOT stable: some later history makes it read
    differently. So `Row.okImmutable` cannot be weakened – a return site that yields an `alias` atom
    (or an `imm` atom without the option) hands out a value a later request can change. -/
theorem view_not_stable (st : Store) (buf off len : Nat) (hlen : 0 < len) (hin : off < (st buf).length) :
    ∃ h : List Overwrite, (Val.view buf off len).read (st.after h) ≠ (Val.view buf off len).read st := by
  -- emptying the buffer: the view then reads nothing, before it read `min len (length - off) > 0` bytes
  refine ⟨[⟨buf, []⟩], fun heq => ?_⟩
  have h := congrArg List.length heq
  simp [Val.read, Store.after, Store.write] at h
  omega

/-- An `alias` atom under `Immutable` materialises as such a view. -/
theorem alias_atom_not_stable (st : Store) (site : Site) (hlen : 0 < site.len)
    (hin : site.off < (st site.buf).length) :
    ∃ v h, materialise true st site .alias = some v ∧ v.read (st.after h) ≠ v.read st := by
  obtain ⟨h, hh⟩ := view_not_stable st site.buf site.off site.len hlen hin
  exact ⟨_, h, rfl, hh⟩

example : ∃ h : List Overwrite, (Val.view 0 3 5).read (Store.after (fun _ => b "/u/alice") h)
    ≠ (Val.view 0 3 5).read (fun _ => b "/u/alice") :=
  view_not_stable (fun _ => b "/u/alice") 0 3 5 (by decide) (by rw [b_ofList]; decide)

/-- **The model meets the specification.** For every accessor of the regenerated table, every return
    site reachable in the configuration, every atom, storage state and later history, the observation
    of the value the model yields violates no clause of `specViolation` (correct, stable until return,
    and – with `Immutable` – unchanged after the history). -/
theorem model_meets_spec (immutable : Bool) (r : Row) (hr : r ∈ Facts.rows) (ret : Ret) (hret : ret ∈ r.rets)
    (hreach : immutable = true → ret.reachableImmutable = true) (s : Src) (hs : s ∈ ret.srcs)
    (hobj : s ≠ .reqobj) (st : Store) (site : Site) (h : List Overwrite) :
    ∃ v, materialise immutable st site s = some v ∧
      specViolation immutable (some [expected st site s]) (observeVal immutable st h v) = none := by
  cases immutable with
  | false =>
    obtain ⟨v, hm, hv⟩ := values_valid_until_return false r hr ret hret s hs hobj st site
    exact ⟨v, hm, by simp [specViolation, observeVal, hv]⟩
  | true =>
    obtain ⟨v, hm, hv'⟩ := immutable_values_stable r hr ret hret (hreach rfl) s hs hobj st site h
    have hv := view_valid_until_return true st site s v hm
    exact ⟨v, hm, by simp [specViolation, observeVal, hv, hv']⟩

/-- the oracle is not trivially satisfied: a value that changed after the history fails it -/
example : specViolation true (some [b "alice"]) ⟨[b "alice"], [b "alice"], some [b "bobby"]⟩ = some "immutable-stable" := by
  repeat rewrite [b_ofList]
  decide +kernel
example : specViolation false (some [b "alice"]) ⟨[b "alice"], [b "alicf"], none⟩ = some "stable-until-return" := by
  repeat rewrite [b_ofList]
  decide +kernel
example : specViolation true (some [b "alice"]) ⟨[b "alicf"], [b "alicf"], some [b "alicf"]⟩ = some "correct" := by
  repeat rewrite [b_ofList]
  decide +kernel

/-- The table is not empty and names the accessors of the property. -/
example : (Facts.rows.filter (·.kind == .ctx)).length ≥ 20 := by decide +kernel
example : (Facts.rows.map (·.name)).contains "Params" = true :=
  -- `Params` is one of the `generic` rows
  List.contains_iff_mem.mpr (((List.filter_sublist (p := (·.kind == .generic))).map _).mem (by decide +kernel))
example : (Facts.rows.map (·.name)).contains "Protocol" = true :=
  -- `Protocol` is one of the rows whose one return goes through `getString`
  List.contains_iff_mem.mpr (((List.filter_sublist (p := (·.rets == [⟨.always, [.imm]⟩]))).map _).mem (by decide +kernel))

/-- Sharpness: a view (what `alias`, or `imm` without the option, yields) DOES change when a later
    request overwrites its buffer – "alice" becomes "bobby" – while the owned copy does not. -/
example :
    let st : Store := fun _ => b "/u/alice"
    let site : Site := ⟨0, 3, 5, []⟩
    let h := [Overwrite.mk 0 (b "/u/bobby")]
    (materialise false st site .imm).map (·.read (st.after h)) = some (b "bobby") ∧
    (materialise true st site .imm).map (·.read (st.after h)) = some (b "alice") ∧
    (materialise true st site .alias).map (·.read (st.after h)) = some (b "bobby") := by
  repeat rewrite [b_ofList]
  decide +kernel

/-- `okImmutable` rejects a row that returns an alias on a reachable site, accepts it when that
    site is only reachable without the option. -/
example : (Row.mk .ctx "X" [⟨.always, [.imm, .alias]⟩] []).okImmutable = false := by decide +kernel
example : (Row.mk .ctx "X" [⟨.immOnly, [.owned]⟩, ⟨.mutOnly, [.alias]⟩] []).okImmutable = true := by decide +kernel
example : (Row.mk .ctx "X" [⟨.always, [.unknown]⟩] []).okImmutable = false := by decide +kernel
/-- a Bind method passing a request object to a binder the table does not know is not covered -/
example : (Row.mk .bind "Bind.Trailer:source" [⟨.always, [.reqobj]⟩] []).bindCovered Facts.rows = false := by decide +kernel
example : (Facts.rows.filter fun r => r.kind == .bind && r.rets.any fun ret => ret.srcs.contains .reqobj).length = 5 := by decide +kernel

end C06
