import FiberModel.C12.Lemmas
/-
C12 — the decode-cost counters at the level of a message and of the slot loop. Each follows the decoder
(same success / failure, same rest of the input), and together they are paid for by the bytes the decoder
consumes: bytes copied + primitive calls + bytes left ≤ bytes given, one failing call apart. The field
loop's share (`fieldsCopied_rest`, `fieldsReads_rest`, `fields_le`) is in Lemmas.lean, where `readFields_len`
is read off it.
-/
namespace C12
open B

theorem msgCopied_rest (z : Msg) (bs : Bytes) : (msgCopied bs).2 = (unmarshalMsg z bs).map (·.2) := by
  fun_cases unmarshalMsg z bs <;> simp [msgCopied, *, fieldsCopied_rest _ z]

theorem msgReads_rest (z : Msg) (bs : Bytes) : (msgReads bs).2 = (unmarshalMsg z bs).map (·.2) := by
  fun_cases unmarshalMsg z bs <;> simp [msgReads, *, fieldsReads_rest _ z]

theorem msg_le (bs : Bytes) :
    (msgCopied bs).1 + (msgReads bs).1 + restLen (msgReads bs).2 ≤ bs.length + failedCall (msgReads bs).2 := by
  fun_cases msgReads bs <;> simp only [msgCopied, *]
  case case1 => exact Nat.le_add_left 1 _
  case case2 n r h =>
    have := readMapHeader_lt h
    have := fields_le n r
    omega

/-- a counter over the slot loop leaves the decoder's rest if its message step does; `slotsCopied` and
    `slotsReads` are the two instances of the recursion `hS` -/
theorem slotsLoop_rest {S : Nat → Bytes → Nat × Option Bytes} {M : Bytes → Nat × Option Bytes}
    (h0 : ∀ bs, S 0 bs = (0, some bs))
    (hS : ∀ n bs, S (n + 1) bs =
      match M bs with
      | (c, none) => (c, none)
      | (c, some r) => (c + (S n r).1, (S n r).2))
    (hM : ∀ z bs, (M bs).2 = (unmarshalMsg z bs).map (·.2)) (slots : List Msg) (bs : Bytes) :
    (S slots.length bs).2 = (unmarshalSlots slots bs).map (·.2) := by
  induction slots generalizing bs with
  | nil => rw [List.length_nil, h0]; rfl
  | cons z zs ih =>
    rw [List.length_cons, hS, unmarshalSlots]
    have h := hM z bs
    generalize M bs = p at h ⊢
    obtain ⟨c, o⟩ := p
    cases hm : unmarshalMsg z bs with
    | none => rw [hm] at h; cases h; rfl
    | some p =>
      rw [hm] at h; cases h
      simp only [ih p.2]
      cases unmarshalSlots zs p.2 <;> rfl

theorem slots_le (n : Nat) (bs : Bytes) :
    (slotsCopied n bs).1 + (slotsReads n bs).1 + restLen (slotsReads n bs).2 ≤
      bs.length + failedCall (slotsReads n bs).2 := by
  induction n generalizing bs with
  | zero => exact Nat.le_of_eq (Nat.zero_add _)
  | succ n ih =>
    rw [slotsCopied, slotsReads]
    have h := msg_le bs
    -- both counters stop or go on together: each leaves the rest the decoder leaves
    have e : (msgCopied bs).2 = (msgReads bs).2 := (msgCopied_rest Msg.zero bs).trans (msgReads_rest Msg.zero bs).symm
    generalize msgCopied bs = p at h e ⊢
    generalize msgReads bs = q at h e ⊢
    obtain ⟨c, o⟩ := p
    obtain ⟨k, _ | r⟩ := q <;> cases e
    · exact h
    · have := ih r
      simp only [restLen, failedCall] at h
      dsimp only; omega

end C12
