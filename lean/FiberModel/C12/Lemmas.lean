import FiberModel.C12.Spec
/-
C12 — the codec: what every msgpack reader consumes, write/read round trips, the field loop accounted
through its two cost counters (the decoder's own length bounds are read off that), the slot decoder on
zeroed slots as the stateless reference decoder, and what `parseAndClear` leaves in the reused slice.
-/
namespace C12
open B

theorem takeExact_split {n : Nat} {bs v r : Bytes} (h : takeExact n bs = some (v, r)) :
    v.length + r.length = bs.length := by
  revert h
  fun_cases takeExact n bs <;> intro h <;> cases h
  simp only [List.length_take, List.length_drop]; omega

/-! What each reader consumes. The case analysis is the reader's own (`fun_cases`): a branch that refuses has
    `none = some _` for hypothesis, a branch that reads hands over its payload reader's result or its own rest.
    `cases` must not meet an equation that mentions a 32-bit length (`x * 16777216 + ..`): reducing it runs out of
    recursion depth. Hence the payload branches are tried first below, and the two header readers and `getSize`
    take their results apart by `simp only`. -/

theorem readString_split {bs v r : Bytes} (h : readString bs = some (v, r)) :
    v.length + r.length < bs.length := by
  revert h
  fun_cases readString bs <;> intro h <;>
    first | (have := takeExact_split h; simp only [List.length_cons]; omega) | cases h

theorem readBin_split {bs v r : Bytes} (h : readBin bs = some (v, r)) :
    v.length + r.length < bs.length := by
  revert h
  fun_cases readBin bs <;> intro h <;>
    first | (have := takeExact_split h; simp only [List.length_cons]; omega) | cases h

theorem readMapKey_lt {bs v r : Bytes} (h : readMapKey bs = some (v, r)) : r.length < bs.length := by
  revert h
  fun_cases readMapKey bs <;> intro h
  · cases h
  · have := readBin_split h; omega
  · have := readString_split h; omega

theorem readUint8_lt {bs r : Bytes} {v : Nat} (h : readUint8 bs = some (v, r)) : r.length < bs.length := by
  revert h
  fun_cases readUint8 bs <;> intro h <;> cases h <;> simp only [List.length_drop, List.length_cons] <;> omega

theorem readBool_lt {bs r : Bytes} {v : Bool} (h : readBool bs = some (v, r)) : r.length < bs.length := by
  revert h
  fun_cases readBool bs <;> intro h <;> cases h <;> exact Nat.lt_succ_self _

theorem readMapHeader_lt {bs r : Bytes} {n : Nat} (h : readMapHeader bs = some (n, r)) :
    r.length < bs.length := by
  revert h
  fun_cases readMapHeader bs <;> simp only [reduceCtorEq, Option.some.injEq, Prod.mk.injEq, false_imp_iff, and_imp] <;>
    intro _ h <;> subst h <;> simp only [List.length_cons] <;> omega

theorem readArrayHeader_lt {bs r : Bytes} {n : Nat} (h : readArrayHeader bs = some (n, r)) :
    r.length < bs.length := by
  revert h
  fun_cases readArrayHeader bs <;> simp only [reduceCtorEq, Option.some.injEq, Prod.mk.injEq, false_imp_iff, and_imp] <;>
    intro _ h <;> subst h <;> simp only [List.length_cons] <;> omega

theorem getSize_pos {bs : Bytes} {sz nested : Nat} (h : getSize bs = some (sz, nested)) : 1 ≤ sz := by
  revert h
  -- every branch returns `none`, or `some (k, _)` or `some (k + _, _)` with a literal `k ≥ 1`
  fun_cases getSize bs <;> simp only [reduceCtorEq, Option.some.injEq, Prod.mk.injEq, false_imp_iff, and_imp] <;>
    intro h _ <;> subst h <;> first | decide | exact Nat.le_add_right_of_le (by decide)

theorem takeExact_append (s rest : Bytes) : takeExact s.length (s ++ rest) = some (s, rest) := by
  simp [takeExact]

theorem be16_value {n : Nat} (h : n < 65536) : n / 256 % 256 * 256 + n % 256 = n := by omega

theorem be32_value {n : Nat} (h : n < 4294967296) :
    n / 16777216 % 256 * 16777216 + n / 65536 % 256 * 65536 + n / 256 % 256 * 256 + n % 256 = n := by
  rw [Nat.mod_eq_of_lt (Nat.div_lt_of_lt_mul h)]
  omega

theorem readString_appendString (s rest : Bytes) (h : s.length < 4294967296) :
    readString (appendString s ++ rest) = some (s, rest) := by
  -- the four widths of the writer; its `let n := s.length` arrives as a local definition, hence `zetaDelta`
  fun_cases appendString s
  · have : 160 ≤ 160 + s.length ∧ 160 + s.length ≤ 191 := by omega
    simp +zetaDelta only [List.cons_append, readString, this, and_self, if_true, Nat.add_sub_cancel_left, takeExact_append]
  · simp +zetaDelta [readString, takeExact_append]
  · simp +zetaDelta [readString, be16, be16_value ‹_ < 65536›, takeExact_append]
  · simp +zetaDelta [readString, be32, be32_value h, takeExact_append]

theorem readUint8_appendUint8 (u : Nat) (rest : Bytes) (h : u < 256) :
    readUint8 (appendUint8 u ++ rest) = some (u, rest) := by
  fun_cases appendUint8 u
  · simp [‹u < 128›, readUint8]
  · simp [readUint8, beNat, uintWidth, uintSigned]
    -- left: the overflow test `u ≤ 255`
    omega

theorem readBool_appendBool (v : Bool) (rest : Bytes) :
    readBool (appendBool v ++ rest) = some (v, rest) := by
  cases v <;> rfl

theorem readArrayHeader_append (n : Nat) (rest : Bytes) (h : n < 4294967296) :
    readArrayHeader (appendArrayHeader n ++ rest) = some (n, rest) := by
  fun_cases appendArrayHeader n
  · have : 144 ≤ 144 + n ∧ 144 + n ≤ 159 := by omega
    simp [readArrayHeader, this]
  · simp [readArrayHeader, be16, be16_value ‹_ < 65536›]
  · simp [readArrayHeader, be32, be32_value h]

/-- a message whose fields fit the wire format: string lengths below 2^32, level a byte -/
def Msg.valid (m : Msg) : Prop := m.key.length < 4294967296 ∧ m.value.length < 4294967296 ∧ m.level < 256

-- `lead` is a variable so that the literal lead bytes of `encodeMsg` (163, 165, 170) match without computing `160 + k.length`
theorem readMapKey_fixstr (k rest : Bytes) (lead : Nat) (hl : lead = 160 + k.length) (hk : k.length < 32) :
    readMapKey (lead :: (k ++ rest)) = some (k, rest) := by
  subst hl
  have h1 : ¬(160 + k.length = 196 ∨ 160 + k.length = 197 ∨ 160 + k.length = 198) := by omega
  have h2 : 160 ≤ 160 + k.length ∧ 160 + k.length ≤ 191 := by omega
  simp only [readMapKey, h1, if_false, readString, h2, and_self, if_true, Nat.add_sub_cancel_left,
    takeExact_append]

theorem readFields_key (n : Nat) (z : Msg) (s rest : Bytes) (h : s.length < 4294967296) :
    readFields (n + 1) z (163 :: (kKey ++ (appendString s ++ rest))) = readFields n { z with key := s } rest := by
  rw [readFields, readMapKey_fixstr kKey _ 163 (by decide) (by decide)]
  simp only [if_true]
  rw [readString_appendString _ _ h]

theorem readFields_value (n : Nat) (z : Msg) (s rest : Bytes) (h : s.length < 4294967296) :
    readFields (n + 1) z (165 :: (kValue ++ (appendString s ++ rest))) = readFields n { z with value := s } rest := by
  rw [readFields, readMapKey_fixstr kValue _ 165 (by decide) (by decide)]
  simp only [show kValue ≠ kKey by decide, if_false, if_true]
  rw [readString_appendString _ _ h]

theorem readFields_level (n : Nat) (z : Msg) (u : Nat) (rest : Bytes) (h : u < 256) :
    readFields (n + 1) z (165 :: (kLevel ++ (appendUint8 u ++ rest))) = readFields n { z with level := u } rest := by
  rw [readFields, readMapKey_fixstr kLevel _ 165 (by decide) (by decide)]
  simp only [show kLevel ≠ kKey by decide, show kLevel ≠ kValue by decide, if_false, if_true]
  rw [readUint8_appendUint8 _ _ h]

theorem readFields_old (n : Nat) (z : Msg) (v : Bool) (rest : Bytes) :
    readFields (n + 1) z (170 :: (kOld ++ (appendBool v ++ rest))) = readFields n { z with old := v } rest := by
  rw [readFields, readMapKey_fixstr kOld _ 170 (by decide) (by decide)]
  simp only [show kOld ≠ kKey by decide, show kOld ≠ kValue by decide, show kOld ≠ kLevel by decide,
    if_false, if_true]
  rw [readBool_appendBool]

theorem unmarshalMsg_encodeMsg (z m : Msg) (rest : Bytes) (hv : m.valid) :
    unmarshalMsg z (encodeMsg m ++ rest) = some (m, rest) := by
  unfold unmarshalMsg encodeMsg
  simp only [List.cons_append, List.nil_append, List.append_assoc]
  exact (readFields_key 3 z _ _ hv.1).trans <| (readFields_value 2 _ _ _ hv.2.1).trans <|
    (readFields_level 1 _ _ _ hv.2.2).trans (readFields_old 0 _ _ _)

theorem parseMsgs_encodeMsgs (ms : List Msg) (rest : Bytes) (hv : ∀ m ∈ ms, m.valid) :
    parseMsgs ms.length (encodeMsgs ms ++ rest) = some (ms, rest) := by
  induction ms with
  | nil => rfl
  | cons m ms ih =>
    simp only [List.length_cons, parseMsgs, encodeMsgs, List.append_assoc]
    rw [unmarshalMsg_encodeMsg _ _ _ (hv m (by simp))]
    dsimp only
    rw [ih (fun x hx => hv x (by simp [hx]))]

theorem unmarshalSlots_zero (n : Nat) (bs : Bytes) :
    unmarshalSlots (List.replicate n Msg.zero) bs = parseMsgs n bs := by
  fun_induction parseMsgs n bs <;> simp [unmarshalSlots, List.replicate_succ, *]

/-! The field loop, accounted through its two counters. `fieldsCopied` and `fieldsReads` branch on the same
    tests as `readFields`, so they follow it case by case. Every byte of the input pays for at most one
    unit of work: the lead byte of an object pays for the call that reads it, the payload bytes of a string
    pay for its copy; only a failing call, the last one, is not paid for. In particular what is left fits
    the input. -/

def restLen : Option Bytes → Nat
  | none => 0
  | some r => r.length

def failedCall : Option Bytes → Nat
  | none => 1
  | some _ => 0

theorem failedCall_le_one (o : Option Bytes) : failedCall o ≤ 1 := by cases o <;> simp [failedCall]

theorem skipReads_rest (fuel pending : Nat) (bs : Bytes) :
    (skipReads fuel pending bs).2 = skipObjs fuel pending bs := by
  fun_induction skipObjs fuel pending bs <;> simp [skipReads, *]

theorem skipReads_skip (r : Bytes) : (skipReads (r.length + 1) 1 r).2 = skip r := skipReads_rest _ _ r

theorem skipReads_le (fuel pending : Nat) (bs : Bytes) :
    (skipReads fuel pending bs).1 + restLen (skipReads fuel pending bs).2 ≤
      bs.length + failedCall (skipReads fuel pending bs).2 := by
  fun_induction skipReads fuel pending bs with
  | case1 => exact Nat.le_of_eq (Nat.zero_add _)
  | case2 => exact Nat.zero_le _                                          -- out of fuel
  | case3 | case4 => exact Nat.le_add_left 1 _                            -- `getSize` failed / object cut short
  | case5 _ _ bs sz _ hg _ ih =>
    have := getSize_pos hg
    simp only [List.length_drop] at ih
    dsimp only; omega

theorem skipObjs_len {fuel pending : Nat} {bs r : Bytes} (h : skipObjs fuel pending bs = some r) :
    r.length ≤ bs.length := by
  have := skipReads_le fuel pending bs
  rw [skipReads_rest, h] at this
  exact Nat.le_trans (Nat.le_add_left ..) this

theorem fieldsCopied_rest (n : Nat) (z : Msg) (bs : Bytes) :
    (fieldsCopied n bs).2 = (readFields n z bs).map (·.2) := by
  fun_induction readFields n z bs <;> simp [fieldsCopied, *]

theorem fieldsReads_rest (n : Nat) (z : Msg) (bs : Bytes) :
    (fieldsReads n bs).2 = (readFields n z bs).map (·.2) := by
  fun_induction readFields n z bs <;> simp [fieldsReads, skipReads_skip, *]

theorem fields_le (n : Nat) (bs : Bytes) :
    (fieldsCopied n bs).1 + (fieldsReads n bs).1 + restLen (fieldsReads n bs).2 ≤
      bs.length + failedCall (fieldsReads n bs).2 := by
  -- walk along `fieldsReads`; `fieldsCopied` takes the same branch, by the tests the walk has named
  fun_induction fieldsReads n bs <;> simp only [fieldsCopied, ↓reduceIte, ← skipReads_skip, *]
  case case1 => exact Nat.le_of_eq (Nat.zero_add _)
  case case2 => exact Nat.le_add_left 1 _                                 -- the key read failed
  case case3 hk _ _ | case5 hk _ | case7 hk _ _ =>                        -- the value read failed
    have := readMapKey_lt hk; simp only [restLen, failedCall]; omega
  case case4 hk _ _ _ hv ih =>                                            -- `key` / `value`
    have := readMapKey_lt hk; have := readString_split hv; omega
  case case6 hv hk _ ih =>                                                -- `level`
    have := readMapKey_lt hk; have := readUint8_lt hv; omega
  case case8 hv hk _ _ ih =>                                              -- `isOldInput`
    have := readMapKey_lt hk; have := readBool_lt hv; omega
  case case9 r' hk _ _ _ hv =>                                            -- unknown key: `Skip` failed
    have := readMapKey_lt hk; have hsk := skipReads_le (r'.length + 1) 1 r'
    rw [hv] at hsk; simp only [restLen, failedCall] at hsk ⊢; omega
  case case10 r' hk _ _ _ _ hv ih =>                                      -- unknown key: `Skip` succeeded
    have := readMapKey_lt hk; have hsk := skipReads_le (r'.length + 1) 1 r'
    rw [hv] at hsk; simp only [restLen, failedCall] at hsk; omega

theorem readFields_len {n : Nat} {z m : Msg} {bs r : Bytes} (h : readFields n z bs = some (m, r)) :
    r.length ≤ bs.length := by
  have := fields_le n bs
  rw [fieldsReads_rest n z, h] at this
  exact Nat.le_trans (Nat.le_add_left ..) this

theorem unmarshalMsg_lt {z m : Msg} {bs r : Bytes} (h : unmarshalMsg z bs = some (m, r)) :
    r.length < bs.length := by
  revert h
  fun_cases unmarshalMsg z bs <;> intro h
  · cases h
  · have := readMapHeader_lt ‹_›
    have := readFields_len h
    omega

theorem unmarshalSlots_len {slots ms : List Msg} {bs r : Bytes} (h : unmarshalSlots slots bs = some (ms, r)) :
    ms.length = slots.length ∧ r.length + slots.length ≤ bs.length := by
  revert h
  fun_induction unmarshalSlots slots bs generalizing ms r <;> intro h <;> cases h
  · exact ⟨rfl, Nat.le_refl _⟩
  · rename_i hm _ _ hp ih
    have := unmarshalMsg_lt hm
    have := ih hp
    simp only [List.length_cons]; omega

theorem parseMsgs_len {n : Nat} {bs r : Bytes} {ms : List Msg} (h : parseMsgs n bs = some (ms, r)) :
    ms.length = n ∧ r.length + n ≤ bs.length := by
  rw [← unmarshalSlots_zero] at h
  simpa only [List.length_replicate] using unmarshalSlots_len h

theorem Slice.wipe_cap (s : Slice) : s.wipe.cap = s.cap := List.length_replicate ..

theorem slotsFor_wipe (s : Slice) (n : Nat) : (slotsFor s.wipe n).1 = List.replicate n Msg.zero := by
  unfold slotsFor
  split
  · rename_i hcap
    rw [Slice.wipe_cap] at hcap
    simp [Slice.wipe, List.take_replicate, Nat.min_eq_left hcap]
  · rfl

theorem slotsFor_alloc (s : Slice) (n : Nat) : (slotsFor s n).2.2 ≤ n * msgSize := by
  unfold slotsFor; split <;> simp

theorem slotsFor_total (s : Slice) (n : Nat) :
    (slotsFor s n).1.length = n ∧ (slotsFor s n).1.length + (slotsFor s n).2.1.length ≤ max s.cap n := by
  unfold slotsFor
  split
  · rename_i h; simp only [Slice.cap] at h ⊢; simp; omega
  · simp; omega

theorem unmarshalSlots_length (slots ms : List Msg) (bs r : Bytes)
    (h : unmarshalSlots slots bs = some (ms, r)) : ms.length = slots.length :=
  (unmarshalSlots_len h).1

theorem unmarshalMsgs_wipe (s : Slice) (cookie body : Bytes) (n : Nat)
    (hh : readArrayHeader cookie = some (n, body)) :
    unmarshalMsgs s.wipe cookie =
      match parseMsgs n body with
      | none => (⟨List.replicate n Msg.zero ++ (slotsFor s.wipe n).2.1, n⟩, none, (slotsFor s.wipe n).2.2)
      | some (ms, r') => (⟨ms ++ (slotsFor s.wipe n).2.1, n⟩, some r', (slotsFor s.wipe n).2.2) := by
  unfold unmarshalMsgs
  simp only [hh, slotsFor_wipe, unmarshalSlots_zero]
  cases parseMsgs n body <;> rfl

/-- All the property theorems need of `parseAndClear` on one cookie, for every state `s` of the pooled slice.
    Only the empty cookie needs `s.len = 0`: it leaves the slice as it was, every other cookie has it wiped first. -/
structure ParseSpec (s : Slice) (cookie : Bytes) : Prop where
  expire : (parseAndClear s cookie).expire = decide (cookie ≠ [])
  messages : s.len = 0 → (parseAndClear s cookie).messages = expectedSeen cookie
  alloc : (parseAndClear s cookie).alloc ≤ msgSize * cookie.length
  cap : (parseAndClear s cookie).slice.cap ≤ max s.cap cookie.length

theorem parseAndClear_spec (s : Slice) (cookie : Bytes) : ParseSpec s cookie := by
  by_cases hc : cookie = []
  · subst hc
    -- the empty cookie leaves the slice alone: its messages are `s.elems.take s.len`, and `expectedSeen [] = []`
    exact ⟨rfl, fun hs => (hs ▸ rfl : List.take s.len s.elems = []), Nat.zero_le _, Nat.le_max_left _ _⟩
  -- one case analysis of `parseAndClear` for the four facts
  suffices h : (parseAndClear s cookie).expire = true ∧ (parseAndClear s cookie).messages = expectedSeen cookie ∧
      (parseAndClear s cookie).alloc ≤ msgSize * cookie.length ∧
      (parseAndClear s cookie).slice.cap ≤ max s.cap cookie.length from
    ⟨h.1.trans (decide_eq_true hc).symm, fun _ => h.2.1, h.2.2.1, h.2.2.2⟩
  have hw : (List.replicate s.cap Msg.zero).length ≤ max s.cap cookie.length := by
    rw [List.length_replicate]; exact Nat.le_max_left _ _
  unfold parseAndClear expectedSeen parse
  simp only [hc, if_false]
  cases hh : readArrayHeader cookie with
  | none => exact ⟨rfl, rfl, Nat.zero_le _, hw⟩
  | some p =>
    obtain ⟨n, body⟩ := p
    have hb := readArrayHeader_lt hh
    dsimp only
    by_cases hn : n > body.length
    · have : parseMsgs n body = none := by
        cases hp : parseMsgs n body with
        | none => rfl
        | some q => have := (parseMsgs_len hp).2; omega
      rw [if_pos hn, this]
      exact ⟨rfl, rfl, Nat.zero_le _, hw⟩
    · rw [if_neg hn, unmarshalMsgs_wipe s cookie body n hh]
      have ha : (slotsFor s.wipe n).2.2 ≤ msgSize * cookie.length :=
        Nat.le_trans (slotsFor_alloc _ n) (Nat.mul_comm .. ▸ Nat.mul_le_mul_left _ (by omega))
      have ht := (slotsFor_total s.wipe n).2
      rw [slotsFor_wipe, List.length_replicate, Slice.wipe_cap] at ht
      have hz : ∀ l : List Msg, l.length = n →
          (List.replicate (l ++ (slotsFor s.wipe n).2.1).length Msg.zero).length ≤ max s.cap cookie.length := by
        intro l hl; rw [List.length_replicate, List.length_append, hl]; omega
      cases hp : parseMsgs n body with
      | none => exact ⟨rfl, rfl, ha, hz _ List.length_replicate⟩
      | some q =>
        obtain ⟨ms, r⟩ := q
        have hlen := (parseMsgs_len hp).1
        cases r with
        | nil =>
          refine ⟨rfl, ?_, ha, ?_⟩
          · subst hlen; exact List.take_left' rfl
          · show (ms ++ _).length ≤ _
            rw [List.length_append, hlen]; omega
        | cons x xs => exact ⟨rfl, rfl, ha, hz _ hlen⟩

end C12
