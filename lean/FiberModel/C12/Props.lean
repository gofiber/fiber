import FiberModel.C12.Known
import FiberModel.C12.Script
import FiberModel.C12.Cost
/-
C12 — property theorems. `s : Slice` is the reused `ctx.flashMessages` with ARBITRARY
leftover elements and capacity; `s.len = 0` is the state in which every request finds it
(`release` re-slices to `[:0]`, a fresh context has a nil slice).
-/
namespace C12
open B

/-- The decoder of the model is the stateless reference decoder: whatever the pooled slice held
    before, the handler sees exactly `parse cookie` (and nothing when the cookie is malformed). -/
theorem parseAndClear_refines_spec (s : Slice) (cookie : Bytes) (hs : s.len = 0) :
    (parseAndClear s cookie).messages = expectedSeen cookie :=
  (parseAndClear_spec s cookie).messages hs

/-- Two contexts with different histories show the same messages for the same cookie. -/
theorem decode_independent_of_leftovers (s s' : Slice) (cookie : Bytes) (hs : s.len = 0) (hs' : s'.len = 0) :
    (parseAndClear s cookie).messages = (parseAndClear s' cookie).messages := by
  rw [parseAndClear_refines_spec s cookie hs, parseAndClear_refines_spec s' cookie hs']

example : (parseAndClear ⟨[⟨b "secret", b "previous user", 3, false⟩], 0⟩ [145, 128]).messages = [Msg.zero] := by decide +kernel

/-- A cookie that is not a complete well-formed encoding yields no messages (no partial results, no
    leftovers). -/
theorem malformed_yields_none (s : Slice) (cookie : Bytes) (hs : s.len = 0) (h : parse cookie = none) :
    (parseAndClear s cookie).messages = [] := by
  rw [parseAndClear_refines_spec s cookie hs]; simp [expectedSeen, h]

-- two messages announced, the second one cut short: nothing is delivered
example : parse ([146] ++ encodeMsg ⟨b "k", b "v", 65, false⟩ ++ [132, 163]) = none := by decide +kernel

theorem parse_encode (ms : List Msg) (hv : ∀ m ∈ ms, m.valid) (hn : ms.length < 4294967296) :
    parse (encode ms) = some ms := by
  unfold parse encode
  rw [readArrayHeader_append _ _ hn]
  have := parseMsgs_encodeMsgs ms [] hv
  simp only [List.append_nil] at this
  simp [this]

/-- For every leftover state of the pooled slice, decoding what `processFlashMessages` encoded gives
    back the messages, all keys / values / levels. -/
theorem decode_encode (s : Slice) (ms : List Msg) (hs : s.len = 0)
    (hv : ∀ m ∈ ms, m.valid) (hn : ms.length < 4294967296) :
    (parseAndClear s (encode ms)).messages = ms := by
  rw [parseAndClear_refines_spec s _ hs]; simp [expectedSeen, parse_encode ms hv hn]

example : (parseAndClear ⟨[⟨b "x", b "y", 1, true⟩, Msg.zero], 0⟩
    (encode [⟨b "success", [0, 13, 10, 59, 255], 0, false⟩, ⟨b "name", b "tom", 0, true⟩])).messages =
    [⟨b "success", [0, 13, 10, 59, 255], 0, false⟩, ⟨b "name", b "tom", 0, true⟩] := by
  repeat rw [b_ofList]
  decide +kernel

/-- The element array allocated while decoding is at most `msgSize` (40)
    bytes per byte of cookie, whatever count the array header announces — the 5-byte cookie
    `dd ff ff ff ff` (2^32-1 messages announced) allocates nothing, see the example below. -/
theorem decode_alloc_linear (s : Slice) (cookie : Bytes) :
    (parseAndClear s cookie).alloc ≤ msgSize * cookie.length :=
  (parseAndClear_spec s cookie).alloc

example : (parseAndClear Slice.empty [221, 255, 255, 255, 255]).alloc = 0 := by decide +kernel

/-- Every byte of the cookie pays for at most one unit of the decoder's work, a byte copied into a fresh string
    or a call of a msgp primitive; not paid for are the two reads of the array header (the count bound and
    `UnmarshalMsg` each read it; its byte covers the one call that may fail). -/
theorem decode_work_linear (cookie : Bytes) : copiedBytes cookie + (decodeReads cookie - 2) ≤ cookie.length := by
  fun_cases decodeReads cookie <;> simp only [copiedBytes, ↓reduceIte, *]
  case case4 n body hh _ =>
    have := slots_le n body
    have := failedCall_le_one (slotsReads n body).2
    have := readArrayHeader_lt hh
    omega
  all_goals exact Nat.zero_le _

/-- The bytes copied into fresh strings while decoding (every `key` / `value`
    field read, repeated fields and the reads before a decode error included) add up to at most the
    length of the cookie: each copy is a sub-slice of the cookie and the sub-slices are disjoint. -/
theorem decode_copy_linear (cookie : Bytes) : copiedBytes cookie ≤ cookie.length :=
  Nat.le_trans (Nat.le_add_right ..) (decode_work_linear cookie)

-- two messages, the second with a `value` field that is cut short: 1 + 2 + 1 bytes were copied
example : copiedBytes ([146] ++ encodeMsg ⟨b "k", b "vv", 65, false⟩ ++ [131, 163] ++ kKey ++ [161, 120, 165] ++ kValue ++ [162, 121]) = 4 := by decide +kernel
example : copiedBytes (encode [⟨b "success", b "saved", 0, false⟩, ⟨b "name", b "tom", 0, true⟩]) = 19 := by
  repeat rw [b_ofList]
  decide +kernel

/-- The copy counter walks the cookie as the decoder does: for every state of the slots decoded into
    it succeeds / fails where `UnmarshalMsg` does and leaves the same rest. -/
theorem copied_follows_decoder (slots : List Msg) (bs : Bytes) :
    (slotsCopied slots.length bs).2 = (unmarshalSlots slots bs).map (·.2) :=
  slotsLoop_rest (fun _ => rfl) (fun _ _ => rfl) msgCopied_rest slots bs

/-- Element array plus string copies — all the memory the decoder allocates
    for a cookie — is at most 41 bytes per byte of cookie, for every state of the pooled slice. -/
theorem decode_memory_linear (s : Slice) (cookie : Bytes) :
    (parseAndClear s cookie).alloc + copiedBytes cookie ≤ (msgSize + 1) * cookie.length := by
  have h1 := decode_alloc_linear s cookie
  have h2 := decode_copy_linear cookie
  rw [Nat.add_mul, Nat.one_mul]
  omega

example : (parseAndClear Slice.empty [220, 255, 255]).alloc + copiedBytes [220, 255, 255] = 0 := by decide +kernel

/-- The decoder makes at most `len(cookie) + 2` calls of msgp primitives
    (`ReadArrayHeaderBytes` twice, `ReadMapHeaderBytes`, `ReadMapKeyZC`, `ReadStringBytes`,
    `ReadUint8Bytes`, `ReadBoolBytes`, one `getSize` per object `Skip` visits): every successful call
    consumes at least one byte of the cookie and a failing call is the last one. Each call does
    constant work plus work proportional to the bytes it consumes, so the decoding loop is linear in
    the cookie; what is NOT covered is `clear(old)`, proportional to the retained capacity
    (`cap_bounded`: at most the longest cookie this context has seen). -/
theorem decode_reads_linear (cookie : Bytes) : decodeReads cookie ≤ cookie.length + 2 := by
  have := decode_work_linear cookie
  omega

-- a map that announces 2^32-1 entries and nested arrays as an unknown field's value
example : decodeReads [145, 223, 255, 255, 255, 255, 161, 120, 147, 145, 144, 144, 192] = 10 := by decide +kernel

theorem reads_follow_decoder (slots : List Msg) (bs : Bytes) :
    (slotsReads slots.length bs).2 = (unmarshalSlots slots bs).map (·.2) :=
  slotsLoop_rest (fun _ => rfl) (fun _ _ => rfl) msgReads_rest slots bs

/-- one request leaves the capacity retained in the pooled context at most the larger of what it found and
    the length of its cookie: from a fresh context on it never exceeds the longest cookie seen -/
theorem cap_bounded (s : Slice) (cookie : Bytes) :
    (parseAndClear s cookie).slice.cap ≤ max s.cap cookie.length :=
  (parseAndClear_spec s cookie).cap

/-- The first byte of every issued cookie value is a msgpack array header (≥ 0x90), which is not a
    cookie-octet: **no** non-empty message set is wire safe. This is known finding K1; the
    full-strength statement `wire_safe : ∀ ms, ms ≠ [] → wireSafe (encode ms)` is false. -/
theorem wire_safe_fails_everywhere (ms : List Msg) : wireSafe (encode ms) = false := by
  have key : ∀ (x : Nat) (t : Bytes), x ≥ 127 → wireSafe (x :: t) = false := by
    intro x t hx
    have : cookieOctet x = false := by simp [cookieOctet]; omega
    simp [wireSafe, this]
  unfold encode
  fun_cases appendArrayHeader ms.length <;> exact key _ _ (by omega)

theorem wire_safe_witness_K1 :
    ¬ (∀ ms : List Msg, ms ≠ [] → wireSafe (encode ms) = true) := by
  intro h
  have := h [⟨b "k", b "v", 65, false⟩] (by simp)
  rw [wire_safe_fails_everywhere] at this
  exact Bool.noConfusion this

theorem issue_eq_none_iff (ms : List Msg) : issue ms = none ↔ ms = [] := by
  unfold issue
  split <;> simp [*]

/-- the K1 region for a conforming client is exactly "a cookie is issued" -/
theorem K1_conforming_iff (ms : List Msg) : Known.K1 false ms = true ↔ ms ≠ [] := by
  simp [Known.K1, wire_safe_fails_everywhere]

/-- requests without the cookie see none, whatever the pooled context held -/
theorem no_cookie_no_messages (pool : Slice) (hp : pool.len = 0) :
    (serve pool [] []).1 = [] ∧ (serve pool [] []).2.2 = none :=
  ⟨(parseAndClear_spec pool []).messages hp, by simp [serve, issue, (parseAndClear_spec pool []).expire]⟩

/-- Outside K1 (nothing attached to the redirect) no cookie is issued, and a
    request without cookie sees no messages. -/
theorem wire_safe_partial (pool : Slice) (ms : List Msg) (hp : pool.len = 0) (hk : Known.K1 false ms = false) :
    issue ms = none ∧ (serve pool [] []).1 = [] := by
  have : ms = [] := Decidable.byContradiction fun h => by rw [(K1_conforming_iff ms).2 h] at hk; cases hk
  subst this
  exact ⟨rfl, (no_cookie_no_messages pool hp).1⟩

theorem sanitize_of_transparentSafe (v : Bytes) (h : transparentSafe v = true) : sanitize v = v := by
  -- of the six conjuncts of `transparentSafe` only the first is needed: a valid header-value byte is neither CR nor LF
  simp only [transparentSafe, Bool.and_eq_true, List.all_eq_true] at h
  obtain ⟨⟨⟨⟨⟨hvalid, -⟩, -⟩, -⟩, -⟩, -⟩ := h
  refine (List.map_congr_left fun c hc => if_neg ?_).trans (List.map_id' v)
  have := hvalid c hc
  simp [validHeaderValueByte] at this
  omega

/-- For a client that returns the value byte-identically (the hypothesis K1 takes away from
    conforming clients): the request carrying the issued cookie sees exactly the attached
    messages and its response expires the cookie; the client's next request carries no cookie and
    sees none. Holds for every state of the pooled slices involved. -/
theorem delivered_once (pool : Slice) (ms : List Msg) (hp : pool.len = 0)
    (hne : ms ≠ []) (hv : ∀ m ∈ ms, m.valid) (hn : ms.length < 4294967296)
    (hk : Known.K1 true ms = false) :
    let v := encode ms
    issueOnWire ms = some v ∧
    let r2 := serve pool v []
    r2.1 = ms ∧ r2.2.2 = some none ∧
    let jar := Jar.apply (fun _ => true) (some v) r2.2.2
    jar = none ∧ (serve r2.2.1 (jar.getD []) []).1 = [] ∧ (serve r2.2.1 (jar.getD []) []).2.2 = none := by
  have hts : transparentSafe (encode ms) = true := by simpa [Known.K1, hne] using hk
  have hne' : encode ms ≠ [] := fun h => by rw [h] at hts; exact absurd hts (by decide)
  have h2 : (serve pool (encode ms) []).2.2 = some none := by
    simp [serve, issue, (parseAndClear_spec pool _).expire, hne']
  refine ⟨?_, decode_encode pool ms hp hv hn, h2, ?_⟩
  · simp [issueOnWire, issue, hne, sanitize_of_transparentSafe _ hts]
  · dsimp only
    rw [h2]
    exact ⟨rfl, no_cookie_no_messages _ rfl⟩

example : Known.K1 true [⟨b "success", b "saved", 65, false⟩] = false := by
  repeat rw [b_ofList]
  decide +kernel

/-- a redirect issued by the request that consumed the messages replaces the expiry with its own
    cookie (one Set-Cookie entry per name in fasthttp) -/
theorem reissue_overrides_expiry (pool : Slice) (carried : Bytes) (ms : List Msg) (hne : ms ≠ []) :
    (serve pool carried ms).2.2 = some (some (encode ms)) := by
  simp [serve, issue, hne]

/-! `ops` is ANY interleaving of `With(key, value, level)` and `WithInput()` calls (any number of either,
any keys — a flash key may equal an input name), every `WithInput()` call with its own iteration
order of the bound map. `runOps` is the function the driver runs (`Driver/C12.lean modelMsgs`). -/

/-- The `With` overwrite rule. What `Messages()` filters out of the attached messages is exactly
    `expectedFlash`: one message per distinct key, in order of first use, with the value and level
    of the LAST call with that key — wherever `WithInput()` was called and whatever it attached. -/
theorem with_overwrite_rule (ops : List Op) :
    (runOps ops).filter (!·.old) = expectedFlash (callsOf ops) :=
  (parts_foldl ops []).1.trans (runCalls_eq_expectedFlash (callsOf ops))

example : (runOps [.flash (b "name") (b "1") 1, .input [(b "name", b "tom")], .flash (b "x") [] 0,
    .flash (b "name") (b "2") 7]).filter (!·.old) = [⟨b "name", b "2", 7, false⟩, ⟨b "x", [], 0, false⟩] := by decide +kernel

/-- What `OldInputs()` filters out: every `WithInput()` call appended one message per pair of the
    map, in the order of that call; no `With` call touches them (not even one with the same key). -/
theorem withInput_appends (ops : List Op) :
    (runOps ops).filter (·.old) = (inputsOf ops).flatMap expectedOld :=
  (parts_foldl ops []).2

/-- For every script — any interleaving, any keys (colliding or not), any
    number of `WithInput()` calls, each ranging over the input map in any order — the attached
    messages are, through the `Messages()` filter, exactly `expectedFlash` of the `With` calls and,
    through the `OldInputs()` filter, a rearrangement of `expectedOld inputs` once per `WithInput()`
    call. -/
theorem script_meets_spec (ops : List Op) (inputs : List (Bytes × Bytes))
    (hperm : ∀ o ∈ inputsOf ops, o.Perm inputs) :
    (runOps ops).filter (!·.old) = expectedFlash (callsOf ops) ∧
    ((runOps ops).filter (·.old)).Perm (expectedOldN (inputsOf ops).length inputs) := by
  refine ⟨with_overwrite_rule ops, ?_⟩
  rw [withInput_appends]
  exact flatMap_expectedOld_perm inputs _ hperm

/-- `script_meets_spec` as one relation between the attached messages and the list the specification expects;
    what the observers below say of a chain follows from it, each respecting `SameSeen`. -/
theorem script_sameSeen (ops : List Op) (inputs : List (Bytes × Bytes))
    (hperm : ∀ o ∈ inputsOf ops, o.Perm inputs) :
    SameSeen (runOps ops) (expectedFlash (callsOf ops) ++ expectedOldN (inputsOf ops).length inputs) where
  flash := (script_meets_spec ops inputs hperm).1.trans (parts_expected _ _ _).1.symm
  old := by rw [(parts_expected _ _ _).2]; exact (script_meets_spec ops inputs hperm).2

-- WithInput() first, a With on the input's name, a second WithInput() in the other map order
example : (runOps [.input [(b "id", b "1"), (b "q", b "x")], .flash (b "id") (b "v") 3,
      .input [(b "q", b "x"), (b "id", b "1")]]).filter (·.old) =
    [⟨b "id", b "1", 0, true⟩, ⟨b "q", b "x", 0, true⟩, ⟨b "q", b "x", 0, true⟩, ⟨b "id", b "1", 0, true⟩] := by decide +kernel

/-- The same at the level of the public API: `Messages()` returns key/value/level of
    `expectedFlash`, `OldInputs()` returns the pairs of the input map (as often as `WithInput()` was
    called), in some order. -/
theorem script_api (ops : List Op) (inputs : List (Bytes × Bytes))
    (hperm : ∀ o ∈ inputsOf ops, o.Perm inputs) :
    messagesOf (runOps ops) = (expectedFlash (callsOf ops)).map (fun m => (m.key, m.value, m.level)) ∧
    (oldInputsOf (runOps ops)).Perm (List.replicate (inputsOf ops).length inputs).flatten := by
  obtain ⟨h1, h2⟩ := script_meets_spec ops inputs hperm
  refine ⟨by simp [messagesOf, h1], ?_⟩
  have hpairs : (expectedOldN (inputsOf ops).length inputs).map (fun m => (m.key, m.value)) =
      (List.replicate (inputsOf ops).length inputs).flatten := by
    simp [expectedOldN, expectedOld, List.map_flatten, List.map_replicate, Function.comp_def]
  exact hpairs ▸ h2.map fun m : Msg => (m.key, m.value)

/-- In the canonical rendering the harness, the driver and the spec oracle share
    (flash messages in order, old inputs sorted), what a chain attaches IS what the specification
    expects — the string the oracle compares the implementation's observation with. -/
theorem script_render (ops : List Op) (inputs : List (Bytes × Bytes))
    (hperm : ∀ o ∈ inputsOf ops, o.Perm inputs) :
    renderSeen (runOps ops) =
      renderSeen (expectedFlash (callsOf ops) ++ expectedOldN (inputsOf ops).length inputs) :=
  (script_sameSeen ops inputs hperm).renderSeen_eq

/-- The driver's script builder (`interleave`) emits exactly the `With` calls of the case line, in
    order, and one `WithInput()` per listed position with the given map order: the spec oracle's
    `expectedFlash s.calls` / `expectedOldN k s.inputs` are the right-hand sides of
    `script_meets_spec` for the chain the model ran. -/
theorem interleave_faithful (calls : List (Bytes × Bytes × Nat)) (pos : List Nat)
    (orders : List (List (Bytes × Bytes))) (hlen : orders.length = pos.length) :
    callsOf (interleave calls pos orders) = calls ∧ inputsOf (interleave calls pos orders) = orders := by
  suffices h : ∀ i, callsOf (interleave calls pos orders i) = calls ∧ inputsOf (interleave calls pos orders i) = orders from h 0
  intro i
  -- the next position is reached: `WithInput()`; not yet: the next `With`; no `With` left: `WithInput()`; `pos` or `orders` empty: the `With` calls
  fun_induction interleave calls pos orders i with
  | case1 calls i p ps o os h ih => simpa [callsOf, inputsOf] using ih (by simpa using hlen)
  | case2 i p ps o os h c cs ih => simpa [callsOf, inputsOf] using ih hlen
  | case3 i p ps o os h ih => simpa [callsOf, inputsOf] using ih (by simpa using hlen)
  | case4 calls pos orders i h =>
    rw [(callsOf_inputsOf_map_flash calls).1, (callsOf_inputsOf_map_flash calls).2]
    -- by `hlen` both are empty or both are not; `h` says the first pattern (`p :: ps, o :: os`) did not match
    match pos, orders, hlen, h with
    | [], [], _, _ => exact ⟨rfl, rfl⟩
    | _ :: _, _ :: _, _, h => exact (h _ _ _ _ rfl rfl).elim

theorem decode_runOps (pool : Slice) (ops : List Op) (hp : pool.len = 0) (hvalid : ∀ op ∈ ops, op.valid)
    (hn : (runOps ops).length < 4294967296) :
    (parseAndClear pool (encode (runOps ops))).messages = runOps ops :=
  decode_encode pool _ hp (runOps_valid ops hvalid) hn

/-- Issuing side and decoding side composed. Whatever the pooled slice of the
    next request held, its handler reads through `Messages()` exactly `expectedFlash` of the `With`
    calls and through `OldInputs()` the input pairs (once per `WithInput()` call), for every chain of
    builder calls whose strings fit msgpack's 32-bit lengths. -/
theorem script_delivered (pool : Slice) (ops : List Op) (inputs : List (Bytes × Bytes)) (hp : pool.len = 0)
    (hperm : ∀ o ∈ inputsOf ops, o.Perm inputs) (hvalid : ∀ op ∈ ops, op.valid)
    (hn : (runOps ops).length < 4294967296) :
    let seen := (parseAndClear pool (encode (runOps ops))).messages
    messagesOf seen = (expectedFlash (callsOf ops)).map (fun m => (m.key, m.value, m.level)) ∧
    (oldInputsOf seen).Perm (List.replicate (inputsOf ops).length inputs).flatten := by
  simp only [decode_runOps pool ops hp hvalid hn]
  exact script_api ops inputs hperm

example : messagesOf (parseAndClear ⟨[⟨b "x", b "y", 1, true⟩], 0⟩ (encode (runOps
      [.flash (b "a") (b "1") 1, .input [(b "a", b "in")], .flash (b "a") (b "2") 2]))).messages = [(b "a", b "2", 2)] := by decide +kernel

/-- `Message(k)` is the first entry of `Messages()` with key `k` (zero value if none), whatever else
    the slice holds — in particular an old input with the same key in front of it. -/
theorem message_agrees_with_list (ms : List Msg) (k : Bytes) :
    messageOf ms k = ((messagesOf ms).find? (·.1 = k)).getD ([], [], 0) := by
  rw [messageOf_eq_spec, specMessage, messagesOf, List.find?_map]
  simp only [Function.comp_def]
  cases List.find? (fun m => decide (m.key = k)) (ms.filter (!·.old)) <;> rfl

/-- `OldInput(k)` is the first entry of `OldInputs()` with key `k` (zero value if none). -/
theorem oldInput_agrees_with_list (ms : List Msg) (k : Bytes) :
    oldInputOf ms k = ((oldInputsOf ms).find? (·.1 = k)).getD ([], []) := by
  rw [oldInputOf_eq_spec, specOldInput, oldInputsOf, List.find?_map]
  simp only [Function.comp_def]
  cases List.find? (fun m => decide (m.key = k)) (ms.filter (·.old)) <;> rfl

-- an old input and a flash message under the same key, in both orders: neither hides the other
example : messageOf [⟨b "email", b "tom@x", 0, true⟩, ⟨b "email", b "invalid", 2, false⟩] (b "email") = (b "email", b "invalid", 2)
    ∧ oldInputOf [⟨b "email", b "invalid", 2, false⟩, ⟨b "email", b "tom@x", 0, true⟩] (b "email") = (b "email", b "tom@x") := by
  repeat rw [b_ofList]
  decide +kernel

/-- the model's keyed readers are the specification's (which is phrased through the list readers) -/
theorem keyed_meet_spec (ms : List Msg) (k : Bytes) :
    messageOf ms k = specMessage ms k ∧ oldInputOf ms k = specOldInput ms k :=
  ⟨messageOf_eq_spec ms k, oldInputOf_eq_spec ms k⟩

/-- For every state of the pooled slice and every byte string as cookie, both
    keyed readers answer from the messages of the stateless reference decoder, exactly as the
    specification says (never from leftovers, never hidden by an entry of the other kind). -/
theorem keyed_after_decode (s : Slice) (cookie k : Bytes) (hs : s.len = 0) :
    messageOf (parseAndClear s cookie).messages k = specMessage (expectedSeen cookie) k ∧
    oldInputOf (parseAndClear s cookie).messages k = specOldInput (expectedSeen cookie) k := by
  rw [parseAndClear_refines_spec s cookie hs]
  exact keyed_meet_spec _ k

example : oldInputOf (parseAndClear ⟨[⟨b "email", b "stale", 1, true⟩], 0⟩
    (encode [⟨b "email", b "invalid", 65, false⟩, ⟨b "email", b "tom", 65, true⟩])).messages (b "email") = (b "email", b "tom") := by
  repeat rw [b_ofList]
  decide +kernel

/-- For every chain of builder calls (any interleaving, colliding keys, repeated
    `WithInput()`, any map order per call; the bound map has one value per key): `Message(k)` on the
    attached messages is the message `expectedFlash` holds for `k`, `OldInput(k)` is the old input
    for `k` (the same value in every copy) — the values the spec oracle expects. -/
theorem script_keyed (ops : List Op) (inputs : List (Bytes × Bytes))
    (hperm : ∀ o ∈ inputsOf ops, o.Perm inputs) (hf : Functional inputs) (k : Bytes) :
    messageOf (runOps ops) k =
      specMessage (expectedFlash (callsOf ops) ++ expectedOldN (inputsOf ops).length inputs) k ∧
    oldInputOf (runOps ops) k =
      specOldInput (expectedFlash (callsOf ops) ++ expectedOldN (inputsOf ops).length inputs) k := by
  have h := script_sameSeen ops inputs hperm
  refine ⟨(h.messageOf_eq k).trans (messageOf_eq_spec _ k), (h.oldInputOf_eq k ?_).trans (oldInputOf_eq_spec _ k)⟩
  rw [(parts_expected _ _ _).2]
  exact expectedOldN_functional hf _ k

-- With("email") then WithInput() with a field `email`, and the other way round
example : oldInputOf (runOps [.flash (b "email") (b "invalid") 2, .input [(b "email", b "tom")]]) (b "email") = (b "email", b "tom")
    ∧ messageOf (runOps [.input [(b "email", b "tom")], .flash (b "email") (b "invalid") 2]) (b "email") = (b "email", b "invalid", 2) := by
  repeat rw [b_ofList]
  decide +kernel

/-- `script_keyed` composed with the decoder, for every pool state of the next request. -/
theorem script_keyed_delivered (pool : Slice) (ops : List Op) (inputs : List (Bytes × Bytes)) (hp : pool.len = 0)
    (hperm : ∀ o ∈ inputsOf ops, o.Perm inputs) (hf : Functional inputs) (hvalid : ∀ op ∈ ops, op.valid)
    (hn : (runOps ops).length < 4294967296) (k : Bytes) :
    let seen := (parseAndClear pool (encode (runOps ops))).messages
    let expected := expectedFlash (callsOf ops) ++ expectedOldN (inputsOf ops).length inputs
    messageOf seen k = specMessage expected k ∧ oldInputOf seen k = specOldInput expected k := by
  simp only [decode_runOps pool ops hp hvalid hn]
  exact script_keyed ops inputs hperm hf k

/-- A request that carries the flash cookie, reads the messages and redirects
    again with messages of its own — in particular with exactly the ones it received, whose encoding
    is byte-identical to the cookie it consumed — sees the carried messages AND answers with the new
    cookie, not with the bare expiry of the consumed one; for every pool state and every way of
    re-attaching. (What the next request then sees is `decode_encode` / `delivered_once` again.) -/
theorem reflash_reissued (pool : Slice) (ms : List Msg) (mode : RelayMode) (hp : pool.len = 0)
    (hv : ∀ m ∈ ms, m.valid) (hn : ms.length < 4294967296)
    (hne : runOps (relayOps mode ms) ≠ []) :
    (serveRelay pool (encode ms) mode).1 = ms ∧
    (serveRelay pool (encode ms) mode).2.2 = some (some (encode (runOps (relayOps mode ms)))) := by
  have hd := decode_encode pool ms hp hv hn
  unfold serveRelay
  rw [hd]
  exact ⟨hd, reissue_overrides_expiry pool _ _ hne⟩

-- re-attaching what was received, in order, gives the very bytes of the consumed cookie — and they are issued again
example : (serveRelay ⟨[⟨b "x", b "y", 1, true⟩], 0⟩ (encode [⟨b "ok", b "saved", 65, false⟩, ⟨b "n", b "1", 66, false⟩]) .same).2.2 =
    some (some (encode [⟨b "ok", b "saved", 65, false⟩, ⟨b "n", b "1", 66, false⟩])) := by decide +kernel

/-- `script_meets_spec` for a `Redirect` drawn from the pool in ANY state
    the code can leave it in — after any history of earlier requests (any chains of `With` /
    `WithInput()` calls, redirect completed or not: `release()` re-slices `messages` to `[:0]` either
    way) and with any leftover elements in the backing array: the messages a request attaches are its
    own `runOps ops`, hence exactly `expectedFlash` of ITS `With` calls and `expectedOld` of ITS input. -/
theorem script_meets_spec_pooled (p : Pooled) (history : List (List Op)) (hp : p.visible = [])
    (ops : List Op) (inputs : List (Bytes × Bytes)) (hperm : ∀ o ∈ inputsOf ops, o.Perm inputs) :
    ((p.after history).run ops).visible = runOps ops ∧
    (((p.after history).run ops).visible).filter (!·.old) = expectedFlash (callsOf ops) ∧
    ((((p.after history).run ops).visible).filter (·.old)).Perm (expectedOldN (inputsOf ops).length inputs) := by
  have h : ((p.after history).run ops).visible = runOps ops := by
    rw [pooled_run_visible, pooled_after_visible p history hp]; rfl
  rw [h]
  exact ⟨rfl, script_meets_spec ops inputs hperm⟩

-- request 1 attached a password and never redirected; request 2's messages are its own
example : ((Pooled.after ⟨[], [⟨b "x", b "y", 1, false⟩]⟩
      [[.flash (b "secret") (b "s") 3, .input [(b "password", b "hunter2"), (b "email", b "a@b")]]]).run
      [.input [(b "text", b "hello")]]).visible = [⟨b "text", b "hello", 0, true⟩] := by decide +kernel

end C12
