import FiberModel.C20.Lemmas
import FiberModel.C20.ServeLemmas
import FiberModel.C20.CookieScanLemmas
/-
C20 — property theorems.

Everything about AES-GCM enters as a HYPOTHESIS (`Aead.Correct`, `Aead.Authentic`, `Aead.Logged`,
`Aead.GcmShape`), or one level up as a hypothesis about the configured Encryptor/Decryptor pair
(`Codec.Correct/Sound/Complete/Format`); `std_*` (Lemmas.lean) derive the latter from the former for
utils.go's functions, `wrap_*` for the custom pair used by the harness. Quantification is over every
key text, every Except list, every request cookie collection (any order, any duplicates), every
response cookie list, every nonce sequence. Defined here, beside the theorems they serve: `stdTold`, the
hypotheses on histories `Unforgeable`, `GoodSteps`, and `historyViews`; the toy AEADs and data of the test vectors.
-/
namespace C20
open B

/-- `DecodeString(EncodeToString(x)) = x` -/
theorem base64_roundtrip (bs : Bytes) (h : IsBytes bs) : decode (encode bs) = some bs :=
  decode_encode bs h

/-- The property's own exception, characterised: two decodable texts denote the very same bytes
    exactly when they agree after dropping `\r`/`\n` and clearing the bits of the last data character
    that the decoder ignores. -/
theorem base64_decode_canonical_or_same {c c' bs bs' : Bytes} (h : decode c = some bs)
    (h' : decode c' = some bs') : bs = bs' ↔ canonText c = canonText c' := by
  rw [canonText_of_decode h, canonText_of_decode h']
  constructor
  · intro e; rw [e]
  · exact encode_injective (decode_bytes h) (decode_bytes h')

/-- a decodable text in canonical form IS the encoding of its bytes: among all texts that decode to
    given bytes exactly one is canonical, the one the server writes -/
theorem base64_canonical_unique {c bs : Bytes} (h : decode c = some bs) (hc : canonText c = c) :
    c = encode bs := by
  rw [← hc]; exact canonText_of_decode h

theorem base64_decode_bytes {c bs : Bytes} (h : decode c = some bs) : IsBytes bs := decode_bytes h

-- non-vacuity / sanity: "A" has the canonical text QQ==; QR==, Q\nQ=\r= decode to the same byte;
-- QQ=, QQ==A, Q=== and the URL alphabet do not decode
example : encode (b "A") = b "QQ==" := by
  -- `b_ofList` (Basic.lean): the literal as the list of its characters, so that the kernel need not decode UTF-8
  repeat rw [b_ofList]
  decide +kernel
example : decode (b "QQ==") = some (b "A") ∧ decode (b "QR==") = some (b "A") ∧
    decode (b "Q\nQ=\r=\n") = some (b "A") := by
  repeat rw [b_ofList]
  decide +kernel
example : decode (b "QQ=") = none ∧ decode (b "QQ==A") = none ∧ decode (b "Q===") = none ∧
    decode (b "-_-_") = none ∧ decode (b "QQ= =") = none := by
  repeat rw [b_ofList]
  decide +kernel
example : canonText (b "Q\nR==") = b "QQ==" := by
  repeat rw [b_ofList]
  decide +kernel

/-- injectivity of the wire format base64(nonce ‖ ciphertext ‖ tag): equal texts mean equal nonce and
    equal ciphertext -/
theorem wire_injective {n n' c c' : Bytes} (hb : IsBytes (n ++ c)) (hb' : IsBytes (n' ++ c'))
    (hn : n.length = nonceSize) (hn' : n'.length = nonceSize)
    (h : encode (n ++ c) = encode (n' ++ c')) : n = n' ∧ c = c' := by
  have := encode_injective hb hb' h
  exact List.append_inj this (by rw [hn, hn'])

/-- enumeration view (`VisitAllCookie`): every value a handler can enumerate under a non-excepted name
    is empty, or the originally issued plaintext of a value the client sent under that very name that
    decodes to the same ciphertext as an issued one. Never any other text. -/
theorem tampered_reaches_handler_empty_or_original {C : Codec} {wc : WireCodec} {iss : Issued}
    (ex : List Bytes) (j : Jar) (hS : C.SoundOn wc iss j) (k v : Bytes)
    (hm : (k, v) ∈ decryptJar C ex j) (hk : isDisabled k ex = false) :
    v = [] ∨ ∃ r c0, (k, r) ∈ j ∧ (c0, v) ∈ iss ∧ sameCipher wc r c0 = true := by
  rw [← mem_bindValues, bindValues_decryptJar] at hm
  obtain ⟨r, hr, rfl⟩ := List.mem_map.mp hm
  have hj := mem_bindValues.mp (List.mem_of_mem_take hr)
  simp only [openValue, hk]
  cases hd : C.dec r with
  | none => left; rfl
  | some p =>
    right
    obtain ⟨c0, h1, h2⟩ := hS _ r p hj hd
    exact ⟨r, c0, hj, by simpa using h1, h2⟩

/-- lookup view (`c.Cookies(name)`) -/
theorem tampered_reaches_handler_empty_or_original_lookup {C : Codec} {wc : WireCodec} {iss : Issued}
    (ex : List Bytes) (j : Jar) (hS : C.SoundOn wc iss j) (k : Bytes) (hk : isDisabled k ex = false) :
    lookup (decryptJar C ex j) k = [] ∨
    ∃ r c0, (k, r) ∈ j ∧ (c0, lookup (decryptJar C ex j) k) ∈ iss ∧ sameCipher wc r c0 = true := by
  unfold lookup
  cases hp : peek (decryptJar C ex j) k with
  | none => left; rfl
  | some v =>
    rw [peek_eq_head] at hp
    exact tampered_reaches_handler_empty_or_original ex j hS k v (mem_bindValues.mp (List.mem_of_head? hp)) hk

/-- bind view (`Bind().Cookie` into `map[string][]string`, and the last element, which is what
    `map[string]string` receives) -/
theorem tampered_reaches_handler_empty_or_original_bind {C : Codec} {wc : WireCodec} {iss : Issued}
    (ex : List Bytes) (j : Jar) (hS : C.SoundOn wc iss j) (k v : Bytes) (hk : isDisabled k ex = false)
    (hv : v ∈ bindValues (decryptJar C ex j) k ∨
          ((bindValues (decryptJar C ex j) k) ≠ [] ∧ v = bindLast (decryptJar C ex j) k)) :
    v = [] ∨ ∃ r c0, (k, r) ∈ j ∧ (c0, v) ∈ iss ∧ sameCipher wc r c0 = true := by
  have hmem : v ∈ bindValues (decryptJar C ex j) k := by
    rcases hv with h | ⟨hne, rfl⟩
    · exact h
    · unfold bindLast
      cases hl : (bindValues (decryptJar C ex j) k).getLast? with
      | none => rw [List.getLast?_eq_none_iff] at hl; exact absurd hl hne
      | some x => simpa using List.mem_of_getLast? hl
  exact tampered_reaches_handler_empty_or_original ex j hS k v (mem_bindValues.mp hmem) hk

/-- A cookie that is the only one of its name reaches the handler exactly once and with exactly the
    value the property prescribes: the issued plaintext when it denotes an issued ciphertext, empty
    otherwise (round trip + rejection, as one statement). -/
theorem single_cookie_exact {C : Codec} {wc : WireCodec} {iss : Issued} (ex : List Bytes) (j : Jar)
    (hS : C.SoundOn wc iss j) (hC : C.Complete wc iss) (k r : Bytes) (hk : isDisabled k ex = false)
    (h1 : bindValues j k = [r]) :
    bindValues (decryptJar C ex j) k = [(C.dec r).getD []] ∧
    lookup (decryptJar C ex j) k = (C.dec r).getD [] ∧
    expectOne wc iss r ((C.dec r).getD []) = true := by
  refine ⟨?_, ?_, expectOne_dec r (fun p hd => hS k r p (mem_bindValues.mp (by rw [h1]; simp)) hd) hC⟩
  · rw [bindValues_decryptJar, h1]; simp [openValue, hk]
  · rw [lookup_decryptJar, h1]; simp [openValue, hk]

/-- excepted names pass through unchanged (request): the value looked up is the client's, the cookie
    enumerated is the client's first one, and with a single cookie of that name nothing changes -/
theorem except_passthrough_request (C : Codec) (ex : List Bytes) (j : Jar) (k : Bytes)
    (hk : isDisabled k ex = true) :
    lookup (decryptJar C ex j) k = lookup j k ∧
    bindValues (decryptJar C ex j) k = (bindValues j k).take 1 ∧
    ((bindValues j k).length ≤ 1 → bindValues (decryptJar C ex j) k = bindValues j k) := by
  have hid : (openValue C ex k) = id := by funext v; simp [openValue, hk]
  refine ⟨?_, ?_, ?_⟩
  · rw [lookup_decryptJar, hid]; simp [lookup, peek_eq_head]
  · rw [bindValues_decryptJar, hid]; simp
  · intro hl
    rw [bindValues_decryptJar, hid, List.map_id, List.take_of_length_le hl]

theorem enum_clause {C : Codec} {wc : WireCodec} {iss : Issued} (ex : List Bytes) (j : Jar)
    (hS : C.SoundOn wc iss j) : enumOK wc ex iss j (decryptJar C ex j) = true := by
  unfold enumOK
  rw [List.all_eq_true]
  intro e he
  cases hk : isDisabled e.1 ex with
  | true => rfl
  | false => exact valueOK_of (tampered_reaches_handler_empty_or_original ex j hS e.1 e.2 he hk)

theorem look_clause {C : Codec} {wc : WireCodec} {iss : Issued} (ex : List Bytes) (j : Jar)
    (hS : C.SoundOn wc iss j) (hC : C.Complete wc iss) (ks : List Bytes) :
    lookOK wc ex iss j (ks.map fun k => (k, lookup (decryptJar C ex j) k)) = true := by
  unfold lookOK
  rw [List.all_eq_true]
  intro e he
  obtain ⟨k, _, rfl⟩ := List.mem_map.mp he
  cases hk : isDisabled k ex with
  | true => rfl
  | false =>
    simp only [Bool.false_or, Bool.and_eq_true]
    constructor
    · exact valueOK_of (tampered_reaches_handler_empty_or_original_lookup ex j hS k hk)
    · -- the oracle's `match bindValues j k`: no cookie of that name, exactly one, several
      split
      · rename_i hb; rw [lookup_decryptJar, hb]; rfl
      · rename_i r hb; have := single_cookie_exact ex j hS hC k r hk hb; rw [this.2.1]; exact this.2.2
      · rfl

theorem look_except_clause (C : Codec) (ex : List Bytes) (j : Jar) (ks : List Bytes) :
    lookExceptOK ex j (ks.map fun k => (k, lookup (decryptJar C ex j) k)) = true := by
  unfold lookExceptOK
  rw [List.all_eq_true]
  intro e he
  obtain ⟨k, _, rfl⟩ := List.mem_map.mp he
  cases hk : isDisabled k ex with
  | false => rfl
  | true =>
    simp only [Bool.not_true, Bool.false_or]
    rw [(except_passthrough_request C ex j k hk).1]; simp

theorem bind_clause {C : Codec} {wc : WireCodec} {iss : Issued} (ex : List Bytes) (j : Jar)
    (hS : C.SoundOn wc iss j) :
    bindOK wc ex iss j ((distinctKeys (decryptJar C ex j)).map fun k => (k, bindValues (decryptJar C ex j) k)) = true := by
  unfold bindOK
  rw [List.all_eq_true]
  intro e he
  obtain ⟨k, _, rfl⟩ := List.mem_map.mp he
  rw [List.all_eq_true]
  intro v hv
  cases hk : isDisabled k ex with
  | true =>
    simp only [if_true]
    rw [(except_passthrough_request C ex j k hk).2.1] at hv
    simpa using List.mem_of_mem_take hv
  | false =>
    exact valueOK_of (tampered_reaches_handler_empty_or_original ex j hS k v (mem_bindValues.mp hv) hk)

theorem once_clause {C : Codec} {wc : WireCodec} {iss : Issued} (ex : List Bytes) (j : Jar)
    (hS : C.SoundOn wc iss j) (hC : C.Complete wc iss) : onceOK wc ex iss j (decryptJar C ex j) = true := by
  unfold onceOK
  rw [List.all_eq_true]
  intro k _
  cases hk : isDisabled k ex with
  | true => rfl
  | false =>
    simp only [Bool.false_or]
    -- the oracle's `match bindValues j k`: exactly one cookie of that name, any other number
    split
    · rename_i r hb
      have := single_cookie_exact ex j hS hC k r hk hb
      simp only [this.1]
      exact this.2.2
    · rfl

theorem except_clause (C : Codec) (ex : List Bytes) (j : Jar) : exceptOK ex j (decryptJar C ex j) = true := by
  unfold exceptOK
  rw [List.all_eq_true]
  intro k hk
  have hk' : isDisabled k ex = true := by simpa [isDisabled] using hk
  obtain ⟨_, h2, _⟩ := except_passthrough_request C ex j k hk'
  simp only [h2, Bool.and_eq_true, Bool.or_eq_true, Bool.not_eq_true', decide_eq_false_iff_not,
    beq_iff_eq, List.isSublist_iff_sublist]
  refine ⟨⟨List.take_sublist 1 _, ?_⟩, ?_⟩
  · cases bindValues j k <;> simp
  · by_cases hl : (bindValues j k).length ≤ 1
    · right; rw [List.take_of_length_le hl]
    · left; exact hl

theorem hdr_clause (j : Jar) (ks : List Bytes) : hdrOK (rawViews j ks) = true := by
  simp [hdrOK, rawViews]

theorem names_clause (C : Codec) (ex : List Bytes) (j : Jar) : namesOK j (decryptJar C ex j) = true := by
  simp [namesOK, distinctKeys_decryptJar]

/-- request direction: for every Encryptor/Decryptor pair that is authentic and
    complete with respect to the issued log, every Except list, every request cookie collection
    (duplicates included) and every set of names looked up, no clause of the executable property
    oracle is violated by what the handler sees — in any of its views. -/
theorem request_meets_spec {C : Codec} {wc : WireCodec} {iss : Issued} (ex : List Bytes) (j : Jar)
    (hS : C.SoundOn wc iss j) (hC : C.Complete wc iss) (ks : List Bytes) :
    reqViolation wc ex iss j (modelViews C ex j ks) = none := by
  unfold reqViolation
  -- the header clause holds of the raw views of any collection, here of the one the loop left
  rw [modelViews_eq_rawViews, hdr_clause]
  simp only [rawViews, enum_clause ex j hS, look_clause ex j hS hC ks, bind_clause ex j hS, once_clause ex j hS hC,
    except_clause C ex j, look_except_clause C ex j ks, names_clause C ex j, Bool.not_true, Bool.false_eq_true, if_false]

/-- client sees only ciphertext, structurally: whatever the handler set, every Set-Cookie the client
    receives for a non-excepted name is `name=` + base64(nonce ‖ AES-GCM(key, nonce, value)) +
    the attributes — the value enters only through the AEAD; excepted cookies are byte-identical. -/
theorem client_sees_only_ciphertext (A : Aead) (key : Bytes) (ex : List Bytes) (ns : List Bytes)
    (cs : List RCookie) (ws : List WCookie) (hns : ∀ n ∈ ns, goodNonce n)
    (h : encryptJar (stdCodec A key) ex ns cs = some ws) :
    Paired (fun c w =>
      (isDisabled c.key ex = true → w.raw = c.raw) ∧
      (isDisabled c.key ex = false → ∃ kd n, decode key = some kd ∧ validKeyLen kd.length = true ∧
        goodNonce n ∧ w.value = encode (n ++ A.sealWith kd n c.pvalue) ∧
        w.raw = render c.pkey w.value c.tail)) cs ws := by
  refine (encryptJar_rel (stdCodec A key) ex cs ns ws hns h).imp fun c w hr =>
    ⟨fun hd => (hr.excepted hd).1, fun hd => ?_⟩
  obtain ⟨⟨n, hn, he⟩, hraw⟩ := hr.encrypted hd
  obtain ⟨kd, hk, hv, hval⟩ := encryptCookie_some he
  exact ⟨kd, n, hk, hv, hn, hval, hraw⟩

/-- response direction: for every correct Encryptor/Decryptor pair with the wire
    format, every Except list, every list of response cookies (duplicate names included), every nonce
    sequence: if the middleware returns (no panic), the Set-Cookie list satisfies the oracle —
    same count, same names and attributes, excepted cookies byte-identical, every other value a
    wire-format ciphertext that the log maps to the handler's value. -/
theorem response_meets_spec {C : Codec} {wc : WireCodec} (hCor : C.Correct) (hF : C.Format wc)
    (ex : List Bytes) (ns : List Bytes) (cs : List RCookie) (ws : List WCookie)
    (hns : ∀ n ∈ ns, goodNonce n) (hb : ∀ c ∈ cs, IsBytes c.pvalue)
    (h : encryptJar C ex ns cs = some ws) :
    respAllOK wc ex (issuedBy ex cs ws) cs ws = true := by
  have hr := (encryptJar_eq_some_iff C ex ns cs ws).mp h
  have hresp := resp_run (ex := ex) hF (wrote_functional hCor (wrote_run hns hb)) cs hns fun _ he => he
  have hl := (encryptRun_end C ex cs ns).1 (by rw [hr])
  rwa [hl, List.take_length, hr] at hresp

/-- fresh nonces stay visible as distinct nonces on the wire: if `rand.Reader` never repeats a nonce,
    no two issued wire texts share one (the oracle's `noncesOK`) -/
theorem nonces_distinct {A : Aead} {key : Bytes} (hG : A.GcmShape) (ex : List Bytes) (ns : List Bytes)
    (cs : List RCookie) (ws : List WCookie) (hns : ∀ n ∈ ns, goodNonce n) (hnd : ns.Nodup)
    (h : encryptJar (stdCodec A key) ex ns cs = some ws) :
    noncesOK stdWire (issuedBy ex cs ws) = true := by
  have hr := (encryptJar_eq_some_iff _ ex ns cs ws).mp h
  have := issued_nonces (key := key) hG ex cs ns hns
  rw [hr] at this
  unfold noncesOK
  rw [decide_eq_true_iff]
  exact hnd.sublist this.sublist

/-- excepted names pass through unchanged (response): same position, byte-identical Set-Cookie -/
theorem except_passthrough_response (C : Codec) (ex : List Bytes) (ns : List Bytes) (cs : List RCookie)
    (ws : List WCookie) (hns : ∀ n ∈ ns, goodNonce n) (h : encryptJar C ex ns cs = some ws) :
    Paired (fun c w => isDisabled c.key ex = true → w.raw = c.raw ∧ w.value = c.pvalue) cs ws := by
  exact (encryptJar_rel C ex cs ns ws hns h).imp fun _ _ hr => hr.excepted

/-- round trip: cookies set by a handler (distinct names, byte values) are encrypted, the client sends
    back exactly what it received, and the next handler's request holds every cookie with its ORIGINAL
    value, in order, once — for every correct Encryptor/Decryptor pair, every Except list. -/
theorem roundtrip {C : Codec} (hC : C.Correct) (ex : List Bytes) (ns : List Bytes) (cs : List RCookie)
    (ws : List WCookie) (hns : ∀ n ∈ ns, goodNonce n) (hb : ∀ c ∈ cs, IsBytes c.pvalue)
    (hkey : ∀ c ∈ cs, isDisabled c.pkey ex = isDisabled c.key ex)
    (hnd : (cs.map (·.pkey)).Nodup)
    (h : encryptJar C ex ns cs = some ws) :
    decryptJar C ex (echo ws) = cs.map fun c => (c.pkey, c.pvalue) := by
  have hp := encryptJar_rel C ex cs ns ws hns h
  have hkeys : (echo ws).map (·.1) = cs.map (·.pkey) := by
    rw [echo, List.map_map]; exact hp.map_eq fun _ _ _ hr => hr.pkey_eq
  rw [decryptJar_eq, firsts_of_nodup _ (by rw [hkeys]; exact hnd)]
  rw [echo, List.map_map]
  refine hp.map_eq fun c hc w hr => ?_
  simp only [Function.comp, openPair_mk, hr.pkey_eq, Prod.mk.injEq, true_and, openValue, hkey c hc]
  cases hd : isDisabled c.key ex with
  | true => rw [if_pos rfl, (hr.excepted hd).2]
  | false =>
    obtain ⟨⟨n, hn, he⟩, _⟩ := hr.encrypted hd
    rw [if_neg Bool.false_ne_true, hC n c.pvalue w.value hn (hb c hc) he]; rfl

/-- request direction for utils.go's DecryptCookie under a valid key: from AEAD integrity
    (`Authentic`) and a truthful log (`Logged`) -/
theorem request_meets_spec_aesgcm {A : Aead} {key kd : Bytes} {L : SealLog} (hk : decode key = some kd)
    (hv : validKeyLen kd.length = true) (hA : A.Authentic kd L) (hL : A.Logged kd L)
    (ex : List Bytes) (j : Jar) (ks : List Bytes) :
    reqViolation stdWire ex (wireIssued L) j (modelViews (stdCodec A key) ex j ks) = none :=
  request_meets_spec ex j ((std_sound hk hA).on j) (std_complete hk hv hL) ks

/-- … and for the custom Encryptor/Decryptor pair of the harness -/
theorem request_meets_spec_custom {A : Aead} {key kd : Bytes} {L : SealLog} (hk : decode key = some kd)
    (hv : validKeyLen kd.length = true) (hA : A.Authentic kd L) (hL : A.Logged kd L)
    (ex : List Bytes) (j : Jar) (ks : List Bytes) :
    reqViolation wrapWire ex (wrapIssued (wireIssued L)) j
      (modelViews (wrapCodec (stdCodec A key)) ex j ks) = none :=
  request_meets_spec ex j ((wrap_sound (std_sound hk hA)).on j) (wrap_complete (std_complete hk hv hL)) ks

/-- … and with a key text that is not valid: nothing was ever issued, nothing but "" is seen -/
theorem request_meets_spec_invalid_key (A : Aead) (key : Bytes)
    (hbad : ∀ kd, decode key = some kd → validKeyLen kd.length = false)
    (ex : List Bytes) (j : Jar) (ks : List Bytes) :
    reqViolation stdWire ex [] j (modelViews (stdCodec A key) ex j ks) = none := by
  exact request_meets_spec ex j (soundOn_of_dec_none (std_invalid_key A key (not_keyValid hbad)).1) complete_nil ks

theorem roundtrip_aesgcm {A : Aead} (hA : A.Correct) (hG : A.GcmShape) (key : Bytes) (ex : List Bytes)
    (ns : List Bytes) (cs : List RCookie) (ws : List WCookie) (hns : ∀ n ∈ ns, goodNonce n)
    (hb : ∀ c ∈ cs, IsBytes c.pvalue) (hkey : ∀ c ∈ cs, isDisabled c.pkey ex = isDisabled c.key ex)
    (hnd : (cs.map (·.pkey)).Nodup) (h : encryptJar (stdCodec A key) ex ns cs = some ws) :
    decryptJar (stdCodec A key) ex (echo ws) = cs.map fun c => (c.pkey, c.pvalue) :=
  roundtrip (std_correct hA hG) ex ns cs ws hns hb hkey hnd h

/-- response direction for utils.go's pair: no clause of the response oracle is violated (incl.
    distinct nonces on the wire when the drawn nonces are distinct) -/
theorem response_meets_spec_aesgcm {A : Aead} (hA : A.Correct) (hG : A.GcmShape) (key : Bytes)
    (ex : List Bytes) (ns : List Bytes) (cs : List RCookie) (ws : List WCookie)
    (hns : ∀ n ∈ ns, goodNonce n) (hnd : ns.Nodup) (hb : ∀ c ∈ cs, IsBytes c.pvalue)
    (h : encryptJar (stdCodec A key) ex ns cs = some ws) :
    respViolation stdWire ex true (issuedBy ex cs ws) cs (some ws) = none := by
  unfold respViolation
  simp [response_meets_spec (std_correct hA hG) (std_format hG) ex ns cs ws hns hb h,
    nonces_distinct hG ex ns cs ws hns hnd h]

/-- … and for the custom pair -/
theorem response_meets_spec_custom {A : Aead} (hA : A.Correct) (hG : A.GcmShape) (key : Bytes)
    (ex : List Bytes) (ns : List Bytes) (cs : List RCookie) (ws : List WCookie)
    (hns : ∀ n ∈ ns, goodNonce n) (hb : ∀ c ∈ cs, IsBytes c.pvalue)
    (h : encryptJar (wrapCodec (stdCodec A key)) ex ns cs = some ws) :
    respAllOK wrapWire ex (issuedBy ex cs ws) cs ws = true :=
  response_meets_spec (wrap_correct (std_correct hA hG)) (wrap_format (std_format hG)) ex ns cs ws hns hb h

/-- what fasthttp's cookie scanner (client side, or `fasthttp.Cookie.Parse`) reads off the Set-Cookie
    texts the middleware wrote is exactly the (name, value) pairs of `echo` -/
theorem scan_of_written {A : Aead} {key : Bytes} {ex : List Bytes} {cs : List RCookie} {ws : List WCookie}
    (hp : Paired (WRel (stdCodec A key) ex) cs ws)
    (hnames : ∀ c ∈ cs, c.pkey ≠ [] ∧ ∀ x ∈ c.pkey, plainByte x ∧ x ≠ 61)
    (htail : ∀ c ∈ cs, c.tail = [] ∨ ∃ r, c.tail = 59 :: r)
    (hparse : ∀ c ∈ cs, isDisabled c.key ex = true → scanSetCookie c.raw = (c.pkey, c.pvalue)) :
    ws.map (fun w => scanSetCookie w.raw) = echo ws := by
  induction hp with
  | nil => rfl
  | @cons c w cs ws hr _ ih =>
    obtain ⟨hn, hnames⟩ := List.forall_mem_cons.mp hnames
    obtain ⟨ht, htail⟩ := List.forall_mem_cons.mp htail
    obtain ⟨hp, hparse⟩ := List.forall_mem_cons.mp hparse
    rw [List.map_cons, ih hnames htail hparse]
    refine congrArg (· :: echo ws) ?_
    show scanSetCookie w.raw = (w.pkey, w.value)
    cases hd : isDisabled c.key ex with
    | true => rw [(hr.excepted hd).1, hp hd, hr.pkey_eq, (hr.excepted hd).2]
    | false =>
      obtain ⟨⟨n, _, he⟩, hraw⟩ := hr.encrypted hd
      obtain ⟨kd, _, _, hval⟩ := encryptCookie_some he
      rw [hraw, hr.pkey_eq]
      exact scan_render c.pkey w.value c.tail hn.1 hn.2 (hval ▸ encode_plain _) ht

/-- round trip on the text level (utils.go's pair): the handler sets cookies (distinct plain names,
    byte values, attributes rendered by fasthttp), the client reads the Set-Cookie texts with the cookie
    scanner and sends the pairs back: the next handler's request holds every cookie once with its
    original value. -/
theorem roundtrip_text {A : Aead} (hA : A.Correct) (hG : A.GcmShape) (key : Bytes) (ex : List Bytes)
    (ns : List Bytes) (cs : List RCookie) (ws : List WCookie) (hns : ∀ n ∈ ns, goodNonce n)
    (hb : ∀ c ∈ cs, IsBytes c.pvalue) (hkey : ∀ c ∈ cs, isDisabled c.pkey ex = isDisabled c.key ex)
    (hnd : (cs.map (·.pkey)).Nodup)
    (hnames : ∀ c ∈ cs, c.pkey ≠ [] ∧ ∀ x ∈ c.pkey, plainByte x ∧ x ≠ 61)
    (htail : ∀ c ∈ cs, c.tail = [] ∨ ∃ r, c.tail = 59 :: r)
    (hparse : ∀ c ∈ cs, isDisabled c.key ex = true → scanSetCookie c.raw = (c.pkey, c.pvalue))
    (h : encryptJar (stdCodec A key) ex ns cs = some ws) :
    decryptJar (stdCodec A key) ex (ws.map fun w => scanSetCookie w.raw) =
      cs.map fun c => (c.pkey, c.pvalue) := by
  rw [scan_of_written (encryptJar_rel _ ex cs ns ws hns h) hnames htail hparse]
  exact roundtrip_aesgcm hA hG key ex ns cs ws hns hb hkey hnd h

/-- request direction with `Config.Next`: when `cfg.Next(c)` says skip every view shows the client's
    cookies exactly as they arrived (nothing is decrypted — no hypothesis about the codec is needed);
    otherwise `request_meets_spec`. -/
theorem request_meets_spec_next {C : Codec} {wc : WireCodec} {iss : Issued} (skip : Bool) (ex : List Bytes)
    (j : Jar) (hS : skip = false → C.SoundOn wc iss j) (hC : skip = false → C.Complete wc iss)
    (ks : List Bytes) : reqViolationAt skip wc ex iss j (mwViews skip C ex j ks) = none := by
  cases skip with
  | true => simp [reqViolationAt, mwViews, skip_request_ok]
  | false => simpa [reqViolationAt, mwViews] using request_meets_spec ex j (hS rfl) (hC rfl) ks

/-- a skipped exchange is not touched, in either direction: the handlers see the raw collection, the
    response cookies keep stored key and text, and nothing is issued -/
theorem next_skip_passthrough (m : Mw) (x : Exchange) (h : x.skip = true) :
    (serve m x).views = some (rawViews x.jar x.ks) ∧ (serve m x).mid = x.cookies.map keep ∧
    passThrough x.cookies (serve m x).mid = true := by
  rw [serve_views, serve_mid, h]
  exact ⟨rfl, rfl, passThrough_keep _⟩

/-- response direction with `Config.Next`: when `cfg.Next(c)` says skip the response cookies leave as the
    handlers set them (stored key and text; nothing encrypted, nothing can panic); otherwise
    `response_meets_spec`. -/
theorem response_meets_spec_next {C : Codec} {wc : WireCodec} (hCor : C.Correct) (hF : C.Format wc)
    (skip : Bool) (ex : List Bytes) (ns : List Bytes) (cs : List RCookie) (ws : List WCookie)
    (hns : ∀ n ∈ ns, goodNonce n) (hb : ∀ c ∈ cs, IsBytes c.pvalue)
    (h : (if skip then some (cs.map keep) else encryptJar C ex ns cs) = some ws) :
    if skip then passThrough cs ws = true else respAllOK wc ex (issuedBy ex cs ws) cs ws = true := by
  cases skip with
  | true =>
    simp only [if_true, Option.some.injEq] at h ⊢
    subst h; exact passThrough_keep cs
  | false =>
    simp only [Bool.false_eq_true, if_false] at h ⊢
    exact response_meets_spec hCor hF ex ns cs ws hns hb h

/-- how the handlers behind end does not matter for what they saw and for what is in the response where
    the middleware is left: `return nil`, `return err` (the error handler answers) and `panic` (a recover
    middleware in front answers, or nobody) give the same views and the same, encrypted, cookies — the
    response loop is deferred. Only whether anything is sent depends on it. -/
theorem handler_outcome_does_not_matter (m : Mw) (x : Exchange) (f : Flow) :
    (serve m { x with flow := f }).views = (serve m x).views ∧
    (serve m { x with flow := f }).mid = (serve m x).mid :=
  ⟨by rw [serve_views, serve_views], by rw [serve_mid, serve_mid]⟩

/-- when the Encryptor fails (invalid key, custom Encryptor error or panic, `rand.Reader` error) the
    response loop stops with a panic; what is in the response at that moment — and what a recover
    middleware in front would send — is the finished work for a prefix of the handler's cookies:
    excepted ones verbatim, every other one re-rendered around an encrypted value. No cookie is left
    in clear; the cookie it failed on and everything after it is gone. -/
theorem stopped_response_is_encrypted_prefix (C : Codec) (ex : List Bytes) (ns : List Bytes)
    (cs : List RCookie) (hns : ∀ n ∈ ns, goodNonce n) :
    Paired (WRel C ex) (cs.take (encryptRun C ex ns cs).1.length) (encryptRun C ex ns cs).1 ∧
    ((encryptRun C ex ns cs).2 = true → (encryptRun C ex ns cs).1.length = cs.length) ∧
    ((encryptRun C ex ns cs).2 = false → ∃ c, cs[(encryptRun C ex ns cs).1.length]? = some c ∧
      isDisabled c.key ex = false ∧ (ns.length < encCount ex cs ∨ ∃ n ∈ ns, C.enc n c.pvalue = none)) :=
  ⟨encryptRun_rel C ex cs ns hns, encryptRun_end C ex cs ns⟩

theorem response_loop_completes_iff (C : Codec) (ex : List Bytes) (ns : List Bytes) (cs : List RCookie)
    (ws : List WCookie) : encryptJar C ex ns cs = some ws ↔ encryptRun C ex ns cs = (ws, true) :=
  encryptJar_eq_some_iff C ex ns cs ws

/-- cookies written by code that is not behind the middleware (middleware registered in front of it,
    after its `c.Next()`; the ErrorHandler) are not encrypted — they are written after the response
    loop ran. What the middleware produced is never altered by them: every cookie on the wire is one
    the middleware left, or one of those late writes, whole (a late `c.Cookie` under the stored key of
    one of the middleware's cookies REPLACES it). -/
theorem late_writes_keep_or_replace (ws : List WCookie) (ops : List Late) (w : WCookie)
    (h : w ∈ applyLate ws ops) : w ∈ ws ∨ ∃ l ∈ ops, l.w = w := mem_applyLate ops ws w h

theorem no_late_writes (ws : List WCookie) : applyLate ws [] = ws := rfl

theorem wire_clause (mid : List WCookie) (late : List Late) :
    ((applyLate mid late).all fun w => mid.contains w || late.any fun l => l.w == w) = true := by
  rw [List.all_eq_true]
  intro w hw
  rcases mem_applyLate late mid w hw with h | ⟨l, hl, he⟩
  · simp [h]
  · simp only [Bool.or_eq_true, List.any_eq_true]
    right; exact ⟨l, hl, by simp [he]⟩

/-- the whole handler: for every configured pair (incl. a Decryptor that panics and an
    Encryptor that fails), `Config.Next` decision, request collection, response cookies (those set in
    front of the middleware and those set behind it), way the handlers behind end (`nil`, error, panic),
    recover middleware or not, and late writes: the oracle finds no violated clause in what `serve`
    produces — views, the response where the middleware is left, the wire. Hypotheses: unforgeability on
    the request and completeness of the log (only when not skipped), wire format, a truthful log that
    contains what this exchange issues, good nonces and enough of them, and `Told` being true of the
    configured pair. (`hS`, `hC` are not needed when a Decryptor panic keeps every handler from running.) -/
theorem serve_meets_spec {m : Mw} {wc : WireCodec} {t : Told} {issB issA : Issued} (x : Exchange)
    (hS : x.skip = false → m.codec.SoundOn wc issB x.jar)
    (hC : x.skip = false → m.codec.Complete wc issB)
    (hF : m.codec.Format wc)
    (hfun : ∀ e ∈ issA, m.codec.dec e.1 = some e.2)
    (hsub : x.skip = false →
      ∀ e ∈ issuedBy m.except x.cookies (encryptRun m.codec m.except x.nonces x.cookies).1, e ∈ issA)
    (hns : ∀ n ∈ x.nonces, goodNonce n) (hlen : encCount m.except x.cookies ≤ x.nonces.length)
    (hT : ∀ n v, m.codec.enc n v = none → t.keyValid = false ∨ t.encFails v = true)
    (hD : ∀ s, m.decPanics s = true → t.decPanics s = true) :
    exchangeViolation wc m.except t issB issA x (serve m x) = none := by
  -- The three fields of `serve` against the oracle, along the three ways through it: skipped; a Decryptor panic (no
  -- handler ran); the response loop ran. In each the request clause holds (raw views / the excuse `hany` /
  -- `request_meets_spec`) and what is left at `mid` passes the response clause (`passThrough_keep` / `hresp`, with
  -- `hexc` where the loop stopped short). `serve_wire` then says whether anything is sent: if not, the oracle asks for
  -- the reason, which is the condition itself; if so, it is `applyLate mid late`, which `wire_clause` accepts.
  unfold exchangeViolation
  rw [serve_wire, serve_views, serve_mid]
  cases hskip : x.skip with
  | true =>
    simp only [if_true, reqViolationAt, skip_request_ok, passThrough_keep, Bool.true_eq_false, false_and, or_false]
    by_cases hp : x.recover = false ∧ x.flow = Flow.panic
    · simp [hp.1, hp.2]
    · simp only [hp, if_false, wire_clause, if_true]
  | false =>
    simp only [Bool.false_eq_true, if_false, true_and]
    cases hrp : reqPanics m.decPanics m.except x.jar with
    | true =>
      have hany : (x.jar.any fun e => !isDisabled e.1 m.except && t.decPanics e.2) = true := by
        obtain ⟨e, he, hb⟩ := List.any_eq_true.mp hrp
        rw [Bool.and_eq_true] at hb
        exact List.any_eq_true.mpr ⟨e, (mem_firsts he).1, by rw [hb.1, hD _ hb.2]; rfl⟩
      simp only [if_true, Bool.not_false, Bool.true_and, hany, Option.isNone_none, passThrough_keep, true_or, or_true,
        and_true]
      cases hr : x.recover with
      | true => simp only [Bool.true_eq_false, if_false, wire_clause, if_true]
      | false => simp
    | false =>
      simp only [Bool.false_eq_true, if_false, false_or, reqViolationAt,
        request_meets_spec m.except x.jar (hS hskip) (hC hskip) x.ks, Option.isNone_some]
      have hresp := resp_run hF hfun x.cookies hns (hsub hskip)
      have hend := encryptRun_end m.codec m.except x.cookies x.nonces
      generalize encryptRun m.codec m.except x.nonces x.cookies = run at hresp hend ⊢
      have hlt : run.2 = false → run.1.length < x.cookies.length := fun hok =>
        let ⟨_, hget, _⟩ := hend.2 hok
        (List.getElem?_eq_some_iff.mp hget).1
      have hnlt : ¬ x.cookies.length < run.1.length := by
        cases hok : run.2 with
        | true => have := hend.1 hok; omega
        | false => have := hlt hok; omega
      have hexc : run.1.length < x.cookies.length → stopExcused t x.cookies run.1.length = true := by
        intro hl
        cases hok : run.2 with
        | true => have := hend.1 hok; omega
        | false =>
          obtain ⟨c, hget, _, hwhy⟩ := hend.2 hok
          unfold stopExcused
          rw [hget]
          rcases hwhy with h | ⟨n, _, h⟩
          · omega
          · rcases hT n c.pvalue h with h | h <;> simp [h]
      by_cases hp : x.recover = false ∧ (x.flow = Flow.panic ∨ run.2 = false)
      · rcases hp with ⟨hr, hf | hs⟩
        · simp [hr, hf]
        · simp [hr, hs, hlt hs, hexc (hlt hs)]
      · have : (decide (run.1.length < x.cookies.length) && !stopExcused t x.cookies run.1.length) = false := by
          by_cases h : run.1.length < x.cookies.length
          · simp [hexc h]
          · simp [h]
        simp only [hp, if_false, hnlt, hresp, Bool.not_true, Bool.false_eq_true, this, wire_clause, if_true]

/-- the whole handler for a pair that is complete, correct and formatted with respect to a log and sound on
    what the request carries, the response being judged against that log extended by what this exchange issues -/
theorem serve_meets_spec_logged {m : Mw} {wc : WireCodec} {t : Told} {iss : Issued} (x : Exchange)
    (hS : m.codec.SoundOn wc iss x.jar) (hC : m.codec.Complete wc iss) (hCor : m.codec.Correct) (hF : m.codec.Format wc)
    (hns : ∀ n ∈ x.nonces, goodNonce n) (hlen : encCount m.except x.cookies ≤ x.nonces.length)
    (hb : ∀ c ∈ x.cookies, IsBytes c.pvalue)
    (hT : ∀ n v, m.codec.enc n v = none → t.keyValid = false ∨ t.encFails v = true)
    (hD : ∀ s, m.decPanics s = true → t.decPanics s = true) :
    exchangeViolation wc m.except t iss
      (iss ++ issuedBy m.except x.cookies (encryptRun m.codec m.except x.nonces x.cookies).1) x (serve m x) = none :=
  serve_meets_spec x (fun _ => hS) (fun _ => hC) hF
    (List.forall_mem_append.mpr ⟨hC.functional, wrote_functional hCor (wrote_run hns hb)⟩)
    (fun _ _ he => List.mem_append_right _ he) hns hlen hT hD

/-- the oracle is told the truth about utils.go's pair under a valid key: nothing fails, nothing panics -/
def stdTold : Told := { keyValid := true, encFails := fun _ => false, decPanics := fun _ => false }

/-- the whole handler from the AES-GCM hypotheses (utils.go's pair, valid key): with AEAD correctness,
    GCM shape, integrity w.r.t. the seal log `L` and a truthful log, for every `Config.Next` decision,
    request, response cookies (byte values), way the handlers end, recover or not, late writes: no clause
    is violated, the response being judged against the log extended by what this exchange issues. -/
theorem serve_meets_spec_aesgcm {A : Aead} {key kd : Bytes} {L : SealLog} (hk : decode key = some kd)
    (hv : validKeyLen kd.length = true) (hA : A.Correct) (hG : A.GcmShape) (hAu : A.Authentic kd L)
    (hL : A.Logged kd L) (ex : List Bytes) (x : Exchange) (hns : ∀ n ∈ x.nonces, goodNonce n)
    (hlen : encCount ex x.cookies ≤ x.nonces.length) (hb : ∀ c ∈ x.cookies, IsBytes c.pvalue) :
    exchangeViolation stdWire ex stdTold (wireIssued L)
      (wireIssued L ++ issuedBy ex x.cookies (encryptRun (stdCodec A key) ex x.nonces x.cookies).1) x
      (serve (stdMw A key ex) x) = none :=
  serve_meets_spec_logged (m := stdMw A key ex) x ((std_sound hk hAu).on _) (std_complete hk hv hL) (std_correct hA hG)
    (std_format hG) hns hlen hb (fun n v h => absurd ⟨kd, hk, hv⟩ ((std_enc_none_iff A key n v).mp h)) nofun

/-- … and for every other key text the constructor accepts (it does not decode, or to a wrong length):
    nothing was ever issued; every non-excepted request cookie reaches the handler empty; a response
    with a non-excepted cookie panics with nothing in clear left of it; no clause is violated. Together
    with `serve_meets_spec_aesgcm`: the key handling is total. -/
theorem serve_meets_spec_invalid_key (A : Aead) (key : Bytes) (hbad : ¬ KeyValid key) (ex : List Bytes)
    (x : Exchange) (hns : ∀ n ∈ x.nonces, goodNonce n) (hlen : encCount ex x.cookies ≤ x.nonces.length) :
    exchangeViolation stdWire ex { stdTold with keyValid := false } [] [] x (serve (stdMw A key ex) x) = none := by
  obtain ⟨hdec, henc⟩ := std_invalid_key A key hbad
  refine serve_meets_spec (m := stdMw A key ex) x (fun _ => soundOn_of_dec_none hdec) (fun _ => complete_nil)
    (fun n p e _ he => nomatch (henc n p).symm.trans he) nofun ?_ hns hlen (fun _ _ _ => Or.inl rfl) nofun
  intro _ e he
  obtain ⟨_, n, _, hen⟩ := mem_issuedBy_run x.cookies hns e he
  exact nomatch (henc n e.2).symm.trans hen

/- the faulty custom pair of the harness (Encryptor errors / panics on some values, Decryptor panics on
   some texts) inherits correctness and wire format from the pair it wraps: failing more often cannot
   break either -/
theorem faulty_enc_some {C : Codec} {n p e : Bytes} (h : (faultyCodec C).enc n p = some e) :
    (wrapCodec C).enc n p = some e := by
  simp only [faultyCodec] at h
  split at h
  · cases h
  · exact h

theorem faulty_correct {C : Codec} (h : (wrapCodec C).Correct) : (faultyCodec C).Correct :=
  fun n p e hn hp he => h n p e hn hp (faulty_enc_some he)

theorem faulty_format {C : Codec} {wc : WireCodec} (h : (wrapCodec C).Format wc) : (faultyCodec C).Format wc :=
  fun n p e hn he => h n p e hn (faulty_enc_some he)

/-- the whole handler with a custom pair that errors and panics (valid key, AES-GCM hypotheses): a
    Decryptor panic keeps every handler from running, an Encryptor error or panic stops the response
    loop with nothing in clear; no clause is violated. -/
theorem serve_meets_spec_faulty {A : Aead} {key kd : Bytes} {L : SealLog} (hk : decode key = some kd)
    (hv : validKeyLen kd.length = true) (hA : A.Correct) (hG : A.GcmShape) (hAu : A.Authentic kd L)
    (hL : A.Logged kd L) (ex : List Bytes) (x : Exchange) (hns : ∀ n ∈ x.nonces, goodNonce n)
    (hlen : encCount ex x.cookies ≤ x.nonces.length) (hb : ∀ c ∈ x.cookies, IsBytes c.pvalue) :
    let m : Mw := { codec := faultyCodec (stdCodec A key), decPanics := faultyDecPanics, except := ex }
    exchangeViolation wrapWire ex { keyValid := true, encFails := faultyEnc, decPanics := faultyDecPanics }
      (wrapIssued (wireIssued L))
      (wrapIssued (wireIssued L) ++ issuedBy ex x.cookies (encryptRun m.codec ex x.nonces x.cookies).1) x
      (serve m x) = none := by
  intro m
  refine serve_meets_spec_logged (m := m) x ((wrap_sound (std_sound hk hAu)).on _) (wrap_complete (std_complete hk hv hL))
    (faulty_correct (wrap_correct (std_correct hA hG))) (faulty_format (wrap_format (std_format hG))) hns hlen hb
    (fun n v hnone => Or.inr ?_) (fun s hs => hs)
  simp only [m, faultyCodec] at hnone
  split at hnone
  · assumption
  · rw [wrapCodec, Option.map_eq_none_iff] at hnone
    exact absurd ⟨kd, hk, hv⟩ ((std_enc_none_iff A key n v).mp hnone)

/-- unforgeability along a history: at every step that is not skipped, whatever the request carries
    that the Decryptor accepts denotes a ciphertext issued BEFORE that step -/
def Unforgeable (C : Codec) (wc : WireCodec) (ex : List Bytes) : Issued → List Step → Prop
  | _, [] => True
  | log, s :: rest =>
    (s.skip = false → C.SoundOn wc log s.jar) ∧ Unforgeable C wc ex (nextLog C ex log s) rest

def GoodSteps (steps : List Step) : Prop :=
  ∀ s ∈ steps, (∀ n ∈ s.nonces, goodNonce n) ∧ (∀ c ∈ s.cookies, IsBytes c.pvalue)

/-- every history: for a correct Encryptor/Decryptor pair with the wire format, whose Decryptor
    depends on a text only through the ciphertext it denotes, and any sequence of exchanges — some of
    them skipped by `Config.Next`, some with a response loop stopped by a failing Encryptor — in which
    the client cannot forge (each request that is not skipped carries nothing decryptable that was not
    issued before): no step violates any clause of the oracle — requests judged against the log issued
    so far, responses against the log including them. The log is the one the middleware itself
    produces (nothing for a skipped step; the encrypted prefix for a stopped loop). -/
theorem history_meets_spec {C : Codec} {wc : WireCodec} (hCor : C.Correct) (hF : C.Format wc)
    (hR : C.Respects wc) (ex : List Bytes) :
    ∀ (steps : List Step) (log : Issued), C.Wrote log → GoodSteps steps →
      Unforgeable C wc ex log steps → historyViolation C wc ex log steps = none := by
  intro steps
  induction steps with
  | nil => intro _ _ _ _; rfl
  | cons s rest ih =>
    intro log hW hG hU
    obtain ⟨hS, hU'⟩ := hU
    obtain ⟨hGs, hGr⟩ := List.forall_mem_cons.mp hG
    have hW' : C.Wrote (nextLog C ex log s) := by
      unfold nextLog; split
      · exact hW
      · exact List.forall_mem_append.mpr ⟨hW, wrote_run hGs.1 hGs.2⟩
    have hrest := ih _ hW' hGr hU'
    unfold historyViolation
    rw [request_meets_spec_next s.skip ex s.jar hS (fun _ => complete_of_wrote hCor hF hR hW) s.ks]
    simp only
    cases hsk : s.skip with
    | true =>
      simp only [if_true, stepMid, hsk, passThrough_keep, Bool.not_true, Bool.false_eq_true, if_false]
      simpa [nextLog, hsk] using hrest
    | false =>
      have hresp := resp_run (ex := ex) hF (wrote_functional hCor hW') s.cookies hGs.1
        (fun e hm => by simp [nextLog, hsk, hm])
      simp only [Bool.false_eq_true, if_false, stepMid, hsk, hresp, Bool.not_true]
      exact hrest

def historyViews (C : Codec) (ex : List Bytes) (steps : List Step) : List Views :=
  steps.map fun s => mwViews s.skip C ex s.jar s.ks

/-- the request-side view is a function of (configuration, that request's cookies) ONLY: whatever was
    served before — in particular the genuine value of a cookie, decrypted successfully — what a handler
    sees for a request is the same as on a fresh middleware. (The issued log enters the spec, never the
    middleware: it keeps nothing between requests.) -/
theorem request_view_stateless (C : Codec) (ex : List Bytes) (before₁ before₂ : List Step) (s : Step) :
    (historyViews C ex (before₁ ++ [s])).getLast? = some (mwViews s.skip C ex s.jar s.ks) ∧
    (historyViews C ex (before₁ ++ [s])).getLast? = (historyViews C ex (before₂ ++ [s])).getLast? := by
  simp [historyViews]

/-- the same for the whole handler: the views depend on the `Next` decision, the request's cookies and the
    names looked up — not on the response side, the surroundings, or anything earlier -/
theorem serve_views_depend_only_on_request (m : Mw) (x y : Exchange) (h1 : x.skip = y.skip)
    (h2 : x.jar = y.jar) (h3 : x.ks = y.ks) : (serve m x).views = (serve m y).views := by
  rw [serve_views, serve_views, h1, h2, h3]

/-- consequence: a value the Decryptor refuses is refused after ANY history — also right after the genuine
    value it was derived from (same name, same nonce prefix, altered behind) was accepted -/
theorem altered_after_genuine_is_refused (C : Codec) (ex : List Bytes) (before : List Step) (k r : Bytes)
    (ks : List Bytes) (hk : isDisabled k ex = false) (hd : C.dec r = none) :
    ((historyViews C ex (before ++ [{ jar := [(k, r)], ks := ks, cookies := [], nonces := [] }])).getLast?.map
      (·.enum)) = some [(k, [])] := by
  rw [(request_view_stateless C ex before [] _).1]
  simp [mwViews, modelViews, decryptJar_eq, firsts, openValue, hk, hd]

theorem history_meets_spec_aesgcm {A : Aead} (hA : A.Correct) (hG : A.GcmShape) (key : Bytes)
    (ex : List Bytes) (steps : List Step) (hgood : GoodSteps steps)
    (hU : Unforgeable (stdCodec A key) stdWire ex [] steps) :
    historyViolation (stdCodec A key) stdWire ex [] steps = none :=
  history_meets_spec (std_correct hA hG) (std_format hG) (std_respects A key) ex steps []
    (fun e he => by cases he) hgood hU

/-- `configDefault` validates only emptiness; a key text that does not decode or has a wrong length
    makes the middleware fail closed: every non-excepted request cookie reaches the handler empty, and
    a response with a non-excepted cookie is not sent at all (panic). -/
theorem invalid_key_fails_closed (A : Aead) (key : Bytes) (ex : List Bytes)
    (hbad : ∀ kd, decode key = some kd → validKeyLen kd.length = false) :
    (∀ j k v, (k, v) ∈ decryptJar (stdCodec A key) ex j → isDisabled k ex = false → v = []) ∧
    (∀ ns cs, (∃ c ∈ cs, isDisabled c.key ex = false) → encryptJar (stdCodec A key) ex ns cs = none) := by
  obtain ⟨hdec, henc⟩ := std_invalid_key A key (not_keyValid hbad)
  constructor
  · intro j k v hm hk
    exact (tampered_reaches_handler_empty_or_original (wc := stdWire) (iss := []) ex j (soundOn_of_dec_none hdec)
      k v hm hk).resolve_right fun ⟨_, _, _, h, _⟩ => nomatch h
  · intro ns cs hc
    exact (encryptJar_eq_none_iff _ ex ns cs).mpr (encryptRun_fails_of _ ex cs henc hc ns)

/-- which key texts the default codec accepts: exactly those that base64-decode (newlines and padding
    bits tolerated) to 16, 24 or 32 bytes -/
theorem key_accepted_iff (A : Aead) (key n p : Bytes) :
    (∃ e, (stdCodec A key).enc n p = some e) ↔ ∃ kd, decode key = some kd ∧ validKeyLen kd.length = true :=
  Option.ne_none_iff_exists'.symm.trans ((not_congr (std_enc_none_iff A key n p)).trans Classical.not_not)

/-- `configDefault` accepts exactly the non-empty key texts (it looks at nothing else) -/
theorem ctor_accepts_iff (key : Bytes) : ctorPanics key = false ↔ key ≠ [] := by
  cases key <;> simp [ctorPanics]

/-- the request direction cannot panic with utils.go's pair, whatever the key text: a handler behind
    the middleware always runs -/
theorem std_request_never_panics (A : Aead) (key : Bytes) (ex : List Bytes) (x : Exchange) :
    (serve (stdMw A key ex) x).views.isSome = true := by
  rw [serve_views, std_reqPanics]
  cases x.skip <;> rfl

/-- when the response loop panics with utils.go's pair (given enough randomness): exactly when there is
    a cookie to encrypt and the key text is not valid -/
theorem response_panics_iff_invalid_key (A : Aead) (key : Bytes) (ex : List Bytes) (ns : List Bytes)
    (cs : List RCookie) (hlen : encCount ex cs ≤ ns.length) :
    encryptJar (stdCodec A key) ex ns cs = none ↔
      (∃ c ∈ cs, isDisabled c.key ex = false) ∧ ¬ KeyValid key := by
  rw [encryptJar_eq_none_iff]
  constructor
  · intro h
    obtain ⟨c, hget, hd, hwhy⟩ := encryptRun_stop _ ex cs ns h
    refine ⟨⟨c, List.mem_of_getElem? hget, hd⟩, ?_⟩
    rcases hwhy with h | ⟨n, _, h⟩
    · omega
    · exact (std_enc_none_iff A key n c.pvalue).mp h
  · rintro ⟨hc, hk⟩
    exact encryptRun_fails_of _ ex cs (fun n p => (std_enc_none_iff A key n p).mpr hk) hc ns

/-- with a valid key the response loop never panics, given randomness (the request loop never does, whatever
    the key: `std_request_never_panics`) -/
theorem valid_key_never_panics (A : Aead) (key : Bytes) (hk : KeyValid key) (ex : List Bytes)
    (ns : List Bytes) (cs : List RCookie) (hlen : encCount ex cs ≤ ns.length) :
    ∃ ws, encryptJar (stdCodec A key) ex ns cs = some ws := by
  cases h : encryptJar (stdCodec A key) ex ns cs with
  | some ws => exact ⟨ws, rfl⟩
  | none => exact absurd hk ((response_panics_iff_invalid_key A key ex ns cs hlen).mp h).2

/-- "no panic at request time for any key the constructor accepted" — the exact extent to which this
    holds of the code: a key text is panic-free at request time (every Except list, every response,
    enough randomness) iff it is valid. The constructor accepts more (`ctor_accepts_iff`); for the
    rest the first response that carries a non-excepted cookie panics
    (`accepted_key_can_panic_at_request_time`). -/
theorem request_time_panic_free_iff_key_valid (A : Aead) (key : Bytes) :
    (∀ ex ns cs, encCount ex cs ≤ ns.length → encryptJar (stdCodec A key) ex ns cs ≠ none) ↔
      KeyValid key := by
  constructor
  · intro h
    refine Classical.byContradiction fun hk => ?_
    let c : RCookie := ⟨[], [], [], [], []⟩
    have hl : encCount [] [c] ≤ [([] : Bytes)].length := by decide
    exact h [] [[]] [c] hl
      ((response_panics_iff_invalid_key A key [] [[]] [c] hl).mpr ⟨⟨c, List.mem_cons_self, rfl⟩, hk⟩)
  · intro hk ex ns cs hlen h
    obtain ⟨ws, hws⟩ := valid_key_never_panics A key hk ex ns cs hlen
    rw [h] at hws; cases hws

/-- the witness: the key text `abc` is accepted by the constructor, is not valid, and a response with a
    non-excepted cookie panics -/
theorem accepted_key_can_panic_at_request_time :
    ctorPanics (b "abc") = false ∧ ¬ KeyValid (b "abc") ∧
    ∀ (A : Aead) (ns : List Bytes) (c : RCookie),
      encryptJar (stdCodec A (b "abc")) [] ns [c] = none := by
  have hd : decode (b "abc") = none := by decide +kernel
  have hbad : ∀ kd, decode (b "abc") = some kd → validKeyLen kd.length = false :=
    fun kd h => nomatch hd.symm.trans h
  refine ⟨by decide, not_keyValid hbad, ?_⟩
  · intro A ns c
    exact (invalid_key_fails_closed A (b "abc") [] hbad).2 ns [c] ⟨c, by simp, by simp [isDisabled]⟩

/-- when a panic reaches the server with utils.go's pair: there is no recover middleware in front, and
    either a handler behind panicked itself, or the exchange is not skipped, has a cookie to encrypt and
    the key text is not valid. (Nothing else: not the request loop, not `Config.Next`.) -/
theorem server_sees_panic_iff (A : Aead) (key : Bytes) (ex : List Bytes) (x : Exchange)
    (hlen : encCount ex x.cookies ≤ x.nonces.length) :
    (serve (stdMw A key ex) x).wire = none ↔
      x.recover = false ∧ (x.flow = Flow.panic ∨
        (x.skip = false ∧ (∃ c ∈ x.cookies, isDisabled c.key ex = false) ∧ ¬ KeyValid key)) := by
  rw [serve_wire_eq_none_iff, std_reqPanics, ← response_panics_iff_invalid_key A key ex x.nonces x.cookies hlen,
    encryptJar_eq_none_iff]
  simp [stdMw]

/-- The request loop as it was (writing back with `SetCookie` while visiting) violates the property:
    with `a=x; a=y` and a Decryptor that rejects everything, the handler still enumerates the raw
    client text `y`. (Stated with the conclusion "empty, or what the Decryptor made of a value sent under that name";
    the same witness with the empty log refutes `tampered_reaches_handler_empty_or_original` for `decryptJarOld`.) -/
theorem old_request_loop_leaks_raw_duplicate :
    ¬ (∀ (C : Codec) (ex : List Bytes) (j : Jar) (k v : Bytes), (k, v) ∈ decryptJarOld C ex j →
        isDisabled k ex = false → v = [] ∨ ∃ r, (k, r) ∈ j ∧ C.dec r = some v) := by
  intro h
  have := h ⟨fun _ _ => none, fun _ => none⟩ [] [(b "a", b "x"), (b "a", b "y")] (b "a") (b "y")
    (by decide) (by decide)
  rcases this with h | ⟨r, _, h⟩
  · exact absurd h (by decide)
  · cases h

/-- The response loop as it was leaves the second of two same-named cookies in the clear and encrypts
    the first one twice (toy parser: `name=value`, toy Encryptor: prefix byte 0). -/
theorem old_response_loop_leaks_duplicate :
    encryptJarOld ⟨fun _ v => some (0 :: v), fun _ => none⟩ []
      (fun raw => (raw.takeWhile (· != 61), (raw.dropWhile (· != 61)).drop 1, []))
      [[1], [2]] [(b "a", b "a=one"), (b "a", b "a=two")]
      = some [(b "a", b "a=" ++ [0, 0] ++ b "one"), (b "a", b "a=two")] := by
  repeat rw [b_ofList]
  decide +kernel

/-- The fix is behaviour-preserving where there was no defect: for a request whose cookie names are
    pairwise distinct the old in-place loop and the current rebuild produce the same collection. -/
theorem fix_preserves_requests_without_duplicates (C : Codec) (ex : List Bytes) (j : Jar)
    (hnd : (j.map (·.1)).Nodup) : decryptJarOld C ex j = decryptJar C ex j := by
  rw [decryptJarOld, List.range_eq_range', decryptJar_eq, firsts_of_nodup j hnd]
  exact oldLoop C ex j [] hnd

/-- the current request loop on the input of `old_request_loop_leaks_raw_duplicate`: nothing raw -/
example : decryptJar ⟨fun _ _ => none, fun _ => none⟩ [] [(b "a", b "x"), (b "a", b "y")] = [(b "a", [])] := by
  repeat rw [b_ofList]
  decide +kernel

/-- toy AEAD: ciphertext = plaintext (as bytes) followed by a 16-byte tag of zeros -/
def toyAead : Aead :=
  { sealWith := fun _ _ p => p.map (· % 256) ++ List.replicate 16 0,
    openWith := fun _ _ c => if 16 ≤ c.length then some (c.take (c.length - 16)) else none }

theorem toyAead_correct : toyAead.Correct := by
  intro k n p hp
  have : p.map (· % 256) = p :=
    (List.map_congr_left fun a ha => Nat.mod_eq_of_lt (hp a ha)).trans (List.map_id _)
  simp [toyAead, this]

theorem toyAead_shape : toyAead.GcmShape := by
  intro k n p
  constructor
  · intro x hx
    rcases List.mem_append.mp hx with h | h
    · obtain ⟨a, _, rfl⟩ := List.mem_map.mp h
      exact Nat.mod_lt _ (by decide)
    · rw [List.eq_of_mem_replicate h]; decide
  · simp [toyAead]

example : toyAead.Correct ∧ toyAead.GcmShape := ⟨toyAead_correct, toyAead_shape⟩

/-- AEAD given by a finite log: opens exactly what the log holds -/
def logAead (L : SealLog) : Aead :=
  { sealWith := fun _ _ _ => [],
    openWith := fun _ n c => (L.find? fun e => e.1 == n && e.2.1 == c).map (·.2.2) }

theorem logAead_authentic (L : SealLog) (k : Bytes) : (logAead L).Authentic k L := by
  intro n c p h
  obtain ⟨e, he, rfl⟩ := Option.map_eq_some_iff.mp h
  have hp := List.find?_some he
  simp only [Bool.and_eq_true, beq_iff_eq] at hp
  obtain ⟨rfl, rfl⟩ := hp
  exact List.mem_of_find?_eq_some he

example : let L : SealLog := [(List.replicate 12 7, List.replicate 17 9, b "v")]
    (logAead L).Authentic [] L ∧ (logAead L).Logged [] L := by
  intro L
  refine ⟨logAead_authentic L [], ?_⟩
  intro n c p h
  obtain ⟨rfl, rfl, rfl⟩ : n = _ ∧ c = _ ∧ p = _ := by simpa [L] using h
  refine ⟨by decide, by decide, by decide, by decide⟩

def exKey : Bytes := encode (List.replicate 16 1)
def exCookies : List RCookie :=
  [⟨b "a", b "a=hi; path=/", b "a", b "hi", b "; path=/"⟩, ⟨b "csrf_", b "csrf_=t", b "csrf_", b "t", []⟩]

-- round trip: set → only ciphertext for `a`, `csrf_` untouched → echoed → originals
example : (encryptJar (stdCodec toyAead exKey) [b "csrf_"] [List.replicate 12 5] exCookies).map
    (fun ws => (ws.map (·.raw) |>.drop 1, decryptJar (stdCodec toyAead exKey) [b "csrf_"] (echo ws)))
    = some ([b "csrf_=t"], [(b "a", b "hi"), (b "csrf_", b "t")]) := by
  repeat rw [b_ofList]
  decide +kernel

-- the same on the text level: the Set-Cookie texts, scanned like a client would, decrypt to the originals
example : (encryptJar (stdCodec toyAead exKey) [b "csrf_"] [List.replicate 12 5] exCookies).map
    (fun ws => decryptJar (stdCodec toyAead exKey) [b "csrf_"] (ws.map fun w => scanSetCookie w.raw))
    = some [(b "a", b "hi"), (b "csrf_", b "t")] := by
  repeat rw [b_ofList]
  decide +kernel

-- the scanner on a request header: split on `;`, first `=`, blanks and one pair of quotes removed,
-- nameless values kept, empty pairs dropped
example : parseCookieHeader (b "a=1; b = \"q\" ;; =x; y; c=d=e") =
    [(b "a", b "1"), (b "b", b "q"), ([], b "x"), ([], b "y"), (b "c", b "d=e")] := by
  repeat rw [b_ofList]
  decide +kernel

def exL : SealLog := [(List.replicate 12 7, List.replicate 17 9, b "v")]
def exWire : Bytes := encode (List.replicate 12 7 ++ List.replicate 17 9)

-- tampering: the issued text, the same text with a newline inside, an extended text, a duplicate
-- name with attacker text, an excepted name
example : decryptJar (stdCodec (logAead exL) exKey) [b "x"]
    [(b "a", exWire), (b "b", 10 :: exWire), (b "c", exWire ++ [65]), (b "a", b "admin"), (b "x", b "raw")]
    = [(b "a", b "v"), (b "b", b "v"), (b "c", []), (b "x", b "raw")] := by
  repeat rw [b_ofList]
  decide +kernel

-- a concrete history (toy AEAD): set two cookies; send them back with a duplicate carrying attacker
-- text, a truncated value and an excepted cookie; the oracle finds nothing — and does find the
-- violation when the handler is shown the attacker's text
def exSteps : List Step :=
  [{ jar := [], ks := [], cookies := exCookies, nonces := [List.replicate 12 5] },
   { jar := [(b "a", encode (List.replicate 12 5 ++ (toyAead.sealWith [] [] (b "hi")))), (b "a", b "admin"),
             (b "b", (encode (List.replicate 12 5 ++ (toyAead.sealWith [] [] (b "hi")))).take 20),
             (b "csrf_", b "t")],
     ks := [b "a", b "b", b "csrf_", b "zz"], cookies := [], nonces := [] }]

example : historyViolation (stdCodec toyAead exKey) stdWire [b "csrf_"] [] exSteps = none := by
  repeat rw [b_ofList]
  decide +kernel

-- the hypotheses of `history_meets_spec_aesgcm` hold together for ONE AEAD on that history
example : toyAead.Correct ∧ toyAead.GcmShape ∧ GoodSteps exSteps ∧
    Unforgeable (stdCodec toyAead exKey) stdWire [b "csrf_"] [] exSteps := by
  refine ⟨toyAead_correct, toyAead_shape, ?_, ?_, ?_, trivial⟩
  · unfold GoodSteps goodNonce IsBytes; decide +kernel
  · intro _ k r p hm; cases hm
  · exact fun _ => soundOn_of_check (by decide +kernel)

example : reqViolation stdWire [] [] [(b "a", b "admin")]
    { enum := [(b "a", b "admin")], look := [], bind := [], hdr := b "a=admin" }
    = some "handler-enumerates-other-text" := by
  repeat rw [b_ofList]
  decide +kernel

def exMw : Mw := stdMw toyAead exKey [b "csrf_"]

-- an exchange for the examples: the handlers look up the names the request carries, nothing was set in front
def exchg (skip : Bool) (jar : Jar) (cookies : List RCookie) (flow : Flow) (nonces : List Bytes)
    (recover : Bool) (late : List Late) : Exchange :=
  { skip := skip, jar := jar, ks := jar.map (·.1), opre := [], cookies := cookies, flow := flow,
    nonces := nonces, recover := recover, late := late }

-- a skipped exchange: the handler sees the client's raw text, the response cookies leave in clear
example : let x := exchg true [(b "a", b "tampered")] exCookies Flow.ok [] false []
    (serve exMw x).views = some (rawViews [(b "a", b "tampered")] [b "a"]) ∧
    ((serve exMw x).wire.map fun ws => ws.map (·.raw)) = some [b "a=hi; path=/", b "csrf_=t"] := by
  repeat rw [b_ofList]
  decide +kernel

-- the same exchange not skipped: the handler sees "", the client ciphertext
example : let x := exchg false [(b "a", b "tampered")] exCookies Flow.ok [List.replicate 12 5] false []
    ((serve exMw x).views.map (·.enum)) = some [(b "a", [])] ∧
    ((serve exMw x).wire.map fun ws => ws.map (·.raw)) =
      some [b "a=BQUFBQUFBQUFBQUFaGkAAAAAAAAAAAAAAAAAAAAA; path=/", b "csrf_=t"] := by
  repeat rw [b_ofList]
  decide +kernel

-- a handler behind the middleware panics, a recover middleware in front answers: still ciphertext;
-- the error handler's own cookie (a late write) is not encrypted and replaces nothing
def exEh : Late := ⟨true, ⟨b "eh", b "eh=1", b "eh", b "1", []⟩⟩

example : let x := exchg false [] exCookies Flow.panic [List.replicate 12 5] true [exEh]
    ((serve exMw x).wire.map fun ws => ws.map (·.raw)) =
      some [b "a=BQUFBQUFBQUFBQUFaGkAAAAAAAAAAAAAAAAAAAAA; path=/", b "csrf_=t", b "eh=1"] := by
  repeat rw [b_ofList]
  decide +kernel

-- …without it the panic reaches the server
example : (serve exMw (exchg false [] exCookies Flow.panic [List.replicate 12 5] false [])).wire = none := by
  decide +kernel

-- an invalid key (accepted by the constructor): the excepted cookie in front of the first cookie to
-- encrypt is all that is left when the loop panics; nothing in clear
example : (encryptRun (stdCodec toyAead (b "abc")) [b "csrf_"] [List.replicate 12 5]
      (exCookies.reverse ++ exCookies)).1.map (·.raw) = [b "csrf_=t"] ∧
    (encryptRun (stdCodec toyAead (b "abc")) [b "csrf_"] [List.replicate 12 5]
      (exCookies.reverse ++ exCookies)).2 = false := by
  repeat rw [b_ofList]
  decide +kernel

-- a Decryptor that panics: no handler runs; a faulty Encryptor stops the loop at its cookie
def exFaulty : Mw :=
  { codec := faultyCodec (stdCodec toyAead exKey), decPanics := faultyDecPanics, except := [] }

example : let x := exchg false [(b "a", b "PANIC1")] [] Flow.ok [] false []
    (serve exFaulty x).views = none ∧ (serve exFaulty x).wire = none := by
  repeat rw [b_ofList]
  decide +kernel

example : (encryptRun exFaulty.codec [] [List.replicate 12 5, List.replicate 12 6]
      [⟨b "a", b "a=ok", b "a", b "ok", []⟩, ⟨b "b", b "b=ERRx", b "b", b "ERRx", []⟩,
       ⟨b "c", b "c=secret", b "c", b "secret", []⟩]).1.map (·.pkey) = [b "a"] := by
  repeat rw [b_ofList]
  decide +kernel

-- the oracle on observations: plaintext left where the middleware is left is found, a skipped
-- request that was decrypted anyway is found, a late write that garbles a cookie is found
def exX : Exchange := exchg false [] exCookies Flow.panic [List.replicate 12 5] true []
def exTold : Told := { keyValid := true, encFails := fun _ => false, decPanics := fun _ => false }

example : exchangeViolation stdWire [b "csrf_"] exTold [] [] exX
    { views := some (rawViews [] []), mid := exCookies.map keep, wire := some (exCookies.map keep) }
    = some "client-sees-non-ciphertext-or-changed-cookie" := by
  repeat rw [b_ofList]
  decide +kernel

example : exchangeViolation stdWire [] exTold [] [] (exchg true [(b "a", b "x")] [] Flow.ok [] false [])
    { views := some (rawViews [(b "a", [])] [b "a"]), mid := [], wire := some [] }
    = some "next-skip-request-changed" := by
  repeat rw [b_ofList]
  decide +kernel

example : exchangeViolation stdWire [] exTold [] [] (exchg true [] [] Flow.ok [] false [])
    { views := some (rawViews [] []), mid := [], wire := some [⟨b "z", b "z=1", b "z", b "1", []⟩] }
    = some "late-write-damaged-cookie" := by
  repeat rw [b_ofList]
  decide +kernel

-- `serve_meets_spec` on the exchange above with the log it issues itself
example : exchangeViolation stdWire [b "csrf_"] exTold []
    (issuedBy [b "csrf_"] exX.cookies (serve exMw exX).mid) exX (serve exMw exX) = none := by
  repeat rw [b_ofList]
  decide +kernel

-- a history with a skipped step in the middle: the cookie set in clear during the skipped step is
-- rejected ("") when it comes back in a step that is not skipped
def exSteps2 : List Step :=
  [{ skip := true, jar := [(b "a", b "raw")], ks := [b "a"], cookies := exCookies, nonces := [] },
   { jar := [(b "a", b "hi")], ks := [b "a"], cookies := exCookies, nonces := [List.replicate 12 5] }]

example : historyViolation (stdCodec toyAead exKey) stdWire [b "csrf_"] [] exSteps2 = none := by
  repeat rw [b_ofList]
  decide +kernel

-- the genuine value first, then the same text with a character changed behind the nonce: refused
example : (historyViews (stdCodec (logAead exL) exKey) []
    [{ jar := [(b "a", exWire)], ks := [], cookies := [], nonces := [] },
     { jar := [(b "a", exWire.take 20 ++ [66] ++ exWire.drop 21)], ks := [], cookies := [], nonces := [] }]).map (·.enum)
    = [[(b "a", b "v")], [(b "a", [])]] := by
  repeat rw [b_ofList]
  decide +kernel

end C20
