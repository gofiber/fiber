import FiberModel.C20.Lemmas
/-
C20 — the response side and the whole handler (`serve`). Definitions: `Paired`, `WRel` (how a response cookie is related
to what the handler set), `encCount`. Lemmas: the response loop
(`encryptRun`, which stops at a failing Encryptor, and `encryptJar`, the same loop with the failure
hidden), what it issues, `Config.Next`, `serve` field by field, late cookie writes (`applyLate`).
-/
namespace C20
open B

/-- element-wise relation between two lists of equal length (Batteries' `List.Forall₂`; core has none) -/
inductive Paired {α β : Type} (R : α → β → Prop) : List α → List β → Prop
  | nil : Paired R [] []
  | cons {a b l₁ l₂} : R a b → Paired R l₁ l₂ → Paired R (a :: l₁) (b :: l₂)

/-- how one response cookie is related to what the handler set -/
def WRel (C : Codec) (ex : List Bytes) (c : RCookie) (w : WCookie) : Prop :=
  w.pkey = c.pkey ∧ w.tail = c.tail ∧
  (isDisabled c.key ex = true → w.raw = c.raw ∧ w.value = c.pvalue) ∧
  (isDisabled c.key ex = false →
    (∃ n, goodNonce n ∧ C.enc n c.pvalue = some w.value) ∧ w.raw = render c.pkey w.value c.tail)

section
variable {C : Codec} {ex : List Bytes} {c : RCookie} {w : WCookie}

theorem WRel.pkey_eq (h : WRel C ex c w) : w.pkey = c.pkey := h.1

theorem WRel.excepted (h : WRel C ex c w) (hd : isDisabled c.key ex = true) :
    w.raw = c.raw ∧ w.value = c.pvalue := h.2.2.1 hd

theorem WRel.encrypted (h : WRel C ex c w) (hd : isDisabled c.key ex = false) :
    (∃ n, goodNonce n ∧ C.enc n c.pvalue = some w.value) ∧ w.raw = render c.pkey w.value c.tail := h.2.2.2 hd

theorem wrel_asIs (hd : isDisabled c.key ex = true) : WRel C ex c (asIs c) :=
  ⟨rfl, rfl, fun _ => ⟨rfl, rfl⟩, fun hf => absurd hd (by simp [hf])⟩

theorem wrel_sealedCookie {n e : Bytes} (hd : ¬ isDisabled c.key ex = true) (hn : goodNonce n)
    (he : C.enc n c.pvalue = some e) : WRel C ex c (sealedCookie c e) :=
  ⟨rfl, rfl, fun hf => absurd hf hd, fun _ => ⟨⟨n, hn, he⟩, rfl⟩⟩

end

/-- number of cookies the response loop encrypts -/
def encCount (ex : List Bytes) (cs : List RCookie) : Nat := (cs.filter fun c => !isDisabled c.key ex).length

theorem encCount_cons_excepted {ex : List Bytes} {c : RCookie} (r : List RCookie)
    (h : isDisabled c.key ex = true) : encCount ex (c :: r) = encCount ex r := by
  simp [encCount, h]

theorem encCount_cons {ex : List Bytes} {c : RCookie} (r : List RCookie)
    (h : ¬ isDisabled c.key ex = true) : encCount ex (c :: r) = encCount ex r + 1 := by
  simp [encCount, h]

theorem Paired.imp {α β : Type} {R S : α → β → Prop} {l₁ : List α} {l₂ : List β} (h : Paired R l₁ l₂)
    (hi : ∀ a b, R a b → S a b) : Paired S l₁ l₂ := by
  induction h with
  | nil => exact Paired.nil
  | cons hr _ ih => exact Paired.cons (hi _ _ hr) ih

theorem Paired.map_eq {α β γ : Type} {R : α → β → Prop} {f : α → γ} {g : β → γ} {l₁ : List α} {l₂ : List β}
    (h : Paired R l₁ l₂) (hi : ∀ a ∈ l₁, ∀ b, R a b → g b = f a) : l₂.map g = l₁.map f := by
  induction h with
  | nil => rfl
  | cons hr _ ih =>
    rw [List.map_cons, List.map_cons, hi _ List.mem_cons_self _ hr, ih fun a ha => hi a (List.mem_cons_of_mem _ ha)]

/-- what the loop leaves is the finished work for a PREFIX of the handler's cookies -/
theorem encryptRun_rel (C : Codec) (ex : List Bytes) (cs : List RCookie) :
    ∀ (ns : List Bytes), (∀ n ∈ ns, goodNonce n) →
      Paired (WRel C ex) (cs.take (encryptRun C ex ns cs).1.length) (encryptRun C ex ns cs).1 := by
  intro ns hns
  -- the branches of `encryptRun` as `fun_induction` numbers them, here and below: 1 no cookie left, 2 an excepted
  -- cookie, 3 no nonce left, 4 the Encryptor fails, 5 a cookie sealed
  fun_induction encryptRun C ex ns cs
  case case2 hd ih => exact Paired.cons (wrel_asIs hd) (ih hns)
  case case5 hd n _ e he ih =>
    obtain ⟨hn, hns⟩ := List.forall_mem_cons.mp hns
    exact Paired.cons (wrel_sealedCookie hd hn he) (ih hns)
  all_goals exact Paired.nil

theorem encryptRun_end (C : Codec) (ex : List Bytes) (cs : List RCookie) (ns : List Bytes) :
    ((encryptRun C ex ns cs).2 = true → (encryptRun C ex ns cs).1.length = cs.length) ∧
    ((encryptRun C ex ns cs).2 = false → ∃ c, cs[(encryptRun C ex ns cs).1.length]? = some c ∧
      isDisabled c.key ex = false ∧ (ns.length < encCount ex cs ∨ ∃ n ∈ ns, C.enc n c.pvalue = none)) := by
  fun_induction encryptRun C ex ns cs
  case case1 => exact ⟨fun _ => rfl, nofun⟩
  case case2 ns c r hd ih =>
    rw [encCount_cons_excepted r hd]
    exact ⟨fun h => congrArg (· + 1) (ih.1 h), ih.2⟩
  case case3 c r hd =>
    exact ⟨nofun, fun _ => ⟨c, rfl, by simpa using hd, Or.inl (by simp [encCount_cons r hd])⟩⟩
  case case4 c r hd n ns' he =>
    exact ⟨nofun, fun _ => ⟨c, rfl, by simpa using hd, Or.inr ⟨n, by simp, he⟩⟩⟩
  case case5 c r hd n ns' e he ih =>
    rw [encCount_cons r hd]
    refine ⟨fun h => congrArg (· + 1) (ih.1 h), fun h => ?_⟩
    obtain ⟨c', h1, h2, h3⟩ := ih.2 h
    exact ⟨c', h1, h2, h3.imp (by simp) fun ⟨m, hm, h⟩ => ⟨m, List.mem_cons_of_mem _ hm, h⟩⟩

theorem encryptRun_stop (C : Codec) (ex : List Bytes) (cs : List RCookie) (ns : List Bytes) :
    (encryptRun C ex ns cs).2 = false →
    ∃ c, cs[(encryptRun C ex ns cs).1.length]? = some c ∧ isDisabled c.key ex = false ∧
      (ns.length < encCount ex cs ∨ ∃ n ∈ ns, C.enc n c.pvalue = none) :=
  (encryptRun_end C ex cs ns).2

theorem encryptJar_eq_run (C : Codec) (ex : List Bytes) (ns : List Bytes) (cs : List RCookie) :
    encryptJar C ex ns cs =
      if (encryptRun C ex ns cs).2 then some (encryptRun C ex ns cs).1 else none := by
  fun_induction encryptRun C ex ns cs
  case case1 => rfl
  case case2 ns c r hd ih => simp only [encryptJar, if_pos hd, ih]; cases (encryptRun C ex ns r).2 <;> rfl
  case case3 hd => simp only [encryptJar, if_neg hd]; rfl
  case case4 hd n ns' he => simp only [encryptJar, if_neg hd, he]; rfl
  case case5 c r hd n ns' e he ih =>
    simp only [encryptJar, if_neg hd, he, ih]; cases (encryptRun C ex ns' r).2 <;> rfl

theorem encryptJar_eq_some_iff (C : Codec) (ex : List Bytes) (ns : List Bytes) (cs : List RCookie)
    (ws : List WCookie) : encryptJar C ex ns cs = some ws ↔ encryptRun C ex ns cs = (ws, true) := by
  rw [encryptJar_eq_run]
  rcases encryptRun C ex ns cs with ⟨ws', ok⟩
  cases ok <;> simp

theorem encryptJar_eq_none_iff (C : Codec) (ex : List Bytes) (ns : List Bytes) (cs : List RCookie) :
    encryptJar C ex ns cs = none ↔ (encryptRun C ex ns cs).2 = false := by
  rw [encryptJar_eq_run]
  cases (encryptRun C ex ns cs).2 <;> simp

theorem encryptJar_rel (C : Codec) (ex : List Bytes) (cs : List RCookie) :
    ∀ (ns : List Bytes) (ws : List WCookie), (∀ n ∈ ns, goodNonce n) →
      encryptJar C ex ns cs = some ws → Paired (WRel C ex) cs ws := by
  intro ns ws hns h
  have hr := (encryptJar_eq_some_iff C ex ns cs ws).mp h
  have hp := encryptRun_rel C ex cs ns hns
  have hl := (encryptRun_end C ex cs ns).1 (by rw [hr])
  rw [hl, List.take_length, hr] at hp
  exact hp

theorem encryptRun_complete_of (C : Codec) (ex : List Bytes) (cs : List RCookie)
    (henc : ∀ n p, C.enc n p ≠ none) :
    ∀ (ns : List Bytes), encCount ex cs ≤ ns.length → (encryptRun C ex ns cs).2 = true := by
  intro ns hlen
  cases h : (encryptRun C ex ns cs).2 with
  | true => rfl
  | false =>
    obtain ⟨c, _, _, h3⟩ := encryptRun_stop C ex cs ns h
    rcases h3 with h3 | ⟨n, _, h3⟩
    · omega
    · exact absurd h3 (henc n c.pvalue)

theorem encryptRun_all_excepted (C : Codec) (ex : List Bytes) (cs : List RCookie)
    (hc : ∀ c ∈ cs, isDisabled c.key ex = true) :
    ∀ (ns : List Bytes), (encryptRun C ex ns cs).2 = true := by
  intro ns
  cases h : (encryptRun C ex ns cs).2 with
  | true => rfl
  | false =>
    obtain ⟨c, hget, hd, _⟩ := encryptRun_stop C ex cs ns h
    rw [hc c (List.mem_of_getElem? hget)] at hd; cases hd

theorem encryptRun_fails_of (C : Codec) (ex : List Bytes) (cs : List RCookie)
    (henc : ∀ n p, C.enc n p = none) (hc : ∃ c ∈ cs, isDisabled c.key ex = false) :
    ∀ (ns : List Bytes), (encryptRun C ex ns cs).2 = false := by
  intro ns
  fun_induction encryptRun C ex ns cs
  case case1 => obtain ⟨c, hm, _⟩ := hc; cases hm
  case case2 c r hd ih =>
    obtain ⟨c', hm, hd'⟩ := hc
    rcases List.mem_cons.mp hm with rfl | hm
    · rw [hd] at hd'; cases hd'
    · exact ih ⟨c', hm, hd'⟩
  case case5 e he ih => rw [henc] at he; cases he
  all_goals rfl

theorem mem_issuedBy_run {C : Codec} {ex ns : List Bytes} (cs : List RCookie) (hns : ∀ n ∈ ns, goodNonce n) :
    ∀ e ∈ issuedBy ex cs (encryptRun C ex ns cs).1,
      e.2 ∈ cs.map (·.pvalue) ∧ ∃ n, goodNonce n ∧ C.enc n e.2 = some e.1 := by
  fun_induction encryptRun C ex ns cs
  case case2 ns c r hd ih =>
    rw [issuedBy, if_pos hd]
    exact fun e he => ⟨List.mem_cons_of_mem _ (ih hns e he).1, (ih hns e he).2⟩
  case case5 c r hd n ns' k he ih =>
    obtain ⟨hn, hns⟩ := List.forall_mem_cons.mp hns
    rw [issuedBy, if_neg hd]
    exact List.forall_mem_cons.mpr ⟨⟨List.mem_cons_self, n, hn, he⟩,
      fun e hm => ⟨List.mem_cons_of_mem _ (ih hns e hm).1, (ih hns e hm).2⟩⟩
  all_goals exact fun e he => by simp [issuedBy] at he

theorem wrote_run {C : Codec} {ex ns : List Bytes} {cs : List RCookie} (hns : ∀ n ∈ ns, goodNonce n)
    (hb : ∀ c ∈ cs, IsBytes c.pvalue) : C.Wrote (issuedBy ex cs (encryptRun C ex ns cs).1) := by
  intro e he
  obtain ⟨hv, n, hn, hen⟩ := mem_issuedBy_run cs hns e he
  obtain ⟨c, hc, hpv⟩ := List.mem_map.mp hv
  exact ⟨n, hn, hpv ▸ hb c hc, hen⟩

theorem resp_run {C : Codec} {wc : WireCodec} (hF : C.Format wc) {ex ns : List Bytes} {iss : Issued}
    (hfun : ∀ e ∈ iss, C.dec e.1 = some e.2) (cs : List RCookie) (hns : ∀ n ∈ ns, goodNonce n)
    (hsub : ∀ e ∈ issuedBy ex cs (encryptRun C ex ns cs).1, e ∈ iss) :
    respAllOK wc ex iss (cs.take (encryptRun C ex ns cs).1.length) (encryptRun C ex ns cs).1 = true := by
  fun_induction encryptRun C ex ns cs
  case case2 ns c r hd ih =>
    rw [issuedBy, if_pos hd] at hsub
    rw [List.length_cons, List.take_succ_cons, respAllOK, ih hns hsub, respCookieOK, if_pos hd]
    exact Bool.and_true _ ▸ beq_self_eq_true _
  case case5 c r hd n ns' k he ih =>
    rw [issuedBy, if_neg hd] at hsub
    obtain ⟨hn, hns⟩ := List.forall_mem_cons.mp hns
    obtain ⟨hk, hsub⟩ := List.forall_mem_cons.mp hsub
    rw [List.length_cons, List.take_succ_cons, respAllOK, ih hns hsub, respCookieOK, if_neg hd,
      issuedPlain_of_functional iss hfun hk,
      show wireFormatOK wc (sealedCookie c k).value c.pvalue = true from hF n c.pvalue k hn he]
    simp [sealedCookie]
  all_goals rfl

theorem issued_nonces {A : Aead} {key : Bytes} (hG : A.GcmShape) (ex : List Bytes) (cs : List RCookie)
    (ns : List Bytes) (hns : ∀ n ∈ ns, goodNonce n) :
    (issuedBy ex cs (encryptRun (stdCodec A key) ex ns cs).1).filterMap
      (fun e => (decode e.1).map (·.take nonceSize)) <+: ns := by
  fun_induction encryptRun (stdCodec A key) ex ns cs
  case case2 c r hd ih => rw [issuedBy, if_pos hd]; exact ih hns
  case case5 c r hd n ns' e he ih =>
    obtain ⟨hn, hns⟩ := List.forall_mem_cons.mp hns
    obtain ⟨kd, _, _, rfl⟩ := encryptCookie_some he
    rw [issuedBy, if_neg hd, List.filterMap_cons]
    simp only [sealedCookie, decode_sealed hG hn kd c.pvalue, Option.map_some,
      List.take_left' hn.1]
    exact (List.prefix_cons_inj n).mpr (ih hns)
  all_goals exact List.nil_prefix

theorem skip_request_ok (j : Jar) (ks : List Bytes) : skipReqViolation j (rawViews j ks) = none := by
  simp [skipReqViolation, rawViews, hdrOK]

theorem passThrough_keep (cs : List RCookie) : passThrough cs (cs.map keep) = true := by
  simp [passThrough, keep, Function.comp_def]

theorem modelViews_eq_rawViews (C : Codec) (ex : List Bytes) (j : Jar) (ks : List Bytes) :
    modelViews C ex j ks = rawViews (decryptJar C ex j) ks := rfl

theorem serve_views (m : Mw) (x : Exchange) : (serve m x).views =
    if x.skip then some (rawViews x.jar x.ks)
    else if reqPanics m.decPanics m.except x.jar then none
    else some (modelViews m.codec m.except x.jar x.ks) := by
  unfold serve; rw [apply_ite Outcome.views, apply_ite Outcome.views]

theorem serve_mid (m : Mw) (x : Exchange) : (serve m x).mid =
    if x.skip then x.cookies.map keep
    else if reqPanics m.decPanics m.except x.jar then x.opre.map keep
    else (encryptRun m.codec m.except x.nonces x.cookies).1 := by
  unfold serve; rw [apply_ite Outcome.mid, apply_ite Outcome.mid]

theorem serve_wire (m : Mw) (x : Exchange) : (serve m x).wire =
    if x.recover = false ∧ (x.flow = Flow.panic ∨ (x.skip = false ∧
      (reqPanics m.decPanics m.except x.jar = true ∨
        (encryptRun m.codec m.except x.nonces x.cookies).2 = false))) then none
    else some (applyLate (serve m x).mid x.late) := by
  unfold serve
  dsimp only
  cases x.skip <;> cases reqPanics m.decPanics m.except x.jar <;> cases x.recover <;> simp

theorem serve_wire_eq_none_iff (m : Mw) (x : Exchange) : (serve m x).wire = none ↔
    x.recover = false ∧ (x.flow = Flow.panic ∨ (x.skip = false ∧
      (reqPanics m.decPanics m.except x.jar = true ∨
        (encryptRun m.codec m.except x.nonces x.cookies).2 = false))) := by
  rw [serve_wire]
  split <;> simp [*]

theorem std_reqPanics (A : Aead) (key : Bytes) (ex : List Bytes) (j : Jar) :
    reqPanics (stdMw A key ex).decPanics (stdMw A key ex).except j = false := by
  simp [reqPanics, stdMw]

theorem mem_setW {ws : List WCookie} {w w' : WCookie} (h : w' ∈ setW ws w) : w' ∈ ws ∨ w' = w := by
  -- 1 no cookie left, 2 the key found, 3 another key
  fun_induction setW ws w
  case case1 => exact Or.inr (List.mem_singleton.mp h)
  case case2 => exact (List.mem_cons.mp h).elim Or.inr fun h => Or.inl (List.mem_cons_of_mem _ h)
  case case3 ih =>
    exact (List.mem_cons.mp h).elim (fun h => Or.inl (h ▸ List.mem_cons_self))
      fun h => (ih h).imp_left (List.mem_cons_of_mem _)

theorem mem_applyLate (ops : List Late) (ws : List WCookie) (w : WCookie) :
    w ∈ applyLate ws ops → w ∈ ws ∨ ∃ l ∈ ops, l.w = w := by
  refine List.foldlRecOn (motive := fun acc => w ∈ acc → w ∈ ws ∨ ∃ l ∈ ops, l.w = w) ops _ Or.inl
    fun acc ih o ho h => ?_
  have : w ∈ acc ∨ w = o.w := by
    split at h
    · exact mem_setW h
    · simpa using h
  exact this.elim ih fun e => Or.inr ⟨o, ho, e.symm⟩

end C20
