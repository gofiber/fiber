import FiberModel.C20.CookieScan
import FiberModel.C20.Base64Lemmas
import FiberModel.BasicLemmas
/-
C20 — lemmas about the cookie scanner model: what is rendered is read back (`scan_render`), base64 text is
plain (`encode_plain`).
-/
namespace C20
open B

theorem splitOn_head (c : Nat) (a t : Bytes) (h : ∀ x ∈ a, x ≠ c) (ht : t = [] ∨ ∃ r, t = c :: r) :
    (splitOn (a ++ t) c).headD [] = a := by
  rcases ht with rfl | ⟨r, rfl⟩
  · rw [List.append_nil, splitOn_eq_singleton (List.not_mem_of_forall_ne h)]; rfl
  · rw [splitOn_append_cons_of_not_mem r (List.not_mem_of_forall_ne h)]; rfl

theorem indexByte_none (s : Bytes) (c : Nat) (h : ∀ x ∈ s, x ≠ c) : indexByte s c = none :=
  indexByte_eq_none_of_not_mem (List.not_mem_of_forall_ne h)

theorem trimSp_id (s : Bytes) (h : ∀ x ∈ s, x ≠ 32) : trimSp s = s :=
  trim_id s 32 (fun e => h 32 (List.mem_of_head? e) rfl) (fun e => h 32 (List.mem_of_getLast? e) rfl)

theorem unquote_id (s : Bytes) (h : ∀ x ∈ s, x ≠ 34) : unquote s = s := by
  -- 1 surrounded by quotes, 2 not
  fun_cases unquote s
  case case1 hc => exact absurd rfl (h 34 (List.mem_of_head? hc.2.1))
  case case2 => rfl

/-- a byte that may appear in a cookie name or value without being touched by the scanner -/
def plainByte (x : Nat) : Prop := x ≠ 59 ∧ x ≠ 32 ∧ x ≠ 34

/-- the scanner reads back what was rendered: for a non-empty name without `=`,`;`,space,quote, a value
    without `;`,space,quote (it may contain `=`), and attributes that are empty or start with `;`,
    `fasthttp.Cookie.Parse(AppendBytes(name, value, attrs))` yields exactly (name, value). -/
theorem scan_render (k v t : Bytes) (hk0 : k ≠ []) (hk : ∀ x ∈ k, plainByte x ∧ x ≠ 61)
    (hv : ∀ x ∈ v, plainByte x) (ht : t = [] ∨ ∃ r, t = 59 :: r) :
    scanSetCookie (render k v t) = (k, v) := by
  have hseg : ∀ x ∈ k ++ [61] ++ v, x ≠ 59 := by
    intro x hx
    simp only [List.mem_append, List.mem_singleton] at hx
    rcases hx with (h | rfl) | h
    · exact (hk x h).1.1
    · decide
    · exact (hv x h).1
  have hne : k ++ [61] ++ v ++ t ≠ [] := by cases k <;> simp_all
  have htake : (k ++ 61 :: v).take k.length = k := List.take_left' rfl
  have hdrop : (k ++ 61 :: v).drop (k.length + 1) = v := by
    rw [← List.singleton_append, ← List.append_assoc]; exact List.drop_left' (by simp)
  rw [scanSetCookie, render, if_neg hk0, if_neg hne, splitOn_head 59 _ t hseg ht, scanSegment, List.append_assoc,
    List.singleton_append, indexByte_append_cons_of_not_mem v (List.not_mem_of_forall_ne fun x hx => (hk x hx).2)]
  simp only [htake, hdrop, decodeArg, if_true, Bool.false_eq_true, if_false]
  rw [trimSp_id k fun x hx => (hk x hx).1.2.1, trimSp_id v fun x hx => (hv x hx).2.1,
    unquote_id v fun x hx => (hv x hx).2.2]

theorem encode_plain (bs : Bytes) : ∀ x ∈ encode bs, plainByte x :=
  encode_all (fun n => by have := char64_range n; unfold plainByte; omega) (by unfold plainByte PAD; omega) bs

end C20
