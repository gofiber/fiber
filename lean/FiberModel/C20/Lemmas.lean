import FiberModel.C20.Spec
import FiberModel.C20.Base64Lemmas
/-
C20 — the hypotheses about AES-GCM and about codecs (never axioms: always theorem hypotheses; all defined at the head of
this file: `IsBytes`, `goodNonce`, `Aead.*`, `Codec.*` incl. `Codec.Wrote`, a log the codec wrote itself), the request
loop (collections, `decryptJar`), the default and the custom pair, key texts (`KeyValid`), the request loop before the fix.
-/
namespace C20
open B

/-- log of what the server sealed under a key: (nonce, ciphertext‖tag, plaintext) -/
abbrev SealLog := List (Bytes × Bytes × Bytes)

def IsBytes (p : Bytes) : Prop := ∀ x ∈ p, x < 256

def Aead.Correct (A : Aead) : Prop := ∀ k n p, IsBytes p → A.openWith k n (A.sealWith k n p) = some p

/-- integrity: whatever opens under `k` was sealed by the server (is in the log) -/
def Aead.Authentic (A : Aead) (k : Bytes) (L : SealLog) : Prop :=
  ∀ n c p, A.openWith k n c = some p → (n, c, p) ∈ L

/-- the log is truthful and made of byte strings with 12-byte nonces -/
def Aead.Logged (A : Aead) (k : Bytes) (L : SealLog) : Prop :=
  ∀ n c p, (n, c, p) ∈ L → A.openWith k n c = some p ∧ n.length = nonceSize ∧
    (∀ x ∈ n, x < 256) ∧ (∀ x ∈ c, x < 256)

/-- ciphertexts are byte strings of length |p| + 16 (GCM tag) -/
def Aead.GcmShape (A : Aead) : Prop :=
  ∀ k n p, (∀ x ∈ A.sealWith k n p, x < 256) ∧ (A.sealWith k n p).length = p.length + 16

/-- the wire texts behind a seal log (what the default codec writes) -/
def wireIssued (L : SealLog) : Issued := L.map fun e => (encode (e.1 ++ e.2.1), e.2.2)

/-- a nonce as `rand.Reader` delivers it -/
def goodNonce (n : Bytes) : Prop := n.length = nonceSize ∧ ∀ x ∈ n, x < 256

def Codec.Correct (C : Codec) : Prop :=
  ∀ n p e, goodNonce n → IsBytes p → C.enc n p = some e → C.dec e = some p

def Codec.Sound (C : Codec) (wc : WireCodec) (iss : Issued) : Prop :=
  ∀ r p, C.dec r = some p → ∃ c0, (c0, p) ∈ iss ∧ sameCipher wc r c0 = true

/-- `Sound`, only for the values a given request carries. This is the form the theorems use: it is
    a statement about what the CLIENT managed to put into the request (unforgeability), so it is
    compatible with `Codec.Correct` for one and the same AEAD. (`Sound` is not, and neither is
    `Aead.Authentic` with `Aead.Correct`: every value that can be encrypted would have to be in the
    finite log.) -/
def Codec.SoundOn (C : Codec) (wc : WireCodec) (iss : Issued) (j : Jar) : Prop :=
  ∀ k r p, (k, r) ∈ j → C.dec r = some p → ∃ c0, (c0, p) ∈ iss ∧ sameCipher wc r c0 = true

theorem Codec.Sound.on {C : Codec} {wc : WireCodec} {iss : Issued} (h : C.Sound wc iss) (j : Jar) :
    C.SoundOn wc iss j := fun _ r p _ hd => h r p hd

/-- decrypting depends on a text only through the ciphertext it denotes -/
def Codec.Respects (C : Codec) (wc : WireCodec) : Prop :=
  ∀ r r', sameCipher wc r r' = true → C.dec r = C.dec r'

/-- codec level: every text denoting an issued ciphertext decrypts to the issued plaintext -/
def Codec.Complete (C : Codec) (wc : WireCodec) (iss : Issued) : Prop :=
  (∀ c0 p r, (c0, p) ∈ iss → sameCipher wc r c0 = true → C.dec r = some p) ∧
  (∀ c0 p, (c0, p) ∈ iss → sameCipher wc c0 c0 = true)      -- issued texts are well-formed

theorem Codec.Complete.functional {C : Codec} {wc : WireCodec} {iss : Issued} (h : C.Complete wc iss) :
    ∀ e ∈ iss, C.dec e.1 = some e.2 := fun e he => h.1 e.1 e.2 e.1 he (h.2 e.1 e.2 he)

theorem soundOn_of_dec_none {C : Codec} {wc : WireCodec} {iss : Issued} {j : Jar} (h : ∀ r, C.dec r = none) :
    C.SoundOn wc iss j := fun _ r _ _ hd => nomatch (h r).symm.trans hd

/-- for concrete data `SoundOn` is a finite check -/
theorem soundOn_of_check {C : Codec} {wc : WireCodec} {iss : Issued} {j : Jar}
    (h : (j.all fun e => match C.dec e.2 with
      | none => true
      | some p => iss.any fun i => i.2 == p && sameCipher wc e.2 i.1) = true) : C.SoundOn wc iss j := by
  intro k r p hm hd
  have := List.all_eq_true.mp h (k, r) hm
  simp only [hd, List.any_eq_true, Bool.and_eq_true, beq_iff_eq] at this
  obtain ⟨i, hi, rfl, hs⟩ := this
  exact ⟨i.1, hi, hs⟩

theorem complete_nil {C : Codec} {wc : WireCodec} : C.Complete wc [] := ⟨nofun, nofun⟩

def Codec.Format (C : Codec) (wc : WireCodec) : Prop :=
  ∀ n p e, goodNonce n → C.enc n p = some e → wireFormatOK wc e p = true

/-- a log the codec wrote itself: every entry is what the Encryptor made of a byte string under a good nonce -/
def Codec.Wrote (C : Codec) (iss : Issued) : Prop :=
  ∀ e ∈ iss, ∃ n, goodNonce n ∧ IsBytes e.2 ∧ C.enc n e.2 = some e.1

theorem setArg_append (pre rest : Jar) (k v : Bytes) (h : k ∉ pre.map (·.1)) :
    setArg (pre ++ rest) k v = pre ++ setArg rest k v := by
  induction pre with
  | nil => rfl
  | cons e r ih =>
    obtain ⟨k', w⟩ := e
    have hne : ¬ k' = k := fun hk => h (by simp [hk])
    rw [List.cons_append, setArg, if_neg hne, ih fun hm => h (List.mem_cons_of_mem _ hm), List.cons_append]

theorem setArg_not_mem (acc : Jar) (k v : Bytes) (h : k ∉ acc.map (·.1)) :
    setArg acc k v = acc ++ [(k, v)] := by
  have := setArg_append acc [] k v h
  rwa [List.append_nil] at this

/-- the pair the request loop stores for one request cookie -/
def openPair (C : Codec) (ex : List Bytes) (e : Bytes × Bytes) : Bytes × Bytes := (e.1, openValue C ex e.1 e.2)

@[simp] theorem openPair_fst (C : Codec) (ex : List Bytes) (e : Bytes × Bytes) : (openPair C ex e).1 = e.1 := rfl

@[simp] theorem openPair_mk (C : Codec) (ex : List Bytes) (k v : Bytes) :
    openPair C ex (k, v) = (k, openValue C ex k v) := rfl

theorem decryptJar_eq (C : Codec) (ex : List Bytes) (j : Jar) :
    decryptJar C ex j = (firsts [] j).map (openPair C ex) := by
  -- the loop from any point: the names collected so far are among those seen
  suffices ∀ seen r acc, acc.map (·.1) ⊆ seen →
      rebuild C ex seen r acc = acc ++ (firsts seen r).map (openPair C ex) from this [] j [] (List.nil_subset _)
  intro seen r acc hacc
  -- the branches of `rebuild`, and of `firsts` below, as `fun_induction` numbers them: 1 nothing left, 2 a name seen
  -- before, 3 a new name
  fun_induction rebuild C ex seen r acc
  case case1 => simp [firsts]
  case case2 seen k v r acc hk ih =>
    rw [firsts, if_pos hk]
    exact ih (hacc.trans (List.subset_cons_self _ _))
  case case3 seen k v r acc hk ih =>
    have hnot : k ∉ acc.map (·.1) := fun hm => hk (by simpa using hacc hm)
    rw [setArg_not_mem acc k _ hnot] at ih ⊢
    rw [firsts, if_neg hk, ih, List.append_assoc]; rfl
    -- what is left is the premise of `ih`: with `k` collected, the names collected are still among those seen
    rw [List.map_append]
    exact List.append_subset.mpr ⟨hacc.trans (List.subset_cons_self _ _), by simp⟩

theorem mem_firsts {seen : List Bytes} {j : Jar} {e : Bytes × Bytes} (h : e ∈ firsts seen j) :
    e ∈ j ∧ e.1 ∉ seen := by
  fun_induction firsts seen j
  case case1 => cases h
  case case2 ih => exact ⟨List.mem_cons_of_mem _ (ih h).1, fun hm => (ih h).2 (List.mem_cons_of_mem _ hm)⟩
  case case3 seen k v r hk ih =>
    rcases List.mem_cons.mp h with rfl | h
    · exact ⟨List.mem_cons_self, by simpa using hk⟩
    · exact ⟨List.mem_cons_of_mem _ (ih h).1, fun hm => (ih h).2 (List.mem_cons_of_mem _ hm)⟩

theorem firsts_keys_nodup (seen : List Bytes) (j : Jar) : ((firsts seen j).map (·.1)).Nodup := by
  fun_induction firsts seen j
  case case1 => exact List.nodup_nil
  case case2 ih => exact ih
  case case3 seen k v r _ ih =>
    rw [List.map_cons, List.nodup_cons]
    refine ⟨fun hm => ?_, ih⟩
    obtain ⟨e, he, rfl⟩ := List.mem_map.mp hm
    exact (mem_firsts he).2 List.mem_cons_self

theorem firsts_of_nodup (l : Jar) (hn : (l.map (·.1)).Nodup) : firsts [] l = l := by
  suffices ∀ seen, (∀ e ∈ l, e.1 ∉ seen) → firsts seen l = l from this [] (by simp)
  intro seen hs
  fun_induction firsts seen l
  case case1 => rfl
  case case2 seen k v r hk ih => exact absurd (by simpa using hk) (hs (k, v) List.mem_cons_self)
  case case3 seen k v r hk ih =>
    rw [List.map_cons, List.nodup_cons] at hn
    rw [ih hn.2]
    intro e he hm
    rcases List.mem_cons.mp hm with h | h
    · exact hn.1 (List.mem_map.mpr ⟨e, he, h⟩)
    · exact hs e (List.mem_cons_of_mem _ he) h

theorem bindValues_cons_eq (k v : Bytes) (r : Jar) : bindValues ((k, v) :: r) k = v :: bindValues r k := by
  simp [bindValues]

theorem bindValues_cons_ne {k' k : Bytes} (v : Bytes) (r : Jar) (h : k' ≠ k) :
    bindValues ((k', v) :: r) k = bindValues r k := by
  simp [bindValues, h]

theorem bindValues_firsts (k : Bytes) (j : Jar) (seen : List Bytes) :
    bindValues (firsts seen j) k = if seen.contains k then [] else (bindValues j k).take 1 := by
  fun_induction firsts seen j
  case case1 => simp [bindValues]
  case case2 seen k' v r hk ih =>
    rw [ih]
    by_cases hkk : k' = k
    · subst hkk; simp [List.contains_iff_mem.mp hk]
    · rw [List.contains_cons, beq_false_of_ne (Ne.symm hkk), Bool.false_or, bindValues_cons_ne v r hkk]
  case case3 seen k' v r hk ih =>
    by_cases hkk : k' = k
    · subst hkk; rw [bindValues_cons_eq, bindValues_cons_eq, ih]; simpa using hk
    · rw [bindValues_cons_ne v _ hkk, bindValues_cons_ne v r hkk, ih, List.contains_cons,
        beq_false_of_ne (Ne.symm hkk), Bool.false_or]

theorem bindValues_map_openPair (C : Codec) (ex : List Bytes) (k : Bytes) (l : Jar) :
    bindValues (l.map (openPair C ex)) k = (bindValues l k).map (openValue C ex k) := by
  unfold bindValues
  rw [List.filter_map, List.map_map, List.map_map]
  exact List.map_congr_left fun e he => by rw [← eq_of_beq (List.mem_filter.mp he).2]; rfl

theorem bindValues_decryptJar (C : Codec) (ex : List Bytes) (j : Jar) (k : Bytes) :
    bindValues (decryptJar C ex j) k = ((bindValues j k).take 1).map (openValue C ex k) := by
  rw [decryptJar_eq, bindValues_map_openPair, bindValues_firsts]; simp

theorem mem_bindValues {j : Jar} {k r : Bytes} : r ∈ bindValues j k ↔ (k, r) ∈ j := by
  simp [bindValues]

theorem peek_eq_head (j : Jar) (k : Bytes) : peek j k = (bindValues j k).head? := by
  -- 1 nothing left, 2 the name found, 3 another name
  fun_induction peek j k
  case case1 => rfl
  case case2 => simp [bindValues]
  case case3 h ih => simp [bindValues, h, ih]

theorem lookup_decryptJar (C : Codec) (ex : List Bytes) (j : Jar) (k : Bytes) :
    lookup (decryptJar C ex j) k = ((bindValues j k).head?.map (openValue C ex k)).getD [] := by
  unfold lookup
  rw [peek_eq_head, bindValues_decryptJar]
  cases bindValues j k <;> simp

theorem distinctKeys_decryptJar (C : Codec) (ex : List Bytes) (j : Jar) :
    distinctKeys (decryptJar C ex j) = distinctKeys j := by
  unfold distinctKeys
  rw [decryptJar_eq]
  have hk : ((firsts [] j).map (openPair C ex)).map (·.1) = (firsts [] j).map (·.1) := by
    simp [Function.comp_def]
  rw [firsts_of_nodup _ (by rw [hk]; exact firsts_keys_nodup [] j), hk]

theorem mem_authPlain {wc : WireCodec} {iss : Issued} {r c0 p : Bytes} (hm : (c0, p) ∈ iss)
    (hs : sameCipher wc r c0 = true) : p ∈ authPlain wc iss r :=
  List.mem_map.mpr ⟨(c0, p), List.mem_filter.mpr ⟨hm, hs⟩, rfl⟩

theorem valueOK_of {wc : WireCodec} {iss : Issued} {j : Jar} {k v : Bytes}
    (h : v = [] ∨ ∃ r c0, (k, r) ∈ j ∧ (c0, v) ∈ iss ∧ sameCipher wc r c0 = true) :
    valueOK wc iss j k v = true := by
  simp only [valueOK, Bool.or_eq_true, beq_iff_eq, List.any_eq_true, List.contains_eq_mem, decide_eq_true_eq]
  exact h.imp id fun ⟨r, c0, h1, h2, h3⟩ => ⟨r, mem_bindValues.mpr h1, mem_authPlain h2 h3⟩

theorem mem_of_issuedPlain {iss : Issued} {c p : Bytes} (h : issuedPlain iss c = some p) : (c, p) ∈ iss := by
  obtain ⟨e, he, rfl⟩ := Option.map_eq_some_iff.mp h
  have hc : e.1 = c := by simpa using List.find?_some he
  exact hc ▸ List.mem_of_find?_eq_some he

theorem issuedPlain_of_functional {f : Bytes → Option Bytes} (iss : Issued)
    (hf : ∀ e ∈ iss, f e.1 = some e.2) {c p : Bytes} (hm : (c, p) ∈ iss) : issuedPlain iss c = some p := by
  unfold issuedPlain
  cases hfind : iss.find? (fun e => e.1 == c) with
  | none => exact absurd (List.find?_eq_none.mp hfind (c, p) hm) (by simp)
  | some e =>
    have he : e.1 = c := by simpa using List.find?_some hfind
    have h1 := hf e (List.mem_of_find?_eq_some hfind)
    rw [he, hf (c, p) hm] at h1
    exact h1.symm

/-- what the loop stores for a non-excepted cookie (`openValue` is `(C.dec r).getD []` there) is what the oracle expects
    for it -/
theorem expectOne_dec {C : Codec} {wc : WireCodec} {iss : Issued} (r : Bytes)
    (hS : ∀ p, C.dec r = some p → ∃ c0, (c0, p) ∈ iss ∧ sameCipher wc r c0 = true)
    (hC : C.Complete wc iss) : expectOne wc iss r ((C.dec r).getD []) = true := by
  unfold expectOne
  cases hi : issuedPlain iss r with
  | some p =>
    simp [hC.functional _ (mem_of_issuedPlain hi)]
  | none =>
    cases hd : C.dec r with
    | none => simp
    | some p =>
      obtain ⟨c0, hm, hs⟩ := hS p hd
      simp only [Option.getD_some, Bool.or_eq_true]
      right
      simpa using mem_authPlain hm hs

theorem sameCipher_iff {wc : WireCodec} {r c : Bytes} :
    sameCipher wc r c = true ↔ ∃ x, wc.canon r = some x ∧ wc.canon c = some x := by
  unfold sameCipher
  cases h : wc.canon r <;> simp

theorem sameCipher_std {r c : Bytes} :
    sameCipher stdWire r c = true ↔ ∃ x, decode r = some x ∧ decode c = some x := sameCipher_iff

/-- the converse of `Codec.Complete.functional`, for a Decryptor that respects the wire codec and a log
    of readable texts -/
theorem complete_of_functional {C : Codec} {wc : WireCodec} (hR : C.Respects wc) {iss : Issued}
    (hf : ∀ e ∈ iss, C.dec e.1 = some e.2 ∧ (wc.canon e.1).isSome = true) : C.Complete wc iss :=
  ⟨fun c0 p r hm hs => (hR r c0 hs).trans (hf (c0, p) hm).1,
   fun c0 p hm => by
    obtain ⟨x, hx⟩ := Option.isSome_iff_exists.mp (hf (c0, p) hm).2
    exact sameCipher_iff.mpr ⟨x, hx, hx⟩⟩

theorem std_respects (A : Aead) (key : Bytes) : (stdCodec A key).Respects stdWire := by
  intro r r' hs
  obtain ⟨x, h1, h2⟩ := sameCipher_std.mp hs
  show decryptCookie A r key = decryptCookie A r' key
  unfold decryptCookie
  rw [h1, h2]

/-- the key text base64-decodes (newlines and padding bits tolerated) to 16, 24 or 32 bytes -/
def KeyValid (key : Bytes) : Prop := ∃ kd, decode key = some kd ∧ validKeyLen kd.length = true

theorem not_keyValid {key : Bytes} (h : ∀ kd, decode key = some kd → validKeyLen kd.length = false) :
    ¬ KeyValid key :=
  fun ⟨kd, hk, hv⟩ => nomatch (h kd hk).symm.trans hv

theorem decryptCookie_some {A : Aead} {r key p : Bytes} (h : decryptCookie A r key = some p) :
    ∃ kd enc, decode key = some kd ∧ validKeyLen kd.length = true ∧ decode r = some enc ∧
      A.openWith kd (enc.take nonceSize) (enc.drop nonceSize) = some p := by
  revert h
  -- the five ways through `decryptCookie`; only the last returns anything
  fun_cases decryptCookie A r key <;> intro h
  case case5 kd hk hv enc hr _ => exact ⟨kd, enc, hk, by simpa using hv, hr, h⟩
  all_goals cases h

theorem decryptCookie_wire {A : Aead} {r key kd n c : Bytes} (hk : decode key = some kd)
    (hv : validKeyLen kd.length = true) (hr : decode r = some (n ++ c)) (hn : n.length = nonceSize) :
    decryptCookie A r key = A.openWith kd n c := by
  unfold decryptCookie
  have : ¬ (n ++ c).length < nonceSize := by simp [hn]
  simp only [hk, hv, hr, this, Bool.not_true, Bool.false_eq_true, if_false,
    List.take_left' hn, List.drop_left' hn]

theorem std_sound {A : Aead} {key kd : Bytes} {L : SealLog} (hk : decode key = some kd)
    (hA : A.Authentic kd L) : (stdCodec A key).Sound stdWire (wireIssued L) := by
  intro r p hd
  obtain ⟨kd', enc, hk', _, hr, ho⟩ := decryptCookie_some hd
  rw [hk] at hk'; cases hk'
  have hm := hA _ _ _ ho
  refine ⟨encode (enc.take nonceSize ++ enc.drop nonceSize), ?_, ?_⟩
  · unfold wireIssued
    exact List.mem_map.mpr ⟨_, hm, rfl⟩
  · rw [List.take_append_drop, sameCipher_std]
    exact ⟨enc, hr, decode_encode enc (decode_bytes hr)⟩

theorem std_complete {A : Aead} {key kd : Bytes} {L : SealLog} (hk : decode key = some kd)
    (hv : validKeyLen kd.length = true) (hL : A.Logged kd L) :
    (stdCodec A key).Complete stdWire (wireIssued L) := by
  refine complete_of_functional (std_respects A key) fun e he => ?_
  obtain ⟨⟨n, c, p⟩, hmem, rfl⟩ := List.mem_map.mp he
  obtain ⟨ho, hn, hbn, hbc⟩ := hL n c p hmem
  have hd := decode_encode _ (List.forall_mem_append.mpr ⟨hbn, hbc⟩)
  exact ⟨(decryptCookie_wire hk hv hd hn).trans ho, Option.isSome_iff_exists.mpr ⟨_, hd⟩⟩

theorem encryptCookie_some {A : Aead} {n p key e : Bytes} (h : encryptCookie A n p key = some e) :
    ∃ kd, decode key = some kd ∧ validKeyLen kd.length = true ∧ e = encode (n ++ A.sealWith kd n p) := by
  revert h
  fun_cases encryptCookie A n p key <;> intro h
  case case3 kd hk hv => exact ⟨kd, hk, by simpa using hv, (Option.some.inj h).symm⟩
  all_goals cases h

theorem decode_sealed {A : Aead} (hG : A.GcmShape) {n : Bytes} (hn : goodNonce n) (kd p : Bytes) :
    decode (encode (n ++ A.sealWith kd n p)) = some (n ++ A.sealWith kd n p) :=
  decode_encode _ (List.forall_mem_append.mpr ⟨hn.2, (hG kd n p).1⟩)

theorem std_correct {A : Aead} {key : Bytes} (hA : A.Correct) (hG : A.GcmShape) :
    (stdCodec A key).Correct := by
  intro n p e hn hp he
  obtain ⟨kd, hk, hv, rfl⟩ := encryptCookie_some he
  exact (decryptCookie_wire hk hv (decode_sealed hG hn kd p) hn.1).trans (hA kd n p hp)

theorem std_format {A : Aead} {key : Bytes} (hG : A.GcmShape) : (stdCodec A key).Format stdWire := by
  intro n p e hn he
  obtain ⟨kd, _, _, rfl⟩ := encryptCookie_some he
  unfold wireFormatOK stdWire
  simp only [decode_sealed hG hn kd p]
  rw [beq_self_eq_true, Bool.and_true, beq_iff_eq, List.length_append, hn.1, (hG kd n p).2, Nat.add_assoc]

theorem std_invalid_key (A : Aead) (key : Bytes) (h : ¬ KeyValid key) :
    (∀ r, (stdCodec A key).dec r = none) ∧ (∀ n p, (stdCodec A key).enc n p = none) :=
  ⟨fun _ => Option.eq_none_iff_forall_ne_some.mpr fun _ hp =>
      let ⟨kd, _, hk, hv, _⟩ := decryptCookie_some hp
      h ⟨kd, hk, hv⟩,
   fun _ _ => Option.eq_none_iff_forall_ne_some.mpr fun _ he =>
      let ⟨kd, hk, hv, _⟩ := encryptCookie_some he
      h ⟨kd, hk, hv⟩⟩

theorem std_enc_none_iff (A : Aead) (key n p : Bytes) :
    (stdCodec A key).enc n p = none ↔ ¬ KeyValid key :=
  ⟨fun h ⟨kd, hk, hv⟩ => by simp [stdCodec, encryptCookie, hk, hv] at h, fun h => (std_invalid_key A key h).2 n p⟩

def wrapIssued (iss : Issued) : Issued := iss.map fun e => (88 :: e.1.reverse, e.2)

/-- the `match` is the one inside `wrapCodec.dec` (`f := C.dec`) and `wrapWire.canon` (`f := decode`), which unfold to it -/
theorem tagged_some {α : Type} {f : Bytes → Option α} {s : Bytes} {x : α}
    (h : (match s with | 88 :: t => f t.reverse | _ => none) = some x) :
    ∃ t, s = 88 :: t.reverse ∧ f t = some x := by
  split at h
  · exact ⟨_, by rw [List.reverse_reverse], h⟩
  · cases h

theorem wrap_dec (C : Codec) (t : Bytes) : (wrapCodec C).dec (88 :: t.reverse) = C.dec t := by
  simp [wrapCodec]

theorem sameCipher_wrap {r c : Bytes} :
    sameCipher wrapWire (88 :: r.reverse) (88 :: c.reverse) = sameCipher stdWire r c := by
  simp [sameCipher, wrapWire, stdWire]

theorem sameCipher_wrap_left {s c : Bytes} (h : sameCipher wrapWire s (88 :: c.reverse) = true) :
    ∃ t, s = 88 :: t.reverse ∧ sameCipher stdWire t c = true := by
  obtain ⟨x, h1, _⟩ := sameCipher_iff.mp h
  obtain ⟨t, rfl, _⟩ := tagged_some (f := decode) h1
  exact ⟨t, rfl, sameCipher_wrap ▸ h⟩

theorem mem_wrapIssued {iss : Issued} {c0 p : Bytes} (h : (c0, p) ∈ wrapIssued iss) :
    ∃ c, (c, p) ∈ iss ∧ c0 = 88 :: c.reverse := by
  obtain ⟨⟨c, p'⟩, hm, he⟩ := List.mem_map.mp h
  cases he
  exact ⟨c, hm, rfl⟩

theorem wireFormatOK_wrap (s p : Bytes) : wireFormatOK wrapWire (88 :: s.reverse) p = wireFormatOK stdWire s p := by
  simp only [wireFormatOK, wrapWire, stdWire, List.reverse_reverse]
  cases decode s with
  | none => rfl
  -- `reverse` is injective: `88 :: (encode bs).reverse = 88 :: s.reverse` iff `encode bs = s`
  | some bs => congr 1; rw [Bool.eq_iff_iff]; simp

theorem wrap_correct {C : Codec} (h : C.Correct) : (wrapCodec C).Correct := by
  intro n p e hn hp he
  obtain ⟨s, hs, rfl⟩ := Option.map_eq_some_iff.mp he
  rw [wrap_dec]; exact h n p s hn hp hs

theorem wrap_sound {C : Codec} {iss : Issued} (h : C.Sound stdWire iss) :
    (wrapCodec C).Sound wrapWire (wrapIssued iss) := by
  intro r p hd
  obtain ⟨t, rfl, ht⟩ := tagged_some hd
  obtain ⟨c0, hm, hs⟩ := h t p ht
  exact ⟨88 :: c0.reverse, List.mem_map.mpr ⟨(c0, p), hm, rfl⟩, sameCipher_wrap.trans hs⟩

theorem wrap_complete {C : Codec} {iss : Issued} (h : C.Complete stdWire iss) :
    (wrapCodec C).Complete wrapWire (wrapIssued iss) := by
  constructor
  · intro c0 p r hm hs
    obtain ⟨c, hmem, rfl⟩ := mem_wrapIssued hm
    obtain ⟨t, rfl, ht⟩ := sameCipher_wrap_left hs
    rw [wrap_dec]; exact h.1 c p t hmem ht
  · intro c0 p hm
    obtain ⟨c, hmem, rfl⟩ := mem_wrapIssued hm
    exact sameCipher_wrap.trans (h.2 c p hmem)

theorem wrap_format {C : Codec} (h : C.Format stdWire) : (wrapCodec C).Format wrapWire := by
  intro n p e hn he
  obtain ⟨s, hs, rfl⟩ := Option.map_eq_some_iff.mp he
  rw [wireFormatOK_wrap]; exact h n p s hn hs

theorem wrap_respects {C : Codec} (h : C.Respects stdWire) : (wrapCodec C).Respects wrapWire := by
  intro r r' hs
  obtain ⟨x, _, h2⟩ := sameCipher_iff.mp hs
  obtain ⟨t', rfl, _⟩ := tagged_some (f := decode) h2
  obtain ⟨t, rfl, ht⟩ := sameCipher_wrap_left hs
  rw [wrap_dec, wrap_dec]; exact h t t' ht

theorem oldVisit_at (C : Codec) (ex : List Bytes) (pre post : Jar) (e : Bytes × Bytes) (h : e.1 ∉ pre.map (·.1)) :
    oldVisit C ex (pre ++ e :: post) pre.length = pre ++ openPair C ex e :: post := by
  have hget : (pre ++ e :: post)[pre.length]? = some e := by
    rw [List.getElem?_append_right (Nat.le_refl _)]; simp
  rw [oldVisit, hget]
  simp only [openPair, openValue]
  cases hd : isDisabled e.1 ex with
  | true => rfl
  | false => rw [if_neg Bool.false_ne_true, if_neg Bool.false_ne_true, setArg_append _ _ _ _ h, setArg, if_pos rfl]

/-- the in-place loop with `pre` behind it (whatever the visits left there) and `post` still to come -/
theorem oldLoop (C : Codec) (ex : List Bytes) (post : Jar) : ∀ pre : Jar, ((pre ++ post).map (·.1)).Nodup →
    (List.range' pre.length post.length).foldl (oldVisit C ex) (pre ++ post) = pre ++ post.map (openPair C ex) := by
  induction post with
  | nil => intro pre _; simp
  | cons e post ih =>
    intro pre hnd
    have hk : e.1 ∉ pre.map (·.1) := by
      rw [List.map_append, List.nodup_append] at hnd
      exact fun hm => hnd.2.2 _ hm _ List.mem_cons_self rfl
    have := ih (pre ++ [openPair C ex e]) (by simpa using hnd)
    rw [List.length_append, List.append_assoc, List.append_assoc] at this
    rw [List.length_cons, List.range'_succ, List.foldl_cons, oldVisit_at C ex pre post e hk]
    exact this

theorem wrote_functional {C : Codec} (hCor : C.Correct) {iss : Issued} (hW : C.Wrote iss) :
    ∀ e ∈ iss, C.dec e.1 = some e.2 := by
  intro e he
  obtain ⟨n, hn, hb, hen⟩ := hW e he
  exact hCor n e.2 e.1 hn hb hen

theorem complete_of_wrote {C : Codec} {wc : WireCodec} (hCor : C.Correct) (hF : C.Format wc)
    (hR : C.Respects wc) {iss : Issued} (hW : C.Wrote iss) : C.Complete wc iss := by
  refine complete_of_functional hR fun e he => ⟨wrote_functional hCor hW e he, ?_⟩
  obtain ⟨n, hn, _, hen⟩ := hW e he
  have := hF n e.2 e.1 hn hen
  unfold wireFormatOK at this
  cases hc : wc.canon e.1 with
  | none => simp [hc] at this
  | some bs => rfl

end C20
