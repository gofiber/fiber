import FiberModel.C20.Base64
/-
C20 — lemmas about the base64 model: the alphabet, one quantum (three bytes = four sextets), the decoder
on encoded text and the canonical form of decodable text.
-/
namespace C20
open B

theorem val64_char64 : ∀ n, n < 64 → val64 (char64 n) = some n := by decide +kernel

/-- `43 ≤` keeps `\n \r` space `"` out, the last conjunct keeps `;` and `=` out -/
theorem char64_range (n : Nat) : 43 ≤ char64 n ∧ char64 n ≤ 122 ∧ (char64 n ≤ 57 ∨ 65 ≤ char64 n) := by
  fun_cases char64 n <;> omega

theorem char64_ne_pad (n : Nat) : char64 n ≠ PAD := by
  have := char64_range n; unfold PAD; omega

theorem char64_lt (n : Nat) : char64 n < 128 := by
  have := char64_range n; omega

theorem val64_some {c v : Nat} (h : val64 c = some v) : v < 64 ∧ char64 v = c := by
  -- beyond `z` nothing is an alphabet character; up to `z` the two tables are compared entry by entry
  have hc : c < 123 := by
    refine Decidable.by_contra fun hge => ?_
    rw [val64, if_neg (by omega), if_neg (by omega), if_neg (by omega), if_neg (by omega), if_neg (by omega)] at h
    cases h
  have table : ∀ c < 123, ∀ v ∈ val64 c, v < 64 ∧ char64 v = c := by decide +kernel
  exact table c hc v h

theorem val64_pad : val64 PAD = none := by decide

theorem encode_all {P : Nat → Prop} (hc : ∀ n, P (char64 n)) (hp : P PAD) (bs : Bytes) :
    ∀ c ∈ encode bs, P c := by
  fun_induction encode bs <;> simp_all

theorem stripNL_encode (bs : Bytes) : stripNL (encode bs) = encode bs :=
  List.filter_eq_self.mpr fun c hc => by
    have := encode_all (P := fun c => c ≠ 10 ∧ c ≠ 13) (fun n => by have := char64_range n; omega) (by decide) bs c hc
    simp [isNL, this]

theorem pack_div {m k : Nat} (a : Nat) (h : k < m) : (a * m + k) / m = a := by
  rw [Nat.mul_comm, Nat.mul_add_div (by omega), Nat.div_eq_of_lt h, Nat.add_zero]

theorem pack_lt {m n k a : Nat} (ha : a < n) (hk : k < m) : a * m + k < n * m :=
  Nat.lt_of_lt_of_le (Nat.add_lt_add_left hk _) (Nat.succ_mul a m ▸ Nat.mul_le_mul_right m ha)

theorem encode_pack {b c d : Nat} (a : Nat) (hb : b < 64) (hc : c < 64) (hd : d < 64) (t : Bytes) :
    encode ((a * 4 + b / 16) :: (b % 16 * 16 + c / 4) :: (c % 4 * 64 + d) :: t) =
      char64 a :: char64 b :: char64 c :: char64 d :: encode t := by
  have hb' : b / 16 < 4 := Nat.div_lt_of_lt_mul hb
  have hc' : c / 4 < 16 := Nat.div_lt_of_lt_mul hc
  rw [encode, pack_div a hb', Nat.mul_add_mod_of_lt hb', pack_div _ hc', Nat.mul_add_mod_of_lt hc', pack_div _ hd,
    Nat.mul_add_mod_of_lt hd, Nat.div_add_mod', Nat.div_add_mod']

theorem encode_pack2 {b c : Nat} (a : Nat) (hb : b < 64) (hc : c < 64) :
    encode [a * 4 + b / 16, b % 16 * 16 + c / 4] = [char64 a, char64 b, char64 (c / 4 * 4), PAD] := by
  have hb' : b / 16 < 4 := Nat.div_lt_of_lt_mul hb
  have hc' : c / 4 < 16 := Nat.div_lt_of_lt_mul hc
  rw [encode, pack_div a hb', Nat.mul_add_mod_of_lt hb', pack_div _ hc', Nat.mul_add_mod_of_lt hc', Nat.div_add_mod']

theorem encode_pack1 {b : Nat} (a : Nat) (hb : b < 64) :
    encode [a * 4 + b / 16] = [char64 a, char64 (b / 16 * 16), PAD, PAD] := by
  have hb' : b / 16 < 4 := Nat.div_lt_of_lt_mul hb
  rw [encode, pack_div a hb', Nat.mul_add_mod_of_lt hb']

theorem decodeCore_some (s bs : Bytes) (h : decodeCore s = some bs) :
    (∀ x ∈ bs, x < 256) ∧ zeroPad s = encode bs := by
  fun_induction decodeCore s generalizing bs
  -- the branches of `decodeCore` that return something: 1 empty input, 2 a last quantum `xx==`, 5 a last quantum
  -- `xxx=`, 8 a full quantum
  case case1 => cases h; exact ⟨nofun, rfl⟩
  case case2 a b d rest va vb hb ha hd =>
    cases h
    obtain ⟨ha1, rfl⟩ := val64_some ha
    obtain ⟨hb1, rfl⟩ := val64_some hb
    obtain ⟨rfl, rfl⟩ := hd
    refine ⟨List.forall_mem_cons.mpr ⟨pack_lt ha1 (Nat.div_lt_of_lt_mul hb1), nofun⟩, ?_⟩
    rw [encode_pack1 va hb1, zeroPad, if_pos rfl, clearLow, hb]
  case case5 a b c va vb hb ha hc' vc hc =>
    cases h
    obtain ⟨ha1, rfl⟩ := val64_some ha
    obtain ⟨hb1, rfl⟩ := val64_some hb
    obtain ⟨hc1, rfl⟩ := val64_some hc
    refine ⟨List.forall_mem_cons.mpr ⟨pack_lt ha1 (Nat.div_lt_of_lt_mul hb1), List.forall_mem_cons.mpr
      ⟨pack_lt (Nat.mod_lt vb (by decide)) (Nat.div_lt_of_lt_mul hc1), nofun⟩⟩, ?_⟩
    rw [encode_pack2 va hb1 hc1, zeroPad, if_neg hc', if_pos rfl, clearLow, hc]
  case case8 a b c d rest va vb hb ha hc' vc hc hd' vd hd ih =>
    obtain ⟨t, ht, rfl⟩ := Option.map_eq_some_iff.mp h
    obtain ⟨ha1, rfl⟩ := val64_some ha
    obtain ⟨hb1, rfl⟩ := val64_some hb
    obtain ⟨hc1, rfl⟩ := val64_some hc
    obtain ⟨hd1, rfl⟩ := val64_some hd
    refine ⟨List.forall_mem_cons.mpr ⟨pack_lt ha1 (Nat.div_lt_of_lt_mul hb1), List.forall_mem_cons.mpr
      ⟨pack_lt (Nat.mod_lt vb (by decide)) (Nat.div_lt_of_lt_mul hc1), List.forall_mem_cons.mpr
      ⟨pack_lt (Nat.mod_lt vc (by decide)) hd1, (ih t ht).1⟩⟩⟩, ?_⟩
    rw [encode_pack va hb1 hc1 hd1, zeroPad, if_neg hc', if_neg hd', (ih t ht).2]
  -- in the remaining cases `decodeCore` returned `none`
  all_goals cases h

theorem decodeCore_encode (bs : Bytes) (h : ∀ x ∈ bs, x < 256) : decodeCore (encode bs) = some bs := by
  fun_induction encode bs
  case case1 => rfl
  case case2 x =>
    have h1 : x / 4 < 64 := Nat.div_lt_of_lt_mul (h x (by simp))
    have h2 : x % 4 * 16 < 64 := pack_lt (k := 0) (Nat.mod_lt x (by decide)) (by decide)
    simp only [decodeCore, val64_char64 _ h1, val64_char64 _ h2, and_self, if_true]
    rw [Nat.mul_div_cancel _ (by decide), Nat.div_add_mod']
  case case3 x y =>
    have hy : y / 16 < 16 := Nat.div_lt_of_lt_mul (h y (by simp))
    have h1 : x / 4 < 64 := Nat.div_lt_of_lt_mul (h x (by simp))
    have h2 : x % 4 * 16 + y / 16 < 64 := pack_lt (Nat.mod_lt x (by decide)) hy
    have h3 : y % 16 * 4 < 64 := pack_lt (k := 0) (Nat.mod_lt y (by decide)) (by decide)
    simp only [decodeCore, val64_char64 _ h1, val64_char64 _ h2, val64_char64 _ h3, char64_ne_pad, if_false, if_true]
    rw [pack_div _ hy, Nat.mul_add_mod_of_lt hy, Nat.mul_div_cancel _ (by decide), Nat.div_add_mod', Nat.div_add_mod']
  case case4 x y z rest ih =>
    have hy : y / 16 < 16 := Nat.div_lt_of_lt_mul (h y (by simp))
    have hz : z / 64 < 4 := Nat.div_lt_of_lt_mul (h z (by simp))
    have h1 : x / 4 < 64 := Nat.div_lt_of_lt_mul (h x (by simp))
    have h2 : x % 4 * 16 + y / 16 < 64 := pack_lt (Nat.mod_lt x (by decide)) hy
    have h3 : y % 16 * 4 + z / 64 < 64 := pack_lt (Nat.mod_lt y (by decide)) hz
    simp only [decodeCore, val64_char64 _ h1, val64_char64 _ h2, val64_char64 _ h3,
      val64_char64 _ (Nat.mod_lt z (by decide)), char64_ne_pad, if_false, ih fun w hw => h w (by simp [hw]),
      Option.map_some]
    rw [pack_div _ hy, Nat.mul_add_mod_of_lt hy, pack_div _ hz, Nat.mul_add_mod_of_lt hz, Nat.div_add_mod',
      Nat.div_add_mod', Nat.div_add_mod']

theorem zeroPad_of_decodeCore (s bs : Bytes) (h : decodeCore s = some bs) : zeroPad s = encode bs :=
  (decodeCore_some s bs h).2

theorem decode_encode (bs : Bytes) (h : ∀ x ∈ bs, x < 256) : decode (encode bs) = some bs := by
  unfold decode; rw [stripNL_encode]; exact decodeCore_encode bs h

theorem decode_bytes {s bs : Bytes} (h : decode s = some bs) : ∀ x ∈ bs, x < 256 :=
  (decodeCore_some _ _ h).1

theorem canonText_of_decode {s bs : Bytes} (h : decode s = some bs) : canonText s = encode bs :=
  (decodeCore_some _ _ h).2

theorem encode_injective {x y : Bytes} (hx : ∀ a ∈ x, a < 256) (hy : ∀ a ∈ y, a < 256)
    (h : encode x = encode y) : x = y := by
  have h1 := decode_encode x hx
  rw [h, decode_encode y hy] at h1
  exact (Option.some.inj h1).symm

end C20
