import FiberModel.C10.StringLemmas
import FiberModel.C10.CidrLemmas
/-
C10 — the property theorems.

Quantifiers: every configuration (flags, parsed `Proxies`, ProxyHeader, validation), every peer
address (4 or 16 bytes), TLS or not, every Host, every list of request headers.
Parameter hypotheses (about Go's `net` package): `bytesOK` (address bytes are bytes) and `StringFaithful`
(`IP.String()` identifies the address). The `…_of_format` versions replace both by `FormatOK`, which the
driver checks on every case: the shipped texts are what the TRANSCRIBED `net.IP.String()` (`ipString`)
prints — `StringFaithful` is then a theorem (`stringFaithful_of_format`, resting on `ipString_inj`).
-/
namespace C10
open B

/-- the outputs named by the property -/
def gated (o : Out) : Bytes × Bytes × Bytes × Bytes × Bytes × Bool × List Bytes × List Bytes :=
  (o.ip, o.host, o.hostname, o.scheme, o.baseURL, o.secure, o.sub, o.subo)

/-- With TrustProxy on and the peer outside the configured proxy set (listed addresses, CIDR ranges,
    enabled classes), client IP, host, hostname, scheme, base URL, secure flag and subdomains are the
    same for ANY two header lists (in particular for two that agree off the forwarding headers), and
    are the values computed from the connection and the Host header only. -/
theorem untrusted_noninterference (cfg : Cfg) (cn : Conn) (off : Nat)
    (hb : bytesOK cn.rip) (hstr : StringFaithful cfg.proxies cn)
    (hon : cfg.trustProxy = true) (hout : inSet cfg cn = false) (hs1 hs2 : Headers) :
    gated (outputs cfg cn off hs1) = gated (outputs cfg cn off hs2) ∧
    connOnly cn off (outputs cfg cn off hs1) = true := by
  have ht : isProxyTrusted cfg cn = false := by rw [trusted_eq_inSet cfg cn hb hstr, hon, hout]; rfl
  have hip : ∀ hs, ip cfg cn hs = cn.ripStr := fun hs => by simp [ip, ht]
  have hhost : ∀ hs, host cfg cn hs = cn.uriHost := fun hs => by simp [host, ht]
  have hsch : ∀ hs, scheme cfg cn hs = if cn.tls then sHTTPS else sHTTP := fun hs => by simp [scheme, ht]
  refine ⟨?_, ?_⟩
  · simp [gated, outputs, hip, hhost, hsch, hostname, baseURL, secure, subdomains]
  · simp only [connOnly, outputs, hip, hhost, hsch, hostname, baseURL, secure, subdomains, subOf, splitOn_eq_pieces]
    -- `secure` compares the scheme with https: only https ≠ http is needed of the two texts
    have hne : (sHTTP == sHTTPS) = false := by unfold sHTTP sHTTPS; repeat rw [b_ofList]; decide
    cases cn.tls <;> simp [hne]

/-- the same for two requests that agree off the forwarding headers (the property's wording; the
    agreement is not needed, the outputs are equal for any two header lists) -/
theorem untrusted_noninterference_agreeing (cfg : Cfg) (cn : Conn) (off : Nat)
    (hb : bytesOK cn.rip) (hstr : StringFaithful cfg.proxies cn)
    (hon : cfg.trustProxy = true) (hout : inSet cfg cn = false) (fwd : List Bytes) (hs1 hs2 : Headers)
    (_hagree : hs1.filter (fun p => !fwd.contains p.1) = hs2.filter (fun p => !fwd.contains p.1)) :
    gated (outputs cfg cn off hs1) = gated (outputs cfg cn off hs2) :=
  (untrusted_noninterference cfg cn off hb hstr hon hout hs1 hs2).1

-- non-vacuity: TrustProxy on, Private class enabled, proxies [10.0.0.1, 192.168.0.0/16], peer 8.8.8.8
example :
    let cfg : Cfg := { trustProxy := true, loopback := false, priv := true, linkLocal := false,
                       proxies := [.ip (b "10.0.0.1") (v4in6 ++ [10, 0, 0, 1]), .cidr [192, 168, 0, 0] [255, 255, 0, 0]],
                       proxyHeader := b "X-Forwarded-For", normProxyHeader := b "X-Forwarded-For", validate := true }
    let cn : Conn := { rip := [8, 8, 8, 8], ripStr := b "8.8.8.8", tls := false, uriHost := b "example.com", proto := b "HTTP/1.1" }
    inSet cfg cn = false ∧ cfg.trustProxy = true ∧
    (outputs cfg cn 2 [(b "X-Forwarded-For", b "1.2.3.4"), (b "X-Forwarded-Proto", b "https")]).ip = b "8.8.8.8" := by
  repeat rw [b_ofList]
  decide +kernel

theorem inSet_trusted (cfg : Cfg) (cn : Conn) (hb : bytesOK cn.rip) (hstr : StringFaithful cfg.proxies cn)
    (h : cfg.trustProxy = false ∨ inSet cfg cn = true) : isProxyTrusted cfg cn = true := by
  rw [trusted_eq_inSet cfg cn hb hstr]
  rcases h with h | h <;> simp [h]

theorem ip_eq_docIP (cfg : Cfg) (cn : Conn) (hs : Headers) (ht : isProxyTrusted cfg cn = true) :
    ip cfg cn hs = docIP utilsValid cfg cn hs := by
  unfold ip extractIPFromHeader
  -- no ProxyHeader; validation on; validation off
  fun_cases docIP utilsValid cfg cn hs <;> simp_all [firstIP_eq_firstValid _ _ (Nat.lt_succ_self _)]
  -- left: validation on, `ip`'s `match firstValid .. with | some s => s | none => cn.ripStr` against `(firstValid ..).getD cn.ripStr`
  cases firstValid utilsValid (get hs cfg.normProxyHeader) <;> rfl

/-- a trusted peer's host is the first element of the FIRST `X-Forwarded-Host` header (whatever it
    contains: port, IPv6 literal, nothing at all in front of a leading comma) when that header is not
    empty, else the Host header -/
theorem host_forwarded (cfg : Cfg) (cn : Conn) (hs : Headers) (ht : isProxyTrusted cfg cn = true) :
    host cfg cn hs = if get hs sXFH = [] then cn.uriHost else (get hs sXFH).takeWhile (· != 44) := by
  by_cases h : get hs sXFH = [] <;> simp [host, ht, h, upToComma]

theorem host_eq_docHost (cfg : Cfg) (cn : Conn) (hs : Headers) (ht : isProxyTrusted cfg cn = true) :
    host cfg cn hs = docHost cn hs := by
  rw [host_forwarded cfg cn hs ht, docHost]
  simp only [pieces_head, beq_iff_eq]

theorem scheme_eq_docScheme (cfg : Cfg) (cn : Conn) (hs : Headers) (ht : isProxyTrusted cfg cn = true) :
    scheme cfg cn hs = docScheme cn hs := by
  simp only [scheme, docScheme, ht, Bool.not_true, Bool.false_eq_true, if_false, scheme_fold]

/-- A trusted peer gets the documented forwarded values: IP = ProxyHeader value (with validation: its
    first element fiber's validators accept, else the peer's address), host = first element of
    X-Forwarded-Host (else the Host header), scheme = https on TLS, else what the last of
    X-Forwarded-Proto / -Protocol / -Ssl: on / X-Url-Scheme says, else http; hostname, base URL and
    subdomains derived from these. -/
theorem trusted_documented_values (cfg : Cfg) (cn : Conn) (off : Nat) (hs : Headers)
    (ht : isProxyTrusted cfg cn = true) :
    documented utilsValid cfg cn off hs (outputs cfg cn off hs) = none := by
  unfold documented
  simp only [outputs, hostname, baseURL, subdomains, ip_eq_docIP cfg cn hs ht, host_eq_docHost cfg cn hs ht,
    scheme_eq_docScheme cfg cn hs ht, subOf, splitOn_eq_pieces]
  simp

theorem inSet_documented_values (cfg : Cfg) (cn : Conn) (off : Nat) (hs : Headers)
    (hb : bytesOK cn.rip) (hstr : StringFaithful cfg.proxies cn) (h : cfg.trustProxy = false ∨ inSet cfg cn = true) :
    documented utilsValid cfg cn off hs (outputs cfg cn off hs) = none :=
  trusted_documented_values cfg cn off hs (inSet_trusted cfg cn hb hstr h)

theorem utilsValid_is_validIP : utilsValid = validIP := funext utilsValid_eq_validIP

/-- **the documented values, with "the first valid IP address" read in the RFC grammar** — the very
    function the run-time oracle evaluates on the implementation's outputs (`documented validIP`) is
    satisfied by the model's outputs for every trusted peer, every configuration and header list. -/
theorem trusted_documented_values_rfc (cfg : Cfg) (cn : Conn) (off : Nat) (hs : Headers)
    (ht : isProxyTrusted cfg cn = true) :
    documented validIP cfg cn off hs (outputs cfg cn off hs) = none := by
  rw [← utilsValid_is_validIP]; exact trusted_documented_values cfg cn off hs ht

/-- with validation on, a trusted peer and a ProxyHeader configured, `IP()` is the first element of
    the comma-separated header value (trimmed of spaces) in the RFC grammar, else the peer's address -/
theorem trusted_ip_first_valid (cfg : Cfg) (cn : Conn) (hs : Headers) (ht : isProxyTrusted cfg cn = true)
    (hp : cfg.proxyHeader ≠ []) (hv : cfg.validate = true) :
    ip cfg cn hs = (firstValid validIP (get hs cfg.normProxyHeader)).getD cn.ripStr := by
  simp [ip_eq_docIP cfg cn hs ht, docIP, hp, hv, utilsValid_is_validIP]

-- non-vacuity: peer 10.0.0.1 is listed; the forwarded values are used
example :
    let cfg : Cfg := { trustProxy := true, loopback := false, priv := false, linkLocal := false,
                       proxies := [.ip (b "10.0.0.1") (v4in6 ++ [10, 0, 0, 1])],
                       proxyHeader := b "X-Forwarded-For", normProxyHeader := b "X-Forwarded-For", validate := true }
    let cn : Conn := { rip := [10, 0, 0, 1], ripStr := b "10.0.0.1", tls := false, uriHost := b "example.com", proto := b "HTTP/1.1" }
    let o := outputs cfg cn 2 [(b "X-Forwarded-For", b "bogus, 1.2.3.4"), (b "X-Forwarded-Proto", b "https"), (b "X-Forwarded-Host", b "a.b.c")]
    inSet cfg cn = true ∧ o.ip = b "1.2.3.4" ∧ o.scheme = b "https" ∧ o.host = b "a.b.c" ∧ o.secure = true := by
  repeat rw [b_ofList]
  decide +kernel

/-- With IP validation on, the reported client IP is the peer's own address or an element of the
    ProxyHeader that fiber's validators accept (fiber's `isIPv6`, Lean `fiberIsIPv6`, when it contains a colon, else
    `utils.IsIPv4` when it contains a dot). -/
theorem validated_ip_is_accepted (cfg : Cfg) (cn : Conn) (hs : Headers) (hv : cfg.validate = true) :
    ip cfg cn hs = cn.ripStr ∨ utilsValid (ip cfg cn hs) = true := by
  by_cases ht : isProxyTrusted cfg cn = true
  · rw [ip_eq_docIP cfg cn hs ht]
    unfold docIP
    simp only [hv, if_true]
    split
    · left; rfl
    · cases hf : firstValid utilsValid (get hs cfg.normProxyHeader) with
      | none => left; rfl
      | some s => right; exact List.find?_some hf
  · left; simp [ip, ht]


/-- **With IP validation on, the reported client IP is always a syntactically valid address**: the
    peer's own address (as `net.IP.String()` prints it), or an element of the ProxyHeader in the
    RFC 791 dotted-quad / RFC 4291 §2.2 text grammar (`validIP`, the grammar the run-time oracle
    evaluates). -/
theorem validated_ip_is_valid (cfg : Cfg) (cn : Conn) (hs : Headers) (hv : cfg.validate = true)
    (hpeer : validIP cn.ripStr = true) : validIP (ip cfg cn hs) = true := by
  rcases validated_ip_is_accepted cfg cn hs hv with h | h
  · rw [h]; exact hpeer
  · exact utilsValid_valid h

-- non-vacuity: the first element is refused (a group of five digits, the input of F5), the second is reported
example :
    let cfg : Cfg := { trustProxy := true, loopback := true, priv := false, linkLocal := false, proxies := [],
                       proxyHeader := b "X-Forwarded-For", normProxyHeader := b "X-Forwarded-For", validate := true }
    let cn : Conn := { rip := [127, 0, 0, 1], ripStr := b "127.0.0.1", tls := false, uriHost := b "example.com", proto := b "HTTP/1.1" }
    let hs : Headers := [(b "X-Forwarded-For", b "0:0:0:0:0:0:0:00001, 2001:db8::1.2.3.4")]
    cfg.validate = true ∧ validIP cn.ripStr = true ∧ ip cfg cn hs = b "2001:db8::1.2.3.4" ∧
      ips cfg hs = [b "2001:db8::1.2.3.4"] := by
  repeat rw [b_ofList]
  decide +kernel

theorem passes_valid {seg s : Bytes} (h : passes true seg s = true) : validIP s = true :=
  dispatch_valid (passes_true seg s ▸ h)


theorem validated_ips_accepted (cfg : Cfg) (hs : Headers) (hv : cfg.validate = true) :
    ∀ s ∈ ips cfg hs, ∃ seg, passes true seg s = true := fun s h => by
  rw [ips, hv, allIPs_eq_filter _ _ (Nat.lt_succ_self _)] at h
  exact ⟨s, (passes_of_flags s s rfl rfl).trans (List.mem_filter.1 h).2⟩

/-- **with IP validation on every element of `IPs()` is a syntactically valid address** -/
theorem validated_ips_valid (cfg : Cfg) (hs : Headers) (hv : cfg.validate = true) :
    ∀ s ∈ ips cfg hs, validIP s = true := fun s h =>
  let ⟨_, hp⟩ := validated_ips_accepted cfg hs hv s h
  passes_valid hp

example :
    let cfg : Cfg := { trustProxy := true, loopback := false, priv := false, linkLocal := false, proxies := [],
                       proxyHeader := [], normProxyHeader := [], validate := true }
    ips cfg [(b "X-Forwarded-For", b "1.2.3.4, bogus, ::ffff:5.6.7.8 ,12345::, 01.2.3.4")] = [b "1.2.3.4", b "::ffff:5.6.7.8"] := by
  repeat rw [b_ofList]
  decide +kernel

/-- what one header says about the scheme: `X-Forwarded-Proto` / `-Protocol` the first element of
    their comma list, `X-Url-Scheme` its whole value (commas included), `X-Forwarded-Ssl` https when it
    is exactly `on` and nothing otherwise; any other name (look-alikes such as `X-Forwarded-Protoc`,
    `X-Url-Schemes`, `Forwarded`) nothing -/
theorem schemeOf_cases (k v : Bytes) :
    schemeOf (k, v) =
      if k = sXFProto ∨ k = sXFProtocol then some (v.takeWhile (· != 44))
      else if k = sXFSsl then (if v = b "on" then some sHTTPS else none)
      else if k = sXUrlScheme then some v
      else none := by
  unfold schemeOf
  simp only [Bool.or_eq_true, beq_iff_eq, pieces_head]

theorem scheme_tls_wins (cfg : Cfg) (cn : Conn) (hs : Headers) (h : cn.tls = true) : scheme cfg cn hs = sHTTPS := by
  simp [scheme, h]

theorem filterMap_reverse_nil {α β : Type} {f : α → Option β} {l : List α} (h : ∀ p ∈ l, f p = none) :
    l.reverse.filterMap f = [] :=
  List.filterMap_eq_nil_iff.2 fun p hp => h p (List.mem_reverse.1 hp)

/-- **the last header that says something decides**: whatever stands in front of it, whichever of the
    four it is, however often the same name occurs -/
theorem scheme_last_wins (cfg : Cfg) (cn : Conn) (ht : isProxyTrusted cfg cn = true) (hn : cn.tls = false)
    (pre post : Headers) (kv : Bytes × Bytes) (v : Bytes) (hkv : schemeOf kv = some v)
    (hpost : ∀ p ∈ post, schemeOf p = none) : scheme cfg cn (pre ++ kv :: post) = v := by
  have : (pre ++ kv :: post).reverse.filterMap schemeOf = v :: pre.reverse.filterMap schemeOf := by
    rw [List.reverse_append, List.reverse_cons, List.filterMap_append, List.filterMap_append, filterMap_reverse_nil hpost]
    simp [List.filterMap, hkv]
  rw [scheme_eq_docScheme cfg cn _ ht, docScheme, hn, this]; rfl

/-- no header says anything (none of the four names, or only `X-Forwarded-Ssl` other than `on`): http -/
theorem scheme_default (cfg : Cfg) (cn : Conn) (ht : isProxyTrusted cfg cn = true) (hn : cn.tls = false)
    (hs : Headers) (h : ∀ p ∈ hs, schemeOf p = none) : scheme cfg cn hs = sHTTP := by
  simp [scheme_eq_docScheme cfg cn hs ht, docScheme, hn, filterMap_reverse_nil h]

-- non-vacuity: all four at once; a second `X-Forwarded-Ssl`, `off`, at the end says nothing, so the
-- `X-Url-Scheme` before it decides; a look-alike name in between is ignored
example :
    let cfg : Cfg := { trustProxy := false, loopback := false, priv := false, linkLocal := false, proxies := [],
                       proxyHeader := [], normProxyHeader := [], validate := false }
    let cn : Conn := { rip := [8, 8, 8, 8], ripStr := b "8.8.8.8", tls := false, uriHost := b "example.com", proto := b "HTTP/1.1" }
    scheme cfg cn [(sXFProto, b "https,http"), (sXFSsl, b "on"), (sXFProtocol, b "http"), (sXUrlScheme, b "wss,x"),
                   (b "X-Url-Schemes", b "https"), (sXFSsl, b "off")] = b "wss,x" := by
  repeat rw [b_ofList]
  decide +kernel

/-- hostname = host up to its LAST colon: a port is cut off, also behind an IPv6 literal -/
theorem hostOnly_port (h p : Bytes) (hp : ¬ 58 ∈ p) : hostOnly (h ++ 58 :: p) = h := by
  have : ∀ a ∈ p.reverse, (a != 58) = true := fun a ha => by
    simp only [List.mem_reverse] at ha; simp only [bne_iff_ne, ne_eq]; rintro rfl; exact hp ha
  simp [hostOnly, List.dropWhile_append_of_pos this]

theorem hostOnly_noColon (h : Bytes) (hc : ¬ 58 ∈ h) : hostOnly h = h := by
  simp [hostOnly, hc]

example : hostOnly (b "[2001:db8::1]:8080") = b "[2001:db8::1]" ∧ hostOnly (b "a.example.com:443") = b "a.example.com" ∧
    hostOnly (b "example.com") = b "example.com" := by
  repeat rw [b_ofList]
  decide +kernel

/-- the trust decision is membership in the configured set, for every peer and every list of
    configured addresses whose texts are `net.IP.String()` as transcribed (`ipString`): two addresses
    print alike iff they are the same address (`ipString_inj`) -/
theorem trusted_eq_inSet_of_format (cfg : Cfg) (cn : Conn) (hf : FormatOK cfg.proxies cn) :
    isProxyTrusted cfg cn = (!cfg.trustProxy || inSet cfg cn) :=
  trusted_eq_inSet cfg cn hf.2.1 (stringFaithful_of_format cfg.proxies cn hf)

theorem untrusted_noninterference_of_format (cfg : Cfg) (cn : Conn) (off : Nat) (hf : FormatOK cfg.proxies cn)
    (hon : cfg.trustProxy = true) (hout : inSet cfg cn = false) (hs1 hs2 : Headers) :
    gated (outputs cfg cn off hs1) = gated (outputs cfg cn off hs2) ∧
    connOnly cn off (outputs cfg cn off hs1) = true :=
  untrusted_noninterference cfg cn off hf.2.1 (stringFaithful_of_format cfg.proxies cn hf) hon hout hs1 hs2

theorem inSet_documented_values_of_format (cfg : Cfg) (cn : Conn) (off : Nat) (hs : Headers)
    (hf : FormatOK cfg.proxies cn) (h : cfg.trustProxy = false ∨ inSet cfg cn = true) :
    documented validIP cfg cn off hs (outputs cfg cn off hs) = none :=
  trusted_documented_values_rfc cfg cn off hs
    (inSet_trusted cfg cn hf.2.1 (stringFaithful_of_format cfg.proxies cn hf) h)

/-- with validation on the reported IP is a syntactically valid address — unconditionally: the peer's
    own text is `ipString` of its bytes, which is in the grammar (`ipString_valid`) -/
theorem validated_ip_is_valid_of_format (cfg : Cfg) (cn : Conn) (hs : Headers) (hf : FormatOK cfg.proxies cn)
    (hv : cfg.validate = true) : validIP (ip cfg cn hs) = true :=
  validated_ip_is_valid cfg cn hs hv (by rw [hf.2.2.1]; exact ipString_valid cn.rip hf.1 hf.2.1)

-- non-vacuity: a 16-byte peer 2001:db8::1, listed in another spelling's canonical key; a look-alike
-- entry (the low four bytes as IPv4) and the v4-mapped form of those bytes do not cover it
example :
    let peer : Bytes := [0x20, 1, 0xd, 0xb8, 0, 0, 0, 0, 0, 0, 0, 0, 0, 0, 0, 1]
    let other : Bytes := v4in6 ++ [0, 0, 0, 1]
    let cn : Conn := { rip := peer, ripStr := b "2001:db8::1", tls := false, uriHost := b "example.com", proto := b "HTTP/1.1" }
    FormatOK [.ip (b "2001:db8::1") peer, .ip (b "0.0.0.1") other] cn ∧
    FormatOK [.ip (b "0.0.0.1") other] cn ∧
    inSet { trustProxy := true, loopback := false, priv := false, linkLocal := false, proxies := [.ip (b "0.0.0.1") other],
            proxyHeader := [], normProxyHeader := [], validate := false } cn = false := by
  repeat rw [b_ofList]
  refine ⟨⟨Or.inr rfl, by unfold bytesOK; decide, by decide +kernel, ?_⟩,
    ⟨Or.inr rfl, by unfold bytesOK; decide, by decide +kernel, ?_⟩, by decide +kernel⟩
  · intro canon ip16 hm
    simp only [List.mem_cons, Proxy.ip.injEq, List.mem_nil_iff, or_false] at hm
    rcases hm with ⟨rfl, rfl⟩ | ⟨rfl, rfl⟩ <;> exact ⟨rfl, by unfold bytesOK; decide, by decide +kernel⟩
  · intro canon ip16 hm
    simp only [List.mem_cons, Proxy.ip.injEq, List.mem_nil_iff, or_false] at hm
    rcases hm with ⟨rfl, rfl⟩
    exact ⟨rfl, by unfold bytesOK; decide, by decide +kernel⟩

/-- `isProxyTrusted` reads only `rip` and `ripStr` of the connection (not TLS, Host, protocol) -/
theorem trust_is_function_of_config_and_peer (cfg : Cfg) (cn1 cn2 : Conn) (h : cn1.rip = cn2.rip)
    (hs : cn1.ripStr = cn2.ripStr) : isProxyTrusted cfg cn1 = isProxyTrusted cfg cn2 := by
  unfold isProxyTrusted; rw [h, hs]

/-- with `net.IP.String()` inside the model the peer bytes alone decide -/
theorem trust_is_function_of_peer_bytes (cfg : Cfg) (cn1 cn2 : Conn) (h : cn1.rip = cn2.rip)
    (h1 : cn1.ripStr = ipString cn1.rip) (h2 : cn2.ripStr = ipString cn2.rip) :
    isProxyTrusted cfg cn1 = isProxyTrusted cfg cn2 :=
  trust_is_function_of_config_and_peer cfg cn1 cn2 h (by rw [h1, h2, h])

/-- the answer to the last request of a history is `outputs` of that request: the content is the
    model's choice `serveAll = map outputs` (fiber keeps nothing between requests that the accessors read) -/
theorem history_last_output (cfg : Cfg) (off : Nat) (earlier : List (Conn × Headers)) (cn : Conn) (hs : Headers) :
    (serveAll cfg off (earlier ++ [(cn, hs)])).getLast? = some (outputs cfg cn off hs) := by
  simp [serveAll]

/-- **non-interference along a history**: whatever peers (trusted or not, however their bytes relate to
    this one's) were served before with whatever headers, a request from a peer outside the configured
    set gets the connection/Host-only values, the same for any two header lists -/
theorem history_untrusted_noninterference (cfg : Cfg) (off : Nat) (earlier1 earlier2 : List (Conn × Headers))
    (cn : Conn) (hf : FormatOK cfg.proxies cn) (hon : cfg.trustProxy = true) (hout : inSet cfg cn = false)
    (hs1 hs2 : Headers) :
    ∃ o1 o2, (serveAll cfg off (earlier1 ++ [(cn, hs1)])).getLast? = some o1 ∧
      (serveAll cfg off (earlier2 ++ [(cn, hs2)])).getLast? = some o2 ∧
      gated o1 = gated o2 ∧ connOnly cn off o1 = true :=
  ⟨_, _, history_last_output cfg off earlier1 cn hs1, history_last_output cfg off earlier2 cn hs2,
    (untrusted_noninterference_of_format cfg cn off hf hon hout hs1 hs2).1,
    (untrusted_noninterference_of_format cfg cn off hf hon hout hs1 hs2).2⟩

-- non-vacuity: 10.0.0.1 (inside the listed 10.0.0.0/8) is trusted, a00:1:: — the same leading four
-- bytes, zero tail — is not, in either order of a history
example :
    let cfg : Cfg := { trustProxy := true, loopback := false, priv := false, linkLocal := false,
                       proxies := [.cidr [10, 0, 0, 0] [255, 0, 0, 0]], proxyHeader := b "X-Forwarded-For",
                       normProxyHeader := b "X-Forwarded-For", validate := false }
    let v4 : Conn := { rip := [10, 0, 0, 1], ripStr := b "10.0.0.1", tls := false, uriHost := b "example.com", proto := b "HTTP/1.1" }
    let v6 : Conn := { rip := [10, 0, 0, 1] ++ List.replicate 12 0, ripStr := b "a00:1::", tls := false, uriHost := b "example.com", proto := b "HTTP/1.1" }
    let hs : Headers := [(b "X-Forwarded-For", b "1.2.3.4"), (b "X-Forwarded-Proto", b "https")]
    v6.ripStr = ipString v6.rip ∧ inSet cfg v4 = true ∧ inSet cfg v6 = false ∧
    (serveAll cfg 2 [(v4, hs), (v6, hs), (v4, hs)]).map (·.ip) = [b "1.2.3.4", b "a00:1::", b "1.2.3.4"] ∧
    (serveAll cfg 2 [(v4, hs), (v6, hs)]).map (·.scheme) = [b "https", b "http"] := by
  repeat rw [b_ofList]
  decide +kernel

theorem secure_iff_https (cfg : Cfg) (cn : Conn) (hs : Headers) :
    secure cfg cn hs = true ↔ scheme cfg cn hs = sHTTPS := by
  simp [secure]

theorem tls_is_secure (cfg : Cfg) (cn : Conn) (hs : Headers) (h : cn.tls = true) : secure cfg cn hs = true := by
  simp [secure, scheme, h]

end C10
