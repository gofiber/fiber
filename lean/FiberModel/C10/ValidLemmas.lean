import FiberModel.C10.IPLemmas
/-
C10 — `utils.IsIPv4` accepts exactly the RFC 791 dotted quads (`validIPv4`): both the loop and the
grammar are brought to the normal form `Quad`.
-/
namespace C10
open B

theorem not_digit_46 : isDigit 46 = false := by decide

theorem decOctet_iff {d : Bytes} : decOctet d = true ↔
    (1 ≤ d.length ∧ d.length ≤ 3) ∧ (∀ x ∈ d, isDigit x = true) ∧ (d.length = 1 ∨ d.head? ≠ some 48) ∧ digitsVal d ≤ 255 := by
  simp only [decOctet, Bool.and_eq_true, decide_eq_true_eq, Bool.or_eq_true, beq_iff_eq, bne_iff_ne, ne_eq, List.all_eq_true,
    and_assoc]

theorem not_mem_of_all {p : Nat → Bool} {l : Bytes} {c : Nat} (h : ∀ x ∈ l, p x = true) (hc : p c = false) : ¬ c ∈ l :=
  fun hm => by rw [h c hm] at hc; cases hc

theorem decOctet_noDot {d : Bytes} (h : decOctet d = true) : ¬ 46 ∈ d := not_mem_of_all (decOctet_iff.1 h).2.1 not_digit_46

def Quad (s : Bytes) : Prop :=
  ∃ a c d e, s = a ++ 46 :: (c ++ 46 :: (d ++ 46 :: e)) ∧
    decOctet a = true ∧ decOctet c = true ∧ decOctet d = true ∧ decOctet e = true

theorem Quad.valid {s : Bytes} : Quad s → validIPv4 s = true := by
  rintro ⟨a, c, d, e, rfl, ha, hc, hd, he⟩
  unfold validIPv4
  rw [pieces_sep 46 a _ (decOctet_noDot ha), pieces_sep 46 c _ (decOctet_noDot hc), pieces_sep 46 d _ (decOctet_noDot hd),
    pieces_noSep 46 e (decOctet_noDot he)]
  simp [ha, hc, hd, he]

theorem validIPv4_quad {s : Bytes} (h : validIPv4 s = true) : Quad s := by
  unfold validIPv4 at h
  split at h
  · rename_i a c d e hp
    simp only [Bool.and_eq_true] at h
    obtain ⟨s1, rfl, hp1⟩ := pieces_cons2 hp
    obtain ⟨s2, rfl, hp2⟩ := pieces_cons2 hp1
    obtain ⟨s3, rfl, hp3⟩ := pieces_cons2 hp2
    obtain rfl := pieces_single hp3
    exact ⟨a, c, d, s3, rfl, h.1.1.1, h.1.1.2, h.1.2, h.2⟩
  · cases h

theorem Quad.dot {s : Bytes} : Quad s → 46 ∈ s := by
  rintro ⟨a, c, d, e, rfl, _⟩; simp

theorem Quad.noColon {s : Bytes} : Quad s → ¬ 58 ∈ s := by
  rintro ⟨a, c, d, e, rfl, ha, hc, hd, he⟩
  have hdig : ∀ {o : Bytes}, decOctet o = true → ¬ 58 ∈ o := fun ho => not_mem_of_all (decOctet_iff.1 ho).2.1 (by decide)
  simp [hdig ha, hdig hc, hdig hd, hdig he]

theorem digitsFold_ge (ds : Bytes) (a : Nat) : a * 10 ^ ds.length ≤ ds.foldl (fun a c => a * 10 + (c - 48)) a := by
  induction ds generalizing a with
  | nil => simp
  | cons d ds ih =>
    simp only [List.foldl_cons, List.length_cons]
    have := ih (a * 10 + (d - 48))
    have h2 : a * 10 ^ (ds.length + 1) ≤ (a * 10 + (d - 48)) * 10 ^ ds.length := by
      rw [Nat.pow_succ, Nat.add_mul]
      have : a * (10 ^ ds.length * 10) = a * 10 * 10 ^ ds.length := by
        rw [Nat.mul_comm (10 ^ ds.length) 10, Nat.mul_assoc]
      omega
    omega

theorem octet_spec {s r : Bytes} (h : octet s = some r) : ∃ ds, s = ds ++ r ∧ decOctet ds = true := by
  unfold octet at h
  simp only at h
  split at h
  · cases h
  · rename_i hc
    cases h
    simp only [Bool.or_eq_true, beq_iff_eq, Bool.and_eq_true, decide_eq_true_eq, not_or, not_and] at hc
    obtain ⟨⟨h1, h2⟩, h3⟩ := hc
    have hall : ∀ x ∈ s.takeWhile isDigit, isDigit x = true := fun _ => List.mem_takeWhile
    refine ⟨s.takeWhile isDigit, (List.takeWhile_append_drop _ _).symm, ?_⟩
    generalize hds : s.takeWhile isDigit = ds at *
    have hlen3 : ds.length ≤ 3 := by
      cases ds with
      | nil => simp
      | cons d rest =>
        by_cases hl : rest.length ≥ 3
        · -- four digits without a leading zero are worth at least 1000
          exfalso
          have hd48 : d ≠ 48 := by
            have := h2 (by simp only [List.length_cons]; omega)
            simpa using this
          have hdig : 48 ≤ d ∧ d ≤ 57 := by simpa [isDigit] using hall d (by simp)
          have hlow : 10 ^ rest.length ≤ digitsVal (d :: rest) :=
            Nat.le_trans (by simpa using Nat.mul_le_mul_right (10 ^ rest.length) (show 1 ≤ 0 * 10 + (d - 48) by omega))
              (digitsFold_ge rest (0 * 10 + (d - 48)))
          have hp : 10 ^ 3 ≤ 10 ^ rest.length := Nat.pow_le_pow_right (by decide) hl
          have : (10 : Nat) ^ 3 = 1000 := by decide
          omega
        · simp only [List.length_cons]; omega
    refine decOctet_iff.2 ⟨⟨by omega, hlen3⟩, hall, ?_, by omega⟩
    by_cases hl : ds.length = 1
    · left; exact hl
    · right; exact h2 (by omega)

theorem dotOctet_spec {s r : Bytes} (h : dotOctet s = some r) : ∃ ds, s = 46 :: (ds ++ r) ∧ decOctet ds = true := by
  unfold dotOctet at h
  split at h
  · obtain ⟨ds, hs, hd⟩ := octet_spec h
    exact ⟨ds, by rw [hs], hd⟩
  · cases h


theorem isIPv4_quad {s : Bytes} (h : isIPv4 s = true) : Quad s := by
  revert h
  fun_cases isIPv4 s <;> intro h
  case case5 r1 h1 r2 h2 r3 h3 r4 h4 =>   -- four octets read, `r4` is what is left
    obtain rfl : r4 = [] := beq_iff_eq.1 h
    obtain ⟨d1, e1, v1⟩ := octet_spec h1
    obtain ⟨d2, e2, v2⟩ := dotOctet_spec h2
    obtain ⟨d3, e3, v3⟩ := dotOctet_spec h3
    obtain ⟨d4, e4, v4⟩ := dotOctet_spec h4
    exact ⟨d1, d2, d3, d4, by rw [e1, e2, e3, e4, List.append_nil], v1, v2, v3, v4⟩
  -- the four refusals
  all_goals cases h

theorem isIPv4_valid {s : Bytes} (h : isIPv4 s = true) : validIPv4 s = true := (isIPv4_quad h).valid

theorem octet_complete (a rest : Bytes) (ha : decOctet a = true) (hr : ∀ x, rest.head? = some x → isDigit x = false) :
    octet (a ++ rest) = some rest := by
  obtain ⟨⟨h1, h3⟩, hall, hz, hv⟩ := decOctet_iff.1 ha
  have e1 : a.length ≠ 0 := by omega
  have e2 : ¬ (a.length > 1 ∧ a.head? = some 48) := by rcases hz with hz | hz <;> simp [hz]
  simp [octet, List.takeWhile_append_stop hall hr, e1, e2, Nat.not_lt.2 hv]

theorem Quad.accepted {s : Bytes} : Quad s → isIPv4 s = true := by
  rintro ⟨a, c, d, e, rfl, ha, hc, hd, he⟩
  have hdot : ∀ (t : Bytes) x, (46 :: t).head? = some x → isDigit x = false := by
    intro t x hx; simp at hx; subst hx; exact not_digit_46
  have hnil : ∀ x, ([] : Bytes).head? = some x → isDigit x = false := by intro x hx; simp at hx
  have hlast := octet_complete e [] he hnil
  rw [List.append_nil] at hlast
  unfold isIPv4
  simp only [octet_complete a _ ha (hdot _), dotOctet, octet_complete c _ hc (hdot _), octet_complete d _ hd (hdot _), hlast,
    beq_self_eq_true]

theorem isIPv4_complete {s : Bytes} (h : validIPv4 s = true) : isIPv4 s = true := (validIPv4_quad h).accepted

theorem isIPv4_eq_valid (s : Bytes) : isIPv4 s = validIPv4 s := by
  rw [Bool.eq_iff_iff]; exact ⟨isIPv4_valid, isIPv4_complete⟩

end C10
