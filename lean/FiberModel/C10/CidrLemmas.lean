import FiberModel.C10.Lemmas
/-
C10 — a listed CIDR range in RFC 4632 terms: for the `IPNet` values `net.ParseCIDR` produces (mask =
`CIDRMask(n, …)`), the transcribed `(*IPNet).Contains` says "same address family and the first n bits
agree with the network number".
-/
namespace C10
open B

/-- the `w` low bits of `a`, most significant first -/
def bitsMSB : Nat → Nat → List Nat
  | 0, _ => []
  | w + 1, a => bitsMSB w (a / 2) ++ [a % 2]

theorem byteBits_eq (a : Nat) : byteBits a = bitsMSB 8 a := by
  simp [byteBits, bitsMSB, Nat.div_div_eq_div_mul]

theorem bitsMSB_length (w a : Nat) : (bitsMSB w a).length = w := by
  induction w generalizing a with
  | zero => rfl
  | succ w ih => simp [bitsMSB, ih]

theorem take_bitsMSB (w n a : Nat) : (bitsMSB w a).take n = bitsMSB (min n w) (a / 2 ^ (w - n)) := by
  induction w generalizing a with
  | zero => simp [bitsMSB]
  | succ w ih =>
    by_cases h : n ≤ w
    · have e : w + 1 - n = (w - n) + 1 := by omega
      rw [bitsMSB, List.take_append_of_le_length (by rw [bitsMSB_length]; exact h), ih, Nat.min_eq_left h,
        Nat.min_eq_left (by omega), e, Nat.pow_succ, Nat.mul_comm, Nat.div_div_eq_div_mul]
    · have e : w + 1 - n = 0 := by omega
      rw [List.take_of_length_le (by rw [bitsMSB_length]; omega), Nat.min_eq_right (by omega), e, Nat.pow_zero, Nat.div_one]

theorem bitsMSB_inj (n : Nat) {x y : Nat} (hx : x < 2 ^ n) (hy : y < 2 ^ n) (h : bitsMSB n x = bitsMSB n y) : x = y := by
  induction n generalizing x y with
  | zero => simp at hx hy; omega
  | succ n ih =>
    rw [Nat.pow_succ] at hx hy
    obtain ⟨h1, h2⟩ := List.append_inj h (by rw [bitsMSB_length, bitsMSB_length])
    have := ih (x := x / 2) (y := y / 2) (by omega) (by omega) h1
    simp at h2
    omega

/-- masking with the top `n` bits compares the first `n` bits: both sides say `a / 2 ^ (8 - n) = c / 2 ^ (8 - n)` -/
theorem byte_prefix (n a c : Nat) (ha : a < 256) (hc : c < 256) :
    (a &&& (256 - 2 ^ (8 - n)) == c &&& (256 - 2 ^ (8 - n))) = ((byteBits a).take n == (byteBits c).take n) := by
  have hlt : ∀ x, x < 256 → x / 2 ^ (8 - n) < 2 ^ (min n 8) := fun x hx =>
    Nat.div_lt_of_lt_mul (by rw [← Nat.pow_add, show 8 - n + min n 8 = 8 by omega]; exact hx)
  rw [Bool.eq_iff_iff, beq_iff_eq, beq_iff_eq, and_topMask 8 (8 - n) a (by omega) ha, and_topMask 8 (8 - n) c (by omega) hc,
    byteBits_eq, byteBits_eq, take_bitsMSB, take_bitsMSB, Nat.mul_left_inj (Nat.ne_of_gt (Nat.two_pow_pos _))]
  exact ⟨fun h => by rw [h], bitsMSB_inj _ (hlt a ha) (hlt c hc)⟩

theorem byteBits_length (c : Nat) : (byteBits c).length = 8 := rfl

theorem beq_append_eq {α : Type} [BEq α] [LawfulBEq α] (a c r1 r2 : List α) (h : a.length = c.length) :
    (a ++ r1 == c ++ r2) = (a == c && r1 == r2) := by
  rw [Bool.eq_iff_iff]
  simp only [beq_iff_eq, Bool.and_eq_true]
  constructor
  · intro e; exact List.append_inj e h
  · rintro ⟨rfl, rfl⟩; rfl

theorem maskedEq_zero (x y : Bytes) (len : Nat) : maskedEq x (cidrMask 0 len) y = true := by
  induction len generalizing x y with
  | zero => cases x <;> cases y <;> rfl
  | succ l ih => cases x <;> cases y <;> simp [cidrMask, maskedEq, ih]

theorem maskedEq_prefix (len : Nat) : ∀ (n : Nat) (x y : Bytes), x.length = len → y.length = len → bytesOK x → bytesOK y →
    maskedEq x (cidrMask n len) y = samePrefix n x y := by
  induction len with
  | zero =>
    intro n x y hx hy _ _
    rw [List.eq_nil_of_length_eq_zero hx, List.eq_nil_of_length_eq_zero hy]
    simp [maskedEq, samePrefix, bitsOf]
  | succ l ih =>
    intro n x y hx hy hbx hby
    match x, y, hx, hy with
    | a :: xs, c :: ys, hx, hy =>
      have ih' := ih (n - 8) xs ys (by simpa using hx) (by simpa using hy) (fun z hz => hbx z (by simp [hz]))
        (fun z hz => hby z (by simp [hz]))
      have hm : (if n ≥ 8 then 255 else 256 - 2 ^ (8 - n)) = 256 - 2 ^ (8 - n) := by
        split
        · rw [show 8 - n = 0 by omega]
        · rfl
      simp only [cidrMask, maskedEq, ih', hm, byte_prefix n a c (hbx a (by simp)) (hby c (by simp))]
      unfold samePrefix bitsOf
      rw [List.flatMap_cons, List.flatMap_cons, List.take_append, List.take_append, byteBits_length, byteBits_length,
        beq_append_eq _ _ _ _ (by simp [byteBits_length])]

theorem cidrMask_length (n len : Nat) : (cidrMask n len).length = len := by
  induction len generalizing n with
  | zero => rfl
  | succ l ih => simp [cidrMask, ih]

theorem cidrMask_drop (k : Nat) : ∀ (n len : Nat), (cidrMask n (k + len)).drop k = cidrMask (n - 8 * k) len := by
  induction k with
  | zero => intro n len; simp
  | succ k ih =>
    intro n len
    have e : k + 1 + len = (k + len) + 1 := by omega
    rw [e]
    simp only [cidrMask, List.drop_succ_cons]
    rw [ih]
    congr 1
    omega

/-- `Contains` when `networkNumberAndMask` yields the network number `nn` under `CIDRMask(n)`: the peer (as 4 bytes
    if `To4` succeeds) is as long as `nn` and shares its first `n` bits -/
theorem cidrContains_prefix {nip mask ip nn : Bytes} {n : Nat} (hnm : netNumMask nip mask = some (nn, cidrMask n nn.length))
    (hb : bytesOK nn) (hbi : bytesOK ip) :
    cidrContains nip mask ip = (((to4 ip).getD ip).length == nn.length && samePrefix n nn ((to4 ip).getD ip)) := by
  unfold cidrContains
  simp only [hnm]
  cases hl : ((to4 ip).getD ip).length == nn.length
  · rfl
  · have hp : bytesOK ((to4 ip).getD ip) := by
      cases h4 : to4 ip with
      | none => exact hbi
      | some v => exact to4_bytesOK hbi h4
    rw [maskedEq_prefix _ n nn _ rfl (beq_iff_eq.1 hl) hb hp]

/-- an IPv4 range `a.b.c.d/n`: contains exactly the IPv4 peers (4-byte or v4-mapped form) whose first
    n bits agree with the network number -/
theorem cidrContains_v4 (nip ip : Bytes) (n : Nat) (hn : nip.length = 4) (hl : ip.length = 4 ∨ ip.length = 16)
    (hb : bytesOK nip) (hbi : bytesOK ip) :
    cidrContains nip (cidrMask n 4) ip =
      match to4 ip with
      | some v4 => samePrefix n nip v4
      | none => false := by
  have hnm : netNumMask nip (cidrMask n 4) = some (nip, cidrMask n nip.length) := by
    simp [netNumMask, to4_len4 nip hn, hn, cidrMask_length]
  rw [cidrContains_prefix hnm hb hbi]
  cases h4 : to4 ip with
  | none => simp [to4_none_len hl h4, hn]
  | some v4 => simp [(to4_to16 hl h4).1, hn]

/-- an IPv6 range whose network number is not v4-mapped: contains exactly the 16-byte peers that are
    not v4-mapped and whose first n bits agree with the network number (an IPv4 peer is in no such
    range, not even `::/0` — Go's `Contains` compares within one family) -/
theorem cidrContains_v6 (nip ip : Bytes) (n : Nat) (hn : nip.length = 16) (h4n : to4 nip = none)
    (hl : ip.length = 4 ∨ ip.length = 16) (hb : bytesOK nip) (hbi : bytesOK ip) :
    cidrContains nip (cidrMask n 16) ip =
      match to4 ip with
      | some _ => false
      | none => samePrefix n nip ip := by
  have hnm : netNumMask nip (cidrMask n 16) = some (nip, cidrMask n nip.length) := by
    simp [netNumMask, h4n, hn, cidrMask_length]
  rw [cidrContains_prefix hnm hb hbi]
  cases h4 : to4 ip with
  | none => simp [to4_none_len hl h4, hn]
  | some v4 => simp [(to4_to16 hl h4).1, hn]

/-- a range written with a v4-mapped network number (`::ffff:a.b.c.d/n`, n ≥ 96) is the IPv4 range
    `a.b.c.d/(n-96)` -/
theorem cidrContains_mapped (nip v ip : Bytes) (n : Nat) (hn : nip.length = 16) (h4n : to4 nip = some v)
    (hl : ip.length = 4 ∨ ip.length = 16) (hb : bytesOK nip) (hbi : bytesOK ip) :
    cidrContains nip (cidrMask n 16) ip =
      match to4 ip with
      | some v4 => samePrefix (n - 96) v v4
      | none => false := by
  have hv := (to4_to16 (Or.inr hn) h4n).1
  have hnm : netNumMask nip (cidrMask n 16) = some (v, cidrMask (n - 96) v.length) := by
    simp [netNumMask, h4n, hv, cidrMask_length, cidrMask_drop 12 n 4]
  rw [cidrContains_prefix hnm (to4_bytesOK hb h4n) hbi]
  cases h4 : to4 ip with
  | none => simp [to4_none_len hl h4, hv]
  | some v4 => simp [(to4_to16 hl h4).1, hv]

-- non-vacuity: 10.0.0.0/8 as `net.ParseCIDR` returns it; 172.16.0.0/12 and its edges; fc00::/7
example : cidrMask 8 4 = [255, 0, 0, 0] ∧ cidrMask 12 4 = [255, 240, 0, 0] ∧ isPrefixMask [255, 240, 0, 0] = true ∧
    isPrefixMask [255, 0, 255, 0] = false ∧
    cidrContains [10, 0, 0, 0] (cidrMask 8 4) [10, 1, 2, 3] = true ∧
    cidrContains [10, 0, 0, 0] (cidrMask 8 4) (v4in6 ++ [10, 1, 2, 3]) = true ∧
    cidrContains [10, 0, 0, 0] (cidrMask 8 4) [11, 1, 2, 3] = false ∧
    cidrContains [172, 16, 0, 0] (cidrMask 12 4) [172, 31, 255, 255] = true ∧
    cidrContains [172, 16, 0, 0] (cidrMask 12 4) [172, 32, 0, 0] = false ∧
    cidrContains (252 :: List.replicate 15 0) (cidrMask 7 16) (253 :: List.replicate 15 9) = true ∧
    cidrContains (List.replicate 16 0) (cidrMask 0 16) [10, 1, 2, 3] = false := by decide +kernel

-- illustration: the second byte of Private's 172.16.0.0/12 is such a range test
example : ∀ c, c < 256 → ((c &&& 240 == 16) = samePrefix 4 [c] [16]) := by
  intro c hc
  have := maskedEq_prefix 1 4 [c] [16] rfl rfl (by intro x hx; simp at hx; omega) (by intro x hx; simp at hx; omega)
  simpa [maskedEq, cidrMask] using this

end C10
