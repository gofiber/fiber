import FiberModel.C10.Lemmas
/-
C10 — the hand-written element loop of `extractIPsFromHeader` yields "the valid elements of the
comma-separated list" (`allIPs_eq_filter`), that of `extractIPFromHeader` the first of them. For that, the
validators' verdict on a candidate that starts with `:` or `.`
(`isIPv6_plain`, `isIPv6_cc`: `utils.IsIPv6` as the loop behind its `::` prelude).
-/
namespace C10
open B

/-- validity as fiber decides it (after F4, F5): an element with a colon must satisfy fiber's `isIPv6` (ctx.go; Lean `fiberIsIPv6`)
    (`utils.IsIPv6` and no group of more than four digits), otherwise one with a dot must satisfy
    `utils.IsIPv4`, anything else is rejected -/
def utilsValid (s : Bytes) : Bool :=
  if s.contains 58 then fiberIsIPv6 s else if s.contains 46 then isIPv4 s else false

theorem mem_dropSp (s : Bytes) (c : Nat) (hc : c ≠ 32) : c ∈ s.dropWhile (· == 32) ↔ c ∈ s := by
  induction s with
  | nil => simp
  | cons x xs ih => by_cases hx : x = 32 <;> simp [hx, ih, hc]

theorem mem_trimRight (s : Bytes) (c : Nat) (hc : c ≠ 32) : c ∈ trimRight s 32 ↔ c ∈ s := by
  unfold trimRight
  rw [List.mem_reverse, mem_dropSp _ _ hc, List.mem_reverse]

theorem contains_trimSp (s : Bytes) (c : Nat) (hc : c ≠ 32) : (trimSp s).contains c = s.contains c := by
  rw [Bool.eq_iff_iff, List.contains_iff_mem, List.contains_iff_mem]
  unfold trimSp; rw [mem_trimRight _ _ hc, mem_dropSp _ _ hc]

theorem dropSpComma_noComma (s : Bytes) (h : ¬ 44 ∈ s) :
    s.dropWhile (fun c => c == 32 || c == 44) = s.dropWhile (· == 32) := by
  induction s with
  | nil => rfl
  | cons x xs ih =>
    have hx : (x == 44) = false := beq_false_of_ne fun e => h (by simp [e])
    simp only [List.dropWhile_cons, hx, Bool.or_false, ih fun e => h (by simp [e])]

theorem isIPv4_nondigit (c : Nat) (t : Bytes) (h : isDigit c = false) : isIPv4 (c :: t) = false := by
  simp [isIPv4, octet, h]

/-- the tests after the loop -/
def v6Fin : Option (Bytes × Nat × Bool) → Bool
  | none => false
  | some (rest, i, ell) => rest == [] && (if i < 16 then ell else !ell)

theorem v6Fin_some {o : Option (Bytes × Nat × Bool)} (h : v6Fin o = true) :
    ∃ i ell, o = some ([], i, ell) ∧ (if ell = true then i < 16 else 16 ≤ i) := by
  obtain _ | ⟨rest, i, ell⟩ := o
  · cases h
  · simp only [v6Fin, Bool.and_eq_true, beq_iff_eq] at h
    refine ⟨i, ell, by rw [h.1], ?_⟩
    have := h.2
    cases ell <;> by_cases hi : i < 16 <;> simp [hi] at this ⊢ <;> omega

theorem isIPv6_cc (t : Bytes) :
    isIPv6 (58 :: 58 :: t) = v6Fin (if t == [] then some ([], 0, true) else ipv6Loop 9 t 0 true) := by
  unfold isIPv6
  cases h : (t == []) <;> simp only [h, if_true, Bool.false_eq_true, if_false]
  · rcases ipv6Loop 9 t 0 true with _ | ⟨rest, i, ell⟩ <;> rfl
  · rfl

theorem isIPv6_plain (s : Bytes) (h : ∀ t, s ≠ 58 :: 58 :: t) : isIPv6 s = v6Fin (ipv6Loop 9 s 0 false) := by
  unfold isIPv6
  split
  rename_i heq
  split at heq
  · rename_i t; exact absurd rfl (h t)
  · cases heq
    simp only [Bool.false_eq_true, if_false]
    rcases ipv6Loop 9 s 0 false with _ | ⟨rest, i, ell⟩ <;> rfl

/-- `utils.IsIPv6` finds no group in front of a single leading colon -/
theorem fiberIsIPv6_single_colon (t : Bytes) (h : t.head? ≠ some 58) : fiberIsIPv6 (58 :: t) = false := by
  rw [fiberIsIPv6, isIPv6_plain _ fun u e => by cases e; exact h rfl]
  simp [ipv6Loop, v6Fin, isHexDigit, isDigit]

theorem candidate_eq (c0 : Nat) (seg : Bytes) (hseg : ¬ 44 ∈ seg) (hc0 : c0 ≠ 44) :
    trimRight ((c0 :: seg).dropWhile (fun c => c == 32 || c == 44)) 32 = trimSp (c0 :: seg) := by
  unfold trimSp
  rw [dropSpComma_noComma _ (by simp [hseg, Ne.symm hc0])]

theorem candidate_comma (seg : Bytes) (hseg : ¬ 44 ∈ seg) :
    trimRight ((44 :: seg).dropWhile (fun c => c == 32 || c == 44)) 32 = trimSp seg := by
  unfold trimSp
  simp only [List.dropWhile_cons, beq_self_eq_true, Bool.or_true, if_true]
  rw [dropSpComma_noComma _ hseg]

theorem trimSp_cons (c : Nat) (seg : Bytes) (hc : c ≠ 32) : trimSp (c :: seg) = c :: trimRight seg 32 := by
  have e : trimSp (c :: seg) = trimRight ([c] ++ seg) 32 := by simp [trimSp, hc]
  rw [e, trimRight_append]
  split
  · next h => rw [trimRight_of_getLast_ne _ _ (by simpa using hc), List.isEmpty_iff.1 h]
  · rfl

theorem passes_true (seg s : Bytes) :
    passes true seg s = if seg.contains 58 then fiberIsIPv6 s else if seg.contains 46 then isIPv4 s else false := by
  unfold passes
  cases seg.contains 58 <;> cases seg.contains 46 <;> cases fiberIsIPv6 s <;> cases isIPv4 s <;> rfl

theorem passes_of_flags (seg s : Bytes) (h6 : s.contains 58 = seg.contains 58) (h4 : s.contains 46 = seg.contains 46) :
    passes true seg s = utilsValid s := by
  rw [passes_true, utilsValid, h6, h4]

/-- the loop takes its flags from `seg`, the element without its first byte `c0`; the candidate's own flags are those and
    `c0`'s. They differ only for a candidate that starts with `:` or `.`: `utils.IsIPv4` refuses it, and `fiberIsIPv6`
    does if that `:` is its only one -/
theorem passes_eq_utilsValid (c0 : Nat) (seg : Bytes) :
    passes true seg (trimSp (c0 :: seg)) = utilsValid (trimSp (c0 :: seg)) := by
  rw [passes_true, utilsValid, contains_trimSp _ _ (by decide), contains_trimSp _ _ (by decide), List.contains_cons,
    List.contains_cons]
  by_cases h6 : c0 = 58
  · subst h6
    rw [trimSp_cons 58 seg (by decide), isIPv4_nondigit 58 _ (by decide)]
    cases hs : seg.contains 58
    · have hhead : (trimRight seg 32).head? ≠ some 58 := fun hh => by
        have hm := (mem_trimRight _ _ (by decide)).1 (List.mem_of_mem_head? hh)
        rw [← List.contains_iff_mem, hs] at hm
        cases hm
      simp [fiberIsIPv6_single_colon _ hhead]
    · simp
  by_cases h4 : c0 = 46
  · subst h4
    rw [trimSp_cons 46 seg (by decide), isIPv4_nondigit 46 _ (by decide)]
    simp
  · simp [Ne.symm h6, Ne.symm h4]

theorem utilsValid_trimSp_nil : utilsValid (trimSp []) = false := by decide

/-- **with validation on, `IPs()`'s loop yields the elements of the comma-separated header value (trimmed of spaces)
    that fiber's validators accept, in order** -/
theorem allIPs_eq_filter (fuel : Nat) (hv : Bytes) (hf : hv.length < fuel) :
    allIPs true fuel hv = ((pieces 44 hv).map trimSp).filter utilsValid := by
  induction fuel generalizing hv with
  | zero => omega
  | succ f ih =>
    cases hv with
    | nil => simp [allIPs, pieces, utilsValid_trimSp_nil]
    | cons c0 tl =>
      have hseg := List.not_mem_takeWhile_ne 44 tl
      -- the recursive call on what follows the comma is `filter` on the remaining pieces
      have hrec : ∀ r, tl.drop (tl.takeWhile (· != 44)).length = r →
          allIPs true f (r.drop 1) = ((match r with | [] => [] | _ :: r' => pieces 44 r').map trimSp).filter utilsValid := by
        intro r hr
        cases r with
        | nil => cases f <;> simp [allIPs]
        | cons y ys =>
          simp only [List.drop_succ_cons, List.drop_zero]
          have : ys.length < f := by
            have h1 := congrArg List.length hr
            simp only [List.length_cons, List.length_drop] at h1 hf
            omega
          rw [ih ys this]
      simp only [allIPs]
      by_cases hc : c0 = 44
      · subst hc
        rw [candidate_comma _ hseg, passes_of_flags _ _ (contains_trimSp _ 58 (by decide)) (contains_trimSp _ 46 (by decide))]
        have hp : pieces 44 (44 :: tl) = [] :: pieces 44 tl := by simp [pieces]
        rw [hp, pieces_split 44 tl]
        simp only [List.map_cons, List.filter_cons, utilsValid_trimSp_nil]
        rw [hrec _ rfl]
        cases utilsValid (trimSp (tl.takeWhile (· != 44))) <;> rfl
      · rw [candidate_eq c0 _ hseg hc, passes_eq_utilsValid, pieces_split 44 (c0 :: tl)]
        simp only [List.takeWhile_cons, bne_iff_ne.2 hc, if_true, List.length_cons, List.drop_succ_cons, List.map_cons,
          List.filter_cons]
        rw [hrec _ rfl]
        cases utilsValid (trimSp (c0 :: tl.takeWhile (· != 44))) <;> rfl

theorem firstIP_eq_head (fuel : Nat) (hv : Bytes) : firstIP fuel hv = (allIPs true fuel hv).head? := by
  induction fuel generalizing hv with
  | zero => rfl
  | succ f ih =>
    cases hv with
    | nil => rfl
    | cons c0 tl =>
      simp only [firstIP, allIPs]
      split
      · rfl
      · exact ih _

/-- the index loop of `extractIPFromHeader` returns the first element of the comma-separated header value
    (trimmed of spaces) that fiber's validators accept -/
theorem firstIP_eq_firstValid (fuel : Nat) (hv : Bytes) (hf : hv.length < fuel) :
    firstIP fuel hv = firstValid utilsValid hv := by
  rw [firstIP_eq_head, allIPs_eq_filter fuel hv hf, List.head?_filter]; rfl

end C10
