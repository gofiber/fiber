import FiberModel.C10.V6Lemmas
/-
C10 — the converse of `fiberIsIPv6_valid`: fiber's `isIPv6` (Lean `fiberIsIPv6`) accepts every string of the RFC 4291 §2.2
text grammar (`V6Text.accepted`: the loop run forwards over the normal form); with `isIPv4_complete`,
`utilsValid = validIP` ("the first valid address" of the documentation is the first element of the grammar).
-/
namespace C10
open B

theorem hexDigitVal_le {c : Nat} (h : isHexDigit c = true) : hexDigitVal c ≤ 15 := by
  simp only [isHexDigit, isDigit, Bool.or_eq_true, Bool.and_eq_true, decide_eq_true_eq] at h
  simp only [hexDigitVal, isDigit, Bool.and_eq_true, decide_eq_true_eq]
  split
  · omega
  · split <;> omega

theorem hexFold_lt (s : Bytes) (a : Nat) (h : s.all isHexDigit = true) :
    s.foldl (fun a c => a * 16 + hexDigitVal c) a < (a + 1) * 16 ^ s.length := by
  induction s generalizing a with
  | nil => simp
  | cons c cs ih =>
    simp only [List.all_cons, Bool.and_eq_true] at h
    simp only [List.foldl_cons, List.length_cons]
    have h1 := ih (a * 16 + hexDigitVal c) h.2
    have h2 := hexDigitVal_le h.1
    have h3 : (a * 16 + hexDigitVal c + 1) * 16 ^ cs.length ≤ (a + 1) * 16 * 16 ^ cs.length :=
      Nat.mul_le_mul_right _ (by omega)
    rw [Nat.pow_succ, Nat.mul_comm (16 ^ cs.length) 16, ← Nat.mul_assoc]
    omega

theorem h16_hexVal {g : Bytes} (h : h16 g = true) : hexVal g ≤ 65535 := by
  obtain ⟨_, h4, hall⟩ := h16_iff.1 h
  have := hexFold_lt g 0 (List.all_eq_true.2 hall)
  have hp : 16 ^ g.length ≤ 16 ^ 4 := Nat.pow_le_pow_right (by decide) h4
  have : (16 : Nat) ^ 4 = 65536 := by decide
  unfold hexVal
  omega

theorem ipv6Loop_group {fuel : Nat} {g r : Bytes} {i : Nat} {ell : Bool} {res : Bytes × Nat × Bool} (hg : h16 g = true)
    (hr : ∀ x, r.head? = some x → x = 58 ∨ x = 46) (hf : fuel ≠ 0) (hi : i < 16) (hp : Pass (fuel - 1) (g ++ r) i ell res r) :
    ipv6Loop fuel (g ++ r) i ell = some res := by
  obtain ⟨f, rfl⟩ : ∃ f, fuel = f + 1 := ⟨fuel - 1, by omega⟩
  have hhead : ∀ x, r.head? = some x → isHexDigit x = false := fun x hx => by
    rcases hr x hx with rfl | rfl
    · exact not_hex_58
    · exact not_hex_46
  exact (ipv6Loop_pass (h16_iff.1 hg).2.2 hhead hi).2 ⟨(h16_iff.1 hg).1, h16_hexVal hg, hp⟩

/-- a dotted quad: its first octet is a group to the hex scan, the dot behind it hands the whole to `utils.IsIPv4` -/
theorem loop_step_v4 {fuel : Nat} {g : Bytes} {i : Nat} {ell : Bool} (hv : Quad g) (hf : fuel ≠ 0)
    (hpos : ell = true ∨ i = 12) (hi : i + 4 ≤ 16) : ipv6Loop fuel g i ell = some ([], i + 4, ell) := by
  have h4 := hv.accepted
  obtain ⟨a, c, d, e, rfl, ha, _⟩ := hv
  obtain ⟨⟨h1, h3⟩, hd, _⟩ := decOctet_iff.1 ha
  have ha : h16 a = true :=
    h16_iff.2 ⟨List.ne_nil_of_length_pos h1, by omega, fun x hx => by simp [isHexDigit, hd x hx]⟩
  exact ipv6Loop_group ha (by simp) hf (by omega) (.quad rfl hpos hi h4 rfl)

/-- a run of groups without `::` (the last one may be a dotted quad): the loop reads all of it. The last hypothesis is
    Go's "a dotted quad only at offset 12, unless an ellipsis was seen"; only the `quad` case reads it. -/
theorem loop_run {s : Bytes} {v : Bool} {k : Nat} (h : Run s v k) : ∀ (i : Nat) (ell : Bool) (fuel : Nat),
    k ≤ fuel → i + 2 * k ≤ 16 → (ell = true ∨ i + 2 * k = 16) → ipv6Loop fuel s i ell = some ([], i + 2 * k, ell) := by
  induction h with
  | last hg =>
    intro i ell fuel hf hi _
    simpa using ipv6Loop_group (r := []) hg (by simp) (by omega) (by omega) (.last rfl rfl)
  | quad hq =>
    intro i ell fuel hf hi hpos
    exact loop_step_v4 hq (by omega) (hpos.imp id (fun h => by omega)) (by omega)
  | @colon g s v k hg hs ih =>
    intro i ell fuel hf hi hpos
    have := ih (i + 2) ell (fuel - 1) (by omega) (by omega) (hpos.imp id (fun h => by omega))
    rw [show i + 2 + 2 * k = i + 2 * (k + 1) by omega] at this
    exact ipv6Loop_group hg (by simp) (by omega) (by omega) (.colon s rfl hs.ne_nil (Side.run hs).head this)

/-- the groups in front of a `::` (no dotted quad there), then the `::`: if the loop reads what stands behind it (nothing, or
    `r` from the position reached) with result `res`, it reads the whole with that result. (`v` is a variable with `v = false`
    beside it because the induction needs the index of `Run` free.) -/
theorem loop_left {l : Bytes} {v : Bool} {a : Nat} (h : Run l v a) : v = false →
    ∀ (r : Bytes) (i fuel : Nat) (res : Bytes × Nat × Bool), a ≤ fuel → i + 2 * a ≤ 16 →
    (if r == [] then some ([], i + 2 * a, true) else ipv6Loop (fuel - a) r (i + 2 * a) true) = some res →
    ipv6Loop fuel (l ++ 58 :: 58 :: r) i false = some res := by
  induction h with
  | last hg =>
    intro _ r i fuel res hf hi hrest
    exact ipv6Loop_group hg (by simp) (by omega) (by omega) (.ellipsis r rfl rfl hrest)
  | quad => intro hv; cases hv
  | @colon g l' v k hg hs ih =>
    intro hv r i fuel res hf hi hrest
    rw [List.append_assoc, List.cons_append]
    refine ipv6Loop_group hg (by simp) (by omega) (by omega) (.colon _ rfl (by simp) (hs.head _) ?_)
    apply ih hv r (i + 2) (fuel - 1) res (by omega) (by omega)
    rwa [show i + 2 + 2 * k = i + 2 * (k + 1) by omega, show fuel - 1 - k = fuel - (k + 1) by omega]

/-- what stands behind a `::`: nothing, and the loop is not entered, or a run, which it reads -/
theorem loop_side {r : Bytes} {c : Nat} (h : Side r true c) (i fuel : Nat) (hf : c ≤ fuel) (hi : i + 2 * c ≤ 16) :
    (if r == [] then some ([], i, true) else ipv6Loop fuel r i true) = some ([], i + 2 * c, true) := by
  cases h with
  | none => rfl
  | run hr => rw [if_neg (by simpa using hr.ne_nil)]; exact loop_run hr i true fuel hf hi (Or.inl rfl)

theorem shortGroups_sep (l rest : Bytes) (c n : Nat) (hc : c = 58 ∨ c = 46) :
    shortGroups (l ++ c :: rest) n = (shortGroups l n && shortGroups rest 0) := by
  fun_induction shortGroups l n <;> simp_all [shortGroups]

theorem shortGroups_plain {g : Bytes} (h : g.length ≤ 4) : shortGroups g 0 = true := by
  suffices h' : ∀ (g : Bytes) (n : Nat), n + g.length ≤ 4 → shortGroups g n = true from h' g 0 (by omega)
  intro g
  induction g with
  | nil => intro n _; rfl
  | cons x xs ih =>
    intro n h
    simp only [List.length_cons] at h
    simp only [shortGroups, ih 0 (by omega), ih (n + 1) (by omega), show ¬ n + 1 > 4 by omega, if_false, ite_self]

theorem shortGroups_v4 {g : Bytes} (h : Quad g) : shortGroups g 0 = true := by
  obtain ⟨a, c, d, e, rfl, ha, hc, hd, he⟩ := h
  have h3 : ∀ {o : Bytes}, decOctet o = true → o.length ≤ 4 := fun ho => Nat.le_succ_of_le (decOctet_iff.1 ho).1.2
  rw [shortGroups_sep _ _ 46 0 (Or.inr rfl), shortGroups_sep _ _ 46 0 (Or.inr rfl), shortGroups_sep _ _ 46 0 (Or.inr rfl),
    shortGroups_plain (h3 ha), shortGroups_plain (h3 hc), shortGroups_plain (h3 hd), shortGroups_plain (h3 he)]
  rfl

theorem Run.short {s : Bytes} {v : Bool} {k : Nat} (h : Run s v k) : shortGroups s 0 = true := by
  induction h with
  | last hg => exact shortGroups_plain (h16_iff.1 hg).2.1
  | quad hq => exact shortGroups_v4 hq
  | colon hg _ ih =>
    rw [shortGroups_sep _ _ 58 0 (Or.inl rfl), shortGroups_plain (h16_iff.1 hg).2.1, ih]
    rfl

theorem Side.short {s : Bytes} {v : Bool} {k : Nat} (h : Side s v k) : shortGroups s 0 = true := by
  cases h with
  | none => rfl
  | run h => exact h.short

theorem V6Text.accepted {s : Bytes} (h : V6Text s) : fiberIsIPv6 s = true := by
  -- 9 below is the fuel `isIPv6` gives the loop: a pass for each of at most eight units, and one to spare
  unfold fiberIsIPv6
  cases h with
  | full h =>
    have hplain : ∀ t, s ≠ 58 :: 58 :: t := fun t e => (Side.run h).head (by rw [e]; rfl)
    rw [h.short, isIPv6_plain s hplain, loop_run h 0 false 9 (by omega) (by omega) (Or.inr rfl)]
    rfl
  | @ell l r a c hl hr hac =>
    have hsg : shortGroups (l ++ 58 :: 58 :: r) 0 = true := by
      rw [shortGroups_sep l _ 58 0 (Or.inl rfl), hl.short]
      simpa [shortGroups] using hr.short
    rw [hsg, Bool.true_and]
    cases hl with
    | none =>
      rw [List.nil_append, isIPv6_cc, loop_side hr 0 9 (by omega) (by omega)]
      simp [v6Fin]; omega
    | run hl =>
      have hplain : ∀ t, l ++ 58 :: 58 :: r ≠ 58 :: 58 :: t := fun t e => (hl.head _) (by rw [e]; rfl)
      rw [isIPv6_plain _ hplain, loop_left hl rfl r 0 9 _ (by omega) (by omega) (loop_side hr _ _ (by omega) (by omega))]
      simp [v6Fin]; omega

theorem fiberIsIPv6_complete {s : Bytes} (h : validIPv6 s = true) : fiberIsIPv6 s = true := (validIPv6_iff.1 h).accepted

/-- **fiber's validators decide exactly the RFC 791 / RFC 4291 §2.2 text grammar** -/
theorem utilsValid_eq_validIP (s : Bytes) : utilsValid s = validIP s := by
  rw [Bool.eq_iff_iff]
  refine ⟨utilsValid_valid, fun h => ?_⟩
  unfold utilsValid
  rcases Bool.or_eq_true_iff.1 h with h4 | h6
  · have hq := validIPv4_quad h4
    simp [hq.noColon, hq.dot, isIPv4_complete h4]
  · simp [(validIPv6_iff.1 h6).colon, fiberIsIPv6_complete h6]

end C10
