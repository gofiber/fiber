import FiberModel.C10.V6Text
/-
C10 — `utils.IsIPv6` (the transcribed `isIPv6` / `ipv6Loop`) accepts only RFC 4291 §2.2 text forms
(`validIPv6`) once no group has more than four hexadecimal digits; fiber's side of it: the scan in front
(`shortGroups_noLongRun`) makes `fiberIsIPv6` sound without side condition, and so is the dispatch (`dispatch_valid`).
-/
namespace C10
open B

theorem takeWhile_split {α : Type} (p : α → Bool) (s : List α) :
    ∃ g r, s = g ++ r ∧ (∀ x ∈ g, p x = true) ∧ ∀ x, r.head? = some x → p x = false :=
  ⟨s.takeWhile p, s.dropWhile p, List.takeWhile_append_dropWhile.symm, fun _ hx => List.mem_takeWhile hx,
    fun x hx => by have := List.head?_dropWhile_not p s; rw [hx] at this; exact this⟩

theorem longHexRun_run {g r : Bytes} {n : Nat} (hg : ∀ x ∈ g, isHexDigit x = true)
    (hr : ∀ x, r.head? = some x → isHexDigit x = false) (h : longHexRun (g ++ r) n = false) :
    n + g.length ≤ 4 ∧ longHexRun (r.drop 1) 0 = false := by
  induction g generalizing n with
  | nil =>
    cases r with
    | nil => simpa [longHexRun, Nat.lt_succ_iff] using h
    | cons c cs => simpa [longHexRun, hr c rfl, Nat.lt_succ_iff] using h
  | cons c cs ih =>
    rw [List.cons_append, longHexRun, if_pos (hg c (by simp))] at h
    have := ih (fun x hx => hg x (by simp [hx])) h
    simp only [List.length_cons]
    exact ⟨by omega, this.2⟩

theorem longHexRun_colon (t : Bytes) : longHexRun (58 :: t) 0 = longHexRun t 0 := by simp [longHexRun, not_hex_58]

theorem longHexRun_mono (s : Bytes) (n : Nat) (h : longHexRun s n = false) : n ≤ 4 := by
  obtain ⟨g, r, rfl, hg, hr⟩ := takeWhile_split isHexDigit s
  have := (longHexRun_run hg hr h).1; omega

theorem ipv6Loop_done {fuel : Nat} {s : Bytes} {i : Nat} {ell : Bool} (hi : 16 ≤ i) :
    ipv6Loop (fuel + 1) s i ell = some (s, i, ell) := by
  rw [ipv6Loop, if_pos hi]

/-- a successful pass over `s`, where `r` is what follows the leading run of hex digits -/
inductive Pass (fuel : Nat) (s : Bytes) (i : Nat) (ell : Bool) (res : Bytes × Nat × Bool) (r : Bytes) : Prop
  -- `hp`: Go refuses a dotted quad `if ellipsis < 0 && i != IPv6len-IPv4len`
  | quad (hd : r.head? = some 46) (hp : ell = true ∨ i = 12) (hi : i + 4 ≤ 16) (h4 : isIPv4 s = true) (hres : res = ([], i + 4, ell))
  | last (hr : r = []) (hres : res = ([], i + 2, ell))
  -- behind `::` the address may end; the loop is entered only if it does not
  | ellipsis (r2 : Bytes) (hr : r = 58 :: 58 :: r2) (he : ell = false)
      (hrec : (if r2 == [] then some ([], i + 2, true) else ipv6Loop fuel r2 (i + 2) true) = some res)
  | colon (r1 : Bytes) (hr : r = 58 :: r1) (hne : r1 ≠ []) (hh : r1.head? ≠ some 58) (hrec : ipv6Loop fuel r1 (i + 2) ell = some res)

theorem ipv6Loop_pass {fuel : Nat} {g r : Bytes} {i : Nat} {ell : Bool} {res : Bytes × Nat × Bool}
    (hg : ∀ x ∈ g, isHexDigit x = true) (hr : ∀ x, r.head? = some x → isHexDigit x = false) (hi : i < 16) :
    ipv6Loop (fuel + 1) (g ++ r) i ell = some res ↔ g ≠ [] ∧ hexVal g ≤ 65535 ∧ Pass fuel (g ++ r) i ell res r := by
  rw [ipv6Loop, if_neg (Nat.not_le.2 hi)]
  simp only [List.takeWhile_append_stop hg hr, List.drop_left']
  constructor
  · intro h
    -- no hex digit, or a group value above 0xFFFF: `return false`
    by_cases hc : (g.length == 0 || decide (hexVal g > 65535)) = true
    · rw [if_pos hc] at h; cases h
    rw [if_neg hc] at h
    simp only [Bool.or_eq_true, beq_iff_eq, decide_eq_true_eq, not_or, List.length_eq_zero_iff, Nat.not_lt] at hc
    refine ⟨hc.1, hc.2, ?_⟩
    by_cases hdot : (r.head? == some 46) = true
    · -- a dot follows the digits: the rest must be a dotted quad in the last four bytes
      rw [if_pos hdot] at h
      split at h
      · cases h
      rename_i hv
      simp only [Bool.or_eq_true, Bool.and_eq_true, Bool.not_eq_true', bne_iff_ne, ne_eq, decide_eq_true_eq, not_or, not_and,
        Bool.not_eq_false, Nat.not_lt] at hv
      cases h
      refine .quad (by simpa using hdot) ?_ hv.1.2 hv.2 rfl
      cases ell
      · exact Or.inr (Decidable.not_not.1 (hv.1.1 rfl))
      · exact Or.inl rfl
    · rw [if_neg hdot] at h
      match r, h with
      | [], h => cases h; exact .last rfl rfl   -- the address ends with this group
      | c :: r1, h =>
        simp only at h
        split at h
        · cases h
        rename_i hcc
        simp only [Bool.or_eq_true, bne_iff_ne, ne_eq, beq_iff_eq, not_or, Decidable.not_not] at hcc
        obtain ⟨rfl, hr1⟩ := hcc
        -- a colon follows, and something after it; `::` or a single colon
        split at h
        · rename_i r2
          split at h
          · cases h
          rename_i hell
          exact .ellipsis r2 rfl (by simpa using hell) h
        · rename_i hnot
          refine .colon r1 rfl hr1 ?_ h
          intro e
          cases r1 with
          | nil => exact hr1 rfl
          | cons y ys => simp at e; subst e; exact hnot ys rfl
  · rintro ⟨hne, hv, hp⟩
    -- the group test passes; then Go's tests in the order of the loop body, one way of `Pass` each
    rw [if_neg (by simp [hne, Nat.not_lt.2 hv])]
    cases hp with
    | quad hd hp hi4 h4 hres =>   -- a dot: position, room for four bytes, `IsIPv4`
      have hcond : (!ell && i != 12) = false := by rcases hp with h | h <;> simp [h]
      simp [hd, hcond, h4, hres]; omega
    | last hnil hres => subst hnil; simp [hres]   -- no dot, nothing left
    | ellipsis r2 hcc he hrec => subst hcc; simpa [he] using hrec   -- `::`, the first one
    | colon r1 hc hne1 hh hrec =>
      subst hc
      cases r1 with
      | nil => exact absurd rfl hne1
      | cons y ys =>
        have hy : y ≠ 58 := by simpa using hh
        -- a colon with something behind it (`c != 58 || r1 == []` is false), and that is no second colon
        simp only [List.head?_cons, Option.some.injEq, bne_self_eq_false, Bool.false_or, beq_iff_eq, reduceCtorEq, if_false]
        split
        · next h => exact absurd h (by decide)
        split
        · next r2 heq => cases heq; exact absurd rfl hy
        · exact hrec

/-- `s`, read from byte offset `i` with `ell` = "an ellipsis was seen before", is either a run of
    groups without `::`, or (only if none was seen before) `l::r` with a run on the left -/
inductive Shape (s : Bytes) (i : Nat) (ell : Bool) (i' : Nat) (ell' : Bool) : Prop
  | plain (k : Nat) (he : ell' = ell) (hr : Run s true k) (hk : i' = i + 2 * k)
  | ellipsis (l r : Bytes) (a c : Nat) (he : ell = false) (he' : ell' = true) (hs : s = l ++ 58 :: 58 :: r)
      (hl : Run l false a) (hr : Side r true c) (hk : i' = i + 2 * (a + c))

/-- `i' ≤ 16` (for even `i`) is what lets the final test of `utils.IsIPv6` (Lean `isIPv6`), `i < 16` or not, count the units -/
theorem ipv6Loop_shape (fuel : Nat) : ∀ (s : Bytes) (i : Nat) (ell : Bool) (i' : Nat) (ell' : Bool),
    s ≠ [] → longHexRun s 0 = false → ipv6Loop fuel s i ell = some ([], i', ell') →
    (i % 2 = 0 → i' ≤ 16) ∧ Shape s i ell i' ell' := by
  induction fuel with
  | zero =>
    intro s i ell i' ell' hne _ h
    simp only [ipv6Loop, Option.some.injEq, Prod.mk.injEq] at h
    exact absurd h.1 hne
  | succ f ih =>
    intro s i ell i' ell' hne hn h
    by_cases hi : 16 ≤ i
    · rw [ipv6Loop_done hi] at h; cases h; exact absurd rfl hne
    obtain ⟨g, r, rfl, hall, hhead⟩ := takeWhile_split isHexDigit s
    obtain ⟨hnil, _, hp⟩ := (ipv6Loop_pass hall hhead (Nat.not_le.1 hi)).1 h
    have hrun := longHexRun_run hall hhead hn
    have hg := h16_iff.2 ⟨hnil, by omega, hall⟩
    cases hp with
    | quad _ _ _ h4 hres => cases hres; exact ⟨fun _ => by omega, .plain 2 rfl (.quad (isIPv4_quad h4)) rfl⟩
    | last hr hres => cases hres; subst hr; rw [List.append_nil]; exact ⟨fun _ => by omega, .plain 1 rfl (.last hg) rfl⟩
    | ellipsis r2 hr hell hrec =>
      subst hr
      by_cases hr2 : r2 = []
      · subst hr2; cases hrec; exact ⟨fun _ => by omega, .ellipsis g [] 1 0 hell rfl rfl (.last hg) .none rfl⟩
      rw [if_neg (by simpa using hr2)] at hrec
      have hn2 : longHexRun r2 0 = false := by simpa [longHexRun_colon] using hrun.2
      obtain ⟨hle, sh⟩ := ih r2 (i + 2) true i' ell' hr2 hn2 hrec
      cases sh with
      | plain k he hr hk => exact ⟨fun _ => hle (by omega), .ellipsis g r2 1 k hell he rfl (.last hg) (.run hr) (by omega)⟩
      | ellipsis l r a c he => cases he
    | colon r1 hr hr1 hh1 hrec =>
      subst hr
      have hn1 : longHexRun r1 0 = false := by simpa using hrun.2
      obtain ⟨hle, sh⟩ := ih r1 (i + 2) ell i' ell' hr1 hn1 hrec
      cases sh with
      | plain k he hr hk => exact ⟨fun _ => hle (by omega), .plain (k + 1) he (.colon hg hr) (by omega)⟩
      | ellipsis l r a c he he' hs1 hl hr hk =>
        subst hs1
        exact ⟨fun _ => hle (by omega), .ellipsis (g ++ 58 :: l) r (a + 1) c he he' (by simp) (.colon hg hl) hr (by omega)⟩

/-- the final test of `utils.IsIPv6` (`hfin`: `i' < 16` exactly if an ellipsis was seen) turns the position reached into the
    number of units -/
theorem isIPv6_text {s : Bytes} (h : isIPv6 s = true) (hn : longHexRun s 0 = false) : V6Text s := by
  by_cases hcc : ∃ t, s = 58 :: 58 :: t
  · obtain ⟨t, rfl⟩ := hcc
    rw [isIPv6_cc] at h
    by_cases ht : t = []
    · subst ht; exact .ell (l := []) .none .none (by omega)
    · rw [if_neg (by simpa using ht)] at h
      rw [longHexRun_colon, longHexRun_colon] at hn
      obtain ⟨i', ell', hl, hfin⟩ := v6Fin_some h
      obtain ⟨hle, sh⟩ := ipv6Loop_shape 9 t 0 true i' ell' ht hn hl
      cases sh with
      | plain k he hr hk =>
        subst he
        exact .ell (l := []) .none (.run hr) (by simp at hfin; omega)
      | ellipsis l r a c he => cases he
  · have hcc' : ∀ t, s ≠ 58 :: 58 :: t := fun t e => hcc ⟨t, e⟩
    rw [isIPv6_plain s hcc'] at h
    obtain ⟨i', ell', hl, hfin⟩ := v6Fin_some h
    have hne : s ≠ [] := by intro e; subst e; simp [ipv6Loop] at hl
    obtain ⟨hle, sh⟩ := ipv6Loop_shape 9 s 0 false i' ell' hne hn hl
    have hle := hle rfl
    cases sh with
    | plain k he hr hk =>
      subst he
      have hk8 : k = 8 := by simp at hfin; omega
      exact .full (hk8 ▸ hr)
    | ellipsis l r a c he he' hs1 hl1 hr hk =>
      subst he' hs1
      exact .ell (.run hl1) hr (by simp at hfin; omega)

/-- **`utils.IsIPv6` accepts only RFC 4291 §2.2 text forms**, provided no group has more than four
    hexadecimal digits (`utils.IsIPv6` bounds a group's value, not its length) -/
theorem isIPv6_valid {s : Bytes} (h : isIPv6 s = true) (hn : longHexRun s 0 = false) : validIPv6 s = true :=
  validIPv6_iff.2 (isIPv6_text h hn)

/-- fiber's scan counts every byte between separators, the specification's only hexadecimal digits: a text the first lets
    through from count `n` has no long run from any count up to `n` -/
theorem shortGroups_noLongRun (s : Bytes) (n : Nat) (hn : n ≤ 4) (h : shortGroups s n = true) :
    ∀ m, m ≤ n → longHexRun s m = false := by
  fun_induction shortGroups s n <;> intro m hm <;> rw [longHexRun]
  case case1 => simp; omega   -- the end of the text
  case case2 c cs n hc ih =>   -- a separator: both scans start again
    have hnh : isHexDigit c = false := by
      simp only [Bool.or_eq_true, beq_iff_eq] at hc
      rcases hc with rfl | rfl <;> decide
    simp [hnh, ih (by omega) h 0 (Nat.le_refl 0)]; omega
  case case3 => cases h   -- a fifth byte: refused
  case case4 c cs n _ hn4 ih =>   -- one more byte of the group; the specification's scan starts again if it is no hex digit
    have ih := ih (by omega) h
    split
    · exact ih _ (by omega)
    · simp [ih 0 (by omega)]; omega

/-- **fiber's `isIPv6` (ctx.go; Lean `fiberIsIPv6`) accepts only RFC 4291 §2.2 text forms** -/
theorem fiberIsIPv6_valid {s : Bytes} (h : fiberIsIPv6 s = true) : validIPv6 s = true := by
  unfold fiberIsIPv6 at h
  simp only [Bool.and_eq_true] at h
  exact isIPv6_valid h.2 (shortGroups_noLongRun s 0 (by omega) h.1 0 (Nat.le_refl 0))

/-- fiber's dispatch (a colon: `fiberIsIPv6`; else a dot: `utils.IsIPv4`) lets only valid addresses through, wherever the
    two flags are taken from: the candidate itself (`utilsValid`) or the segment's tail (`passes_true`) -/
theorem dispatch_valid {v6 v4 : Bool} {s : Bytes} (h : (if v6 then fiberIsIPv6 s else if v4 then isIPv4 s else false) = true) :
    validIP s = true := by
  unfold validIP
  split at h
  · simp [fiberIsIPv6_valid h]
  · split at h
    · simp [isIPv4_valid h]
    · cases h

theorem utilsValid_valid {s : Bytes} (h : utilsValid s = true) : validIP s = true := dispatch_valid h

/-- `utils.IsIPv6` alone is not sound: the group's value is bounded, its length is not -/
theorem utils_isIPv6_unsound : isIPv6 (b "0:0:0:0:0:0:0:00001") = true ∧ validIPv6 (b "0:0:0:0:0:0:0:00001") = false ∧
    fiberIsIPv6 (b "0:0:0:0:0:0:0:00001") = false := by
  repeat rw [b_ofList]
  decide +kernel

end C10
