import FiberModel.C10.ValidLemmas
/-
C10 — the RFC 4291 §2.2 text grammar (`validIPv6`) in normal form, the counterpart of `Quad`: a `Run` is
`g₁:g₂:…:gₙ`, a `V6Text` eight units or `l::r`. What `utils.IsIPv6` accepts (V6Lemmas), what fiber's `isIPv6` (Lean `fiberIsIPv6`)
must accept (V6Complete) and what `net.IP.String()` prints (StringLemmas) are each stated about this form.
-/
namespace C10
open B

theorem not_hex_46 : isHexDigit 46 = false := by decide
theorem not_hex_58 : isHexDigit 58 = false := by decide

theorem indexOf_colon (rest : Bytes) (h : rest.head? ≠ some 58) :
    indexOf (58 :: rest) [58, 58] = (indexOf rest [58, 58]).map (· + 1) := by
  cases rest with
  | nil => simp [indexOf, List.isPrefixOf]
  | cons y ys => simp [indexOf, List.isPrefixOf, Ne.symm (show y ≠ 58 by simpa using h)]

theorem indexOf_cc (t : Bytes) : indexOf (58 :: 58 :: t) [58, 58] = some 0 :=
  indexOf_prefix [58, 58] t

theorem h16_iff {g : Bytes} : h16 g = true ↔ g ≠ [] ∧ g.length ≤ 4 ∧ ∀ x ∈ g, isHexDigit x = true := by
  simp only [h16, Bool.and_eq_true, decide_eq_true_eq, List.all_eq_true, and_assoc, Nat.one_le_iff_ne_zero, ne_eq,
    List.length_eq_zero_iff]

/-- `g₁:g₂:…:gₙ`: groups of one to four hex digits; if `v`, a dotted quad (two units) may stand last; `k` units in all -/
inductive Run : Bytes → Bool → Nat → Prop
  | last {g : Bytes} {v : Bool} (hg : h16 g = true) : Run g v 1
  | quad {q : Bytes} (hq : Quad q) : Run q true 2
  | colon {g s : Bytes} {v : Bool} {k : Nat} (hg : h16 g = true) (hs : Run s v k) : Run (g ++ 58 :: s) v (k + 1)

/-- what stands on one side of `::`: nothing, or a run (inside the namespace `Side` the name `none` is this constructor:
    write `Option.none`; likewise `units` is the theorem `Run.units` inside `Run`, write `C10.units`) -/
inductive Side : Bytes → Bool → Nat → Prop
  | none {v : Bool} : Side [] v 0
  | run {s : Bytes} {v : Bool} {k : Nat} (h : Run s v k) : Side s v k

/-- RFC 4291 §2.2 as text: eight units, or `l::r` with at most seven -/
inductive V6Text : Bytes → Prop
  | full {s : Bytes} (h : Run s true 8) : V6Text s
  | ell {l r : Bytes} {a c : Nat} (hl : Side l false a) (hr : Side r true c) (h : a + c ≤ 7) : V6Text (l ++ 58 :: 58 :: r)

theorem h16_noColon {g : Bytes} (h : h16 g = true) : ¬ 58 ∈ g := not_mem_of_all (h16_iff.1 h).2.2 not_hex_58

theorem Quad.not_h16 {q : Bytes} (h : Quad q) : h16 q = false := by
  have : q.all isHexDigit = false := List.all_eq_false.2 ⟨46, h.dot, by decide⟩
  simp [h16, this]

theorem head_ne_of_not_mem {t : Bytes} {c : Nat} (rest : Bytes) (hne : t ≠ []) (hn : ¬ c ∈ t) : (t ++ rest).head? ≠ some c := by
  cases t with
  | nil => exact absurd rfl hne
  | cons x xs => simpa using fun e : x = c => hn (by simp [e])

theorem Run.ne_nil {s : Bytes} {v : Bool} {k : Nat} (h : Run s v k) : s ≠ [] := by
  cases h with
  | last h => exact (h16_iff.1 h).1
  | quad hq => obtain ⟨a, c, d, e, rfl, _⟩ := hq; simp
  | colon => simp

theorem Run.head {s : Bytes} {v : Bool} {k : Nat} (h : Run s v k) (rest : Bytes) : (s ++ rest).head? ≠ some 58 := by
  cases h with
  | last h => exact head_ne_of_not_mem _ (h16_iff.1 h).1 (h16_noColon h)
  | quad hq => exact head_ne_of_not_mem _ (Run.quad hq).ne_nil hq.noColon
  | colon h _ => rw [List.append_assoc]; exact head_ne_of_not_mem _ (h16_iff.1 h).1 (h16_noColon h)


theorem Run.units {s : Bytes} {v : Bool} {k : Nat} (h : Run s v k) : C10.units (pieces 58 s) v = some k := by
  induction h with
  | last hg => simp [pieces_noSep 58 _ (h16_noColon hg), C10.units, hg]
  | quad hq => simp [pieces_noSep 58 _ hq.noColon, C10.units, hq.not_h16, hq.valid]
  | @colon g s v k hg _ ih => simp [pieces_sep 58 g s (h16_noColon hg), C10.units, pieces_ne_nil, hg, ih]

/-- no `::` inside a run, nor across its end -/
theorem Run.indexOf_append {s : Bytes} {v : Bool} {k : Nat} (h : Run s v k) (rest : Bytes) :
    indexOf (s ++ rest) [58, 58] = (indexOf rest [58, 58]).map (· + s.length) := by
  induction h with
  | last hg => exact indexOf_append_of_not_mem rest rfl (h16_noColon hg)
  | quad hq => exact indexOf_append_of_not_mem rest rfl hq.noColon
  | @colon g s v k hg hs ih =>
    rw [List.append_assoc, indexOf_append_of_not_mem _ rfl (h16_noColon hg), List.cons_append,
      indexOf_colon _ (hs.head rest), ih]
    cases indexOf rest [58, 58] <;> simp <;> omega

theorem Run.of_units {s : Bytes} {v : Bool} {k : Nat} (hu : C10.units (pieces 58 s) v = some k) : Run s v k := by
  generalize hp : pieces 58 s = gs at hu
  revert hu
  fun_induction C10.units gs v generalizing s k <;> intro hu
  case case1 => exact absurd hp (pieces_ne_nil 58 s)   -- no piece at all
  -- one piece: a group, or a dotted quad
  case case2 g v hg => cases hu; obtain rfl := pieces_single hp; exact .last hg
  case case3 g v _ hv =>
    cases hu
    obtain rfl := pieces_single hp
    obtain ⟨rfl, hv⟩ := Bool.and_eq_true_iff.1 hv
    exact .quad (validIPv4_quad hv)
  case case5 g gs v hne hg ih =>   -- a group, and more pieces behind it
    obtain ⟨p, ps, rfl⟩ := List.exists_cons_of_ne_nil hne
    obtain ⟨s', rfl, hp'⟩ := pieces_cons2 hp
    obtain ⟨k', hu', rfl⟩ := Option.map_eq_some_iff.1 hu
    exact .colon hg (ih hp' hu')
  -- a piece that is neither a group nor, in last place, a dotted quad
  all_goals cases hu

theorem side_iff {s : Bytes} {v : Bool} {k : Nat} : sideUnits s v = some k ↔ Side s v k := by
  unfold sideUnits
  constructor
  · intro h
    split at h
    · rename_i hs; cases h; rw [beq_iff_eq.1 hs]; exact .none
    · exact .run (.of_units h)
  · rintro (_ | h)
    · rfl
    · rw [if_neg (by simpa using h.ne_nil)]; exact h.units

theorem Side.indexOf_append {s : Bytes} {v : Bool} {k : Nat} (h : Side s v k) (rest : Bytes) :
    indexOf (s ++ rest) [58, 58] = (indexOf rest [58, 58]).map (· + s.length) := by
  cases h with
  | none => simp
  | run h => exact h.indexOf_append rest

theorem Side.indexOf_none {s : Bytes} {v : Bool} {k : Nat} (h : Side s v k) : indexOf s [58, 58] = Option.none := by
  simpa [indexOf] using h.indexOf_append []

theorem Side.run_of_ne {s : Bytes} {v : Bool} {k : Nat} (h : Side s v k) (hk : k ≠ 0) : Run s v k := by
  cases h with
  | none => exact absurd rfl hk
  | run h => exact h

theorem Side.head {s : Bytes} {v : Bool} {k : Nat} (h : Side s v k) : s.head? ≠ some 58 := by
  cases h with
  | none => simp
  | run h => simpa using (h.head [])

theorem validIPv6_iff {s : Bytes} : validIPv6 s = true ↔ V6Text s := by
  unfold validIPv6
  constructor
  · intro h
    split at h
    · exact .full (.of_units (by simpa using h))
    · rename_i n hidx
      have hsplit := indexOf_take_drop hidx
      simp only [Bool.and_eq_true] at h
      split at h
      · rename_i a c hla hrc
        exact hsplit ▸ .ell (side_iff.1 hla) (side_iff.1 hrc) (by simpa using h.2)
      · cases h.2
  · rintro (h | ⟨hl, hr, h⟩)
    · simp [(Side.run h).indexOf_none, h.units]
    · rename_i l r a c
      have hi : indexOf (l ++ 58 :: 58 :: r) [58, 58] = some l.length := by simp [hl.indexOf_append, indexOf_cc]
      simp [hi, hr.indexOf_none, hr.head, side_iff.2 hl, side_iff.2 hr, h]

theorem V6Text.colon {s : Bytes} (h : V6Text s) : 58 ∈ s := by
  cases h with
  | full h => cases h with | colon => simp
  | ell => simp

end C10
