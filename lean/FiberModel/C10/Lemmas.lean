import FiberModel.C10.Spec
import FiberModel.ListLemmas
import FiberModel.BasicLemmas
/-
C10 — helper lemmas: Go's mask tests vs the documented address blocks, the `ips` map lookup vs
equality of addresses, `strings.Split` vs `pieces`, the `VisitAll` fold of `Scheme` vs "last scheme
header wins".
-/
namespace C10
open B

def bytesOK (ip : Bytes) : Prop := ∀ x ∈ ip, x < 256

theorem and_topMask (w k a : Nat) (hk : k ≤ w) (ha : a < 2 ^ w) : a &&& (2 ^ w - 2 ^ k) = a / 2 ^ k * 2 ^ k := by
  apply Nat.eq_of_testBit_eq
  intro i
  have := Nat.two_pow_pos k
  have hm : 2 ^ w - 2 ^ k = 2 ^ w - ((2 ^ k - 1) + 1) := by omega
  have hlt : 2 ^ k - 1 < 2 ^ w := by
    have := Nat.pow_le_pow_right (n := 2) (by decide) hk
    omega
  rw [Nat.testBit_and, hm, Nat.testBit_two_pow_sub_succ hlt, Nat.testBit_two_pow_sub_one, Nat.testBit_mul_two_pow,
    Nat.testBit_div_two_pow]
  by_cases hik : k ≤ i
  · by_cases hiw : i < w
    · simp [hik, hiw, Nat.sub_add_cancel hik, Nat.not_lt.2 hik]
    · -- `a` has no bit at or above `w`
      have : a.testBit i = false :=
        Nat.testBit_lt_two_pow (Nat.lt_of_lt_of_le ha (Nat.pow_le_pow_right (by decide) (Nat.not_lt.1 hiw)))
      simp [this, Nat.sub_add_cancel hik]
  · simp [hik, Nat.not_le.1 hik]

theorem mask240 (c : Nat) (hc : c < 256) : (c &&& 240 == 16) = (decide (16 ≤ c) && decide (c ≤ 31)) := by
  have h : c &&& 240 = c / 16 * 16 := and_topMask 8 4 c (by decide) hc
  rw [h, Bool.eq_iff_iff]; simp only [beq_iff_eq, Bool.and_eq_true, decide_eq_true_eq]; omega

theorem mask254 (c : Nat) (hc : c < 256) : (c &&& 254 == 252) = (decide (252 ≤ c) && decide (c ≤ 253)) := by
  have h : c &&& 254 = c / 2 * 2 := and_topMask 8 1 c (by decide) hc
  rw [h, Bool.eq_iff_iff]; simp only [beq_iff_eq, Bool.and_eq_true, decide_eq_true_eq]; omega

theorem mask192 (c : Nat) (hc : c < 256) : (c &&& 192 == 128) = (decide (128 ≤ c) && decide (c ≤ 191)) := by
  have h : c &&& 192 = c / 64 * 64 := and_topMask 8 6 c (by decide) hc
  rw [h, Bool.eq_iff_iff]; simp only [beq_iff_eq, Bool.and_eq_true, decide_eq_true_eq]; omega

theorem getD_lt {l : Bytes} (h : bytesOK l) (i : Nat) : l[i]?.getD 0 < 256 := by
  cases hi : l[i]? with
  | none => simp
  | some x => simpa using h x (List.mem_of_getElem? hi)

theorem to4_bytesOK {ip v4 : Bytes} (h : bytesOK ip) (h4 : to4 ip = some v4) : bytesOK v4 := by
  revert h4
  fun_cases to4 ip <;> intro h4 <;> cases h4
  · exact h
  · exact fun x hx => h x (List.mem_of_mem_drop hx)

theorem len4 {v : Bytes} (h : v.length = 4) : ∃ a c d e, v = [a, c, d, e] := by
  rcases v with _ | ⟨a, _ | ⟨c, _ | ⟨d, _ | ⟨e, _ | ⟨y, t⟩⟩⟩⟩⟩ <;> simp at h
  exact ⟨a, c, d, e, rfl⟩

theorem to4_len4 (ip : Bytes) (h : ip.length = 4) : to4 ip = some ip := by simp [to4, h]

theorem to16_len4 {ip : Bytes} (h : ip.length = 4) : to16 ip = v4in6 ++ ip := by simp [to16, h]

theorem to16_len16 {ip : Bytes} (h : ip.length = 16) : to16 ip = ip := by simp [to16, h]

theorem to4_to16 {ip v : Bytes} (hl : ip.length = 4 ∨ ip.length = 16) (h : to4 ip = some v) :
    v.length = 4 ∧ to16 ip = v4in6 ++ v := by
  rcases hl with hl | hl
  · rw [to4_len4 ip hl] at h; cases h
    exact ⟨hl, to16_len4 hl⟩
  · revert h
    -- four bytes (not here); the v4-mapped form; neither
    fun_cases to4 ip <;> intro h <;> cases h
    · rename_i h4; simp [hl] at h4
    rename_i hm
    simp only [Bool.and_eq_true, beq_iff_eq] at hm
    obtain ⟨⟨⟨_, hz⟩, h10⟩, h11⟩ := hm
    have hz' : ip.take 10 = List.replicate 10 0 := List.eq_replicate_iff.2
      ⟨by simp [hl], fun x hx => by simpa using List.all_eq_true.1 hz x hx⟩
    have h12 : ip.take 12 = v4in6 := by rw [List.take_add_one, List.take_add_one, hz', h10, h11]; rfl
    exact ⟨by simp [hl], by rw [← h12, List.take_append_drop, to16_len16 hl]⟩

theorem to4_none_len {ip : Bytes} (hl : ip.length = 4 ∨ ip.length = 16) (h : to4 ip = none) : ip.length = 16 := by
  rcases hl with hl | hl
  · rw [to4_len4 ip hl] at h; cases h
  · exact hl

theorem to4_v4in6 (v : Bytes) (hv : v.length = 4) : to4 (v4in6 ++ v) = some v := by
  obtain ⟨a, c, d, e, rfl⟩ := len4 hv
  simp [to4, v4in6]

theorem isLoopback_eq (ip : Bytes) : isLoopback ip = inLoopback ip := by
  unfold isLoopback inLoopback
  cases to4 ip with
  | none => rfl
  | some v4 => cases h : v4[0]? <;> simp [h]

theorem isPrivate_eq (ip : Bytes) (h : bytesOK ip) : isPrivate ip = inPrivate ip := by
  unfold isPrivate inPrivate
  cases h4 : to4 ip with
  | none => simp only; rw [mask254 _ (getD_lt h 0)]; simp [Bool.and_assoc]
  | some v4 => simp only; rw [mask240 _ (getD_lt (to4_bytesOK h h4) 1)]; simp [Bool.and_assoc]

theorem isLinkLocal_eq (ip : Bytes) (h : bytesOK ip) : isLinkLocal ip = inLinkLocal ip := by
  unfold isLinkLocal inLinkLocal
  cases h4 : to4 ip with
  | none =>
    simp only; rw [mask192 _ (getD_lt h 1)]
    cases h0 : ip[0]? <;> simp [Bool.and_assoc]
  | some v4 =>
    simp only
    cases h0 : v4[0]? <;> cases h1 : v4[1]? <;> simp

/-- `net.IP.String()` is a function of the address and injective on addresses: a listed entry has the
    peer's canonical text exactly when it is the peer's address (a theorem once the texts are `ipString` of the
    bytes, which is what the driver checks on every case: `stringFaithful_of_format`) -/
def StringFaithful (ps : List Proxy) (cn : Conn) : Prop :=
  ∀ canon ip16, Proxy.ip canon ip16 ∈ ps → (canon = cn.ripStr ↔ ip16 = to16 cn.rip)

theorem listed_eq (ps : List Proxy) (cn : Conn) (hs : StringFaithful ps cn) :
    ((ipKeys ps).contains cn.ripStr || (ranges ps).any fun (n, m) => cidrContains n m cn.rip) =
      ps.any (entryCovers cn.rip) := by
  induction ps with
  | nil => rfl
  | cons p ps ih =>
    have ih' := ih fun c i hm => hs c i (List.mem_cons_of_mem _ hm)
    cases p with
    | ip canon ip16 =>
      have hb : (cn.ripStr == canon) = (ip16 == to16 cn.rip) := by
        rw [Bool.eq_iff_iff, beq_iff_eq, beq_iff_eq, eq_comm]; exact hs canon ip16 List.mem_cons_self
      simp only [ipKeys, ranges, List.filterMap_cons, List.contains_cons, List.any_cons, entryCovers] at ih' ⊢
      rw [← ih', hb, Bool.or_assoc]
    | cidr n m =>
      simp only [ipKeys, ranges, List.filterMap_cons, List.any_cons, entryCovers] at ih' ⊢
      rw [← ih', Bool.or_left_comm]
    | bad => exact ih'

theorem trusted_eq_inSet (cfg : Cfg) (cn : Conn) (hb : bytesOK cn.rip) (hs : StringFaithful cfg.proxies cn) :
    isProxyTrusted cfg cn = (!cfg.trustProxy || inSet cfg cn) := by
  unfold isProxyTrusted inSet
  rw [isLoopback_eq, isPrivate_eq _ hb, isLinkLocal_eq _ hb, ← listed_eq cfg.proxies cn hs]
  simp [Bool.or_assoc]

theorem pieces_eq (c : Nat) (s : Bytes) : pieces c s = s.splitOn c := by
  induction s with
  | nil => rfl
  | cons x xs ih =>
    rw [pieces, List.splitOn_cons_eq_if_modifyHead, ih]
    cases h : List.splitOn c xs with
    | nil => exact absurd h (List.splitOn_ne_nil c xs)
    | cons p ps => rfl

theorem pieces_ne_nil (c : Nat) (s : Bytes) : pieces c s ≠ [] := pieces_eq c s ▸ List.splitOn_ne_nil c s

theorem splitOn_eq_pieces (s : Bytes) (c : Nat) : splitOn s c = pieces c s := by
  rw [splitOn_eq, pieces_eq]

theorem pieces_head (c : Nat) (s : Bytes) : (pieces c s).headD [] = s.takeWhile (· != c) := by
  rw [pieces_eq, List.headD_splitOn]

theorem pieces_noSep (c : Nat) (ds : Bytes) (h : ¬ c ∈ ds) : pieces c ds = [ds] :=
  (pieces_eq c ds).trans (List.splitOn_eq_singleton h)

theorem pieces_sep (c : Nat) (ds rest : Bytes) (h : ¬ c ∈ ds) : pieces c (ds ++ c :: rest) = ds :: pieces c rest := by
  rw [pieces_eq, pieces_eq, List.splitOn_append_cons_self_of_not_mem h]

theorem pieces_single {c : Nat} {s p : Bytes} (h : pieces c s = [p]) : s = p :=
  (List.eq_of_splitOn_eq_singleton (pieces_eq c s ▸ h)).1

theorem pieces_cons2 {c : Nat} {s p q : Bytes} {ps : List Bytes} (h : pieces c s = p :: q :: ps) :
    ∃ s', s = p ++ c :: s' ∧ pieces c s' = q :: ps := by
  obtain ⟨s', h1, h2, _⟩ := List.eq_of_splitOn_eq_cons_cons (pieces_eq c s ▸ h)
  exact ⟨s', h1, pieces_eq c s' ▸ h2⟩

theorem pieces_split (c : Nat) (tl : Bytes) :
    pieces c tl = tl.takeWhile (· != c) ::
      (match tl.drop (tl.takeWhile (· != c)).length with
       | [] => []
       | _ :: r => pieces c r) := by
  induction tl with
  | nil => rfl
  | cons x xs ih => by_cases h : x = c <;> simp [pieces, h, ih]

-- stated over the Boolean tests `schemeStep_eq` holds in its cases
theorem schemeNames :
    (∀ k, (k == sXFProto || k == sXFProtocol) = true ∨ (k == sXFSsl) = true →
      ¬ k.length < 12 ∧ hasPrefix k (b "X-Forwarded-") = true) ∧
    ¬ sXUrlScheme.length < 12 ∧ hasPrefix sXUrlScheme (b "X-Forwarded-") = false := by
  simp only [Bool.or_eq_true, beq_iff_eq]
  unfold sXFProto sXFProtocol sXFSsl sXUrlScheme
  repeat rw [b_ofList]
  refine ⟨?_, by decide⟩
  rintro k ((rfl | rfl) | rfl) <;> decide

theorem schemeStep_eq (s : Bytes) (kv : Bytes × Bytes) : schemeStep s kv = (schemeOf kv).getD s := by
  obtain ⟨k, v⟩ := kv
  obtain ⟨hpre, hul, hup⟩ := schemeNames
  unfold schemeStep schemeOf
  simp only
  by_cases h1 : (k == sXFProto || k == sXFProtocol) = true
  · obtain ⟨hl, hp⟩ := hpre k (.inl h1)
    simp only [hl, hp, h1, if_false, if_true, upToComma, pieces_head, Option.getD_some]
  · simp only [h1, Bool.false_eq_true, if_false]
    by_cases h3 : (k == sXFSsl) = true
    · obtain ⟨hl, hp⟩ := hpre k (.inr h3)
      simp only [hl, hp, h3, if_false, if_true, Bool.true_and]
      cases v == b "on" <;> rfl
    · simp only [h3, Bool.false_and, Bool.false_eq_true, if_false]
      by_cases h4 : (k == sXUrlScheme) = true
      · simp only [beq_iff_eq.1 h4, hul, hup, beq_self_eq_true, if_false, Bool.false_eq_true, if_true, Option.getD_some]
      · simp only [h4, Bool.false_eq_true, if_false, Option.getD_none]
        -- what is left: the length and prefix tests of `Scheme` on a name that is none of the four
        repeat' split
        all_goals rfl

theorem scheme_fold (hs : Headers) : hs.foldl schemeStep sHTTP = ((hs.reverse.filterMap schemeOf).head?).getD sHTTP := by
  -- the last header that says something decides, whatever the fold starts from
  suffices h : ∀ init, hs.foldl schemeStep init = ((hs.reverse.filterMap schemeOf).head?).getD init from h sHTTP
  induction hs with
  | nil => intro init; rfl
  | cons x xs ih =>
    intro init
    simp only [List.foldl_cons, ih, schemeStep_eq, List.reverse_cons, List.filterMap_append, List.head?_append]
    cases (List.filterMap schemeOf xs.reverse).head? <;> cases hx : schemeOf x <;> simp [List.filterMap, hx]

end C10
