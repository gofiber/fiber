import FiberModel.C10.V6Complete
/-
C10 — `net.IP.String()` (the transcribed `ipString`: `appendTo4` / `appendTo6` of `net/netip`)
identifies the address: the text can be read back (`readIP_ipString`), so two 4- or 16-byte addresses
have the same canonical text exactly when they are the same address (`to16`); and that text is in the
RFC grammar. `StringFaithful`, the hypothesis of the trust theorems, follows (`stringFaithful_of_format`).
-/
namespace C10
open B

theorem hexNib_digit : ∀ d, d < 16 → isHexDigit (hexNib d) = true ∧ hexDigitVal (hexNib d) = d := by decide
theorem hexNib_ne58 : ∀ d, d < 16 → hexNib d ≠ 58 := by decide

theorem appendHex_cases (x : Nat) :
    (x < 16 ∧ appendHex x = [hexNib x]) ∨
    (16 ≤ x ∧ x < 256 ∧ appendHex x = [hexNib (x / 16 % 16), hexNib (x % 16)]) ∨
    (256 ≤ x ∧ x < 4096 ∧ appendHex x = [hexNib (x / 256 % 16), hexNib (x / 16 % 16), hexNib (x % 16)]) ∨
    (4096 ≤ x ∧ appendHex x = [hexNib (x / 4096), hexNib (x / 256 % 16), hexNib (x / 16 % 16), hexNib (x % 16)]) := by
  unfold appendHex
  by_cases h1 : x ≥ 4096
  · have h2 : x ≥ 256 := by omega
    have h3 : x ≥ 16 := by omega
    right; right; right; simp [h1, h2, h3]
  · by_cases h2 : x ≥ 256
    · have h3 : x ≥ 16 := by omega
      right; right; left; simp [h1, h2, h3]; omega
    · by_cases h3 : x ≥ 16
      · right; left; simp [h1, h2, h3]; omega
      · left; simp [h1, h2, h3]
        have : x % 16 = x := by omega
        rw [this]; omega

theorem hex_digits (x : Nat) : ((x / 4096 * 16 + x / 256 % 16) * 16 + x / 16 % 16) * 16 + x % 16 = x := by
  -- 256 and 4096 as powers of 16 first
  have : ((x / 16 / 16 / 16 * 16 + x / 16 / 16 % 16) * 16 + x / 16 % 16) * 16 + x % 16 = x := by omega
  simpa only [Nat.div_div_eq_div_mul, Nat.reduceMul] using this

theorem appendHex_spec (x : Nat) (hx : x < 65536) : h16 (appendHex x) = true ∧ hexVal (appendHex x) = x := by
  have n1 := hexNib_digit (x % 16) (Nat.mod_lt _ (by decide))
  have n2 := hexNib_digit (x / 16 % 16) (Nat.mod_lt _ (by decide))
  have n3 := hexNib_digit (x / 256 % 16) (Nat.mod_lt _ (by decide))
  have n4 := hexNib_digit (x / 4096) (Nat.div_lt_of_lt_mul hx)
  have hd := hex_digits x
  rcases appendHex_cases x with ⟨h, e⟩ | ⟨_, h, e⟩ | ⟨_, h, e⟩ | ⟨_, e⟩
  · rw [Nat.mod_eq_of_lt h] at n1
    rw [e]; simp [h16, hexVal, n1]
  · rw [Nat.div_eq_of_lt (Nat.lt_trans h (by decide)), Nat.div_eq_of_lt h] at hd
    rw [e]; simpa [h16, hexVal, n1, n2] using hd
  · rw [Nat.div_eq_of_lt h] at hd
    rw [e]; simpa [h16, hexVal, n1, n2, n3] using hd
  · rw [e]; simpa [h16, hexVal, n1, n2, n3, n4] using hd

theorem appendHex_noColon (x : Nat) (hx : x < 65536) : ¬ 58 ∈ appendHex x := h16_noColon (appendHex_spec x hx).1

def tailGroups (l : List Nat) : Bytes := l.flatMap fun y => 58 :: appendHex y

/-- groups separated by colons (the empty list prints nothing) -/
def hexJoin : List Nat → Bytes
  | [] => []
  | x :: xs => appendHex x ++ tailGroups xs

theorem hexJoin_nil : hexJoin [] = [] := rfl

def groupsOK (l : List Nat) : Prop := ∀ x ∈ l, x < 65536

theorem groupsOK_cons {x : Nat} {xs : List Nat} (h : groupsOK (x :: xs)) : x < 65536 ∧ groupsOK xs :=
  ⟨h x (by simp), fun y hy => h y (by simp [hy])⟩

theorem tailGroups_cons (y : Nat) (ys : List Nat) : tailGroups (y :: ys) = 58 :: (appendHex y ++ tailGroups ys) := by
  simp [tailGroups]

theorem pieces_tailGroups (g : Bytes) (xs : List Nat) (hg : ¬ 58 ∈ g) (hx : groupsOK xs) :
    pieces 58 (g ++ tailGroups xs) = g :: xs.map appendHex := by
  induction xs generalizing g with
  | nil => simp [tailGroups, pieces_noSep 58 g hg]
  | cons y ys ih =>
    obtain ⟨hy, hys⟩ := groupsOK_cons hx
    rw [tailGroups_cons, pieces_sep 58 g _ hg, ih _ (appendHex_noColon y hy) hys]; rfl

theorem hexJoin_run (v : Bool) : ∀ (x : Nat) (xs : List Nat), groupsOK (x :: xs) → Run (hexJoin (x :: xs)) v (xs.length + 1)
  | x, [], h => by simpa [hexJoin, tailGroups] using Run.last (v := v) (appendHex_spec x (groupsOK_cons h).1).1
  | x, y :: ys, h => by
    have : hexJoin (x :: y :: ys) = appendHex x ++ 58 :: hexJoin (y :: ys) := by simp [hexJoin, tailGroups_cons]
    rw [this]; exact .colon (appendHex_spec x (groupsOK_cons h).1).1 (hexJoin_run v y ys (groupsOK_cons h).2)

theorem hexJoin_side (v : Bool) (l : List Nat) (h : groupsOK l) : Side (hexJoin l) v l.length := by
  cases l with
  | nil => exact .none
  | cons x xs => exact .run (hexJoin_run v x xs h)

theorem drop_getD_cons (g : List Nat) (i : Nat) (h : i < g.length) : g.drop i = g.getD i 0 :: g.drop (i + 1) := by
  rw [List.drop_eq_getElem_cons h]
  simp [List.getD_eq_getElem?_getD, List.getElem?_eq_getElem h]

/-- the second loop of `appendTo6` from index `i`: the groups up to the zero run, `::`, the groups behind it; each group
    but the one at index 0 behind a colon -/
theorem emit6_from (g : List Nat) (zs ze : Nat) (hg : g.length = 8) (hz : zs < 8 → zs < ze) : ∀ (fuel i : Nat),
    8 < fuel + i →
    emit6 g zs ze fuel i =
      if i ≤ zs ∧ zs < 8 then
        (if i = 0 then hexJoin else tailGroups) ((g.drop i).take (zs - i)) ++ 58 :: 58 :: hexJoin (g.drop ze)
      else (if i = 0 then hexJoin else tailGroups) (g.drop i) := by
  -- from index 8 on both sides are empty
  have hend : ∀ i, 8 ≤ i → ¬ (i ≤ zs ∧ zs < 8) ∧ i ≠ 0 ∧ g.drop i = [] := fun i h =>
    ⟨by omega, by omega, List.drop_eq_nil_of_le (by omega)⟩
  have hJ : ∀ (i x : Nat) (l : List Nat), (if i = 0 then hexJoin else tailGroups) (x :: l) =
      (if i > 0 then [58] else []) ++ appendHex x ++ tailGroups l := fun i x l => by
    cases i <;> simp [hexJoin, tailGroups_cons]
  intro fuel
  induction fuel with
  | zero =>
    intro i hf
    obtain ⟨h1, h2, h3⟩ := hend i (by omega)
    rw [if_neg h1, if_neg h2, h3]; rfl
  | succ f ih =>
    intro i hf
    by_cases h8 : i ≥ 8
    · obtain ⟨h1, h2, h3⟩ := hend i h8
      rw [emit6, if_pos h8, if_neg h1, if_neg h2, h3]; rfl
    by_cases he : i = zs
    · subst he
      have hc : i ≤ i ∧ i < 8 := ⟨Nat.le_refl i, by omega⟩
      simp only [emit6, h8, if_false, beq_self_eq_true, if_true, hc, and_self, Nat.sub_self, List.take_zero]
      by_cases hze : ze ≥ 8
      · -- the zero run reaches the end: `::` is the last thing printed (`i = 0`: it is also the first)
        cases i <;> simp [hze, List.drop_eq_nil_of_le (Nat.le_trans (Nat.le_of_eq hg) hze), tailGroups, hexJoin]
      · have hn : ¬ (ze + 1 ≤ i ∧ i < 8) := by omega
        simp only [hze, if_false, ih (ze + 1) (by omega), hn, drop_getD_cons g ze (by omega), hexJoin, Nat.succ_ne_zero]
        cases i <;> rfl
    · simp only [emit6, h8, if_false, beq_false_of_ne he, Bool.false_eq_true, ih (i + 1) (by omega), Nat.succ_ne_zero]
      rw [drop_getD_cons g i (by omega)]
      by_cases hc : i ≤ zs ∧ zs < 8
      · have hc' : i + 1 ≤ zs ∧ zs < 8 := by omega
        rw [if_pos hc, if_pos hc', show zs - i = zs - (i + 1) + 1 by omega, List.take_succ_cons, hJ]
        simp
      · have hc' : ¬ (i + 1 ≤ zs ∧ zs < 8) := by omega
        rw [if_neg hc, if_neg hc', hJ]

theorem emit6_run (g : List Nat) (zs ze : Nat) (hg : g.length = 8) (hz : zs < ze) (hz8 : zs < 8) :
    emit6 g zs ze 9 0 = hexJoin (g.take zs) ++ 58 :: 58 :: hexJoin (g.drop ze) := by
  rw [emit6_from g zs ze hg (fun _ => hz) 9 0 (by omega), if_pos ⟨Nat.zero_le _, hz8⟩]; rfl

theorem emit6_plain (g : List Nat) (zs ze : Nat) (hg : g.length = 8) (hz8 : 8 ≤ zs) :
    emit6 g zs ze 9 0 = hexJoin g := by
  rw [emit6_from g zs ze hg (by omega) 9 0 (by omega), if_neg (by omega)]; rfl

/-- `(zs, ze)` is "no run" (the initial 255, 255) or a non-empty run of zero groups inside the address -/
def RunOK (g : List Nat) (r : Nat × Nat) : Prop :=
  r = (255, 255) ∨ (r.1 < r.2 ∧ r.2 ≤ 8 ∧ g.drop r.1 = List.replicate (r.2 - r.1) 0 ++ g.drop r.2)

theorem zeroRunStep_ok (g : List Nat) (hg : g.length = 8) (best : Nat × Nat) (i : Nat) (hb : RunOK g best) :
    RunOK g (zeroRunStep g best i) := by
  unfold zeroRunStep
  simp only
  split
  · rename_i hc
    simp only [Bool.and_eq_true, decide_eq_true_eq] at hc
    have hlen := (List.takeWhile_sublist (· == 0) (l := g.drop i)).length_le
    simp only [List.length_drop] at hlen
    unfold zeroRunEnd at hc ⊢
    -- the zeros `takeWhile` has taken, then what it has left
    have hz : (g.drop i).takeWhile (· == 0) = List.replicate ((g.drop i).takeWhile (· == 0)).length 0 :=
      List.eq_replicate_iff.2 ⟨rfl, fun x hx => by simpa using List.mem_takeWhile hx⟩
    refine .inr ⟨by omega, by omega, ?_⟩
    simp only
    rw [Nat.add_sub_cancel_left, ← hz, ← List.drop_drop, List.takeWhile_append_drop]
  · exact hb

theorem bestZeroRun_ok (g : List Nat) (hg : g.length = 8) : RunOK g (bestZeroRun g) :=
  List.foldlRecOn (motive := RunOK g) _ _ (Or.inl rfl) fun b hb x _ => zeroRunStep_ok g hg b x hb

theorem groups16_length : ∀ ip : Bytes, (groups16 ip).length = ip.length / 2
  | [] | [_] => by simp [groups16]
  | _ :: _ :: rest => by simp [groups16, groups16_length rest]; omega

theorem groups16_ok : ∀ ip : Bytes, bytesOK ip → groupsOK (groups16 ip)
  | [], _ | [_], _ => by simp [groups16, groupsOK]
  | a :: c :: rest, h => by
    intro x hx
    simp only [groups16, List.mem_cons] at hx
    rcases hx with rfl | hx
    · have := h a (by simp); have := h c (by simp); omega
    · exact groups16_ok rest (fun y hy => h y (by simp [hy])) x hx

theorem string6_forms (ip : Bytes) (hl : ip.length = 16) :
    string6 ip = hexJoin (groups16 ip) ∨
    ∃ l r n, 0 < n ∧ groups16 ip = l ++ List.replicate n 0 ++ r ∧ string6 ip = hexJoin l ++ 58 :: 58 :: hexJoin r := by
  have hg : (groups16 ip).length = 8 := by rw [groups16_length, hl]
  unfold string6
  simp only
  rcases bestZeroRun_ok (groups16 ip) hg with h | ⟨h1, h2, h3⟩
  · left; rw [h]; exact emit6_plain _ 255 255 hg (by omega)
  · right
    refine ⟨_, _, _, Nat.sub_pos_of_lt h1, ?_, emit6_run _ _ _ hg h1 (by omega)⟩
    rw [List.append_assoc, ← h3, List.take_append_drop]

theorem string6_text (ip : Bytes) (hl : ip.length = 16) (hb : bytesOK ip) : V6Text (string6 ip) := by
  have hg : (groups16 ip).length = 8 := by rw [groups16_length, hl]
  have ok := groups16_ok ip hb
  rcases string6_forms ip hl with e | ⟨l, r, n, hn, hgr, e⟩ <;> rw [e]
  · exact .full (hg ▸ (hexJoin_side true _ ok).run_of_ne (by omega))
  · rw [hgr, groupsOK, List.forall_mem_append, List.forall_mem_append] at ok
    exact .ell (hexJoin_side false _ ok.1.1) (hexJoin_side true _ ok.2) (by simp [hgr] at hg; omega)

/-- the groups one side of `::` stands for: the inverse of `hexJoin` (`readSide_hexJoin`) -/
def readSide (s : Bytes) : List Nat := if s == [] then [] else (pieces 58 s).map hexVal

/-- the eight groups a text stands for, `::` being as many zero groups as are missing: the inverse of `string6`
    up to `groups16` (`read6_string6`) -/
def read6 (s : Bytes) : List Nat :=
  match indexOf s [58, 58] with
  | none => readSide s
  | some i =>
    let l := readSide (s.take i)
    let r := readSide (s.drop (i + 2))
    l ++ List.replicate (8 - (l.length + r.length)) 0 ++ r

theorem readSide_hexJoin (l : List Nat) (h : groupsOK l) : readSide (hexJoin l) = l := by
  cases l with
  | nil => rfl
  | cons x xs =>
    have hne : (hexJoin (x :: xs) == []) = false := by simpa using (hexJoin_run false x xs h).ne_nil
    rw [readSide, hne, if_neg (by simp), hexJoin, pieces_tailGroups _ xs (appendHex_noColon x (groupsOK_cons h).1) (groupsOK_cons h).2,
      ← List.map_cons, List.map_map]
    exact (List.map_congr_left fun y hy => (appendHex_spec y (h y hy)).2).trans (List.map_id _)

theorem read6_string6 (ip : Bytes) (hl : ip.length = 16) (hb : bytesOK ip) : read6 (string6 ip) = groups16 ip := by
  have hg : (groups16 ip).length = 8 := by rw [groups16_length, hl]
  have ok := groups16_ok ip hb
  unfold read6
  rcases string6_forms ip hl with e | ⟨l, r, n, hn, hgr, e⟩ <;> rw [e]
  · rw [(hexJoin_side true _ ok).indexOf_none]; exact readSide_hexJoin _ ok
  · have hd : ∀ l r : Bytes, (l ++ 58 :: 58 :: r).drop (l.length + 2) = r := fun l r => by simp
    rw [hgr] at hg ⊢
    rw [hgr, groupsOK, List.forall_mem_append, List.forall_mem_append] at ok
    rw [(hexJoin_side false _ ok.1.1).indexOf_append, indexOf_cc]
    simp only [Option.map_some, Nat.zero_add, List.take_left', hd, readSide_hexJoin _ ok.1.1, readSide_hexJoin r ok.2]
    -- the groups `::` stands for are the zero run that was left out
    rw [show 8 - (l.length + r.length) = n by simp at hg; omega]

/-- the bytes of a list of groups: the inverse of `groups16` (`ungroup_groups16`) -/
def ungroup (g : List Nat) : Bytes := g.flatMap fun x => [x / 256, x % 256]

theorem ungroup_groups16 : ∀ ip : Bytes, bytesOK ip → ip.length % 2 = 0 → ungroup (groups16 ip) = ip
  | [], _, _ => rfl
  | [_], _, h => by simp at h
  | a :: c :: rest, hb, hl => by
    have ha := hb a (by simp); have hc := hb c (by simp)
    have ih := ungroup_groups16 rest (fun y hy => hb y (by simp [hy])) (by simp at hl; omega)
    unfold ungroup at ih ⊢
    rw [groups16, List.flatMap_cons, ih, show (a * 256 + c) / 256 = a by omega, show (a * 256 + c) % 256 = c by omega]
    rfl

theorem string6_inj (a c : Bytes) (ha : a.length = 16) (hc : c.length = 16) (hba : bytesOK a) (hbc : bytesOK c)
    (h : string6 a = string6 c) : a = c := by
  rw [← ungroup_groups16 a hba (by omega), ← read6_string6 a ha hba, h, read6_string6 c hc hbc, ungroup_groups16 c hbc (by omega)]

theorem appendDecimal_cases (x : Nat) :
    (x < 10 ∧ appendDecimal x = [48 + x]) ∨
    (10 ≤ x ∧ x < 100 ∧ appendDecimal x = [48 + x / 10, 48 + x % 10]) ∨
    (100 ≤ x ∧ appendDecimal x = [48 + x / 100, 48 + x / 10 % 10, 48 + x % 10]) := by
  unfold appendDecimal
  by_cases h1 : x ≥ 100
  · have h2 : x ≥ 10 := by omega
    right; right; simp [h1, h2]
  · by_cases h2 : x ≥ 10
    · right; left; simp [h1, h2]; omega
    · left; simp [h1, h2]; omega

theorem appendDecimal_spec (x : Nat) (hx : x < 256) : decOctet (appendDecimal x) = true ∧ digitsVal (appendDecimal x) = x := by
  -- one, two or three digits: the text is a literal list, `decOctet` and `digitsVal` evaluate, the rest is linear arithmetic
  rcases appendDecimal_cases x with ⟨h, e⟩ | ⟨_, _, e⟩ | ⟨_, e⟩ <;>
    simp [e, decOctet, isDigit, digitsVal] <;> omega

theorem pieces_string4 (v : Bytes) (hv : v.length = 4) (hb : bytesOK v) : pieces 46 (string4 v) = v.map appendDecimal := by
  obtain ⟨a, c, d, e, rfl⟩ := len4 hv
  have hn : ∀ x ∈ [a, c, d, e], ¬ 46 ∈ appendDecimal x := fun x hx => decOctet_noDot (appendDecimal_spec x (hb x hx)).1
  simp only [List.forall_mem_cons] at hn
  simp only [string4, List.map]
  rw [pieces_sep 46 _ _ hn.1, pieces_sep 46 _ _ hn.2.1, pieces_sep 46 _ _ hn.2.2.1, pieces_noSep 46 _ hn.2.2.2.1]


/-- the four bytes a dotted quad stands for: the inverse of `string4` (`read4_string4`) -/
def read4 (s : Bytes) : Bytes := (pieces 46 s).map digitsVal

theorem read4_string4 (v : Bytes) (hv : v.length = 4) (hb : bytesOK v) : read4 (string4 v) = v := by
  rw [read4, pieces_string4 v hv hb, List.map_map]
  exact (List.map_congr_left fun x hx => (appendDecimal_spec x (hb x hx)).2).trans (List.map_id _)


theorem string4_valid (v : Bytes) (hv : v.length = 4) (hb : bytesOK v) : validIPv4 (string4 v) = true := by
  have hd : ∀ x ∈ v, decOctet (appendDecimal x) = true := fun x hx => (appendDecimal_spec x (hb x hx)).1
  unfold validIPv4
  rw [pieces_string4 v hv hb]
  obtain ⟨a, c, d, e, rfl⟩ := len4 hv
  simp only [List.forall_mem_cons] at hd
  simp [hd]


theorem ipString_to16 (ip : Bytes) : ipString (to16 ip) = ipString ip := by
  by_cases hl : ip.length = 4
  · rw [to16_len4 hl, ipString, ipString, to4_v4in6 ip hl, to4_len4 ip hl]
  · simp [to16, hl]

theorem to4_bytesOK' {ip v : Bytes} (hb : bytesOK ip) (h : to4 ip = some v) : bytesOK v := to4_bytesOK hb h

/-- the 16-byte address a canonical text stands for: the inverse of `ipString` up to `to16` (`readIP_ipString`) -/
def readIP (s : Bytes) : Bytes := if s.contains 58 then ungroup (read6 s) else v4in6 ++ read4 s

theorem readIP_ipString (ip : Bytes) (hl : ip.length = 4 ∨ ip.length = 16) (hb : bytesOK ip) : readIP (ipString ip) = to16 ip := by
  unfold ipString readIP
  cases h : to4 ip with
  | some v =>
    obtain ⟨hv, e⟩ := to4_to16 hl h
    have hbv := to4_bytesOK hb h
    simp only
    rw [if_neg (by simpa using (validIPv4_quad (string4_valid v hv hbv)).noColon), read4_string4 v hv hbv, e]
  | none =>
    have h16 := to4_none_len hl h
    simp only
    rw [if_pos (by simpa using (string6_text ip h16 hb).colon), read6_string6 ip h16 hb, ungroup_groups16 ip hb (by omega),
      to16_len16 h16]

/-- **two addresses (4- or 16-byte form) have the same canonical text exactly when they are the same
    address** -/
theorem ipString_inj (a c : Bytes) (hla : a.length = 4 ∨ a.length = 16) (hlc : c.length = 4 ∨ c.length = 16)
    (hba : bytesOK a) (hbc : bytesOK c) : ipString a = ipString c ↔ to16 a = to16 c :=
  ⟨fun h => by rw [← readIP_ipString a hla hba, h, readIP_ipString c hlc hbc],
   fun h => by rw [← ipString_to16 a, ← ipString_to16 c, h]⟩

/-- **the canonical text of every address is a syntactically valid address** -/
theorem ipString_valid (ip : Bytes) (hl : ip.length = 4 ∨ ip.length = 16) (hb : bytesOK ip) : validIP (ipString ip) = true := by
  unfold ipString validIP
  cases h : to4 ip with
  | some v =>
    obtain ⟨hv, _⟩ := to4_to16 hl h
    simp [string4_valid v hv (to4_bytesOK hb h)]
  | none => simp [validIPv6_iff.2 (string6_text ip (to4_none_len hl h) hb)]

/-- the texts shipped with a case are what `net.IP.String()` (as transcribed) prints: the peer's, and
    the key of every listed address (checked by the driver on every case against Go's own strings) -/
def FormatOK (ps : List Proxy) (cn : Conn) : Prop :=
  (cn.rip.length = 4 ∨ cn.rip.length = 16) ∧ bytesOK cn.rip ∧ cn.ripStr = ipString cn.rip ∧
  ∀ canon ip16, Proxy.ip canon ip16 ∈ ps → ip16.length = 16 ∧ bytesOK ip16 ∧ canon = ipString ip16

theorem fileProxy_ip {raw : Bytes} {pip : Option Bytes} {pc : Option (Bytes × Bytes)} {canon ip16 : Bytes}
    (h : fileProxy raw pip pc = .ip canon ip16) : raw.contains 47 = false ∧ pip = some ip16 ∧ canon = ipString ip16 := by
  revert h
  fun_cases fileProxy raw pip pc <;> intro h <;> cases h
  rename_i hc
  exact ⟨by simpa using hc, rfl, rfl⟩

/-- a proxy list filed by `handleTrustedProxy` from `net.ParseIP` results of 16 bytes is `FormatOK` -/
theorem formatOK_of_filed (entries : List (Bytes × Option Bytes × Option (Bytes × Bytes))) (cn : Conn)
    (hl : cn.rip.length = 4 ∨ cn.rip.length = 16) (hb : bytesOK cn.rip) (hs : cn.ripStr = ipString cn.rip)
    (hp : ∀ e ∈ entries, ∀ i, e.2.1 = some i → i.length = 16 ∧ bytesOK i) :
    FormatOK (entries.map fun e => fileProxy e.1 e.2.1 e.2.2) cn := by
  refine ⟨hl, hb, hs, ?_⟩
  intro canon ip16 hm
  obtain ⟨e, he, hf⟩ := List.mem_map.1 hm
  obtain ⟨_, hpi, hc⟩ := fileProxy_ip hf
  obtain ⟨h16, hb16⟩ := hp e he ip16 hpi
  exact ⟨h16, hb16, hc⟩

theorem stringFaithful_of_format (ps : List Proxy) (cn : Conn) (h : FormatOK ps cn) : StringFaithful ps cn := by
  obtain ⟨hl, hb, hs, hp⟩ := h
  intro canon ip16 hm
  obtain ⟨h16, hb16, hc⟩ := hp canon ip16 hm
  rw [hc, hs, ipString_inj ip16 cn.rip (Or.inr h16) hl hb16 hb, to16_len16 h16]

end C10
