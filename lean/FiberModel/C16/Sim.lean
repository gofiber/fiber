import FiberModel.C16.OriginLemmas
import FiberModel.C16.SpecLemmas
/-
C16 — simulation, the parts that do not look at the token table: what `decide'` and `finishTail` can do
in terms of the manager calls they make (`DecideOut`, `TailOut`), what no operation touches (`Frame`),
and the reach clause of the specification for a request the model lets through.
-/
namespace C16
open B

theorem finish_kept (cfg : Cfg) (gen sgen : Nat → Bytes) (q : Req) (c : Ctx) (tok : Bytes) (h : tok ≠ []) :
    finish cfg gen sgen q c tok = finishTail cfg sgen q c tok := by
  unfold finish
  simp [h]

theorem finish_fresh (cfg : Cfg) (gen sgen : Nat → Bytes) (q : Req) (c : Ctx) :
    finish cfg gen sgen q c [] =
      finishTail cfg sgen q { c with st := { c.st with ntok := c.st.ntok + 1 }, gens := c.gens ++ [gen c.st.ntok] }
        (gen c.st.ntok) := by
  unfold finish
  simp

theorem finish_eq (cfg : Cfg) (gen sgen : Nat → Bytes) (q : Req) (c : Ctx) (tok : Bytes) :
    ∃ c' T, finish cfg gen sgen q c tok = finishTail cfg sgen q c' T := by
  unfold finish
  split <;> exact ⟨_, _, rfl⟩

/-- the response as `handleCore` assembles it -/
def assemble (c : Ctx) (r : Resp) : Resp :=
  { r with sc := c.sc, gens := c.gens, sgens := c.sgens, fg := c.fg, fs := c.fs, fd := c.fd }

/-- nothing in `c'` that the token bookkeeping looks at differs from `c` -/
def Frame (c c' : Ctx) : Prop := c'.gens = c.gens ∧ c'.st.now = c.st.now ∧ c'.st.ntok = c.st.ntok

theorem Frame.refl (c : Ctx) : Frame c c := ⟨rfl, rfl, rfl⟩
theorem Frame.trans {a b c : Ctx} (h1 : Frame a b) (h2 : Frame b c) : Frame a c :=
  ⟨h2.1.trans h1.1, h2.2.1.trans h1.2.1, h2.2.2.trans h1.2.2⟩

theorem storeGet_frame (sgen : Nat → Bytes) (q : Req) (c : Ctx) : Frame c (storeGet sgen q c).1 := by
  unfold storeGet freshSess
  by_cases h0 : reqSid q c ≠ []
  · rw [if_pos h0]
    by_cases hf : q.failGet = true
    · rw [if_pos hf]; exact ⟨rfl, rfl, rfl⟩
    · rw [if_neg hf]
      cases lookup c.st.sess (reqSid q c) <;> exact ⟨rfl, rfl, rfl⟩
  · rw [if_neg h0]; exact ⟨rfl, rfl, rfl⟩

theorem sessSave_frame (q : Req) (c : Ctx) (id : Bytes) (slot : Option Tok) : Frame c (sessSave q c id slot) := by
  unfold sessSave
  simp only
  split <;> exact ⟨rfl, rfl, rfl⟩

theorem manager_frame (cfg : Cfg) (sgen : Nat → Bytes) (q : Req) (c : Ctx) (key : Bytes) :
    Frame c (getRaw cfg sgen q c key).1 ∧ Frame c (setRaw cfg sgen q c key).1 ∧ Frame c (delRaw cfg sgen q c key).1 := by
  unfold getRaw setRaw delRaw
  cases cfg.backend <;> simp only
  · refine ⟨?_, ?_, ?_⟩ <;> split <;> exact ⟨rfl, rfl, rfl⟩
  · -- a session resolution, then (a write) a save
    have := storeGet_frame sgen q c
    rcases hsg : storeGet sgen q c with ⟨c', r⟩
    rw [hsg] at this
    cases r with
    | none => exact ⟨this, this, this⟩
    | some p => exact ⟨this, this.trans (sessSave_frame _ _ _ _), this.trans (sessSave_frame _ _ _ _)⟩
  · refine ⟨⟨rfl, rfl, rfl⟩, ?_, ?_⟩ <;> split <;> exact ⟨rfl, rfl, rfl⟩

theorem mwLoad_frame (sgen : Nat → Bytes) (q : Req) (c : Ctx) : Frame c (mwLoad sgen q c) := by
  unfold mwLoad
  split <;> exact ⟨rfl, rfl, rfl⟩

theorem mwSave_frame (c : Ctx) : Frame c (mwSave c) := by
  unfold mwSave
  split <;> exact ⟨rfl, rfl, rfl⟩

/-- the outcomes of the method switch `decide'`, by the manager calls it makes; the error of a
    rejection is left arbitrary -/
inductive DecideOut (cfg : Cfg) (sgen : Nat → Bytes) (q : Req) (c : Ctx) : Ctx × Decision → Prop
  | safeNoCookie (hs : isSafe q.method = true) : DecideOut cfg sgen q c (c, .proceed [])
  | safeCookie (hs : isSafe q.method = true) (cg : Ctx) (ok : Option Bool)
      (hget : getRaw cfg sgen q c q.ck = (cg, ok)) :
      DecideOut cfg sgen q c (cg, .proceed (if ok = some true then q.ck else []))
  | atOnce (hu : isSafe q.method = false) (er : Err) : DecideOut cfg sgen q c (c, .reject false er)
  | lookupNo (hu : isSafe q.method = false) (cg : Ctx) (res : Option Bool)
      (hget : getRaw cfg sgen q c q.ck = (cg, res)) (e : Bool) (er : Err) :
      DecideOut cfg sgen q c (cg, .reject e er)
  | kept (hu : isSafe q.method = false) (hg : originGate cfg q = true) (he : extract cfg.ext q = some q.ck)
      (cg : Ctx) (hget : getRaw cfg sgen q c q.ck = (cg, some true)) (hsg : cfg.single = false) :
      DecideOut cfg sgen q c (cg, .proceed q.ck)
  | consumeFailed (hu : isSafe q.method = false) (cg : Ctx) (hget : getRaw cfg sgen q c q.ck = (cg, some true))
      (cd : Ctx) (hdel : delRaw cfg sgen q cg q.ck = (cd, true)) :
      DecideOut cfg sgen q c (cd, .reject false .storage)
  | consumed (hu : isSafe q.method = false) (hg : originGate cfg q = true) (he : extract cfg.ext q = some q.ck)
      (cg : Ctx) (hget : getRaw cfg sgen q c q.ck = (cg, some true)) (hsg : cfg.single = true)
      (cd : Ctx) (hdel : delRaw cfg sgen q cg q.ck = (cd, false)) :
      DecideOut cfg sgen q c (cd, .proceed [])

theorem decide_out (cfg : Cfg) (sgen : Nat → Bytes) (q : Req) (c : Ctx) {r : Ctx × Decision}
    (h : decide' cfg sgen q c = r) : DecideOut cfg sgen q c r := by
  subst h
  -- 1-2 safe, with and without cookie; 3-5 refused at once: gate, extractor, cookie ≠ token; 6-7 lookup failed / not
  -- found; single use: 8 could not be consumed, 9 consumed; 10 kept
  fun_cases decide' cfg sgen q c
  case case1 hs _ cg ok hget => exact .safeCookie hs cg ok hget
  case case2 hs _ => exact .safeNoCookie hs
  case case3 hu _ | case4 hu _ _ | case5 hu _ _ _ _ => exact .atOnce ((Bool.not_eq_true _).mp hu) _
  case case6 hu _ t _ ht cg hget | case7 hu _ t _ ht cg hget =>
    cases Decidable.not_not.mp ht
    exact .lookupNo ((Bool.not_eq_true _).mp hu) cg _ hget _ _
  case case8 hu _ t _ ht cg hget _ cd hdel =>
    cases Decidable.not_not.mp ht
    exact .consumeFailed ((Bool.not_eq_true _).mp hu) cg hget cd hdel
  case case9 hu hg t he ht cg hget hsg cd hdel =>
    cases Decidable.not_not.mp ht
    exact .consumed ((Bool.not_eq_true _).mp hu) (by simpa using hg) he cg hget hsg cd hdel
  case case10 hu hg t he ht cg hget hsg =>
    cases Decidable.not_not.mp ht
    exact .kept ((Bool.not_eq_true _).mp hu) (by simpa using hg) he cg hget ((Bool.not_eq_true _).mp hsg)

theorem decide_kept (cfg : Cfg) (sgen : Nat → Bytes) (q : Req) (c c1 : Ctx) (tok : Bytes)
    (hd : decide' cfg sgen q c = (c1, .proceed tok)) (h : tok ≠ []) :
    tok = q.ck ∧ (cfg.single = true → isSafe q.method = true) := by
  cases decide_out cfg sgen q c hd with
  | safeNoCookie | consumed => exact absurd rfl h
  | safeCookie hs _ ok =>
    by_cases hok : ok = some true
    · rw [if_pos hok]; exact ⟨rfl, fun _ => hs⟩
    · rw [if_neg hok] at h; exact absurd rfl h
  | kept _ _ _ _ _ hsg => exact ⟨rfl, fun h => by rw [hsg] at h; cases h⟩

/-- some storage call of the request has failed so far: all the specification reads of the three flags -/
def Ctx.fired (c : Ctx) : Bool := c.fg || c.fs || c.fd

/-- the outcomes of `finishTail`; `cs` is the context after create-or-extend -/
inductive TailOut (cfg : Cfg) (sgen : Nat → Bytes) (q : Req) (c : Ctx) (token : Bytes) : Ctx × Resp → Prop
  | refused (hu : isSafe q.method = false) (cs : Ctx) (hset : setRaw cfg sgen q c token = (cs, true)) :
      TailOut cfg sgen q c token
        (cs, { pass := false, status := cfg.eh .storage, ck := none, early := cs.fired })
  | plain (cs : Ctx) (err : Bool) (hset : setRaw cfg sgen q c token = (cs, err))
      (herr : err = true → isSafe q.method = true) (hdel : q.del = false) :
      TailOut cfg sgen q c token
        (cs, { pass := true, status := 200, ck := some token, early := cs.fired })
  | delNoCookie (cs : Ctx) (err : Bool) (hset : setRaw cfg sgen q c token = (cs, err))
      (herr : err = true → isSafe q.method = true) (hdel : q.del = true) (hck : q.ck = []) :
      TailOut cfg sgen q c token
        (cs, { pass := true, status := cfg.eh .tokenNotFound, ck := some token, early := cs.fired })
  | delFailed (cs : Ctx) (err : Bool) (hset : setRaw cfg sgen q c token = (cs, err))
      (herr : err = true → isSafe q.method = true) (hdel : q.del = true) (hck : q.ck ≠ [])
      (cd : Ctx) (hd : delRaw cfg sgen q cs q.ck = (cd, true)) :
      TailOut cfg sgen q c token
        (cd, { pass := true, status := cfg.eh .storage, ck := some token, early := cs.fired })
  | deleted (cs : Ctx) (err : Bool) (hset : setRaw cfg sgen q c token = (cs, err))
      (herr : err = true → isSafe q.method = true) (hdel : q.del = true) (hck : q.ck ≠ [])
      (cd : Ctx) (hd : delRaw cfg sgen q cs q.ck = (cd, false)) :
      TailOut cfg sgen q c token
        (cd, { pass := true, status := 200, ck := some [], early := cs.fired })

theorem tail_out (cfg : Cfg) (sgen : Nat → Bytes) (q : Req) (c : Ctx) (token : Bytes) {r : Ctx × Resp}
    (h : finishTail cfg sgen q c token = r) : TailOut cfg sgen q c token r := by
  subst h
  -- behind the first branch of `finishTail` a failed write belongs to a safe request
  have herr : ∀ {err : Bool}, ¬ (err && !isSafe q.method) = true → err = true → isSafe q.method = true :=
    fun h e => by simpa [e] using h
  -- 1 write failed, unsafe; `DeleteToken`: 2 no cookie, 3 failed, 4 went through; 5 no `DeleteToken`
  fun_cases finishTail cfg sgen q c token
  case case1 cs err hset _ h1 =>
    simp only [Bool.and_eq_true, Bool.not_eq_true'] at h1
    exact .refused h1.2 cs (h1.1 ▸ hset)
  case case2 cs err hset _ h1 hdel hck => exact .delNoCookie cs err hset (herr h1) hdel hck
  case case3 cs err hset _ h1 hdel hck cd hd => exact .delFailed cs err hset (herr h1) hdel hck cd hd
  case case4 cs err hset _ h1 hdel hck cd hd => exact .deleted cs err hset (herr h1) hdel hck cd hd
  case case5 cs err hset _ h1 hdel => exact .plain cs err hset (herr h1) ((Bool.not_eq_true _).mp hdel)

theorem decide_frame (cfg : Cfg) (sgen : Nat → Bytes) (q : Req) (c c1 : Ctx) (d : Decision)
    (hd : decide' cfg sgen q c = (c1, d)) : Frame c c1 := by
  have get := (manager_frame cfg sgen q c q.ck).1
  cases decide_out cfg sgen q c hd with
  | safeNoCookie | atOnce => exact Frame.refl c
  | safeCookie _ cg _ hget | lookupNo _ cg _ hget | kept _ _ _ cg hget =>
    rwa [hget] at get
  | consumeFailed _ cg hget cd hdel | consumed _ _ _ cg hget _ cd hdel =>
    rw [hget] at get
    have h2 := (manager_frame cfg sgen q cg q.ck).2.2; rw [hdel] at h2
    exact get.trans h2

theorem tail_frame (cfg : Cfg) (sgen : Nat → Bytes) (q : Req) (c : Ctx) (token : Bytes) (c2 : Ctx) (r : Resp)
    (hr : finishTail cfg sgen q c token = (c2, r)) : Frame c c2 := by
  have set := (manager_frame cfg sgen q c token).2.1
  cases tail_out cfg sgen q c token hr with
  | refused _ cs hset | plain cs _ hset | delNoCookie cs _ hset => rwa [hset] at set
  | delFailed cs _ hset _ _ _ cd hd | deleted cs _ hset _ _ _ cd hd =>
    rw [hset] at set
    have h2 := (manager_frame cfg sgen q cs q.ck).2.2; rw [hd] at h2
    exact set.trans h2

/-- the request context `handleCore` starts from -/
def ctx0 (cfg : Cfg) (sgen : Nat → Bytes) (st : St) (q : Req) : Ctx :=
  if cfg.backend = .sessMw then mwLoad sgen q { st := st } else { st := st }

def ctxEnd (cfg : Cfg) (c : Ctx) : Ctx := if cfg.backend = .sessMw then mwSave c else c

theorem ctx0_frame (cfg : Cfg) (sgen : Nat → Bytes) (st : St) (q : Req) : Frame { st := st } (ctx0 cfg sgen st q) := by
  unfold ctx0
  split
  · exact mwLoad_frame sgen q _
  · exact Frame.refl _

theorem ctxEnd_frame (cfg : Cfg) (c : Ctx) : Frame c (ctxEnd cfg c) := by
  unfold ctxEnd
  split
  · exact mwSave_frame c
  · exact Frame.refl _

theorem handleCore_reject (cfg : Cfg) (gen sgen : Nat → Bytes) (st : St) (q : Req) (c1 : Ctx) (e : Bool) (er : Err)
    (hd : decide' cfg sgen q (ctx0 cfg sgen st q) = (c1, .reject e er)) :
    handleCore cfg gen sgen st q =
      ((ctxEnd cfg c1).st, assemble (ctxEnd cfg c1)
        { pass := false, status := cfg.eh er, ck := if e then some [] else none, early := c1.fired }) := by
  unfold handleCore
  unfold ctx0 at hd
  simp only [hd]
  rfl

theorem handleCore_proceed (cfg : Cfg) (gen sgen : Nat → Bytes) (st : St) (q : Req) (c1 c2 : Ctx) (t : Bytes)
    (r2 : Resp) (hd : decide' cfg sgen q (ctx0 cfg sgen st q) = (c1, .proceed t))
    (hf : finish cfg gen sgen q c1 t = (c2, r2)) :
    handleCore cfg gen sgen st q = ((ctxEnd cfg c2).st, assemble (ctxEnd cfg c2) r2) := by
  unfold handleCore
  unfold ctx0 at hd
  simp only [hd, hf]
  rfl

theorem handleSkip_eq (cfg : Cfg) (sgen : Nat → Bytes) (st : St) (q : Req) :
    handleSkip cfg sgen st q = ((ctxEnd cfg (ctx0 cfg sgen st q)).st,
      assemble (ctxEnd cfg (ctx0 cfg sgen st q)) { pass := true, status := 200, ck := none, early := false }) := rfl

theorem reachClause_ran (raw : List Bytes) (cfg : Cfg)
    (hbuild : buildLoop raw [] [] = some (cfg.origins, cfg.subs)) (s : SpecSt) (q : Req) (o : Obs)
    (hp : o.pass = true)
    (hu : isSafe q.method = false → o.early = false ∧ originGate cfg q = true ∧
      extract cfg.ext q = some q.ck ∧ s.liveAt q.ck = true ∧ q.ck ∈ s.issued ∧
      (cfg.backend ≠ .storage → heldBy s q.ck q.sc = true)) :
    reachClause (specConfig cfg.backend cfg.ext cfg.single cfg.idle raw)
        { s with issued := s.issued ++ o.gens } q o =
      .ok (if isSafe q.method then s.live else if cfg.single then erase s.live q.ck else s.live) := by
  by_cases hs : isSafe q.method = true
  · simp [reachClause, hs, hp]
  · rw [if_neg hs]
    have hs' := (Bool.not_eq_true _).mp hs
    obtain ⟨he, hg, hext, hl, hi, hby⟩ := hu hs'
    have hby' : ((specConfig cfg.backend cfg.ext cfg.single cfg.idle raw).sessionBacked &&
        !heldBy ({ s with issued := s.issued ++ o.gens } : SpecSt) q.ck q.sc) = false := by
      show (decide (cfg.backend ≠ .storage) && !heldBy s q.ck q.sc) = false
      by_cases hb : cfg.backend = .storage
      · simp [hb]
      · rw [hby hb]; simp
    unfold reachClause
    simp only [hs', hp, he, gate_sound raw cfg hbuild q hg, hby', Bool.not_false, Bool.not_true, if_true,
      Bool.false_eq_true, if_false,
      accepted_of (specConfig cfg.backend cfg.ext cfg.single cfg.idle raw)
        { s with issued := s.issued ++ o.gens } q hext hl (List.mem_append_left _ hi)]
    rfl

end C16
