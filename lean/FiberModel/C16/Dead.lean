import FiberModel.C16.Refine
/-
C16 — once a token is dead (expired, consumed, deleted) it stays dead: the specification never
revives it, provided the generator never repeats a key.
-/

namespace C16
open B

theorem tail_ck (cfg : Cfg) (sgen : Nat → Bytes) (q : Req) (c : Ctx) (token : Bytes) (c2 : Ctx) (r : Resp)
    (hr : finishTail cfg sgen q c token = (c2, r)) (hp : r.pass = true) : r.ck = some token ∨ r.ck = some [] := by
  cases tail_out cfg sgen q c token hr with
  | refused => cases hp
  | plain | delNoCookie | delFailed => exact Or.inl rfl
  | deleted => exact Or.inr rfl

/-- a request generates no key, or exactly the next one; under single use an unsafe request that
    reaches the handler is handed that fresh key (or, its handler deleting the token, none) -/
theorem handleCore_gens (cfg : Cfg) (gen sgen : Nat → Bytes) (st : St) (q : Req) :
    ((handleCore cfg gen sgen st q).2.gens = [] ∨ (handleCore cfg gen sgen st q).2.gens = [gen st.ntok]) ∧
    (isSafe q.method = false → cfg.single = true → (handleCore cfg gen sgen st q).2.pass = true →
      (handleCore cfg gen sgen st q).2.ck = some (gen st.ntok) ∨ (handleCore cfg gen sgen st q).2.ck = some []) := by
  have h0 := ctx0_frame cfg sgen st q
  have hend : ∀ c, (ctxEnd cfg c).gens = c.gens := fun c => (ctxEnd_frame cfg c).1
  rcases hd : decide' cfg sgen q (ctx0 cfg sgen st q) with ⟨c1, d⟩
  obtain ⟨hg1, _, hn1⟩ : Frame { st := st } c1 := by
    exact h0.trans (decide_frame cfg sgen q _ c1 d hd)
  cases d with
  | reject e er =>
    rw [handleCore_reject cfg gen sgen st q c1 e er hd]
    exact ⟨Or.inl ((hend c1).trans hg1), fun _ _ hp => by cases hp⟩
  | proceed tok =>
    rcases hf : finish cfg gen sgen q c1 tok with ⟨c2, r2⟩
    rw [handleCore_proceed cfg gen sgen st q c1 c2 tok r2 hd hf]
    show ((ctxEnd cfg c2).gens = [] ∨ (ctxEnd cfg c2).gens = [gen st.ntok]) ∧
      (_ → _ → r2.pass = true → r2.ck = some (gen st.ntok) ∨ r2.ck = some [])
    rw [hend c2]
    by_cases htok : tok = []
    · subst htok
      rw [finish_fresh, hn1] at hf
      exact ⟨Or.inr ((tail_frame cfg sgen q _ _ c2 r2 hf).1.trans (by show c1.gens ++ _ = _; rw [hg1]; rfl)),
        fun _ _ hp => tail_ck cfg sgen q _ _ c2 r2 hf hp⟩
    · rw [finish_kept _ _ _ _ _ _ htok] at hf
      exact ⟨Or.inl ((tail_frame cfg sgen q c1 tok c2 r2 hf).1.trans hg1),
        fun hu hs _ => by rw [(decide_kept cfg sgen q _ c1 tok hd htok).2 hs] at hu; cases hu⟩

theorem handle_gens (cfg : Cfg) (gen sgen : Nat → Bytes) (st : St) (q : Req) :
    (handle cfg gen sgen st q).2.gens = [] ∨ (handle cfg gen sgen st q).2.gens = [gen st.ntok] := by
  cases hs : skipped cfg q
  · rw [handle_of_not_skipped cfg gen sgen st q hs]; exact (handleCore_gens cfg gen sgen st q).1
  · rw [handle_of_skipped cfg gen sgen st q hs]; exact Or.inl (handleSkip_gens cfg sgen st q)

theorem handle_single_ck (cfg : Cfg) (gen sgen : Nat → Bytes) (st : St) (q : Req)
    (hns : skipped cfg q = false) (hu : isSafe q.method = false) (hs : cfg.single = true)
    (hp : (handle cfg gen sgen st q).2.pass = true) :
    (handle cfg gen sgen st q).2.ck = some (gen st.ntok) ∨ (handle cfg gen sgen st q).2.ck = some [] := by
  rw [handle_of_not_skipped cfg gen sgen st q hns] at hp ⊢
  exact (handleCore_gens cfg gen sgen st q).2 hu hs hp

theorem liveAt_adv (s : SpecSt) (t : Bytes) (d : Nat) (h : s.liveAt t = false) :
    ({ s with now := s.now + d } : SpecSt).liveAt t = false :=
  (liveAt_false_iff _ t).mpr fun k l hl e => by
    have := (liveAt_false_iff s t).mp h k l hl e
    show ¬ s.now + d ≤ l.deadline
    omega

theorem gens_new (cfg : Cfg) (gen sgen : Nat → Bytes) (hinj : Function.Injective gen) (st : St) (s : SpecSt)
    (q : Req) (hinv : Inv cfg gen st s) : ∀ g ∈ (handle cfg gen sgen st q).2.gens, g ∉ s.issued := by
  intro g hg hmem
  rcases handle_gens cfg gen sgen st q with h | h
  · rw [h] at hg; cases hg
  · rw [h] at hg
    simp only [List.mem_singleton] at hg
    obtain ⟨i, hi, he⟩ := (hinv.issued g).mp hmem
    rw [hg] at he
    have := hinj he
    omega

/-- **Dead stays dead**, from any related pair of states, along any history. -/
theorem run_dead_stays (raw : List Bytes) (cfg : Cfg)
    (hbuild : buildLoop raw [] [] = some (cfg.origins, cfg.subs))
    (gen sgen : Nat → Bytes) (hgen : GenOK cfg gen sgen) (hinj : Function.Injective gen) (hpos : 0 < cfg.idle)
    (ops : List Op) (st : St) (s : SpecSt) (hinv : Inv cfg gen st s) (hli : LiveIssued s)
    (t : Bytes) (hiss : t ∈ s.issued) (hdead : s.liveAt t = false) :
    ∃ s', specEnd (specConfig cfg.backend cfg.ext cfg.single cfg.idle raw cfg.next cfg.cookie cfg.eh) s ops (runObs cfg gen sgen st ops) = some s' ∧
      Inv cfg gen (run cfg gen sgen st ops).1 s' ∧ LiveIssued s' ∧ t ∈ s'.issued ∧ s'.liveAt t = false :=
  run_keeps raw cfg hbuild gen sgen hgen hpos
    (fun s => LiveIssued s ∧ t ∈ s.issued ∧ s.liveAt t = false)
    (fun s d h => ⟨h.1, h.2.1, liveAt_adv s t d h.2.2⟩)
    (fun st s q s' hinv h hs =>
      have hd := specReq_dead_stays _ s q _ s' t hs h.2.1 (gens_new cfg gen sgen hinj st s q hinv) h.2.2
      ⟨specReq_liveIssued _ s q _ s' hs h.1, hd.2, hd.1⟩)
    ops st s hinv ⟨hli, hiss, hdead⟩

end C16
