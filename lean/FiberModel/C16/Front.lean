import FiberModel.C16.Sim
/-
C16 — what sits in front of / around the token logic: `Config.ErrorHandler` (the status the client
sees when the middleware turns a request away), `Config.Next`, the shut origin gate, the attributes
of the csrf cookie.
-/

namespace C16
open B

theorem tail_status (cfg : Cfg) (sgen : Nat → Bytes) (q : Req) (c : Ctx) (token : Bytes) (c2 : Ctx) (r : Resp)
    (hr : finishTail cfg sgen q c token = (c2, r)) (hp : r.pass = false) : r.status = cfg.eh .storage := by
  cases tail_out cfg sgen q c token hr with
  | refused => rfl
  | plain | delNoCookie | delFailed | deleted => cases hp

theorem handleCore_reject_status (cfg : Cfg) (gen sgen : Nat → Bytes) (st : St) (q : Req)
    (hp : (handleCore cfg gen sgen st q).2.pass = false) :
    ∃ e, (handleCore cfg gen sgen st q).2.status = cfg.eh e := by
  rcases hd : decide' cfg sgen q (ctx0 cfg sgen st q) with ⟨c1, d⟩
  cases d with
  | reject e er =>
    rw [handleCore_reject cfg gen sgen st q c1 e er hd]
    exact ⟨er, rfl⟩
  | proceed tok =>
    rcases hf : finish cfg gen sgen q c1 tok with ⟨c2, r2⟩
    rw [handleCore_proceed cfg gen sgen st q c1 c2 tok r2 hd hf] at hp ⊢
    have hp' : r2.pass = false := hp
    obtain ⟨c', T, hft⟩ := finish_eq cfg gen sgen q c1 tok
    exact ⟨.storage, tail_status cfg sgen q c' T c2 r2 (hft.symm.trans hf) hp'⟩

theorem handleSkip_resp (cfg : Cfg) (sgen : Nat → Bytes) (st : St) (q : Req) :
    (handleSkip cfg sgen st q).2.pass = true ∧ (handleSkip cfg sgen st q).2.ck = none ∧
    (handleSkip cfg sgen st q).2.status = 200 := ⟨rfl, rfl, rfl⟩

theorem handleSkip_gens (cfg : Cfg) (sgen : Nat → Bytes) (st : St) (q : Req) :
    (handleSkip cfg sgen st q).2.gens = [] := by
  rw [handleSkip_eq]
  exact (ctxEnd_frame cfg _).1.trans (ctx0_frame cfg sgen st q).1

theorem handleCore_gate_shut (cfg : Cfg) (gen sgen : Nat → Bytes) (st : St) (q : Req)
    (hu : isSafe q.method = false) (hg : originGate cfg q = false) :
    (handleCore cfg gen sgen st q).2.pass = false ∧ (handleCore cfg gen sgen st q).2.status = cfg.eh (gateErr cfg q) ∧
    (handleCore cfg gen sgen st q).2.ck = none := by
  have hd : decide' cfg sgen q (ctx0 cfg sgen st q) = (ctx0 cfg sgen st q, .reject false (gateErr cfg q)) := by
    unfold decide'
    simp [hu, hg]
  rw [handleCore_reject cfg gen sgen st q _ false _ hd]
  exact ⟨rfl, rfl, rfl⟩

theorem attrsOf_ok (cc : CookieCfg) (idle now : Nat) (t : Bytes) :
    attrsOK cc idle now t (attrsOf cc idle now (t = [])) = true := by
  have hp1 : ((if cc.path.head? = some 47 then cc.path else 47 :: cc.path) = cc.path ∨
      (if cc.path.head? = some 47 then cc.path else 47 :: cc.path) = 47 :: cc.path) := by
    by_cases h : cc.path.head? = some 47 <;> simp [h]
  have hp2 : (if cc.path.head? = some 47 then cc.path else 47 :: cc.path).head? = some 47 := by
    by_cases h : cc.path.head? = some 47 <;> simp [h]
  unfold attrsOK attrsOf sameSiteOf
  simp only [Bool.and_eq_true, decide_eq_true_eq, Bool.or_eq_true]
  -- domain, path (either spelling), its leading slash, httpOnly, sameSite, secure; the Expires clause is left
  refine ⟨⟨⟨⟨⟨⟨trivial, hp1⟩, hp2⟩, trivial⟩, trivial⟩, trivial⟩, ?_⟩
  by_cases hs : cc.sessionOnly = true
  · simp [hs]
  · by_cases ht : t = []
    · simp [hs, ht]; omega
    · simp [hs, ht]

-- `now` stands apart from `st'.now` so that the caller can put the specification's clock, which the invariant equates
theorem attrsClause_obsOf (cfg : Cfg) (raw : List Bytes) (st' : St) (r : Resp) (now : Nat) (hnow : st'.now = now) :
    attrsClause (specConfig cfg.backend cfg.ext cfg.single cfg.idle raw cfg.next cfg.cookie cfg.eh) now (obsOf cfg st' r) = true := by
  unfold attrsClause obsOf respAttrs
  simp only
  cases r.ck with
  | none => rfl
  | some t =>
    simp only [Option.map_some, specConfig]
    rw [hnow]
    exact attrsOf_ok cfg.cookie cfg.idle now t

end C16
