import FiberModel.C16.Spec
import FiberModel.C16.ListLemmas
/-
C16 — facts about the specification alone: what an accepted step says, clause by clause, and what
every accepted step keeps true of the live set (live tokens were issued; a dead token stays dead).
-/

namespace C16
open B

theorem specReqCore_ok (scfg : SpecCfg) (s : SpecSt) (q : Req) (o : Obs) (s' : SpecSt)
    (h : specReqCore scfg s q o = .ok s') :
    ∃ live1 live2, reachClause scfg { s with issued := s.issued ++ o.gens } q o = .ok live1 ∧
      (if o.pass then cookieClause scfg { s with issued := s.issued ++ o.gens } q o
          (afterDel scfg q o (afterGens scfg { s with issued := s.issued ++ o.gens } o live1))
       else rejectClause o live1) = .ok live2 ∧
      s' = { now := s.now, live := live2, issued := s.issued ++ o.gens } := by
  revert h
  -- 1 reach clause, 2 cookie / reject clause, 3 probe refuse; 4 accepted
  fun_cases specReqCore scfg s q o <;> intro h
  case case1 | case2 | case3 => cases h
  case case4 _ live1 hr live2 hc _ _ => exact ⟨live1, live2, hr, hc, (Except.ok.inj h).symm⟩

theorem specReqCore_intro (scfg : SpecCfg) (s0 : SpecSt) (q : Req) (o : Obs) (live1 live2 : List (Bytes × LiveTok))
    (h1 : reachClause scfg { s0 with issued := s0.issued ++ o.gens } q o = .ok live1)
    (h2 : (if o.pass then cookieClause scfg { s0 with issued := s0.issued ++ o.gens } q o
              (afterDel scfg q o (afterGens scfg { s0 with issued := s0.issued ++ o.gens } o live1))
           else rejectClause o live1) = .ok live2)
    (h3 : probeSound { now := s0.now, live := live2, issued := s0.issued ++ o.gens } o = true) :
    specReqCore scfg s0 q o = .ok { now := s0.now, live := live2, issued := s0.issued ++ o.gens } := by
  unfold specReqCore
  simp only [h1, h2, h3]
  rfl

theorem specReqCore_issued (scfg : SpecCfg) (s : SpecSt) (q : Req) (o : Obs) (s' : SpecSt)
    (h : specReqCore scfg s q o = .ok s') : s'.issued = s.issued ++ o.gens ∧ s'.now = s.now := by
  obtain ⟨_, _, _, _, e⟩ := specReqCore_ok scfg s q o s' h
  rw [e]
  exact ⟨rfl, rfl⟩

theorem accepted_spec (scfg : SpecCfg) (s : SpecSt) (q : Req) (t : Bytes)
    (h : acceptedToken scfg s q = some t) :
    t ∈ presented scfg.ext q ∧ t ≠ [] ∧ t = q.ck ∧ s.liveAt t = true ∧ t ∈ s.issued := by
  unfold acceptedToken at h
  have hm := List.mem_of_find?_eq_some h
  have hp := List.find?_some h
  simp only [Bool.and_eq_true, decide_eq_true_eq, List.contains_eq_mem] at hp
  exact ⟨hm, hp.1.1.1, hp.1.1.2, hp.1.2, hp.2⟩

theorem extract_mem (e : Ext) (q : Req) (t : Bytes) (h : extract e q = some t) : t ≠ [] ∧ t ∈ presented e q := by
  have key : ∀ v : Bytes, (if v = [] then none else some v) = some t → t ≠ [] ∧ t = v := by
    intro v hv
    split at hv <;> cases hv
    exact ⟨‹_›, rfl⟩
  cases e
  case form =>
    obtain ⟨hne, rfl⟩ := key (if q.qry ≠ [] then q.qry else q.form) h
    refine ⟨hne, ?_⟩
    show (if q.qry ≠ [] then q.qry else q.form) ∈ [q.qry, q.form]
    split <;> simp
  case custom =>
    obtain ⟨hne, rfl⟩ := key (if q.custom = b "err" then [] else q.custom) h
    refine ⟨hne, ?_⟩
    split at hne
    · exact absurd rfl hne
    · rw [if_neg ‹_›]; simp [presented]
  -- header, query, param, cookie: the one value read
  all_goals
    obtain ⟨hne, rfl⟩ := key _ h
    exact ⟨hne, by simp [presented]⟩

/-- the value the extractor reads, when it equals the cookie and is live and issued, is the accepted
    token: whatever else is presented and passes the same tests equals the cookie too -/
theorem accepted_of (scfg : SpecCfg) (s : SpecSt) (q : Req)
    (hext : extract scfg.ext q = some q.ck) (hl : s.liveAt q.ck = true) (hi : q.ck ∈ s.issued) :
    acceptedToken scfg s q = some q.ck := by
  obtain ⟨hne, hmem⟩ := extract_mem _ _ _ hext
  unfold acceptedToken
  cases hf : (presented scfg.ext q).find? fun t => t ≠ [] && t = q.ck && s.liveAt t && s.issued.contains t with
  | none =>
    have := List.find?_eq_none.mp hf q.ck hmem
    simp [hne, hl, hi] at this
  | some x =>
    have := List.find?_some hf
    simp only [Bool.and_eq_true, decide_eq_true_eq] at this
    rw [this.1.1.2]

theorem reachClause_ok (scfg : SpecCfg) (s : SpecSt) (q : Req) (o : Obs) (live1 : List (Bytes × LiveTok))
    (h : reachClause scfg s q o = .ok live1) :
    (isSafe q.method = true → o.pass = true ∧ live1 = s.live) ∧
    (isSafe q.method = false → o.pass = false → live1 = s.live) ∧
    (isSafe q.method = false → o.pass = true → o.early = false ∧ originClause scfg q = true ∧
      ∃ t, acceptedToken scfg s q = some t ∧ (scfg.sessionBacked = true → heldBy s t q.sc = true) ∧
        live1 = if scfg.single then erase s.live t else s.live) := by
  revert h
  -- five refusals (1-4 of an unsafe request that passed, 7 a safe one turned away) and the three ways through:
  -- 5 unsafe passed, 6 unsafe rejected, 8 safe passed
  fun_cases reachClause scfg s q o <;> intro h
  case case1 | case2 | case3 | case4 | case7 => cases h
  case case5 hu hp he ho t ht hby =>
    cases h
    simp only [Bool.not_eq_true', Bool.not_eq_true, Bool.not_eq_false] at hu he ho
    exact ⟨fun hs => (by rw [hu] at hs; cases hs), fun _ hn => (by rw [hp] at hn; cases hn),
      fun _ _ => ⟨he, ho, t, ht, fun hsb => by simpa [hsb] using hby, rfl⟩⟩
  case case6 hu hp =>
    cases h
    simp only [Bool.not_eq_true', Bool.not_eq_true] at hu hp
    exact ⟨fun hs => (by rw [hu] at hs; cases hs), fun _ _ => rfl, fun _ hn => (by rw [hp] at hn; cases hn)⟩
  case case8 hs hp =>
    cases h
    simp only [Bool.not_eq_true', Bool.not_eq_false] at hs hp
    exact ⟨fun _ => ⟨hp, rfl⟩, fun hu => (by rw [hs] at hu; cases hu), fun hu => (by rw [hs] at hu; cases hu)⟩

theorem cookieClause_ok (scfg : SpecCfg) (s : SpecSt) (q : Req) (o : Obs) (live live2 : List (Bytes × LiveTok))
    (h : cookieClause scfg s q o live = .ok live2) :
    (live2 = live ∧ (isSafe q.method = true → q.del = true)) ∨
    ∃ t, o.ck = some t ∧ t ≠ [] ∧ t ∈ s.issued ∧
      ((t = q.ck ∧ s.liveAt t = true ∧ (scfg.single = true → isSafe q.method = true)) ∨ t ∈ o.gens) ∧
      (isSafe q.method = true → o.fired = false → probeHas o t (s.now + scfg.idle) = true) ∧
      live2 = put live t { deadline := s.now + scfg.idle, holder := o.sc } := by
  have noValid : (if isSafe q.method && !q.del then Except.error "safe-leaves-valid-token-cookie" else .ok live) = .ok live2 →
      live2 = live ∧ (isSafe q.method = true → q.del = true) := by
    intro h
    split at h
    · cases h
    · rename_i hc
      cases h
      exact ⟨rfl, fun hs => by simpa [hs] using hc⟩
  revert h
  -- 1-2 no token in the cookie; 3-6 the refusals: not issued, single use, neither live nor fresh, probe; 7 entry renewed
  fun_cases cookieClause scfg s q o live <;> intro h
  case case1 | case2 => exact Or.inl (noValid h)
  case case3 | case4 | case5 | case6 => cases h
  case case7 t hck hne hiss hsu hkeep hprobe =>
    cases h
    refine Or.inr ⟨t, hck, hne, by simpa using hiss, ?_, fun hs hf => by simpa [hs, hf] using hprobe, rfl⟩
    -- fresh; or else the presented live one, which single use hands back to safe requests only
    by_cases hg : t ∈ o.gens
    · exact Or.inr hg
    · simp only [Bool.not_eq_true', Bool.not_eq_false, Bool.or_eq_true, Bool.and_eq_true, decide_eq_true_eq,
        List.contains_eq_mem, hg, or_false] at hkeep
      refine Or.inl ⟨hkeep.1, hkeep.2, fun h1 => Decidable.byContradiction fun h2 => hsu ?_⟩
      simp [h1, h2, hkeep.1, hkeep.1 ▸ hg]

theorem rejectClause_ok (o : Obs) (live live2 : List (Bytes × LiveTok)) (h : rejectClause o live = .ok live2) :
    live2 = live := by
  unfold rejectClause at h
  split at h
  · split at h <;> cases h <;> rfl
  · cases h; rfl

theorem specReqCore_rejected (scfg : SpecCfg) (s : SpecSt) (q : Req) (o : Obs)
    (hu : isSafe q.method = false) (hp : o.pass = false) (hck : o.ck = none ∨ o.ck = some [])
    (hps : probeSound { now := s.now, live := s.live, issued := s.issued ++ o.gens } o = true) :
    specReqCore scfg s q o = .ok { now := s.now, live := s.live, issued := s.issued ++ o.gens } := by
  refine specReqCore_intro scfg s q o s.live s.live ?_ ?_ hps
  · simp [reachClause, hu, hp]
  · rw [if_neg (by rw [hp]; decide)]
    rcases hck with h | h <;> simp [rejectClause, h]

theorem cookie_some (scfg : SpecCfg) (s1 : SpecSt) (q : Req) (o : Obs) (live : List (Bytes × LiveTok))
    (token : Bytes) (hck : o.ck = some token) (hne : token ≠ [])
    (hiss : s1.issued.contains token = true)
    (hkeep : ((token = q.ck && s1.liveAt token) || o.gens.contains token) = true)
    (hsu : scfg.single = true → isSafe q.method = false → o.gens.contains token = true)
    (hprobe : isSafe q.method = true → o.fired = false → probeHas o token (s1.now + scfg.idle) = true) :
    cookieClause scfg s1 q o live =
      .ok (put live token { deadline := s1.now + scfg.idle, holder := o.sc }) := by
  unfold cookieClause
  have hsu' : (scfg.single && !isSafe q.method && decide (token = q.ck) && !o.gens.contains token) = false := by
    cases h1 : scfg.single
    · simp
    · cases h2 : isSafe q.method
      · have := hsu h1 h2
        simp only [List.contains_eq_mem, decide_eq_true_eq] at this
        simp [this]
      · simp
  -- none of the refusals of `cookieClause` fires: issued (`hiss`), single use (`hsu'`), live or fresh (`hkeep`); the probe
  -- test is left, which asks something of a safe request without fault only
  simp only [hck, hne, if_false, hiss, Bool.not_true, Bool.false_eq_true, hkeep, hsu']
  by_cases h1 : isSafe q.method = true
  · by_cases h2 : o.fired = false
    · simp [h1, h2, hprobe h1 h2]
    · simp only [Bool.not_eq_false] at h2; simp [h2]
  · simp only [Bool.not_eq_true] at h1; simp [h1]

theorem cookie_exp (scfg : SpecCfg) (s1 : SpecSt) (q : Req) (o : Obs) (live : List (Bytes × LiveTok))
    (hck : o.ck = some []) (hdel : q.del = true) :
    cookieClause scfg s1 q o live = .ok live := by
  unfold cookieClause
  simp [hck, hdel]

theorem afterDel_id (scfg : SpecCfg) (q : Req) (o : Obs) (live : List (Bytes × LiveTok))
    (h : q.del = false ∨ q.ck = [] ∨ o.fired = true) : afterDel scfg q o live = live := by
  unfold afterDel
  rcases h with h | h | h <;> simp [h]

def AllLive (live : List (Bytes × LiveTok)) (R : Bytes → LiveTok → Prop) : Prop :=
  ∀ k l, lookup live k = some l → R k l

theorem AllLive.erase {live R} (h : AllLive live R) (k : Bytes) : AllLive (erase live k) R := by
  intro k' l hl
  rw [lookup_erase] at hl
  split at hl
  · cases hl
  · exact h k' l hl

theorem AllLive.put {live R} (h : AllLive live R) (k : Bytes) (v : LiveTok) (hk : R k v) :
    AllLive (put live k v) R := by
  intro k' l hl
  rw [lookup_put] at hl
  split at hl
  · rename_i e
    cases hl
    exact e ▸ hk
  · exact h k' l hl

theorem AllLive.afterGens {live R} (scfg : SpecCfg) (s : SpecSt) (o : Obs) (h : AllLive live R)
    (hg : ∀ g ∈ o.gens, R g { deadline := s.now + scfg.idle, holder := o.sc }) :
    AllLive (afterGens scfg s o live) R :=
  List.foldlRecOn (motive := fun l => AllLive l R) o.gens _ h fun _ hl g hmem => hl.put g _ (hg g hmem)

theorem AllLive.afterDel {live R} (scfg : SpecCfg) (q : Req) (o : Obs) (h : AllLive live R) :
    AllLive (afterDel scfg q o live) R := by
  unfold C16.afterDel
  split
  · exact h.erase _
  · exact h

theorem afterReach_keeps (scfg : SpecCfg) (s : SpecSt) (q : Req) (o : Obs) (live1 live2 : List (Bytes × LiveTok))
    (R : Bytes → LiveTok → Prop)
    (h : (if o.pass then cookieClause scfg s q o (afterDel scfg q o (afterGens scfg s o live1))
          else rejectClause o live1) = .ok live2)
    (h1 : AllLive live1 R)
    (hgen : ∀ g ∈ o.gens, R g { deadline := s.now + scfg.idle, holder := o.sc })
    (hck : ∀ t, o.ck = some t → t ∈ s.issued →
      ((t = q.ck ∧ s.liveAt t = true ∧ (scfg.single = true → isSafe q.method = true)) ∨ t ∈ o.gens) →
      R t { deadline := s.now + scfg.idle, holder := o.sc }) :
    AllLive live2 R := by
  split at h
  · have hX := (h1.afterGens scfg s o hgen).afterDel scfg q o
    rcases cookieClause_ok scfg s q o _ live2 h with ⟨e, _⟩ | ⟨t, hc, _, hi, hk, _, e⟩
    · rw [e]; exact hX
    · rw [e]; exact hX.put t _ (hck t hc hi hk)
  · rw [rejectClause_ok o live1 live2 h]; exact h1

def LiveIssued (s : SpecSt) : Prop := AllLive s.live fun k _ => k ∈ s.issued

theorem liveIssued_init : LiveIssued specInit := fun k l h => by cases h

theorem liveAt_false_iff (s : SpecSt) (t : Bytes) :
    s.liveAt t = false ↔ AllLive s.live fun k l => k = t → ¬ s.now ≤ l.deadline := by
  unfold SpecSt.liveAt
  constructor
  · intro h k l hl e
    rw [← e, hl] at h
    simpa using h
  · intro h
    split
    · rename_i l hl
      exact decide_eq_false (h t l hl rfl)
    · rfl

theorem LiveIssued.of_liveAt {s : SpecSt} (h : LiveIssued s) {t : Bytes} (hl : s.liveAt t = true) : t ∈ s.issued := by
  unfold SpecSt.liveAt at hl
  split at hl
  · rename_i l hl'
    exact h t l hl'
  · cases hl

theorem specReq_core (scfg : SpecCfg) (s : SpecSt) (q : Req) (o : Obs) (hs : skippedS scfg q = false)
    (s' : SpecSt) (h : specReq scfg s q o = .ok s') : specReqCore scfg s q o = .ok s' := by
  unfold specReq at h
  simp only [hs, Bool.false_eq_true, if_false] at h
  split at h
  · cases h
  · split at h
    · cases h
    · exact h

theorem specReq_skip (scfg : SpecCfg) (s : SpecSt) (q : Req) (o : Obs) (hs : skippedS scfg q = true)
    (s' : SpecSt) (h : specReq scfg s q o = .ok s') :
    s' = s ∧ o.pass = true ∧ o.ck = none ∧ o.gens = [] ∧ probeSound s o = true := by
  unfold specReq at h
  rw [if_pos hs] at h
  revert h
  -- 1 the middleware did something, 2 probe refuses, 3 accepted
  fun_cases specSkip s o <;> intro h
  case case1 | case2 => cases h
  case case3 h1 h2 =>
    simp only [Bool.or_eq_true, Bool.not_eq_true', not_or, Bool.not_eq_true,
      Option.isSome_eq_false_iff, Option.isNone_iff_eq_none, List.isEmpty_iff, Bool.not_eq_false] at h1 h2
    exact ⟨(Except.ok.inj h).symm, h1.1.1, h1.1.2, h1.2, h2⟩

theorem specReq_issued (scfg : SpecCfg) (s : SpecSt) (q : Req) (o : Obs) (s' : SpecSt)
    (h : specReq scfg s q o = .ok s') : s'.issued = s.issued ++ o.gens ∧ s'.now = s.now := by
  cases hs : skippedS scfg q
  · exact specReqCore_issued scfg s q o s' (specReq_core scfg s q o hs s' h)
  · obtain ⟨e, _, _, hg, _⟩ := specReq_skip scfg s q o hs s' h
    rw [e, hg]; simp

/-- **What an accepted step keeps.** A property of the entries of the live set that the tokens
    generated for the request satisfy, and the cookie's token if it is issued and the presented live
    one or a fresh one, carries over. -/
theorem specReq_keeps (scfg : SpecCfg) (s : SpecSt) (q : Req) (o : Obs) (s' : SpecSt)
    (R : Bytes → LiveTok → Prop) (h : specReq scfg s q o = .ok s') (hl : AllLive s.live R)
    (hgen : ∀ g ∈ o.gens, R g { deadline := s.now + scfg.idle, holder := o.sc })
    (hck : ∀ t, o.ck = some t → t ∈ s.issued ++ o.gens →
      ((t = q.ck ∧ s.liveAt t = true ∧ (scfg.single = true → isSafe q.method = true)) ∨ t ∈ o.gens) →
      R t { deadline := s.now + scfg.idle, holder := o.sc }) :
    AllLive s'.live R := by
  cases hsk : skippedS scfg q
  · obtain ⟨live1, live2, hr, hc, e⟩ := specReqCore_ok scfg s q o s' (specReq_core scfg s q o hsk s' h)
    rw [e]
    refine afterReach_keeps scfg _ q o live1 live2 R hc ?_ hgen hck
    -- the reach clause leaves the live set alone, or takes the accepted token out
    obtain ⟨h1, h2, h3⟩ := reachClause_ok scfg _ q o live1 hr
    cases hs : isSafe q.method
    · cases hp : o.pass
      · rw [h2 hs hp]; exact hl
      · obtain ⟨_, _, t, _, _, e⟩ := h3 hs hp
        rw [e]
        split
        · exact hl.erase t
        · exact hl
    · rw [(h1 hs).2]; exact hl
  · -- a request `Next` exempts leaves the state as it is
    rw [(specReq_skip scfg s q o hsk s' h).1]; exact hl

theorem specReq_liveIssued (scfg : SpecCfg) (s : SpecSt) (q : Req) (o : Obs) (s' : SpecSt)
    (h : specReq scfg s q o = .ok s') (hl : LiveIssued s) : LiveIssued s' := by
  unfold LiveIssued
  rw [(specReq_issued scfg s q o s' h).1]
  exact specReq_keeps scfg s q o s' _ h (fun k l hk => List.mem_append_left _ (hl k l hk))
    (fun g hg => List.mem_append_right _ hg) (fun t _ hi _ => hi)

theorem specReq_ok_unsafe_pass (scfg : SpecCfg) (s : SpecSt) (q : Req) (o : Obs) (s' : SpecSt)
    (h : specReq scfg s q o = .ok s') (hns : skippedS scfg q = false)
    (hu : isSafe q.method = false) (hp : o.pass = true) :
    o.early = false ∧ originClause scfg q = true ∧
    ∃ t, t ∈ presented scfg.ext q ∧ t ≠ [] ∧ t = q.ck ∧ s.liveAt t = true ∧ t ∈ s.issued ++ o.gens ∧
      (scfg.sessionBacked = true → heldBy s t q.sc = true) := by
  obtain ⟨live1, _, hr, _, _⟩ := specReqCore_ok scfg s q o s' (specReq_core scfg s q o hns s' h)
  obtain ⟨he, ho, t, ht, hby, _⟩ := (reachClause_ok scfg _ q o live1 hr).2.2 hu hp
  obtain ⟨h1, h2, h3, h4, h5⟩ := accepted_spec scfg _ q t ht
  exact ⟨he, ho, t, h1, h2, h3, h4, h5, hby⟩

theorem specReq_ok_safe (scfg : SpecCfg) (s : SpecSt) (q : Req) (o : Obs) (s' : SpecSt)
    (h : specReq scfg s q o = .ok s') (hns : skippedS scfg q = false) (hs : isSafe q.method = true) :
    o.pass = true ∧
    (q.del = false → ∃ t, o.ck = some t ∧ t ≠ [] ∧ t ∈ s.issued ++ o.gens ∧
      ((t = q.ck ∧ s.liveAt t = true) ∨ t ∈ o.gens) ∧
      (o.fired = false → probeHas o t (s.now + scfg.idle) = true)) := by
  obtain ⟨live1, live2, hr, hc, _⟩ := specReqCore_ok scfg s q o s' (specReq_core scfg s q o hns s' h)
  have hpass := ((reachClause_ok scfg _ q o live1 hr).1 hs).1
  refine ⟨hpass, fun hnd => ?_⟩
  rw [if_pos hpass] at hc
  rcases cookieClause_ok scfg _ q o _ live2 hc with ⟨_, hd⟩ | ⟨t, h1, h2, h3, h4, h5, _⟩
  · rw [hd hs] at hnd; cases hnd
  · exact ⟨t, h1, h2, h3, h4.imp (fun h => ⟨h.1, h.2.1⟩) id, h5 hs⟩

theorem specReq_dead_stays (scfg : SpecCfg) (s : SpecSt) (q : Req) (o : Obs) (s' : SpecSt) (t : Bytes)
    (h : specReq scfg s q o = .ok s') (hiss : t ∈ s.issued) (hnew : ∀ g ∈ o.gens, g ∉ s.issued)
    (hdead : s.liveAt t = false) : s'.liveAt t = false ∧ t ∈ s'.issued := by
  obtain ⟨hi', hn'⟩ := specReq_issued scfg s q o s' h
  refine ⟨?_, by rw [hi']; exact List.mem_append_left _ hiss⟩
  have hgt : ∀ g ∈ o.gens, g ≠ t := fun g hg e => hnew g hg (e ▸ hiss)
  rw [liveAt_false_iff, hn']
  refine specReq_keeps scfg s q o s' _ h ((liveAt_false_iff s t).mp hdead)
    (fun g hg e => absurd e (hgt g hg)) (fun t' _ _ hk e => ?_)
  -- the cookie's token is the presented live one or a fresh one: not `t`
  rcases hk with ⟨_, hl, _⟩ | hg
  · rw [e, hdead] at hl; cases hl
  · exact absurd e (hgt t' hg)

theorem specReq_single_consumes (scfg : SpecCfg) (s : SpecSt) (q : Req) (o : Obs) (s' : SpecSt)
    (h : specReq scfg s q o = .ok s') (hns : skippedS scfg q = false)
    (hu : isSafe q.method = false) (hp : o.pass = true)
    (hsingle : scfg.single = true) (hq : q.ck ∈ s.issued) (hnew : ∀ g ∈ o.gens, g ∉ s.issued) :
    s'.liveAt q.ck = false ∧ q.ck ∈ s'.issued := by
  obtain ⟨live1, live2, hr, hc, e⟩ := specReqCore_ok scfg s q o s' (specReq_core scfg s q o hns s' h)
  obtain ⟨_, _, t, ht, _, e1⟩ := (reachClause_ok scfg _ q o live1 hr).2.2 hu hp
  rw [hsingle, if_pos rfl, (accepted_spec scfg _ q t ht).2.2.1] at e1
  -- the token has left the live set, and nothing behind the reach clause puts it back: the keys generated are
  -- new, and the cookie clause hands an unsafe request a fresh key only
  have h2 : AllLive live2 fun k _ => k ≠ q.ck := by
    refine afterReach_keeps scfg _ q o live1 live2 _ hc ?_ (fun g hg e => hnew g hg (e ▸ hq))
      (fun t' _ _ hk e => hk.elim (fun h => by rw [h.2.2 hsingle] at hu; cases hu) fun hg => hnew t' hg (e ▸ hq))
    intro k l hl e'
    rw [e1, e', lookup_erase_self] at hl
    cases hl
  rw [e]
  exact ⟨(liveAt_false_iff _ _).mpr fun k l hl e' => absurd e' (h2 k l hl),
    List.mem_append_left _ hq⟩

theorem specReqCore_front (scfg : SpecCfg) (n : Option (Req → Bool)) (cc : CookieCfg) (eh : Err → Nat)
    (s : SpecSt) (q : Req) (o : Obs) :
    specReqCore { scfg with next := n, cookie := cc, eh := eh } s q o = specReqCore scfg s q o := rfl

end C16
