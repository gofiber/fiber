import FiberModel.C16.Spec
import FiberModel.C16.ListLemmas
import FiberModel.C19.Origin
/-
C16 — the constructor's trusted-origin tables (`buildLoop`, `normalizeOrigin`, `Sub.match`) against
the specification's independent reading of the configuration strings (`specEntry`,
`TrustEntry.admits`): the model trusts exactly what the specification admits, and the gate decides as
the specification reads the headers.
-/
namespace C16
open B

theorem urlInfoOf_wf (t : Bytes) : 58 ∉ (urlInfoOf t).scheme := by
  unfold urlInfoOf
  cases h : C19.Url.parse t with
  | none => simp
  | some u => exact C19.scheme_no_colon t u h

theorem httpScheme_noColon_lower (s : Bytes) (h : s = b "http" ∨ s = b "https") : 58 ∉ s ∧ toLower s = s := by
  rcases h with h | h <;> subst h <;> exact ⟨by decide, by decide⟩

theorem normalizeOrigin_eq (o : Bytes) :
    normalizeOrigin o = (originOfText o).map fun p => p.1 ++ b "://" ++ p.2 := by
  unfold normalizeOrigin originOfText
  cases hp : C19.Url.parse o with
  | none => rfl
  | some u =>
    simp only
    -- the scheme test, then the refusals of `normalizeOrigin` against the one test of `originOfText`
    by_cases g1 : u.scheme ≠ b "http" ∧ u.scheme ≠ b "https"
    · rw [if_pos g1, if_neg (fun c => c.1.elim g1.1 g1.2)]
      rfl
    · rw [if_neg g1, C19.normalizeOrigin_refusals]
      have hs : u.scheme = b "http" ∨ u.scheme = b "https" := by
        by_cases e : u.scheme = b "http"
        · exact Or.inl e
        · exact Or.inr (Decidable.not_not.mp fun e' => g1 ⟨e, e'⟩)
      by_cases hbare : C19.bareOrigin u
      · rw [if_pos hbare, if_pos ⟨hs, hbare⟩, (httpScheme_noColon_lower _ hs).2]
        rfl
      · rw [if_neg hbare, if_neg (fun c => hbare c.2)]
        rfl

theorem originOfText_scheme (o s h : Bytes) (hh : originOfText o = some (s, h)) : 58 ∉ s := by
  revert hh
  -- 1 no parse, 2 an origin, 3 refused
  fun_cases originOfText o <;> intro hh
  case case1 | case3 => cases hh
  case case2 u _ hc =>
    cases hh
    exact (httpScheme_noColon_lower _ hc.1).1

theorem normalizeOrigin_some (o n : Bytes) (h : normalizeOrigin o = some n) :
    ∃ s h', originOfText o = some (s, h') ∧ n = s ++ b "://" ++ h' ∧ 58 ∉ s := by
  rw [normalizeOrigin_eq] at h
  cases ho : originOfText o with
  | none => simp [ho] at h
  | some p =>
    obtain ⟨s, h'⟩ := p
    simp only [ho, Option.map_some, Option.some.injEq] at h
    exact ⟨s, h', rfl, h.symm, originOfText_scheme o s h' ho⟩

theorem wildcardSplit_eq (s h : Bytes) (hs : 58 ∉ s) :
    wildcardSplit (s ++ b "://" ++ h) =
      if h.head? = some 46 then some { pre := s ++ b "://", suf := h } else none := by
  unfold wildcardSplit
  obtain ⟨h1, h2, h3⟩ := C19.ser_split h hs
  simp only [h1, h2, h3]

theorem entry_exact (raw n : Bytes) (hi : indexOf (trim raw 32) (b "://*.") = none)
    (hn : normalizeOrigin (trim raw 32) = some n) :
    ∃ s h, specEntry raw = some (.exact s h) ∧ n = s ++ b "://" ++ h ∧ 58 ∉ s := by
  obtain ⟨s, h, ho, hnn, hc⟩ := normalizeOrigin_some _ _ hn
  refine ⟨s, h, ?_, hnn, hc⟩
  unfold specEntry
  simp only [hi, ho]

theorem entry_exact_conv (raw s h : Bytes) (hs : specEntry raw = some (.exact s h)) :
    normalizeOrigin (trim raw 32) = some (s ++ b "://" ++ h) ∧ 58 ∉ s := by
  revert hs
  -- wildcard text: 1 entry, 2 host without the dot, 3 no origin; plain text: 4 entry, 5 no origin
  fun_cases specEntry raw <;> intro hs
  case case1 | case2 | case3 | case5 => cases hs
  case case4 _ _ s' h' ho =>
    cases hs
    exact ⟨by rw [normalizeOrigin_eq, ho]; rfl, originOfText_scheme _ _ _ ho⟩

theorem entry_wild (raw n : Bytes) (i : Nat) (sd : Sub) (hi : indexOf (trim raw 32) (b "://*.") = some i)
    (hn : normalizeOrigin ((trim raw 32).take (i + 3) ++ (trim raw 32).drop (i + 4)) = some n)
    (hw : wildcardSplit n = some sd) :
    ∃ s d, specEntry raw = some (.wild s d) ∧ sd.pre = s ++ b "://" ∧ sd.suf = 46 :: d ∧ 58 ∉ s := by
  obtain ⟨s, h, ho, hnn, hc⟩ := normalizeOrigin_some _ _ hn
  subst hnn
  rw [wildcardSplit_eq s h hc] at hw
  split at hw
  · rename_i hd
    simp only [Option.some.injEq] at hw
    subst hw
    cases h with
    | nil => simp at hd
    | cons x d =>
      simp only [List.head?_cons, Option.some.injEq] at hd
      subst hd
      refine ⟨s, d, ?_, rfl, rfl, hc⟩
      unfold specEntry
      simp only [hi, ho, List.head?_cons, if_true, List.drop_succ_cons, List.drop_zero]
  · simp at hw

theorem entry_wild_conv (raw s d : Bytes) (i : Nat) (hi : indexOf (trim raw 32) (b "://*.") = some i)
    (hs : specEntry raw = some (.wild s d)) :
    normalizeOrigin ((trim raw 32).take (i + 3) ++ (trim raw 32).drop (i + 4)) = some (s ++ b "://" ++ 46 :: d) ∧
    wildcardSplit (s ++ b "://" ++ 46 :: d) = some { pre := s ++ b "://", suf := 46 :: d } ∧ 58 ∉ s := by
  revert hs
  -- the cases as in `entry_exact_conv`
  fun_cases specEntry raw <;> intro hs
  case case2 | case3 | case4 | case5 => cases hs
  case case1 _ j hj s' h' ho hd =>
    cases hi.symm.trans hj
    cases hs
    have hc := originOfText_scheme _ _ _ ho
    -- the host starts with the dot
    obtain ⟨_ | ⟨x, t⟩⟩ := h'
    · cases hd
    cases hd
    exact ⟨by rw [normalizeOrigin_eq, ho]; rfl, by rw [wildcardSplit_eq _ _ hc]; rfl, hc⟩

/-- the exact origin `New` stores for an entry, written `scheme://host` -/
def TrustEntry.origin? : TrustEntry → Option Bytes
  | .exact s h => some (s ++ b "://" ++ h)
  | .wild _ _ => none

/-- the prefix/suffix pair `New` stores for an entry -/
def TrustEntry.sub? : TrustEntry → Option Sub
  | .exact _ _ => none
  | .wild s d => some { pre := s ++ b "://", suf := 46 :: d }

def TrustEntry.scheme : TrustEntry → Bytes
  | .exact s _ => s
  | .wild s _ => s

/-- **The constructor loop in closed form**: the tables it leaves are the specification's entries of
    the configured strings, serialised, behind what was there. The entries' schemes hold no colon, so
    that `scheme://host` splits in one way only (`C19.ser_inj`). -/
theorem buildLoop_spec (raw : List Bytes) (os : List Bytes) (ss : List Sub) (os' : List Bytes) (ss' : List Sub)
    (h : buildLoop raw os ss = some (os', ss')) :
    os' = os ++ (raw.filterMap specEntry).filterMap TrustEntry.origin? ∧
    ss' = ss ++ (raw.filterMap specEntry).filterMap TrustEntry.sub? ∧
    ∀ e ∈ raw.filterMap specEntry, 58 ∉ e.scheme := by
  -- a round that does not panic (4 wildcard, 6 plain; 2, 3, 5 are the panics): the string denotes an entry, and what is
  -- appended is that entry, serialised
  fun_induction buildLoop raw os ss with
  | case1 os ss =>
    cases h
    exact ⟨(List.append_nil _).symm, (List.append_nil _).symm, nofun⟩
  | case2 | case3 | case5 => cases h
  | case4 o rest os ss _ i hi n hn sd hw ih =>
    obtain ⟨s, d, hspec, hpre, hsuf, hcol⟩ := entry_wild o n i sd hi hn hw
    obtain ⟨pre, suf⟩ := sd
    cases hpre
    cases hsuf
    obtain ⟨h1, h2, h3⟩ := ih h
    rw [List.filterMap_cons, hspec]
    exact ⟨h1, by rw [h2, List.append_assoc]; rfl,
      fun e' he' => (List.mem_cons.mp he').elim (fun x => x ▸ hcol) (h3 e')⟩
  | case6 o rest os ss _ hi n hn ih =>
    obtain ⟨s, hh, hspec, rfl, hcol⟩ := entry_exact o n hi hn
    obtain ⟨h1, h2, h3⟩ := ih h
    rw [List.filterMap_cons, hspec]
    exact ⟨by rw [h1, List.append_assoc]; rfl, h2,
      fun e' he' => (List.mem_cons.mp he').elim (fun x => x ▸ hcol) (h3 e')⟩

theorem wild_admits_iff (s d scheme host : Bytes) :
    (TrustEntry.wild s d).admits scheme host = true ↔ scheme = s ∧ ∃ pre, host = pre ++ (46 :: d) := by
  unfold TrustEntry.admits hasSuffix
  simp only [Bool.and_eq_true, decide_eq_true_eq, b, List.isSuffixOf_iff_suffix]
  exact and_congr_right fun _ => ⟨fun ⟨pre, hp⟩ => ⟨pre, hp.symm⟩, fun ⟨pre, hp⟩ => ⟨pre, hp.symm⟩⟩

/-- what the handler tests of one stored entry is what the specification admits -/
theorem entry_admits (e : TrustEntry) (sch host : Bytes) (he : 58 ∉ e.scheme) (hc : 58 ∉ sch) :
    (e.origin?.any (· == sch ++ b "://" ++ host) || e.sub?.any (·.match (sch ++ b "://" ++ host))) =
      e.admits sch host := by
  rw [Bool.eq_iff_iff]
  cases e with
  | exact s h =>
    simp only [TrustEntry.origin?, TrustEntry.sub?, Option.any_some, Option.any_none, Bool.or_false, beq_iff_eq,
      TrustEntry.admits, Bool.and_eq_true, decide_eq_true_eq]
    exact ⟨fun x => C19.ser_inj hc he x.symm, fun x => by rw [x.1, x.2]⟩
  | wild s d =>
    simp only [TrustEntry.origin?, TrustEntry.sub?, Option.any_some, Option.any_none, Bool.false_or]
    exact (C19.match_ser s (46 :: d) sch host he hc).trans (wild_admits_iff ..).symm

theorem trusted_iff (raw : List Bytes) (cfg : Cfg)
    (hb : buildLoop raw [] [] = some (cfg.origins, cfg.subs)) (sch host : Bytes) (hc : 58 ∉ sch) :
    trusted cfg (sch ++ b "://" ++ host) = (raw.filterMap specEntry).any (·.admits sch host) := by
  obtain ⟨h1, h2, h3⟩ := buildLoop_spec raw [] [] _ _ hb
  unfold trusted
  rw [h1, h2, List.nil_append, List.nil_append]
  generalize raw.filterMap specEntry = es at h3 ⊢
  induction es with
  | nil => rfl
  | cons e es ih =>
    rw [List.any_cons, ← entry_admits e sch host (h3 e (List.mem_cons_self ..)) hc,
      ← ih fun e' he' => h3 e' (List.mem_cons_of_mem _ he')]
    -- the entry's own test moves to the front of the `||`; the closing `rfl` has only `filterMap` of the other
    -- kind to step over this entry and `Option.any` to evaluate
    cases e with
    | exact s h =>
      show (((s ++ b "://" ++ h) :: es.filterMap TrustEntry.origin?).contains _ || _) = ((_ == _ || false) || _)
      rw [List.contains_cons, Bool.or_false, Bool.or_assoc, Bool.beq_comm]
      rfl
    | wild s d =>
      show (_ || (_ :: es.filterMap TrustEntry.sub?).any _) = ((false || _) || _)
      rw [List.any_cons, Bool.false_or, Bool.or_left_comm]
      rfl

/-- **The trust decision is sound.** For a configuration the constructor accepted, every
    `scheme://host` the handler trusts (exact list or wildcard pair) is admitted by the
    specification's reading of the configured strings: same scheme and same host, or same scheme and
    a host ending in `.domain`. (`scheme` is what `net/url` returns: it has no colon.) -/
theorem trusted_sound (raw : List Bytes) (cfg : Cfg)
    (hb : buildLoop raw [] [] = some (cfg.origins, cfg.subs)) (sch host : Bytes) (hc : 58 ∉ sch)
    (ht : trusted cfg (sch ++ b "://" ++ host) = true) :
    (raw.filterMap specEntry).any (·.admits sch host) = true :=
  trusted_iff raw cfg hb sch host hc ▸ ht

theorem admits_scheme (e : TrustEntry) (sch host : Bytes) (h : e.admits sch host = true) : sch = e.scheme := by
  cases e <;> simp only [TrustEntry.admits, Bool.and_eq_true, decide_eq_true_eq] at h <;> exact h.1

/-- **The trust decision is complete**: whatever scheme and host a configured string admits, the
    handler trusts (written `scheme://host`). -/
theorem trusted_complete (raw : List Bytes) (cfg : Cfg)
    (hb : buildLoop raw [] [] = some (cfg.origins, cfg.subs)) (sch host : Bytes)
    (ha : (raw.filterMap specEntry).any (·.admits sch host) = true) :
    trusted cfg (sch ++ b "://" ++ host) = true := by
  obtain ⟨e, hmem, hadm⟩ := List.any_eq_true.mp ha
  -- the admitting entry has the scheme asked about, and an entry's scheme holds no colon
  have hc : 58 ∉ sch := admits_scheme e sch host hadm ▸ (buildLoop_spec raw [] [] _ _ hb).2.2 e hmem
  exact (trusted_iff raw cfg hb sch host hc).trans ha

theorem buildLoop_sound (raw : List Bytes) (os : List Bytes) (ss : List Sub) (os' : List Bytes) (ss' : List Sub)
    (h : buildLoop raw os ss = some (os', ss')) :
    (∀ n ∈ os', n ∈ os ∨ ∃ r ∈ raw, ∃ e, specEntry r = some e ∧ e.origin? = some n ∧ 58 ∉ e.scheme) ∧
    (∀ sd ∈ ss', sd ∈ ss ∨ ∃ r ∈ raw, ∃ e, specEntry r = some e ∧ e.sub? = some sd ∧ 58 ∉ e.scheme) := by
  obtain ⟨rfl, rfl, hc⟩ := buildLoop_spec raw os ss os' ss' h
  refine ⟨fun n hn => (List.mem_append.mp hn).imp_right fun hn => ?_,
    fun sd hsd => (List.mem_append.mp hsd).imp_right fun hsd => ?_⟩
  all_goals
    obtain ⟨e, he, hx⟩ := List.mem_filterMap.mp ‹_›
    obtain ⟨r, hr, hre⟩ := List.mem_filterMap.mp he
    exact ⟨r, hr, e, hre, hx, hc e he⟩

theorem buildLoop_complete (raw : List Bytes) (os : List Bytes) (ss : List Sub) (os' : List Bytes) (ss' : List Sub)
    (h : buildLoop raw os ss = some (os', ss')) :
    ∀ r ∈ raw, ∀ e, specEntry r = some e →
      58 ∉ e.scheme ∧ (∀ n, e.origin? = some n → n ∈ os') ∧ (∀ sd, e.sub? = some sd → sd ∈ ss') := by
  obtain ⟨rfl, rfl, hc⟩ := buildLoop_spec raw os ss os' ss' h
  intro r hr e he
  have hm : e ∈ raw.filterMap specEntry := List.mem_filterMap.mpr ⟨r, hr, he⟩
  exact ⟨hc e hm, fun n hn => List.mem_append_right _ (List.mem_filterMap.mpr ⟨e, hm, hn⟩),
    fun sd hsd => List.mem_append_right _ (List.mem_filterMap.mpr ⟨e, hm, hsd⟩)⟩

/-- what `originMatchesHost` / `refererMatchesHost` do once the header is known to be present -/
def matchHost (cfg : Cfg) (q : Req) (u : UrlInfo) : Option OErr :=
  if !u.ok then some .invalid
  else if u.scheme = reqScheme q ∧ u.host = reqHost q then none
  else if trusted cfg (u.scheme ++ b "://" ++ u.host) then none
  else some .noMatch

theorem originCheck_eq (cfg : Cfg) (q : Req) :
    originCheck cfg q = if originPresent q then matchHost cfg q q.ourl else some .notFound := by
  show (if toLower q.origin = [] ∨ toLower q.origin = b "null" then some OErr.notFound else matchHost cfg q q.ourl) = _
  unfold originPresent
  by_cases h1 : toLower q.origin = []
  · simp [h1]
  · by_cases h2 : toLower q.origin = b "null" <;> simp [h1, h2]

theorem refererCheck_eq (cfg : Cfg) (q : Req) :
    refererCheck cfg q = if toLower q.referer = [] then some .notFound else matchHost cfg q q.rurl := rfl

theorem matchHost_eq (raw : List Bytes) (cfg : Cfg)
    (hb : buildLoop raw [] [] = some (cfg.origins, cfg.subs)) (q : Req) (u : UrlInfo) (hu : 58 ∉ u.scheme) :
    matchHost cfg q u =
      if originAllowed (specConfig cfg.backend cfg.ext cfg.single cfg.idle raw) q u then none
      else some (if u.ok then .noMatch else .invalid) := by
  unfold matchHost originAllowed sameOrigin
  rw [trusted_iff raw cfg hb _ _ hu]
  simp only [specConfig]
  cases u.ok
  · rfl
  · by_cases hs : u.scheme = reqScheme q ∧ u.host = reqHost q
    · simp [hs, reqHost]
    · have hs' : (u.scheme = reqScheme q && u.host = toLower q.host) = false := by
        simpa [reqHost] using hs
      simp [hs, hs']

/-- **The gate decides exactly as the specification reads the headers**: with an Origin present the
    gate opens iff that origin is allowed; without one, on https with a Referer present, iff the
    referer's origin is allowed; on https with neither header it stays shut (strict referer
    checking, stricter than the property asks); on plain http without Origin it opens. -/
theorem gate_exact (raw : List Bytes) (cfg : Cfg)
    (hb : buildLoop raw [] [] = some (cfg.origins, cfg.subs)) (q : Req) :
    originGate cfg q =
      if originPresent q then originAllowed (specConfig cfg.backend cfg.ext cfg.single cfg.idle raw) q q.ourl
      else if q.https then
        (if toLower q.referer ≠ [] then originAllowed (specConfig cfg.backend cfg.ext cfg.single cfg.idle raw) q q.rurl
         else false)
      else true := by
  unfold originGate
  rw [originCheck_eq, refererCheck_eq, matchHost_eq raw cfg hb q q.ourl (urlInfoOf_wf _), matchHost_eq raw cfg hb q q.rurl (urlInfoOf_wf _)]
  cases originPresent q
  · cases q.https
    · rfl
    · by_cases hr : toLower q.referer = []
      · simp [hr]
      · simp only [Bool.false_eq_true, if_false, if_true, ne_eq, hr, not_false_eq_true]
        cases originAllowed (specConfig cfg.backend cfg.ext cfg.single cfg.idle raw) q q.rurl
        · cases q.rurl.ok <;> rfl
        · rfl
  · rw [if_pos rfl, if_pos rfl]
    cases originAllowed (specConfig cfg.backend cfg.ext cfg.single cfg.idle raw) q q.ourl
    · cases q.ourl.ok <;> rfl
    · rfl

/-- **Origin gate.** When the handler lets an unsafe request past the Origin/Referer checks, the
    specification's origin clause holds: a present Origin (or, on https without Origin, a present
    Referer) parses and is the request's own scheme and host, or is admitted by a configured entry
    (exact, or wildcard on a dot boundary); never the path, query or fragment. -/
theorem gate_sound (raw : List Bytes) (cfg : Cfg)
    (hb : buildLoop raw [] [] = some (cfg.origins, cfg.subs)) (q : Req) (hg : originGate cfg q = true) :
    originClause (specConfig cfg.backend cfg.ext cfg.single cfg.idle raw) q = true := by
  rw [gate_exact raw cfg hb q] at hg
  unfold originClause
  split
  · rwa [if_pos ‹_›] at hg
  · rw [if_neg ‹_›] at hg
    cases hs : q.https
    · rfl
    · rw [hs, if_pos rfl] at hg
      by_cases hr : toLower q.referer ≠ []
      · rw [if_pos hr] at hg; simpa [hr] using hg
      · rw [if_neg hr] at hg; cases hg

end C16
