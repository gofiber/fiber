import FiberModel.C16.Sim
/-
C16 — `Config.Session` without the session middleware: every manager operation resolves the session
itself (`Store.Get`) and saves it (`Session.Save`), each of which may fail. What one resolution does, that
a request once bound to a stored session stays bound to it, and create-or-extend and delete as one write
`sessOp`.
-/

namespace C16
open B

/-- the request is bound to the stored session `R`: it resolves to `R` and `R` is in the store -/
def Bound (q : Req) (c : Ctx) (R : Bytes) : Prop :=
  reqSid q c = R ∧ R ≠ [] ∧ ∃ slot, lookup c.st.sess R = some slot

/-- of the fields the argument reads, those a session resolution leaves alone (it moves `sid`, `nsid`,
    `sgens` and the flag `fg`) -/
structure ResolveKeeps (c c' : Ctx) : Prop where
  sess : c'.st.sess = c.st.sess
  now : c'.st.now = c.st.now
  sc : c'.sc = c.sc
  fs : c'.fs = c.fs
  fd : c'.fd = c.fd

/-- one session resolution from `c`, ending in `c'` with answer `res`: a request bound to a stored
    session stays bound; the read failed (flagged), or it yields a session with a non-empty id, which is
    the stored one the request is bound to if there is one, and whose slot, if not empty, the store holds -/
def Resolved (q : Req) (c c' : Ctx) (res : Option (Bytes × Option Tok)) : Prop :=
  ResolveKeeps c c' ∧ (∀ R, Bound q c R → Bound q c' R) ∧
  ((res = none ∧ c'.fg = true ∧ q.failGet = true) ∨
   (∃ id slot, res = some (id, slot) ∧ id ≠ [] ∧ c'.fg = c.fg ∧ reqSid q c' = id ∧
      (slot ≠ none → lookup c.st.sess id = some slot ∧ Bound q c id) ∧
      (∀ R, Bound q c R → id = R ∧ q.failGet = false)))

theorem storeGet_spec (sgen : Nat → Bytes) (hsgen : ∀ n, sgen n ≠ []) (q : Req) (c c' : Ctx)
    (res : Option (Bytes × Option Tok)) (h : storeGet sgen q c = (c', res)) : Resolved q c c' res := by
  -- an unknown or missing id: a new session, and the request was bound to none
  have hfresh : freshSess sgen c = (c', res) → (∀ R, ¬ Bound q c R) → Resolved q c c' res := by
    intro hf hnb
    cases hf
    exact ⟨⟨rfl, rfl, rfl, rfl, rfl⟩, fun R hR => absurd hR (hnb R),
      Or.inr ⟨_, none, rfl, hsgen _, rfl, rfl, fun h => absurd rfl h, fun R hR => absurd hR (hnb R)⟩⟩
  revert h
  -- 1 read fault, 2 stored session, 3 unknown id, 4 no id
  fun_cases storeGet sgen q c <;> intro h
  case case1 _ hf =>
    cases h
    exact ⟨⟨rfl, rfl, rfl, rfl, rfl⟩, fun R hR => hR, Or.inl ⟨rfl, rfl, hf⟩⟩
  case case2 h0 hf slot hl =>
    cases h
    exact ⟨⟨rfl, rfl, rfl, rfl, rfl⟩, fun R hR => hR,
      Or.inr ⟨_, slot, rfl, h0, rfl, rfl, fun _ => ⟨hl, rfl, h0, slot, hl⟩, fun R hR => ⟨hR.1, by simpa using hf⟩⟩⟩
  case case3 _ _ hl =>
    refine hfresh h fun R ⟨h1, _, slot, h3⟩ => ?_
    rw [← h1, hl] at h3
    cases h3
  case case4 h0 => exact hfresh h fun R ⟨h1, h2, _⟩ => h0 (h1 ▸ h2)

/-- one write to the session of the request: resolve it, set the token slot, save -/
def sessOp (sgen : Nat → Bytes) (q : Req) (c : Ctx) (slot : Option Tok) : Ctx × Bool :=
  match storeGet sgen q c with
  | (c', none) => (c', true)
  | (c', some (id, _)) => (sessSave q c' id slot, q.failSet)

theorem setRaw_sessOp (cfg : Cfg) (sgen : Nat → Bytes) (q : Req) (c : Ctx) (key : Bytes)
    (hb : cfg.backend = .sessStore) :
    setRaw cfg sgen q c key = sessOp sgen q c (some { key := key, exp := c.st.now + cfg.idle }) := by
  unfold setRaw sessOp
  simp only [hb]
  rcases storeGet sgen q c with ⟨c', _ | ⟨id, s⟩⟩ <;> rfl

theorem delRaw_sessOp (cfg : Cfg) (sgen : Nat → Bytes) (q : Req) (c : Ctx) (key : Bytes)
    (hb : cfg.backend = .sessStore) : delRaw cfg sgen q c key = sessOp sgen q c none := by
  unfold delRaw sessOp
  simp only [hb]
  rcases storeGet sgen q c with ⟨c', _ | ⟨id, s⟩⟩ <;> rfl

end C16
