import FiberModel.C16.Sim
/-
C16 — the token table of a back-end, read as a relation between slots, tokens and deadlines, and the
invariant that ties it to the specification's live set.

The storage back-end keeps `token ↦ deadline`, the session back-ends `session ↦ token slot`. Read the
first as a table in which every token is its own slot, and both are tables `slot ↦ (token, deadline)`:
create-or-extend and `DeleteToken` set one slot, whatever the back-end. `StoreOK` and `SessOK` are then
the two readings of one invariant `HeldOK`, and `inv_iff` is the only place that has to know.
-/
namespace C16
open B

/-- the specification's issued set is what the key generator handed out so far -/
def IssuedOK (gen : Nat → Bytes) (ntok : Nat) (issued : List Bytes) : Prop :=
  ∀ t, t ∈ issued ↔ ∃ i, i < ntok ∧ gen i = t

/-- storage back-end: every stored token was issued and is live in the specification at least as
    long -/
def StoreOK (gen : Nat → Bytes) (idle ntok now : Nat) (store : List (Bytes × Nat))
    (live : List (Bytes × LiveTok)) : Prop :=
  ∀ k d, lookup store k = some d →
    (∃ i, i < ntok ∧ gen i = k) ∧ d ≤ now + idle ∧ ∃ l, lookup live k = some l ∧ d ≤ l.deadline

theorem issuedOK_append (gen : Nat → Bytes) (n : Nat) (issued : List Bytes) (h : IssuedOK gen n issued) :
    IssuedOK gen (n + 1) (issued ++ [gen n]) := by
  intro t
  simp only [List.mem_append, List.mem_singleton]
  constructor
  · rintro (h' | h')
    · obtain ⟨i, hi, he⟩ := (h t).mp h'
      exact ⟨i, by omega, he⟩
    · exact ⟨n, by omega, h'.symm⟩
  · rintro ⟨i, hi, he⟩
    by_cases hin : i < n
    · exact Or.inl ((h t).mpr ⟨i, hin, he⟩)
    · have : i = n := by omega
      subst this
      exact Or.inr he.symm

/-- session back-ends: the token of every stored session was issued, is live in the specification at
    least as long, and the specification knows it as handed to exactly that session -/
def SessOK (gen : Nat → Bytes) (idle ntok now : Nat) (sess : List (Bytes × Option Tok))
    (live : List (Bytes × LiveTok)) : Prop :=
  ∀ id k d, lookup sess id = some (some ⟨k, d⟩) →
    id ≠ [] ∧ (∃ i, i < ntok ∧ gen i = k) ∧ d ≤ now + idle ∧
      ∃ l, lookup live k = some l ∧ d ≤ l.deadline ∧ l.holder = some id

/-- **The invariant.** The specification's clock and issued set are the model's, and every token the
    back-end holds was issued and is live in the specification at least as long (for the session
    back-ends: and known there as handed to that very session). -/
structure Inv (cfg : Cfg) (gen : Nat → Bytes) (st : St) (s : SpecSt) : Prop where
  now : s.now = st.now
  issued : IssuedOK gen st.ntok s.issued
  tokens : match cfg.backend with
    | .storage => StoreOK gen cfg.idle st.ntok st.now st.store s.live ∧ keysNodup st.store
    | _ => SessOK gen cfg.idle st.ntok st.now st.sess s.live ∧ keysNodup st.sess

/-- `H w k d`: slot `w` of the token table holds token `k` until `d` -/
abbrev Held := Bytes → Bytes → Nat → Prop

/-- the table of a state. Storage back-end: every token is its own slot; session back-ends: the slot
    is the session id. -/
def heldOf (cfg : Cfg) (st : St) : Held := fun w k d =>
  match cfg.backend with
  | .storage => w = k ∧ lookup st.store k = some d
  | _ => lookup st.sess w = some (some ⟨k, d⟩)

def tableNodup (cfg : Cfg) (st : St) : Prop :=
  match cfg.backend with
  | .storage => keysNodup st.store
  | _ => keysNodup st.sess

/-- the specification's `sessionBacked` of a configuration -/
abbrev sessBacked (cfg : Cfg) : Bool := decide (cfg.backend ≠ .storage)

/-- every held token was issued, expires within an idle period, and is live in the specification at
    least as long; `sb` (session back-ends): the slot is a session, to which the specification knows
    the token as handed; otherwise the slot is the token itself -/
def HeldOK (gen : Nat → Bytes) (idle ntok now : Nat) (sb : Bool) (H : Held) (live : List (Bytes × LiveTok)) : Prop :=
  ∀ w k d, H w k d → (∃ i, i < ntok ∧ gen i = k) ∧ d ≤ now + idle ∧
    ∃ l, lookup live k = some l ∧ d ≤ l.deadline ∧ if sb then w ≠ [] ∧ l.holder = some w else w = k

theorem inv_iff (cfg : Cfg) (gen : Nat → Bytes) (st : St) (s : SpecSt) :
    Inv cfg gen st s ↔ s.now = st.now ∧ IssuedOK gen st.ntok s.issued ∧
      HeldOK gen cfg.idle st.ntok st.now (sessBacked cfg) (heldOf cfg st) s.live ∧ tableNodup cfg st := by
  -- `SessOK` is `HeldOK` over the session table, its conjuncts in another order
  have sess : SessOK gen cfg.idle st.ntok st.now st.sess s.live ↔
      HeldOK gen cfg.idle st.ntok st.now true (fun w k d => lookup st.sess w = some (some ⟨k, d⟩)) s.live :=
    ⟨fun h w k d hk => by
        obtain ⟨h0, hi, hd, l, hl, hdl, hh⟩ := h w k d hk
        exact ⟨hi, hd, l, hl, hdl, h0, hh⟩,
      fun h w k d hk => by
        obtain ⟨hi, hd, l, hl, hdl, h0, hh⟩ := h w k d hk
        exact ⟨h0, hi, hd, l, hl, hdl, hh⟩⟩
  -- `StoreOK` is `HeldOK` over the store with every token in its own slot
  have store : StoreOK gen cfg.idle st.ntok st.now st.store s.live ↔
      HeldOK gen cfg.idle st.ntok st.now false (fun w k d => w = k ∧ lookup st.store k = some d) s.live :=
    ⟨fun h w k d hk => by
        obtain ⟨hi, hd, l, hl, hdl⟩ := h k d hk.2
        exact ⟨hi, hd, l, hl, hdl, hk.1⟩,
      fun h k d hk => by
        obtain ⟨hi, hd, l, hl, hdl, _⟩ := h k k d ⟨rfl, hk⟩
        exact ⟨hi, hd, l, hl, hdl⟩⟩
  have tokens : (match cfg.backend with
      | .storage => StoreOK gen cfg.idle st.ntok st.now st.store s.live ∧ keysNodup st.store
      | _ => SessOK gen cfg.idle st.ntok st.now st.sess s.live ∧ keysNodup st.sess) ↔
      HeldOK gen cfg.idle st.ntok st.now (sessBacked cfg) (heldOf cfg st) s.live ∧ tableNodup cfg st := by
    unfold heldOf tableNodup sessBacked
    cases cfg.backend
    · exact and_congr_left' store
    · exact and_congr_left' sess
    · exact and_congr_left' sess
  exact ⟨fun ⟨h1, h2, h3⟩ => ⟨h1, h2, tokens.mp h3⟩, fun ⟨h1, h2, h3⟩ => ⟨h1, h2, tokens.mpr h3⟩⟩

section HeldOK
variable {gen : Nat → Bytes} {idle n n' now : Nat} {sb : Bool} {H H' : Held} {live : List (Bytes × LiveTok)}

theorem HeldOK.mono (h : HeldOK gen idle n now sb H live) (hn : n ≤ n') (hsub : ∀ w k d, H' w k d → H w k d) :
    HeldOK gen idle n' now sb H' live := fun w k d hk => by
  obtain ⟨⟨i, hi, he⟩, r⟩ := h w k d (hsub w k d hk)
  exact ⟨⟨i, by omega, he⟩, r⟩

theorem HeldOK.adv (h : HeldOK gen idle n now sb H live) (t : Nat) : HeldOK gen idle n (now + t) sb H live :=
  fun w k d hk => by
    obtain ⟨hi, hd, r⟩ := h w k d hk
    exact ⟨hi, by omega, r⟩

/-- a token sits in one slot only: the session the specification knows as its holder, or itself -/
theorem HeldOK.unique (h : HeldOK gen idle n now sb H live) {w w' k : Bytes} {d d' : Nat}
    (h1 : H w k d) (h2 : H w' k d') : w = w' := by
  obtain ⟨_, _, l, hl, _, a⟩ := h w k d h1
  obtain ⟨_, _, l', hl', _, a'⟩ := h w' k d' h2
  rw [hl] at hl'
  cases hl'
  cases sb
  · exact a.trans a'.symm
  · exact Option.some.inj (a.2.symm.trans a'.2)

/-- the specification drops a token that no slot holds any more -/
theorem HeldOK.erase (h : HeldOK gen idle n now sb H live) (x : Bytes)
    (hsub : ∀ w k d, H' w k d → H w k d ∧ k ≠ x) : HeldOK gen idle n now sb H' (erase live x) := fun w k d hk => by
  obtain ⟨hk', hne⟩ := hsub w k d hk
  rw [lookup_erase, if_neg hne]
  exact h w k d hk'

/-- the specification (re)starts the lifetime of `k` while the table stays as it is: fine as long as
    whoever holds `k` is the session it is now handed to -/
theorem HeldOK.put_live (h : HeldOK gen idle n now sb H live) (k : Bytes) (holder : Option Bytes)
    (hh : sb = true → ∀ w d, H w k d → holder = some w) :
    HeldOK gen idle n now sb H (put live k { deadline := now + idle, holder := holder }) := fun w k' d hk => by
  obtain ⟨hi, hd, l, hl, hdl, a⟩ := h w k' d hk
  refine ⟨hi, hd, ?_⟩
  rw [lookup_put]
  by_cases e : k' = k
  · rw [if_pos e]
    refine ⟨_, rfl, hd, ?_⟩
    cases sb
    · exact a
    · exact ⟨a.1, hh rfl w d (e ▸ hk)⟩
  · rw [if_neg e]
    exact ⟨l, hl, hdl, a⟩

/-- slot `W` now holds the issued token `T` with a full lifetime, the other slots are as before, and
    the specification restarts the lifetime of `T`; no other slot may hold `T` (session back-ends) -/
theorem HeldOK.write (h : HeldOK gen idle n now sb H live) (W T : Bytes) (holder : Option Bytes)
    (hT : ∃ i, i < n ∧ gen i = T)
    (hW : if sb then W ≠ [] ∧ holder = some W else W = T)
    (hset : ∀ w k d, H' w k d → if w = W then k = T ∧ d = now + idle else H w k d)
    (hh : sb = true → ∀ w d, w ≠ W → H w T d → False) :
    HeldOK gen idle n now sb H' (put live T { deadline := now + idle, holder := holder }) := fun w k d hk => by
  have hk' := hset w k d hk
  by_cases e : w = W
  · rw [if_pos e] at hk'
    obtain ⟨rfl, rfl⟩ := hk'
    exact ⟨hT, Nat.le_refl _, _, lookup_put_self _ _ _, Nat.le_refl _, e ▸ hW⟩
  · rw [if_neg e] at hk'
    refine (h.put_live T holder fun hs w' d' hw' => ?_) w k d hk'
    by_cases e' : w' = W
    · rw [hs, if_pos rfl] at hW; exact e' ▸ hW.2
    · exact (hh hs w' d' e' hw').elim

theorem HeldOK.fresh (h : HeldOK gen idle n now sb H live) (hinj : Function.Injective gen)
    {w k : Bytes} {d : Nat} (hw : H w k d) : k ≠ gen n := fun e => by
  obtain ⟨⟨i, hi, he⟩, _⟩ := h w k d hw
  have := hinj (he.trans e)
  omega

/-- the keys generated for the request enter the live set. No slot holds them yet (session back-ends:
    the generator never repeats; storage: no holder is recorded), so the table stays covered. -/
theorem HeldOK.afterGens (h : HeldOK gen idle n now sb H live) (hinj : sb = true → Function.Injective gen)
    (scfg : SpecCfg) (s : SpecSt) (o : Obs) (hidle : scfg.idle = idle) (hnow : s.now = now)
    (hG : o.gens = [] ∨ o.gens = [gen n]) : HeldOK gen idle n now sb H (afterGens scfg s o live) := by
  unfold C16.afterGens
  rcases hG with hG | hG <;> rw [hG]
  · exact h
  · rw [List.foldl_cons, List.foldl_nil, hidle, hnow]
    exact h.put_live _ _ fun hs w d hw => (h.fresh (hinj hs) hw rfl).elim

/-- The handler's `DeleteToken` went through behind the write: slot `W` was set to the reply's token
    `T`, then slot `D` cleared, and the specification looks at `DeleteToken` (`afterDel`) with the live
    set `L` that covered the table before both. An entry survives iff its slot is not `D`. Storage
    (a slot is its token): the specification deletes the cookie's token, which is slot `D`; the written
    token survives when it is another one, and then `L` must have it already (it is a fresh key).
    Sessions: one slot serves the whole request (`W = D`, the reply's session), and the specification
    deletes the cookie's token only if it knows it as handed to the reply's session or to the one the
    session cookie names, which, if it holds anything, is `D` too. -/
theorem HeldOK.afterDel (h : HeldOK gen idle n now sb H live) (scfg : SpecCfg) (q : Req) (o : Obs)
    (hsb : scfg.sessionBacked = sb) (W D T : Bytes) (hT : ∃ i, i < n ∧ gen i = T)
    (hset : ∀ w k d, H' w k d → w ≠ D ∧ if w = W then k = T ∧ d = now + idle else H w k d)
    (hst : sb = false → W = T ∧ D = q.ck)
    (hss : sb = true → W = D ∧ o.sc = some D ∧ ∀ k d, H q.sc k d → q.sc = D)
    (hnew : W ≠ D → lookup live T = some { deadline := now + idle, holder := o.sc }) :
    HeldOK gen idle n now sb H' (afterDel scfg q o live) := fun w k d hk => by
  obtain ⟨hwD, hk'⟩ := hset w k d hk
  -- the entry the live set has for the token, and `afterDel` leaves it alone
  suffices key : ((∃ i, i < n ∧ gen i = k) ∧ d ≤ now + idle ∧
      ∃ l, lookup live k = some l ∧ d ≤ l.deadline ∧ if sb then w ≠ [] ∧ l.holder = some w else w = k) ∧
      (delMine scfg q o live = true → k ≠ q.ck) by
    obtain ⟨⟨hi, hd, l, hl, hdl, a⟩, hkc⟩ := key
    refine ⟨hi, hd, l, ?_, hdl, a⟩
    unfold C16.afterDel
    split
    · rename_i hc
      simp only [Bool.and_eq_true] at hc
      rw [lookup_erase, if_neg (hkc hc.2), hl]
    · exact hl
  by_cases eW : w = W
  · rw [if_pos eW] at hk'
    obtain ⟨rfl, rfl⟩ := hk'
    have hWD : W ≠ D := fun e => hwD (eW.trans e)
    cases sb
    · obtain ⟨e1, e2⟩ := hst rfl
      exact ⟨⟨hT, Nat.le_refl _, _, hnew hWD, Nat.le_refl _, eW.trans e1⟩, fun _ e => hWD (e1.trans (e.trans e2.symm))⟩
    · exact absurd (hss rfl).1 hWD
  · rw [if_neg eW] at hk'
    refine ⟨h w k d hk', fun hm e => ?_⟩
    subst e
    obtain ⟨_, _, l, hl, _, a⟩ := h w q.ck d hk'
    cases sb
    · exact hwD (a.trans (hst rfl).2.symm)
    · obtain ⟨_, hsc, hq⟩ := hss rfl
      unfold delMine at hm
      rw [hl, hsb] at hm
      simp only [Bool.not_true, Bool.false_or, Bool.or_eq_true, decide_eq_true_eq, a.2] at hm
      rcases hm with hm | hm
      · obtain rfl : w = q.sc := Option.some.inj hm
        exact hwD (hq _ _ hk')
      · rw [hsc] at hm
        exact hwD (Option.some.inj hm)

theorem HeldOK.liveAt {s : SpecSt} (hS : HeldOK gen idle n now sb H s.live) (hnow : s.now = now)
    (hI : IssuedOK gen n s.issued) {w t : Bytes} {d0 : Nat} (h : H w t d0) (hd : now ≤ d0) :
    s.liveAt t = true ∧ t ∈ s.issued ∧ (sb = true → heldBy s t w = true) := by
  obtain ⟨hi, _, l, hl, hdl, a⟩ := hS w t d0 h
  refine ⟨?_, (hI t).mpr hi, fun hs => ?_⟩
  · unfold SpecSt.liveAt
    simp only [hl, decide_eq_true_eq]
    omega
  · rw [hs, if_pos rfl] at a
    unfold heldBy
    simp only [hl, a.2, decide_true]

end HeldOK

theorem held_of_probe (cfg : Cfg) (st : St) (hn : tableNodup cfg st) (it : LiveItem) (hit : it ∈ probe cfg st)
    (t : Bytes) (ht : it.tok = some t) :
    heldOf cfg st (if cfg.backend = .storage then t else it.sid) t it.deadline := by
  unfold probe at hit
  unfold heldOf
  unfold tableNodup at hn
  cases hb : cfg.backend <;> simp only [hb] at hit hn ⊢
  · obtain ⟨⟨k, d⟩, he, rfl⟩ := List.mem_map.mp hit
    cases ht
    exact ⟨rfl, mem_lookup _ _ _ hn (List.mem_filter.mp he).1⟩
  all_goals
    obtain ⟨⟨id, slot⟩, he, rfl⟩ := List.mem_map.mp hit
    cases slot with
    | none => cases ht
    | some tk =>
      cases ht
      exact mem_lookup _ _ _ hn he

/-- the storage probe lists unexpired entries only -/
theorem probe_of_held (cfg : Cfg) (st : St) (w t : Bytes) (d : Nat) (h : heldOf cfg st w t d)
    (hlive : cfg.backend = .storage → st.now < d) :
    ∃ it ∈ probe cfg st, it.tok = some t ∧ it.deadline = d := by
  unfold heldOf at h
  unfold probe
  cases hb : cfg.backend <;> simp only [hb] at h ⊢
  · exact ⟨_, List.mem_map.mpr ⟨(t, d), List.mem_filter.mpr ⟨lookup_mem _ _ _ h.2, by simpa using hlive hb⟩, rfl⟩,
      rfl, rfl⟩
  all_goals exact ⟨_, List.mem_map.mpr ⟨(w, some ⟨t, d⟩), lookup_mem _ _ _ h, rfl⟩, rfl, rfl⟩

theorem probeSound_held (cfg : Cfg) (gen : Nat → Bytes) (st : St) (s : SpecSt) (r : Resp) (sb : Bool)
    (hi : IssuedOK gen st.ntok s.issued) (hs : HeldOK gen cfg.idle st.ntok st.now sb (heldOf cfg st) s.live)
    (hn : tableNodup cfg st) : probeSound s (obsOf cfg st r) = true := by
  unfold probeSound obsOf
  simp only [List.all_eq_true]
  intro it hit
  cases ht : it.tok with
  | none => rfl
  | some t =>
    obtain ⟨hiss, _, l, hl, hdl, _⟩ := hs _ t _ (held_of_probe cfg st hn it hit t ht)
    have : t ∈ s.issued := (hi t).mpr hiss
    simp [this, hl, hdl]

theorem probeHas_held (cfg : Cfg) (st : St) (r : Resp) (w t : Bytes) (d m : Nat) (h : heldOf cfg st w t d)
    (hlive : cfg.backend = .storage → st.now < d) (hm : m ≤ d) : probeHas (obsOf cfg st r) t m = true := by
  obtain ⟨it, hit, h1, h2⟩ := probe_of_held cfg st w t d h hlive
  unfold probeHas obsOf
  simp only [List.any_eq_true]
  exact ⟨it, hit, by simp [h1, h2, hm]⟩

theorem sessOK_same (gen : Nat → Bytes) (idle n n' now : Nat) (sess sess' : List (Bytes × Option Tok))
    (live live' : List (Bytes × LiveTok))
    (hS : SessOK gen idle n now sess live) (hn : n ≤ n')
    (hlook : ∀ id, lookup sess' id = lookup sess id)
    (hkeep : ∀ id k d, lookup sess id = some (some ⟨k, d⟩) →
      ∃ l, lookup live' k = some l ∧ d ≤ l.deadline ∧ l.holder = some id) :
    SessOK gen idle n' now sess' live' := by
  intro id k d hk
  rw [hlook] at hk
  obtain ⟨h0, ⟨i, hi, he⟩, hd, _⟩ := hS id k d hk
  exact ⟨h0, ⟨i, by omega, he⟩, hd, hkeep id k d hk⟩

/-- how the token of the reply relates to the request: kept (the presented cookie, found live in the
    session `R`) or fresh (the next key of the generator) -/
def TokenOrigin (gen : Nat → Bytes) (ntok ntok' : Nat) (s : SpecSt) (sess : List (Bytes × Option Tok))
    (q : Req) (o : Obs) (token R : Bytes) : Prop :=
  (o.gens = [] ∧ ntok' = ntok ∧ token = q.ck ∧ s.liveAt token = true ∧
      ∃ d0, lookup sess R = some (some ⟨token, d0⟩)) ∨
  (o.gens = [token] ∧ ntok' = ntok + 1 ∧ token = gen ntok)

theorem TokenOrigin.issued {gen ntok ntok' s sess q o token R} {idle now : Nat}
    (h : TokenOrigin gen ntok ntok' s sess q o token R) (hS : SessOK gen idle ntok now sess s.live) :
    ∃ i, i < ntok' ∧ gen i = token := by
  rcases h with ⟨_, hn, _, _, d0, hd0⟩ | ⟨_, hn, e⟩
  · obtain ⟨_, hi, _⟩ := hS R token d0 hd0
    rw [hn]; exact hi
  · exact ⟨ntok, by omega, e.symm⟩

end C16
