import FiberModel.C16.Manager
/-
C16 — one request through `handleCore` refines the specification step and keeps the invariant,
whatever the back-end.

The method switch and `finishTail` are summed up once, in terms of the token table (`decide_table`,
`tail_table`, read off `DecideOut` / `TailOut` through the manager laws). The invariant `HeldOK` is then
carried along the stages of the specification step: behind the reach clause, behind the generated
keys, behind `DeleteToken` and the cookie.
-/
namespace C16
open B

/-- what the method switch leaves behind when it lets the request go on with the token `tok`
    (`[]` = none kept), whatever the back-end -/
structure Proceeded (cfg : Cfg) (q : Req) (c0 c1 : Ctx) (tok : Bytes) : Prop where
  /-- a token was kept, or an unsafe request let through: the cookie's token is held unexpired in the
      slot its writes go to -/
  found : tok ≠ [] ∨ isSafe q.method = false →
    ¬ getFault cfg q ∧ ∃ W d0, heldC cfg c0 W q.ck d0 ∧ c0.st.now ≤ d0 ∧ SlotFor cfg q c0 W q.ck
  /-- the switch adds nothing to the table -/
  sub : ∀ w k d, heldC cfg c1 w k d → heldC cfg c0 w k d
  gate : isSafe q.method = false → originGate cfg q = true ∧ extract cfg.ext q = some q.ck ∧ c1.fired = c0.fired
  /-- single use has emptied the slot the token was found in -/
  cleared : isSafe q.method = false → cfg.single = true → ∀ W, SlotFor cfg q c0 W q.ck → ∀ k d, ¬ heldC cfg c1 W k d

def Decided (cfg : Cfg) (q : Req) (c0 c1 : Ctx) : Decision → Prop
  | .reject _ _ => isSafe q.method = false ∧ SameTable cfg c0 c1
  | .proceed tok => Proceeded cfg q c0 c1 tok

theorem decide_table (cfg : Cfg) (sgen : Nat → Bytes) (hsgen : cfg.backend ≠ .storage → ∀ n, sgen n ≠ []) (q : Req)
    (c0 c1 : Ctx) (d : Decision) (hwf : Ready cfg c0) (hd : decide' cfg sgen q c0 = (c1, d)) :
    Ready cfg c1 ∧ (∀ W k, SlotFor cfg q c0 W k → SlotFor cfg q c1 W k) ∧ Decided cfg q c0 c1 d := by
  have hget := fun cg res => getRaw_spec cfg sgen hsgen q c0 cg q.ck res hwf
  have hns : ∀ {P : Prop}, isSafe q.method = true → isSafe q.method = false → P :=
    fun h h' => by rw [h] at h'; cases h'
  cases decide_out cfg sgen q c0 hd with
  | safeNoCookie hs =>
    exact ⟨hwf, fun _ _ h => h, fun h => h.elim (absurd rfl) (hns hs), fun _ _ _ h => h, hns hs, hns hs⟩
  | safeCookie hs _ ok hg =>
    have hl := hget c1 ok hg
    refine ⟨hl.ready, hl.keeps, ?_⟩
    by_cases hok : ok = some true
    · rw [if_pos hok]
      exact ⟨fun _ => hl.found hok, hl.same.sub, hns hs, hns hs⟩
    · rw [if_neg hok]
      exact ⟨fun h => h.elim (absurd rfl) (hns hs), hl.same.sub, hns hs, hns hs⟩
  | atOnce hu => exact ⟨hwf, fun _ _ h => h, hu, SameTable.refl _ _⟩
  | lookupNo hu _ _ hg =>
    have hl := hget c1 _ hg
    exact ⟨hl.ready, hl.keeps, hu, hl.same⟩
  | kept hu hgate he _ hg hsg =>
    have hl := hget c1 _ hg
    exact ⟨hl.ready, hl.keeps, fun _ => hl.found rfl, hl.same.sub, fun _ => ⟨hgate, he, hl.quiet nofun⟩,
      fun _ h => by rw [hsg] at h; cases h⟩
  | consumeFailed hu cg hg _ hd' =>
    have hl := hget cg _ hg
    have hw := delRaw_spec cfg sgen hsgen q cg c1 q.ck true hl.ready hd'
    exact ⟨hw.ready, fun W k h => hw.keeps W k (hl.keeps W k h), hu, hl.same.trans (hw.same rfl)⟩
  | consumed hu hgate he cg hg hsg _ hd' =>
    have hl := hget cg _ hg
    have hw := delRaw_spec cfg sgen hsgen q cg c1 q.ck false hl.ready hd'
    obtain ⟨W', ws, wB, _⟩ := hw.slot rfl
    refine ⟨hw.ready, fun W k h => hw.keeps W k (hl.keeps W k h), fun _ => hl.found rfl,
      fun w k d h => hl.same.sub w k d (ws.cleared h).2,
      fun _ => ⟨hgate, he, (hw.quiet rfl).trans (hl.quiet nofun)⟩, fun _ _ W hW k d h => ?_⟩
    -- the slot cleared is the one the request is bound to
    obtain rfl : W = W' := (hw.keeps W _ (hl.keeps W _ hW)).unique wB
    exact (ws.cleared h).1 rfl

/-- the ways `finishTail` can end, in terms of the table; `W` is the slot written -/
inductive Tailed (cfg : Cfg) (q : Req) (c : Ctx) (T : Bytes) (c2 : Ctx) (r2 : Resp) : Prop
  /-- an unsafe request is turned away: the table could not be written -/
  | away (hp : r2.pass = false) (hu : isSafe q.method = false) (hck : r2.ck = none) (hs : SameTable cfg c c2)
  /-- safe request, cookie set, nothing written (a fault) -/
  | unwritten (hp : r2.pass = true) (hsafe : isSafe q.method = true) (hck : r2.ck = some T)
      (hs : SameTable cfg c c2) (hf : c2.fired = true)
      (hsc : cfg.backend ≠ .storage → ∀ W, SlotFor cfg q c W T → ¬ getFault cfg q → scOf cfg c2 = some W)
  /-- safe request, a fault, and still the handler's DeleteToken cleared some slot -/
  | faultCleared (hp : r2.pass = true) (hsafe : isSafe q.method = true) (hck : r2.ck = some []) (hdel : q.del = true)
      (hf : c2.fired = true) (hs : ∀ w k d, heldC cfg c2 w k d → heldC cfg c w k d)
  /-- the token was written to slot `W` and the cookie carries it -/
  | written (hp : r2.pass = true) (hck : r2.ck = some T) (he : r2.early = c.fired) (W : Bytes)
      (hs : SlotSet cfg c c2 W (some (T, c.st.now + cfg.idle))) (hB : SlotFor cfg q c2 W T)
      (hk : ∀ W k, SlotFor cfg q c W k → SlotFor cfg q c2 W k)
      (hsc : cfg.backend ≠ .storage → W ≠ [] ∧ scOf cfg c2 = some W)
      (hnd : q.del = false ∨ q.ck = [] ∨ c2.fired = true)
  /-- the token was written to slot `W`, then the handler's DeleteToken cleared slot `D`: slot `D` is empty,
      slot `W` holds the token, the others are as before the write -/
  | cleared (hp : r2.pass = true) (hck : r2.ck = some []) (hdel : q.del = true)
      (he : r2.early = c.fired) (W D : Bytes)
      (hs : ∀ w k d, heldC cfg c2 w k d → w ≠ D ∧ if w = W then k = T ∧ d = c.st.now + cfg.idle else heldC cfg c w k d)
      (hB1 : SlotFor cfg q c2 W T) (hB2 : SlotFor cfg q c2 D q.ck)
      (hk : ∀ W k, SlotFor cfg q c W k → SlotFor cfg q c2 W k)
      (hsc : cfg.backend ≠ .storage → scOf cfg c2 = some D)

theorem tail_table (cfg : Cfg) (sgen : Nat → Bytes) (hsgen : cfg.backend ≠ .storage → ∀ n, sgen n ≠ []) (q : Req)
    (c : Ctx) (T : Bytes) (c2 : Ctx) (r2 : Resp) (hwf : Ready cfg c) (hft : finishTail cfg sgen q c T = (c2, r2)) :
    Ready cfg c2 ∧ Tailed cfg q c T c2 r2 := by
  have hset := fun cs err => setRaw_spec cfg sgen hsgen q c cs T err hwf
  -- a failed write under a session the request is bound to, which could be read: the reply's session is that one
  have hscF : ∀ {cs : Ctx}, Wrote cfg q c cs T (some (T, c.st.now + cfg.idle)) true → cfg.backend ≠ .storage →
      ∀ W, SlotFor cfg q c W T → ¬ getFault cfg q → scOf cfg cs = some W :=
    fun hw hb W hW hg => (hw.sc rfl hb W hW).elim (fun h => absurd h.1 hg) id
  -- the handler ran and `DeleteToken` was not called, or had no cookie to go by
  have hran : ∀ (err : Bool) (r : Resp), setRaw cfg sgen q c T = (c2, err) →
      (err = true → isSafe q.method = true) → r.pass = true → r.ck = some T → r.early = c2.fired →
      (q.del = false ∨ q.ck = []) → Ready cfg c2 ∧ Tailed cfg q c T c2 r := by
    intro err r hs herr hp hck he hnd
    have hw := hset c2 err hs
    cases err with
    | true => exact ⟨hw.ready, .unwritten hp (herr rfl) hck (hw.same rfl) (hw.fault rfl) (hscF hw)⟩
    | false =>
      obtain ⟨W, a2, a3, a4⟩ := hw.slot rfl
      exact ⟨hw.ready, .written hp hck (he.trans (hw.quiet rfl)) W a2 a3 hw.keeps a4 (hnd.imp id Or.inl)⟩
  cases tail_out cfg sgen q c T hft with
  | refused hu cs hs =>
    have hw := hset c2 _ hs
    exact ⟨hw.ready, .away rfl hu rfl (hw.same rfl)⟩
  | plain cs err hs herr hdel' => exact hran err _ hs herr rfl rfl rfl (Or.inl hdel')
  | delNoCookie cs err hs herr _ hck => exact hran err _ hs herr rfl rfl rfl (Or.inr hck)
  | delFailed cs err hs herr hdel' hck cd hd =>
    have hw := hset cs err hs
    have hv := delRaw_spec cfg sgen hsgen q cs c2 q.ck true hw.ready hd
    -- bound to `W`, the failed `DeleteToken` leaves the session cookie `W`'s
    have hsc : ∀ W, cfg.backend ≠ .storage → SlotFor cfg q cs W T → scOf cfg cs = some W → scOf cfg c2 = some W :=
      fun W hb hW h => (hv.sc rfl hb W (hW.indep hb _)).elim (fun g => g.2.trans h) id
    cases err with
    | true =>
      exact ⟨hv.ready, .unwritten rfl (herr rfl) rfl ((hw.same rfl).trans (hv.same rfl)) (hv.fault rfl)
        fun hb W hW hg => hsc W hb (hw.keeps W T hW) (hscF hw hb W hW hg)⟩
    | false =>
      obtain ⟨W, a2, a3, a4⟩ := hw.slot rfl
      exact ⟨hv.ready, .written rfl rfl (hw.quiet rfl) W (a2.then_same (hv.same rfl)) (hv.keeps W T a3)
        (fun W' k h => hv.keeps W' k (hw.keeps W' k h)) (fun hb => ⟨(a4 hb).1, hsc W hb a3 (a4 hb).2⟩)
        (Or.inr (Or.inr (hv.fault rfl)))⟩
  | deleted cs err hs herr hdel' hck cd hd =>
    have hw := hset cs err hs
    have hv := delRaw_spec cfg sgen hsgen q cs c2 q.ck false hw.ready hd
    obtain ⟨D, b2, b3, b4⟩ := hv.slot rfl
    cases err with
    | true =>
      exact ⟨hv.ready, .faultCleared rfl (herr rfl) rfl hdel' ((hv.quiet rfl).trans (hw.fault rfl))
        fun w k d h => (hw.same rfl).sub w k d (b2.cleared h).2⟩
    | false =>
      obtain ⟨W, a2, a3, _⟩ := hw.slot rfl
      exact ⟨hv.ready, .cleared rfl rfl hdel' (hw.quiet rfl) W D
        (fun w k d h => ⟨(b2.cleared h).1, a2.elim (b2.cleared h).2⟩) (hv.keeps W T a3) b3
        (fun W' k h => hv.keeps W' k (hw.keeps W' k h)) fun hb => (b4 hb).2⟩

/-- the end of a request: from the invariant over the table the request leaves, the store probe is
    sound and the states are related -/
theorem sim_end (cfg : Cfg) (gen : Nat → Bytes) (st : St) (s : SpecSt) (hnow : s.now = st.now) (c2 : Ctx) (r2 : Resp)
    (o : Obs) (live2 : List (Bytes × LiveTok)) (ho : obsOf cfg (ctxEnd cfg c2).st (assemble (ctxEnd cfg c2) r2) = o)
    (hwf : Ready cfg c2) (h1 : c2.st.now = st.now) (h2 : IssuedOK gen c2.st.ntok (s.issued ++ c2.gens))
    (h3 : HeldOK gen cfg.idle c2.st.ntok st.now (sessBacked cfg) (heldC cfg c2) live2) :
    probeSound { now := s.now, live := live2, issued := s.issued ++ o.gens } o = true ∧
    Inv cfg gen (ctxEnd cfg c2).st { now := s.now, live := live2, issued := s.issued ++ o.gens } := by
  obtain ⟨e1, e2, e3⟩ := ctxEnd_frame cfg c2
  have hS' : HeldOK gen cfg.idle (ctxEnd cfg c2).st.ntok (ctxEnd cfg c2).st.now (sessBacked cfg)
      (heldOf cfg (ctxEnd cfg c2).st) live2 := by
    rw [e2, e3, h1]
    exact h3
  have hI' : IssuedOK gen (ctxEnd cfg c2).st.ntok (s.issued ++ o.gens) := by
    rw [e3, ← ho]
    show IssuedOK gen _ (s.issued ++ (ctxEnd cfg c2).gens)
    rw [e1]
    exact h2
  rw [← ho]
  exact ⟨probeSound_held cfg gen _ _ _ _ (ho ▸ hI') hS' hwf.1,
    (inv_iff ..).mpr ⟨by rw [e2, h1]; exact hnow, ho ▸ hI', hS', hwf.1⟩⟩

theorem Proceeded.same {cfg : Cfg} {q : Req} {c0 c1 c1' : Ctx} {tok : Bytes} (h : Proceeded cfg q c0 c1 tok)
    (hs : SameTable cfg c1 c1') (hf : c1'.fired = c1.fired) : Proceeded cfg q c0 c1' tok :=
  ⟨h.found, fun w k d hk => h.sub w k d (hs.sub w k d hk),
    fun hu => ⟨(h.gate hu).1, (h.gate hu).2.1, hf.trans (h.gate hu).2.2⟩,
    fun hu hsg W hW k d hk => h.cleared hu hsg W hW k d (hs.sub W k d hk)⟩

/-- **From the method switch on.** The request started in `c0` (related states, `hS0`), the switch let it
    go on with `tok` and left `c1`, the token of the reply is `T` - the one the switch kept, or the
    generator's next key (`hT`; `c1` is then the context with that key counted) - and `finishTail` ends in
    `c2` with the answer `r2`: every clause of the specification step holds and the states stay related. -/
theorem finishTail_sim (raw : List Bytes) (cfg : Cfg)
    (hbuild : buildLoop raw [] [] = some (cfg.origins, cfg.subs))
    (gen sgen : Nat → Bytes) (hinj : cfg.backend ≠ .storage → Function.Injective gen)
    (hsgen : cfg.backend ≠ .storage → ∀ n, sgen n ≠ []) (hpos : cfg.backend = .storage → 0 < cfg.idle)
    (st : St) (s : SpecSt) (q : Req) (hnow : s.now = st.now) (hI : IssuedOK gen st.ntok s.issued)
    (c0 : Ctx) (h0 : Started cfg st q c0) (hn0 : c0.st.now = st.now)
    (hS0 : HeldOK gen cfg.idle st.ntok st.now (sessBacked cfg) (heldC cfg c0) s.live)
    (c1 : Ctx) (tok : Bytes) (hdec : Proceeded cfg q c0 c1 tok)
    (hB : ∀ W k, SlotFor cfg q c0 W k → SlotFor cfg q c1 W k) (hwf1 : Ready cfg c1)
    (hnow1 : c1.st.now = st.now) (hI1 : IssuedOK gen c1.st.ntok (s.issued ++ c1.gens))
    (T : Bytes) (hne : T ≠ [])
    (hT : (c1.gens = [] ∧ c1.st.ntok = st.ntok ∧ T = q.ck ∧ tok ≠ []) ∨
      (c1.gens = [T] ∧ c1.st.ntok = st.ntok + 1 ∧ T = gen st.ntok))
    (hSU : cfg.single = true → isSafe q.method = false → c1.gens = [T])
    (c2 : Ctx) (r2 : Resp) (hft : finishTail cfg sgen q c1 T = (c2, r2)) :
    ∃ s', specReqCore (specConfig cfg.backend cfg.ext cfg.single cfg.idle raw) s q
        (obsOf cfg (ctxEnd cfg c2).st (assemble (ctxEnd cfg c2) r2)) = .ok s' ∧
      Inv cfg gen (ctxEnd cfg c2).st s' := by
  have hinj' : sessBacked cfg = true → Function.Injective gen := fun h => hinj (of_decide_eq_true h)
  -- the specification's view of the configuration; its three fields the argument reads
  obtain ⟨scfg, hscfg⟩ : ∃ scfg, scfg = specConfig cfg.backend cfg.ext cfg.single cfg.idle raw := ⟨_, rfl⟩
  have hidle : scfg.idle = cfg.idle := by rw [hscfg]; rfl
  have hsingle : scfg.single = cfg.single := by rw [hscfg]; rfl
  have hsbk : scfg.sessionBacked = sessBacked cfg := by rw [hscfg]; rfl
  rw [← hscfg]
  have hsub1 := hdec.sub
  -- stage 1: the live set behind the reach clause covers the table behind the switch
  obtain ⟨live1, hl1⟩ : ∃ live1, live1 =
      if isSafe q.method then s.live else if cfg.single then erase s.live q.ck else s.live := ⟨_, rfl⟩
  have hS1 : HeldOK gen cfg.idle st.ntok st.now (sessBacked cfg) (heldC cfg c1) live1 := by
    rw [hl1]
    cases hsafe : isSafe q.method
    · cases hsg : cfg.single
      · exact hS0.mono (Nat.le_refl _) hsub1
      · -- a single-use token consumed has left the table: its slot is empty, and no other slot held it
        refine hS0.erase q.ck fun w k d h => ⟨hsub1 w k d h, fun e => ?_⟩
        obtain ⟨_, W, d0, h1, _, hW⟩ := hdec.found (Or.inr hsafe)
        obtain rfl : w = W := hS0.unique (e ▸ hsub1 w k d h) h1
        exact hdec.cleared hsafe hsg w hW k d h
    · exact hS0.mono (Nat.le_refl _) hsub1
  obtain ⟨hg2, hn2, hnt2⟩ := tail_frame cfg sgen q c1 T c2 r2 hft
  obtain ⟨hwf2, hshape⟩ := tail_table cfg sgen hsgen q c1 T c2 r2 hwf1 hft
  obtain ⟨e1, e2, _⟩ := ctxEnd_frame cfg c2
  have hnn : st.ntok ≤ c1.st.ntok := by rcases hT with ⟨_, h, _⟩ | ⟨_, h, _⟩ <;> omega
  -- a kept token: the slot that holds it, to which the request is bound
  have hfound : tok ≠ [] → ∃ W d0, heldC cfg c0 W q.ck d0 ∧ st.now ≤ d0 ∧
      SlotFor cfg q c1 W q.ck ∧ ¬ getFault cfg q := by
    intro h
    obtain ⟨gf, W, d0, h1, h2, h3⟩ := hdec.found (Or.inl h)
    exact ⟨W, d0, h1, hn0 ▸ h2, hB W _ h3, gf⟩
  have hTi : ∃ i, i < c1.st.ntok ∧ gen i = T := by
    rcases hT with ⟨_, h2, h3, h4⟩ | ⟨_, h2, h3⟩
    · obtain ⟨W, d0, h, _⟩ := hfound h4
      obtain ⟨hi, _⟩ := hS0 W q.ck d0 h
      rw [h2, h3]
      exact hi
    · exact ⟨st.ntok, by omega, h3.symm⟩
  -- session back-ends: no slot but the one its writes go to holds the token of the reply (kept: it
  -- sits in one slot only, the one it was found in; fresh: the generator never repeats)
  have hTslot : ∀ W, sessBacked cfg = true → (∀ W0, SlotFor cfg q c1 W0 T → W0 = W) →
      ∀ w d, heldC cfg c1 w T d → w = W := by
    intro W hsb hW w d hw
    rcases hT with ⟨_, _, h3, h4⟩ | ⟨_, _, h3⟩
    · obtain ⟨W0, d0, h, _, hB, _⟩ := hfound h4
      rw [h3] at hw hW
      exact (hS0.unique (hsub1 _ _ _ hw) h).trans (hW W0 hB)
    · exact (hS0.fresh (hinj' hsb) (hsub1 _ _ _ hw) h3).elim
  generalize hoeq : obsOf cfg (ctxEnd cfg c2).st (assemble (ctxEnd cfg c2) r2) = o
  have hog : o.gens = c1.gens := by rw [← hoeq]; exact e1.trans hg2
  have hosc : o.sc = scOf cfg c2 := by rw [← hoeq]; rfl
  have hock : o.ck = r2.ck := by rw [← hoeq]; rfl
  have hopass : o.pass = r2.pass := by rw [← hoeq]; rfl
  have hoearly : o.early = r2.early := by rw [← hoeq]; rfl
  have hofired : o.fired = c2.fired := by rw [← hoeq]; exact ctxEnd_fired cfg c2
  have hG : o.gens = [] ∨ o.gens = [gen st.ntok] := by
    rcases hT with ⟨h, _⟩ | ⟨h, _, e⟩
    · exact Or.inl (hog.trans h)
    · exact Or.inr (hog.trans (e ▸ h))
  -- stage 2: the live set once the generated keys are in still covers that table
  have hSG := (hS1.afterGens hinj' scfg
    { s with issued := s.issued ++ o.gens } o hidle hnow hG).mono hnn fun _ _ _ h => h
  have hiss : (s.issued ++ o.gens).contains T = true := by
    simp only [List.contains_eq_mem, decide_eq_true_eq]
    rw [hog]
    exact (hI1 T).mpr hTi
  have hkeep : ((T = q.ck && s.liveAt T) || o.gens.contains T) = true := by
    rcases hT with ⟨_, _, h3, h4⟩ | ⟨h1, _⟩
    · obtain ⟨W, d0, h, hd, _⟩ := hfound h4
      simp [h3, (hS0.liveAt hnow hI h hd).1]
    · simp [hog, h1]
  have hreach : o.pass = true → (isSafe q.method = false → o.early = false) →
      reachClause scfg { s with issued := s.issued ++ o.gens } q o = .ok live1 := by
    intro hp hearly
    rw [hscfg, hl1]
    refine reachClause_ran raw cfg hbuild s q o hp fun hu => ?_
    obtain ⟨hgate, hext, _⟩ := hdec.gate hu
    obtain ⟨_, W, d0, h1, h2, h3⟩ := hdec.found (Or.inr hu)
    obtain ⟨hla, hli, hby⟩ := hS0.liveAt hnow hI h1 (hn0 ▸ h2)
    exact ⟨hearly hu, hgate, hext, hla, hli, fun hb => h0.bound_sc hb W _ h3 ⟨_, _, h1⟩ ▸ hby (decide_eq_true hb)⟩
  -- an unsafe request that got this far has seen no fault
  have hearly : isSafe q.method = false → c1.fired = false :=
    fun hu => (hdec.gate hu).2.2.trans h0.quiet
  -- the handler ran: the reach clause, then the cookie clause and the invariant from the outcome's shape
  have hran : r2.pass = true → (isSafe q.method = false → o.early = false) →
      (∃ live2, cookieClause scfg { s with issued := s.issued ++ o.gens } q o
          (afterDel scfg q o (afterGens scfg { s with issued := s.issued ++ o.gens } o live1)) = .ok live2 ∧
        HeldOK gen cfg.idle c1.st.ntok st.now (sessBacked cfg) (heldC cfg c2) live2) →
      ∃ s', specReqCore scfg s q o = .ok s' ∧ Inv cfg gen (ctxEnd cfg c2).st s' := by
    rintro hp he ⟨live2, hcc, hS2⟩
    obtain ⟨hps, hinv'⟩ := sim_end cfg gen st s hnow c2 r2 o live2 hoeq hwf2 (hn2.trans hnow1)
      (by rw [hnt2, hg2]; exact hI1) (by rw [hnt2]; exact hS2)
    exact ⟨_, specReqCore_intro _ s q o live1 live2 (hreach (hopass.trans hp) he)
      (by rw [if_pos (hopass.trans hp)]; exact hcc) hps, hinv'⟩
  -- the reply's cookie carries the token: the specification restarts its lifetime
  have hcookie : ∀ (L : List (Bytes × LiveTok)), r2.ck = some T →
      (isSafe q.method = true → o.fired = false → probeHas o T (s.now + scfg.idle) = true) →
      cookieClause scfg { s with issued := s.issued ++ o.gens } q o L =
        .ok (put L T { deadline := st.now + cfg.idle, holder := o.sc }) := fun L hck hprobe => by
    rw [← hnow, ← hidle]
    exact cookie_some _ { s with issued := s.issued ++ o.gens } q o L T (hock.trans hck) hne hiss hkeep
      (fun h1 h2 => by rw [hog, hSU (hsingle ▸ h1) h2]; simp) hprobe
  cases hshape with
  | away hp hu hck hs =>
    obtain ⟨hps, hinv'⟩ := sim_end cfg gen st s hnow c2 r2 o s.live hoeq hwf2 (hn2.trans hnow1)
      (by rw [hnt2, hg2]; exact hI1)
      (by rw [hnt2]; exact hS0.mono hnn fun w k d h => hsub1 w k d (hs.sub w k d h))
    exact ⟨_, specReqCore_rejected _ s q o hu (hopass.trans hp) (Or.inl (hock.trans hck)) hps, hinv'⟩
  | unwritten hp hsafe hck hs hf hsc =>
    -- the table is as it was; the specification restarts the token's lifetime, handing it to the
    -- reply's session: that of the slot a kept token sits in
    have hofd : o.fired = true := hofired.trans hf
    refine hran hp (fun h => absurd (h.symm.trans hsafe) (by decide)) (Exists.intro ?wU ⟨?ccU, ?hhU⟩)
    case ccU =>
      rw [afterDel_id _ _ _ _ (Or.inr (Or.inr hofd))]
      exact hcookie _ hck fun _ h => by rw [hofd] at h; cases h
    case hhU =>
      refine (hSG.put_live T o.sc fun hsb w d hw => ?_).mono (Nat.le_refl _) hs.sub
      have hb : cfg.backend ≠ .storage := of_decide_eq_true hsb
      rcases hT with ⟨_, _, h3, h4⟩ | ⟨_, _, h3⟩
      · obtain ⟨W0, d0, h, _, hB, gf⟩ := hfound h4
        rw [hosc, hsc hb W0 (h3 ▸ hB) gf, hTslot W0 hsb (fun W' h' => h'.unique (h3 ▸ hB)) w d hw]
      · exact (hS0.fresh (hinj' hsb) (hsub1 _ _ _ hw) h3).elim
  | faultCleared hp hsafe hck hdel hf hs =>
    refine hran hp (fun h => absurd (h.symm.trans hsafe) (by decide)) ⟨_, ?_, hSG.mono (Nat.le_refl _) hs⟩
    rw [afterDel_id _ _ _ _ (Or.inr (Or.inr (hofired.trans hf)))]
    exact cookie_exp _ _ q o _ (hock.trans hck) hdel
  | written hp hck he W hs hB hk hsc hnd =>
    rw [hnow1] at hs
    refine hran hp (fun hu => by rw [hoearly, he]; exact hearly hu) (Exists.intro ?wW ⟨?ccW, ?hhW⟩)
    case ccW =>
      rw [afterDel_id _ _ _ _ (hnd.imp id (Or.imp id fun h => hofired.trans h))]
      refine hcookie _ hck fun _ _ => ?_
      rw [← hoeq, hnow, hidle]
      exact probeHas_held cfg _ _ W T _ _ hs.self
        (fun hb => by rw [e2, hn2, hnow1]; have := hpos hb; omega) (Nat.le_refl _)
    case hhW =>
      refine hSG.write W T o.sc hTi ?_ (fun w k d h => hs.elim h) fun hsb w d hne hw =>
        hne (hTslot W hsb (fun W0 h => (hk W0 T h).unique hB) w d hw)
      by_cases hb : cfg.backend = .storage
      · simp only [sessBacked, hb, ne_eq, not_true_eq_false, decide_false, Bool.false_eq_true, if_false]
        exact hB.store hb
      · simp only [sessBacked, ne_eq, hb, not_false_eq_true, decide_true, if_true]
        exact ⟨(hsc hb).1, hosc.trans (hsc hb).2⟩
  | cleared hp hck hdel he W D hs hB1 hB2 hk hsc =>
    rw [hnow1] at hs
    refine hran hp (fun hu => by rw [hoearly, he]; exact hearly hu)
      ⟨_, cookie_exp _ _ q o _ (hock.trans hck) hdel, hSG.afterDel scfg q o hsbk W D T hTi hs
        (fun hsb => ?_) (fun hsb => ?_) fun hWD => ?_⟩
    · have hb : cfg.backend = .storage := by simpa [sessBacked] using hsb
      exact ⟨hB1.store hb, hB2.store hb⟩
    · have hb : cfg.backend ≠ .storage := of_decide_eq_true hsb
      refine ⟨(hB1.indep hb _).unique hB2, hosc.trans (hsc hb), fun k d hq => ?_⟩
      -- the session the cookie names holds a token: the request was bound to it from the start
      have hne : q.sc ≠ [] := by
        have := (hSG q.sc k d hq).2.2
        obtain ⟨l, _, _, a⟩ := this
        rw [hsb, if_pos rfl] at a
        exact a.1
      exact (hk _ _ (hB _ _ (h0.sc_bound hb hne ⟨_, _, h0.sub _ _ _ (hsub1 _ _ _ hq)⟩ q.ck))).unique hB2
    · -- the written token survives another token's deletion (storage): it is not the cookie's, so
      -- it is a fresh key, which the live set has from `afterGens`
      have hb : cfg.backend = .storage := Decidable.byContradiction fun hb =>
        hWD ((hB1.indep hb _).unique hB2)
      have hfresh : o.gens = [T] := by
        rcases hT with ⟨_, _, h3, _⟩ | ⟨h, _⟩
        · exact absurd ((hB1.store hb).trans (h3.trans (hB2.store hb).symm)) hWD
        · exact hog.trans h
      unfold afterGens
      rw [hfresh, List.foldl_cons, List.foldl_nil, lookup_put_self, hnow, hidle]

/-- **One request, every back-end.** From related states the model's answer satisfies every clause of
    the specification step, and the states stay related. Each assumption is asked only of the back-ends
    that need it: a generator that never repeats and non-empty session ids of the session back-ends
    (one key must not sit in two sessions), a positive idle timeout of the storage back-end (whose
    probe lists unexpired entries only). -/
theorem handleCore_sim (raw : List Bytes) (cfg : Cfg)
    (hbuild : buildLoop raw [] [] = some (cfg.origins, cfg.subs))
    (gen sgen : Nat → Bytes) (hgen : ∀ n, gen n ≠ [])
    (hinj : cfg.backend ≠ .storage → Function.Injective gen)
    (hsgen : cfg.backend ≠ .storage → ∀ n, sgen n ≠ []) (hpos : cfg.backend = .storage → 0 < cfg.idle)
    (st : St) (s : SpecSt) (q : Req) (hinv : Inv cfg gen st s) :
    ∃ s', specReqCore (specConfig cfg.backend cfg.ext cfg.single cfg.idle raw) s q
        (obsOf cfg (handleCore cfg gen sgen st q).1 (handleCore cfg gen sgen st q).2) = .ok s' ∧
      Inv cfg gen (handleCore cfg gen sgen st q).1 s' := by
  obtain ⟨hnow, hI, hS, hN⟩ := (inv_iff cfg gen st s).mp hinv
  have h0 := ctx0_spec cfg sgen hsgen st q hN
  obtain ⟨hg0, hn0, hnt0⟩ := ctx0_frame cfg sgen st q
  rcases hd : decide' cfg sgen q (ctx0 cfg sgen st q) with ⟨c1, d⟩
  obtain ⟨hwf1, hB01, hdec⟩ := decide_table cfg sgen hsgen q _ c1 d h0.ready hd
  obtain ⟨hg1, hn1, hnt1⟩ := decide_frame cfg sgen q _ c1 d hd
  have hS0 : HeldOK gen cfg.idle st.ntok st.now (sessBacked cfg) (heldC cfg (ctx0 cfg sgen st q)) s.live :=
    hS.mono (Nat.le_refl _) h0.sub
  have hc1g : c1.gens = [] := hg1.trans hg0
  have hc1n : c1.st.ntok = st.ntok := hnt1.trans hnt0
  cases d with
  | reject e er =>
    rw [handleCore_reject cfg gen sgen st q c1 e er hd]
    obtain ⟨hu, hs01⟩ := hdec
    obtain ⟨hps, hinv'⟩ := sim_end cfg gen st s hnow c1 _ _ s.live rfl hwf1 (hn1.trans hn0)
      (by rw [hc1g, hc1n, List.append_nil]; exact hI)
      (by rw [hc1n]; exact hS0.mono (Nat.le_refl _) hs01.sub)
    exact ⟨_, specReqCore_rejected _ s q _ hu rfl (by cases e; exact Or.inl rfl; exact Or.inr rfl) hps, hinv'⟩
  | proceed tok =>
    rcases hf : finish cfg gen sgen q c1 tok with ⟨c2, r2⟩
    rw [handleCore_proceed cfg gen sgen st q c1 c2 tok r2 hd hf]
    have hdec : Proceeded cfg q (ctx0 cfg sgen st q) c1 tok := hdec
    have tail := finishTail_sim raw cfg hbuild gen sgen hinj hsgen hpos st s q hnow hI _ h0 hn0 hS0
    -- the token of the reply: the generator's next key, or the one the switch kept
    by_cases htok : tok = []
    · subst htok
      rw [finish_fresh] at hf
      obtain ⟨b1, b2, b3, b4⟩ := bump_spec cfg q c1 (c1.st.ntok + 1) (c1.gens ++ [gen c1.st.ntok])
      refine tail _ [] (hdec.same b1 b4) (fun W k h => b3 W k (hB01 W k h)) (b2 hwf1) (hn1.trans hn0) ?_ _ (hgen _)
        (Or.inr ⟨by simp [hc1g], by simp [hc1n], by rw [hc1n]⟩) (fun _ _ => by simp [hc1g]) c2 r2 hf
      show IssuedOK gen (c1.st.ntok + 1) (s.issued ++ (c1.gens ++ [gen c1.st.ntok]))
      rw [hc1g, hc1n]
      exact issuedOK_append gen _ _ hI
    · rw [finish_kept _ _ _ _ _ _ htok] at hf
      obtain ⟨hck, hsu⟩ := decide_kept cfg sgen q _ c1 tok hd htok
      exact tail c1 tok hdec hB01 hwf1 (hn1.trans hn0) (by rw [hc1g, hc1n, List.append_nil]; exact hI) tok htok
        (Or.inl ⟨hc1g, hc1n, hck, htok⟩) (fun hsg hu => by rw [hsu hsg] at hu; cases hu) c2 r2 hf

/-- **One request, storage back-end** (`Config.Storage` / built-in memory): any session-id generator
    will do, and the key generator may repeat itself. -/
theorem sim_storage (raw : List Bytes) (cfg : Cfg)
    (hbuild : buildLoop raw [] [] = some (cfg.origins, cfg.subs))
    (gen sgen : Nat → Bytes) (hgen : ∀ n, gen n ≠ []) (hpos : 0 < cfg.idle) (hb : cfg.backend = .storage)
    (st : St) (s : SpecSt) (q : Req)
    (hnow : s.now = st.now) (hI : IssuedOK gen st.ntok s.issued)
    (hS : StoreOK gen cfg.idle st.ntok st.now st.store s.live) (hN : keysNodup st.store)
    (st' : St) (r : Resp) (hh : handleCore cfg gen sgen st q = (st', r)) :
    ∃ s', specReqCore (specConfig cfg.backend cfg.ext cfg.single cfg.idle raw) s q (obsOf cfg st' r) = .ok s' ∧
      s'.now = st'.now ∧ IssuedOK gen st'.ntok s'.issued ∧
      StoreOK gen cfg.idle st'.ntok st'.now st'.store s'.live ∧ keysNodup st'.store := by
  obtain ⟨s', h1, h2, h3, h4⟩ := handleCore_sim raw cfg hbuild gen sgen hgen (fun h => absurd hb h)
    (fun h => absurd hb h) (fun _ => hpos) st s q ⟨hnow, hI, by simp only [hb]; exact ⟨hS, hN⟩⟩
  rw [hh] at h1 h2 h3 h4
  simp only [hb] at h4
  exact ⟨s', h1, h2, h3, h4⟩

theorem sim_mw (raw : List Bytes) (cfg : Cfg)
    (hbuild : buildLoop raw [] [] = some (cfg.origins, cfg.subs))
    (gen sgen : Nat → Bytes) (hgen : ∀ n, gen n ≠ []) (hinj : Function.Injective gen)
    (hsgen : ∀ n, sgen n ≠ []) (hb : cfg.backend = .sessMw)
    (st : St) (s : SpecSt) (q : Req)
    (hnow : s.now = st.now) (hI : IssuedOK gen st.ntok s.issued)
    (hS : SessOK gen cfg.idle st.ntok st.now st.sess s.live) (hN : keysNodup st.sess)
    (st' : St) (r : Resp) (hh : handleCore cfg gen sgen st q = (st', r)) :
    ∃ s', specReqCore (specConfig cfg.backend cfg.ext cfg.single cfg.idle raw) s q (obsOf cfg st' r) = .ok s' ∧
      s'.now = st'.now ∧ IssuedOK gen st'.ntok s'.issued ∧
      SessOK gen cfg.idle st'.ntok st'.now st'.sess s'.live ∧ keysNodup st'.sess := by
  obtain ⟨s', h1, h2, h3, h4⟩ := handleCore_sim raw cfg hbuild gen sgen hgen (fun _ => hinj) (fun _ => hsgen)
    (fun h => by rw [hb] at h; cases h) st s q ⟨hnow, hI, by simp only [hb]; exact ⟨hS, hN⟩⟩
  rw [hh] at h1 h2 h3 h4
  simp only [hb] at h4
  exact ⟨s', h1, h2, h3, h4⟩

theorem sim_ss (raw : List Bytes) (cfg : Cfg)
    (hbuild : buildLoop raw [] [] = some (cfg.origins, cfg.subs))
    (gen sgen : Nat → Bytes) (hgen : ∀ n, gen n ≠ []) (hinj : Function.Injective gen)
    (hsgen : ∀ n, sgen n ≠ []) (hb : cfg.backend = .sessStore)
    (st : St) (s : SpecSt) (q : Req)
    (hnow : s.now = st.now) (hI : IssuedOK gen st.ntok s.issued)
    (hS : SessOK gen cfg.idle st.ntok st.now st.sess s.live) (hN : keysNodup st.sess)
    (st' : St) (r : Resp) (hh : handleCore cfg gen sgen st q = (st', r)) :
    ∃ s', specReqCore (specConfig cfg.backend cfg.ext cfg.single cfg.idle raw) s q (obsOf cfg st' r) = .ok s' ∧
      s'.now = st'.now ∧ IssuedOK gen st'.ntok s'.issued ∧
      SessOK gen cfg.idle st'.ntok st'.now st'.sess s'.live ∧ keysNodup st'.sess := by
  obtain ⟨s', h1, h2, h3, h4⟩ := handleCore_sim raw cfg hbuild gen sgen hgen (fun _ => hinj) (fun _ => hsgen)
    (fun h => by rw [hb] at h; cases h) st s q ⟨hnow, hI, by simp only [hb]; exact ⟨hS, hN⟩⟩
  rw [hh] at h1 h2 h3 h4
  simp only [hb] at h4
  exact ⟨s', h1, h2, h3, h4⟩

end C16
