import FiberModel.C16.Simulate
import FiberModel.C16.Front
/-
C16 — the refinement: one request through `handle` (the core step of Simulate.lean, a request `Next`
exempts, the cookie attributes, the ErrorHandler status), and whole histories by one induction
(`run_keeps`) from the invariant at the empty state and across a clock advance.
-/

namespace C16
open B

theorem inv_init (cfg : Cfg) (gen : Nat → Bytes) : Inv cfg gen {} specInit :=
  (inv_iff ..).mpr ⟨rfl, fun t => by simp [specInit],
    fun w k d h => by unfold heldOf at h; cases hb : cfg.backend <;> simp [hb, lookup] at h,
    by unfold tableNodup; cases cfg.backend <;> simp [keysNodup]⟩

theorem inv_adv (cfg : Cfg) (gen : Nat → Bytes) (st : St) (s : SpecSt) (d : Nat) (h : Inv cfg gen st s) :
    Inv cfg gen { st with now := st.now + d } { s with now := s.now + d } := by
  obtain ⟨h1, h2, h3, h4⟩ := (inv_iff ..).mp h
  exact (inv_iff ..).mpr ⟨by simp [h1], h2, h3.adv d, h4⟩

/-- What is assumed of the two generators: keys and session ids are never empty, and (needed for the
    session back-ends only, where one key must not sit in two sessions) keys are never repeated. -/
structure GenOK (cfg : Cfg) (gen sgen : Nat → Bytes) : Prop where
  key_nonempty : ∀ n, gen n ≠ []
  key_fresh : cfg.backend ≠ .storage → Function.Injective gen
  sid_nonempty : ∀ n, sgen n ≠ []

theorem handleCore_refines (raw : List Bytes) (cfg : Cfg)
    (hbuild : buildLoop raw [] [] = some (cfg.origins, cfg.subs))
    (gen sgen : Nat → Bytes) (hgen : GenOK cfg gen sgen) (hpos : 0 < cfg.idle)
    (st : St) (s : SpecSt) (q : Req) (hinv : Inv cfg gen st s) :
    ∃ s', specReqCore (specConfig cfg.backend cfg.ext cfg.single cfg.idle raw) s q
        (obsOf cfg (handleCore cfg gen sgen st q).1 (handleCore cfg gen sgen st q).2) = .ok s' ∧
      Inv cfg gen (handleCore cfg gen sgen st q).1 s' :=
  handleCore_sim raw cfg hbuild gen sgen hgen.key_nonempty hgen.key_fresh (fun _ => hgen.sid_nonempty) (fun _ => hpos)
    st s q hinv

theorem skippedS_eq (cfg : Cfg) (raw : List Bytes) (q : Req) :
    skippedS (specConfig cfg.backend cfg.ext cfg.single cfg.idle raw cfg.next cfg.cookie cfg.eh) q = skipped cfg q := rfl

theorem handle_of_not_skipped (cfg : Cfg) (gen sgen : Nat → Bytes) (st : St) (q : Req) (h : skipped cfg q = false) :
    handle cfg gen sgen st q = handleCore cfg gen sgen st q := by
  unfold handle; simp [h]

theorem handle_of_skipped (cfg : Cfg) (gen sgen : Nat → Bytes) (st : St) (q : Req) (h : skipped cfg q = true) :
    handle cfg gen sgen st q = handleSkip cfg sgen st q := by
  unfold handle; simp [h]

theorem Inv.probeSound {cfg : Cfg} {gen : Nat → Bytes} {st : St} {s : SpecSt} (h : Inv cfg gen st s) (r : Resp) :
    probeSound s (obsOf cfg st r) = true := by
  obtain ⟨_, h2, h3, h4⟩ := (inv_iff ..).mp h
  exact probeSound_held cfg gen st s r _ h2 h3 h4

/-- **One request that `Next` exempts**: the handler is reached, nothing is issued or set, the store
    still holds nothing it should not, and the states stay related. -/
theorem handleSkip_refines (cfg : Cfg) (gen sgen : Nat → Bytes) (hsgen : ∀ n, sgen n ≠ [])
    (st : St) (s : SpecSt) (q : Req) (hinv : Inv cfg gen st s) :
    specSkip s (obsOf cfg (handleSkip cfg sgen st q).1 (handleSkip cfg sgen st q).2) = .ok s ∧
      Inv cfg gen (handleSkip cfg sgen st q).1 s := by
  obtain ⟨h1, h2, h3, h4⟩ := (inv_iff ..).mp hinv
  -- only a session middleware in front does anything (load, save): the table keeps its tokens
  have h0 := ctx0_spec cfg sgen (fun _ => hsgen) st q h4
  obtain ⟨_, hn, hnt⟩ := ctx0_frame cfg sgen st q
  obtain ⟨_, e2, e3⟩ := ctxEnd_frame cfg (ctx0 cfg sgen st q)
  have hinv' : Inv cfg gen (handleSkip cfg sgen st q).1 s := by
    rw [handleSkip_eq]
    exact (inv_iff ..).mpr ⟨by rw [e2, hn]; exact h1, by rw [e3, hnt]; exact h2,
      by rw [e2, e3, hn, hnt]; exact h3.mono (Nat.le_refl _) h0.sub, h0.ready.1⟩
  refine ⟨?_, hinv'⟩
  have hg : (obsOf cfg (handleSkip cfg sgen st q).1 (handleSkip cfg sgen st q).2).gens = [] :=
    handleSkip_gens cfg sgen st q
  unfold specSkip
  rw [hinv'.probeSound _, hg]
  rfl

/-- **One request.** From related states, the model's answer passes every clause of the
    specification step and the successor states are related again. -/
theorem handle_refines (raw : List Bytes) (cfg : Cfg)
    (hbuild : buildLoop raw [] [] = some (cfg.origins, cfg.subs))
    (gen sgen : Nat → Bytes) (hgen : GenOK cfg gen sgen) (hpos : 0 < cfg.idle)
    (st : St) (s : SpecSt) (q : Req) (hinv : Inv cfg gen st s) :
    ∃ s', specReq (specConfig cfg.backend cfg.ext cfg.single cfg.idle raw cfg.next cfg.cookie cfg.eh) s q
        (obsOf cfg (handle cfg gen sgen st q).1 (handle cfg gen sgen st q).2) = .ok s' ∧
      Inv cfg gen (handle cfg gen sgen st q).1 s' := by
  cases hs : skipped cfg q
  · rw [handle_of_not_skipped cfg gen sgen st q hs]
    obtain ⟨s', hs', hinv'⟩ := handleCore_refines raw cfg hbuild gen sgen hgen hpos st s q hinv
    refine ⟨s', ?_, hinv'⟩
    have hnow : (handleCore cfg gen sgen st q).1.now = s.now := by
      rw [← hinv'.now, (specReqCore_issued _ s q _ s' hs').2]
    have heh : ehClause (specConfig cfg.backend cfg.ext cfg.single cfg.idle raw cfg.next cfg.cookie cfg.eh)
        (obsOf cfg (handleCore cfg gen sgen st q).1 (handleCore cfg gen sgen st q).2) = true := by
      unfold ehClause
      cases hp : (handleCore cfg gen sgen st q).2.pass
      · obtain ⟨e, he⟩ := handleCore_reject_status cfg gen sgen st q hp
        have hm : e ∈ allErrs := by cases e <;> simp [allErrs]
        simp only [obsOf, hp, Bool.false_or, List.any_eq_true, beq_iff_eq]
        exact ⟨e, hm, he.symm⟩
      · simp [obsOf, hp]
    unfold specReq
    rw [skippedS_eq, hs, attrsClause_obsOf cfg raw _ _ s.now hnow, heh]
    simp only [Bool.false_eq_true, if_false, Bool.not_true]
    exact (specReqCore_front (specConfig cfg.backend cfg.ext cfg.single cfg.idle raw) cfg.next cfg.cookie cfg.eh
      s q _).trans hs'
  · rw [handle_of_skipped cfg gen sgen st q hs]
    obtain ⟨h1, h2⟩ := handleSkip_refines cfg gen sgen hgen.sid_nonempty st s q hinv
    refine ⟨s, ?_, h2⟩
    unfold specReq
    rw [skippedS_eq, hs]
    simp only [if_true]
    exact h1

theorem run_cons (cfg : Cfg) (gen sgen : Nat → Bytes) (st : St) (o : Op) (os : List Op) :
    (run cfg gen sgen st (o :: os)).1 = (run cfg gen sgen (step cfg gen sgen st o).1 os).1 := by
  simp [run]

theorem run_append (cfg : Cfg) (gen sgen : Nat → Bytes) (st : St) (a b : List Op) :
    (run cfg gen sgen st (a ++ b)).1 = (run cfg gen sgen (run cfg gen sgen st a).1 b).1 := by
  induction a generalizing st with
  | nil => rfl
  | cons o os ih => simp only [List.cons_append, run_cons]; exact ih _

theorem specEnd_append (scfg : SpecCfg) (cfg : Cfg) (gen sgen : Nat → Bytes) (st : St) (s : SpecSt)
    (a b : List Op) :
    specEnd scfg s (a ++ b) (runObs cfg gen sgen st (a ++ b)) =
      (specEnd scfg s a (runObs cfg gen sgen st a)).bind fun s1 =>
        specEnd scfg s1 b (runObs cfg gen sgen (run cfg gen sgen st a).1 b) := by
  induction a generalizing st s with
  | nil => rfl
  | cons o os ih =>
    simp only [List.cons_append, run_cons]
    cases o with
    | adv d =>
      simp only [runObs, step, specEnd]
      exact ih _ _
    | req q =>
      simp only [runObs, step, Option.map, specEnd]
      cases specReq scfg s q (obsOf cfg (handle cfg gen sgen st q).1 (handle cfg gen sgen st q).2) with
      | error e => rfl
      | ok s' => exact ih _ _

theorem specEnd_one (scfg : SpecCfg) (cfg : Cfg) (gen sgen : Nat → Bytes) (st : St) (s s' : SpecSt) (q : Req)
    (h : specReq scfg s q (obsOf cfg (handle cfg gen sgen st q).1 (handle cfg gen sgen st q).2) = .ok s') :
    specEnd scfg s [.req q] (runObs cfg gen sgen st [.req q]) = some s' := by
  simp only [runObs, step, Option.map, specEnd, h]

theorem specRun_of_specEnd (scfg : SpecCfg) (ops : List Op) (s : SpecSt) (obs : List (Option Obs)) (s' : SpecSt)
    (h : specEnd scfg s ops obs = some s') : specRun scfg s ops obs = none := by
  -- the two run through history and observations alike: 1 end, 2 advance, 3 clause violated, 4 step accepted, 5 shapes differ
  fun_induction specEnd scfg s ops obs with
  | case1 => rfl
  | case2 _ _ _ _ _ ih => exact ih h
  | case3 => cases h
  | case4 _ _ _ _ _ _ he ih => rw [specRun, he]; exact ih h
  | case5 => cases h

/-- **Whole histories**, from any related pair of states: the specification follows the model's
    observations to the end, the states it ends in are related, and whatever `J` every clock advance
    and every accepted step keep true of the specification state still holds. -/
theorem run_keeps (raw : List Bytes) (cfg : Cfg)
    (hbuild : buildLoop raw [] [] = some (cfg.origins, cfg.subs))
    (gen sgen : Nat → Bytes) (hgen : GenOK cfg gen sgen) (hpos : 0 < cfg.idle) (J : SpecSt → Prop)
    (hadv : ∀ s d, J s → J { s with now := s.now + d })
    (hreq : ∀ st s q s', Inv cfg gen st s → J s →
      specReq (specConfig cfg.backend cfg.ext cfg.single cfg.idle raw cfg.next cfg.cookie cfg.eh) s q
        (obsOf cfg (handle cfg gen sgen st q).1 (handle cfg gen sgen st q).2) = .ok s' → J s')
    (ops : List Op) (st : St) (s : SpecSt) (hinv : Inv cfg gen st s) (hJ : J s) :
    ∃ s', specEnd (specConfig cfg.backend cfg.ext cfg.single cfg.idle raw cfg.next cfg.cookie cfg.eh) s ops (runObs cfg gen sgen st ops) = some s' ∧
      Inv cfg gen (run cfg gen sgen st ops).1 s' ∧ J s' := by
  induction ops generalizing st s with
  | nil => exact ⟨s, rfl, hinv, hJ⟩
  | cons o os ih =>
    rw [run_cons]
    cases o with
    | adv d =>
      simp only [runObs, step, specEnd]
      exact ih _ _ (inv_adv cfg gen st s d hinv) (hadv s d hJ)
    | req q =>
      obtain ⟨s', hs, hinv'⟩ := handle_refines raw cfg hbuild gen sgen hgen hpos st s q hinv
      simp only [runObs, step, Option.map, specEnd, hs]
      exact ih _ _ hinv' (hreq st s q s' hinv hJ hs)

theorem run_refines (raw : List Bytes) (cfg : Cfg)
    (hbuild : buildLoop raw [] [] = some (cfg.origins, cfg.subs))
    (gen sgen : Nat → Bytes) (hgen : GenOK cfg gen sgen) (hpos : 0 < cfg.idle)
    (ops : List Op) (st : St) (s : SpecSt) (hinv : Inv cfg gen st s) :
    specRun (specConfig cfg.backend cfg.ext cfg.single cfg.idle raw cfg.next cfg.cookie cfg.eh) s ops (runObs cfg gen sgen st ops) = none := by
  obtain ⟨s', h, _⟩ := run_keeps raw cfg hbuild gen sgen hgen hpos (fun _ => True) (fun _ _ _ => trivial)
    (fun _ _ _ _ _ _ _ => trivial) ops st s hinv trivial
  exact specRun_of_specEnd _ _ _ _ _ h

/-- `runObs` observes exactly the responses of `run` -/
theorem runObs_resp (cfg : Cfg) (gen sgen : Nat → Bytes) (st : St) (ops : List Op) :
    (runObs cfg gen sgen st ops).map (Option.map fun o => (o.pass, o.status, o.ck, o.sc, o.gens, o.sgens, o.fired, o.early)) =
    (run cfg gen sgen st ops).2.map
      (Option.map fun r => (r.pass, r.status, r.ck, r.sc, r.gens, r.sgens, r.fg || r.fs || r.fd, r.early)) := by
  induction ops generalizing st with
  | nil => rfl
  | cons o os ih =>
    simp only [runObs, run, List.map_cons]
    rw [ih]
    cases o <;> simp [step, obsOf]

theorem run_refines_end (raw : List Bytes) (cfg : Cfg)
    (hbuild : buildLoop raw [] [] = some (cfg.origins, cfg.subs))
    (gen sgen : Nat → Bytes) (hgen : GenOK cfg gen sgen) (hpos : 0 < cfg.idle)
    (ops : List Op) (st : St) (s : SpecSt) (hinv : Inv cfg gen st s) (hli : LiveIssued s) :
    ∃ s', specEnd (specConfig cfg.backend cfg.ext cfg.single cfg.idle raw cfg.next cfg.cookie cfg.eh) s ops (runObs cfg gen sgen st ops) = some s' ∧
      Inv cfg gen (run cfg gen sgen st ops).1 s' ∧ LiveIssued s' :=
  run_keeps raw cfg hbuild gen sgen hgen hpos LiveIssued (fun _ _ h => h)
    (fun _ s q _ _ hl hs => specReq_liveIssued _ s q _ _ hs hl) ops st s hinv hli

end C16
