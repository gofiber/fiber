import FiberModel.C16.Table
import FiberModel.C16.SimSS
/-
C16 — what the three manager operations (`getRaw`, `setRaw`, `delRaw`) do to the token table, stated
once for all back-ends.

A context stands for the table the state will hold once the request's session is saved (`heldC`), so
that the session middleware's load and save drop out of the argument. A write sets one slot of that
table or fails and leaves it alone (`Wrote`); a lookup leaves it alone (`Looked`). What differs between
the back-ends is only which slot a write goes to (`SlotFor`): the token's own slot for the storage back-end,
the session the request is bound to for the session back-ends.
-/
namespace C16
open B

/-- the table a context stands for: what the state holds once the request's session is saved -/
def heldC (cfg : Cfg) (c : Ctx) : Held := heldOf cfg (ctxEnd cfg c).st

/-- the session cookie the reply will carry -/
def scOf (cfg : Cfg) (c : Ctx) : Option Bytes := (ctxEnd cfg c).sc

/-- `SlotFor cfg q c W k`: from `c` on, a write for token `k` goes to slot `W`. Storage: the token's own
    slot. Sessions: the session the request is bound to, whatever the token. -/
def SlotFor (cfg : Cfg) (q : Req) (c : Ctx) (W k : Bytes) : Prop :=
  match cfg.backend with
  | .storage => W = k
  | .sessStore => Bound q c W
  | .sessMw => ∃ slot, c.mw = some (W, slot)

/-- the keys of the table are distinct (the probe lists every entry), and behind the session
    middleware a session with a non-empty id is loaded (else `setRaw` would silently do nothing) -/
def Ready (cfg : Cfg) (c : Ctx) : Prop :=
  tableNodup cfg (ctxEnd cfg c).st ∧ (cfg.backend = .sessMw → ∃ W slot, c.mw = some (W, slot) ∧ W ≠ [])

/-- the session of the request cannot even be read: no operation gets as far as setting its cookie -/
def getFault (cfg : Cfg) (q : Req) : Prop := cfg.backend = .sessStore ∧ q.failGet = true

def SameTable (cfg : Cfg) (c c' : Ctx) : Prop := ∀ w k d, heldC cfg c' w k d ↔ heldC cfg c w k d

/-- the table of `c'` is that of `c` with slot `W` set to `x` -/
def SlotSet (cfg : Cfg) (c c' : Ctx) (W : Bytes) (x : Option (Bytes × Nat)) : Prop :=
  ∀ w k d, heldC cfg c' w k d ↔ if w = W then x = some (k, d) else heldC cfg c w k d

theorem SameTable.refl (cfg : Cfg) (c : Ctx) : SameTable cfg c c := fun _ _ _ => Iff.rfl

theorem SameTable.trans {cfg : Cfg} {a b c : Ctx} (h1 : SameTable cfg a b) (h2 : SameTable cfg b c) :
    SameTable cfg a c := fun w k d => (h2 w k d).trans (h1 w k d)

theorem SameTable.sub {cfg : Cfg} {c c' : Ctx} (h : SameTable cfg c c') : ∀ w k d, heldC cfg c' w k d → heldC cfg c w k d :=
  fun w k d => (h w k d).mp

theorem SlotSet.self {cfg : Cfg} {c c' : Ctx} {W k : Bytes} {d : Nat} (h : SlotSet cfg c c' W (some (k, d))) :
    heldC cfg c' W k d := (h W k d).mpr (by rw [if_pos rfl])

theorem SlotSet.elim {cfg : Cfg} {c c' : Ctx} {W T : Bytes} {d0 : Nat} (h : SlotSet cfg c c' W (some (T, d0)))
    {w k : Bytes} {d : Nat} (hk : heldC cfg c' w k d) : if w = W then k = T ∧ d = d0 else heldC cfg c w k d := by
  have := (h w k d).mp hk
  by_cases e : w = W
  · rw [if_pos e] at this ⊢
    cases this
    exact ⟨rfl, rfl⟩
  · rw [if_neg e] at this ⊢
    exact this

theorem SlotSet.cleared {cfg : Cfg} {c c' : Ctx} {W : Bytes} (h : SlotSet cfg c c' W none) {w k : Bytes} {d : Nat}
    (hk : heldC cfg c' w k d) : w ≠ W ∧ heldC cfg c w k d := by
  have := (h w k d).mp hk
  by_cases e : w = W
  · rw [if_pos e] at this
    cases this
  · rw [if_neg e] at this
    exact ⟨e, this⟩

theorem SlotSet.then_same {cfg : Cfg} {a b c : Ctx} {W : Bytes} {x : Option (Bytes × Nat)} (h1 : SlotSet cfg a b W x)
    (h2 : SameTable cfg b c) : SlotSet cfg a c W x := fun w k d => (h2 w k d).trans (h1 w k d)

theorem SlotFor.unique {cfg : Cfg} {q : Req} {c : Ctx} {W W' k : Bytes} (h : SlotFor cfg q c W k) (h' : SlotFor cfg q c W' k) :
    W = W' := by
  unfold SlotFor at h h'
  cases hb : cfg.backend <;> simp only [hb] at h h'
  · exact h.trans h'.symm
  · exact h.1.symm.trans h'.1
  · obtain ⟨_, e⟩ := h
    obtain ⟨_, e'⟩ := h'
    rw [e] at e'
    cases e'
    rfl

theorem SlotFor.indep {cfg : Cfg} {q : Req} {c : Ctx} {W k : Bytes} (hb : cfg.backend ≠ .storage) (h : SlotFor cfg q c W k)
    (k' : Bytes) : SlotFor cfg q c W k' := by
  unfold SlotFor at h ⊢
  cases hb' : cfg.backend <;> simp only [hb'] at h ⊢
  · exact absurd hb' hb
  · exact h
  · exact h

theorem SlotFor.store {cfg : Cfg} {q : Req} {c : Ctx} {W k : Bytes} (hb : cfg.backend = .storage) (h : SlotFor cfg q c W k) :
    W = k := by
  unfold SlotFor at h
  simpa only [hb] using h

theorem ctxEnd_eq {cfg : Cfg} (hb : cfg.backend ≠ .sessMw) (c : Ctx) : ctxEnd cfg c = c := if_neg hb

theorem ctxEnd_mw {cfg : Cfg} (hb : cfg.backend = .sessMw) {c : Ctx} {W : Bytes} {slot : Option Tok}
    (hmw : c.mw = some (W, slot)) :
    ctxEnd cfg c = { c with st := { c.st with sess := put c.st.sess W slot }, sc := some W } := by
  unfold ctxEnd mwSave
  rw [if_pos hb, hmw]

/-- a lookup (`getRaw` for `key`, answer `res`): the table is left alone; no flag moves unless the call
    reports a fault; the token it finds sits, unexpired, in the slot a write for it goes to -/
structure Looked (cfg : Cfg) (q : Req) (c c' : Ctx) (key : Bytes) (res : Option Bool) : Prop where
  ready : Ready cfg c'
  same : SameTable cfg c c'
  keeps : ∀ W k, SlotFor cfg q c W k → SlotFor cfg q c' W k
  quiet : res ≠ none → c'.fired = c.fired
  found : res = some true → ¬ getFault cfg q ∧ ∃ W d, heldC cfg c W key d ∧ c.st.now ≤ d ∧ SlotFor cfg q c W key

/-- one write to the token table for `key` (`setRaw`: `x` = the token with a full lifetime; `delRaw`:
    `x = none`), `err` = the call reported an error. Failed: the table is as before and a fault is
    flagged; session back-ends: the reply's session cookie is the bound session's unless the session
    could not even be read. Went through: one slot `W` is set, the request is bound to it from now
    on, no flag moves; session back-ends: `W` is the reply's session. -/
structure Wrote (cfg : Cfg) (q : Req) (c c' : Ctx) (key : Bytes) (x : Option (Bytes × Nat)) (err : Bool) : Prop where
  ready : Ready cfg c'
  keeps : ∀ W k, SlotFor cfg q c W k → SlotFor cfg q c' W k
  same : err = true → SameTable cfg c c'
  fault : err = true → c'.fired = true
  sc : err = true → cfg.backend ≠ .storage → ∀ W, SlotFor cfg q c W key →
    (getFault cfg q ∧ scOf cfg c' = scOf cfg c) ∨ scOf cfg c' = some W
  quiet : err = false → c'.fired = c.fired
  slot : err = false → ∃ W, SlotSet cfg c c' W x ∧ SlotFor cfg q c' W key ∧
    (cfg.backend ≠ .storage → W ≠ [] ∧ scOf cfg c' = some W)

theorem not_getFault {cfg : Cfg} (q : Req) (hb : cfg.backend ≠ .sessStore) : ¬ getFault cfg q := fun g => hb g.1

theorem heldC_eq {cfg : Cfg} (hb : cfg.backend ≠ .sessMw) (c : Ctx) : heldC cfg c = heldOf cfg c.st := by
  unfold heldC
  rw [ctxEnd_eq hb]

theorem ready_iff {cfg : Cfg} (hb : cfg.backend ≠ .sessMw) (c : Ctx) : Ready cfg c ↔ tableNodup cfg c.st := by
  unfold Ready
  rw [ctxEnd_eq hb]
  exact ⟨fun h => h.1, fun h => ⟨h, fun e => absurd e hb⟩⟩

section storage
variable {cfg : Cfg} (hb : cfg.backend = .storage)
include hb

theorem heldC_storage (c : Ctx) (w k : Bytes) (d : Nat) :
    heldC cfg c w k d ↔ w = k ∧ lookup c.st.store k = some d := by
  rw [heldC_eq (by rw [hb]; decide)]
  unfold heldOf
  simp only [hb]

theorem ready_storage (c : Ctx) : Ready cfg c ↔ keysNodup c.st.store := by
  rw [ready_iff (by rw [hb]; decide)]
  unfold tableNodup
  simp only [hb]

theorem slotFor_storage (q : Req) (c : Ctx) (W k : Bytes) : SlotFor cfg q c W k ↔ W = k := by
  unfold SlotFor
  simp only [hb]

theorem wrote_storage (q : Req) (c c' : Ctx) (key : Bytes) (v : Option Nat) (hwf : Ready cfg c)
    (hl : ∀ k, lookup c'.st.store k = if k = key then v else lookup c.st.store k)
    (hn : keysNodup c.st.store → keysNodup c'.st.store) (hf : c'.fired = c.fired) :
    Wrote cfg q c c' key (v.map fun d => (key, d)) false := by
  refine
    { ready := (ready_storage hb _).mpr (hn ((ready_storage hb _).mp hwf)),
      keeps := fun W k h => (slotFor_storage hb ..).mpr ((slotFor_storage hb ..).mp h),
      same := nofun, fault := nofun, sc := nofun, quiet := fun _ => hf,
      slot := fun _ => ⟨key, fun w k d => ?_, (slotFor_storage hb ..).mpr rfl, fun h => absurd hb h⟩ }
  rw [heldC_storage hb, heldC_storage hb, hl]
  by_cases e : w = key
  · rw [if_pos e]
    constructor
    · rintro ⟨rfl, h⟩
      rw [if_pos e] at h
      rw [h, e]
      rfl
    · intro h
      cases v with
      | none => cases h
      | some d' =>
        simp only [Option.map_some, Option.some.injEq, Prod.mk.injEq] at h
        obtain ⟨rfl, rfl⟩ := h
        exact ⟨e, by rw [if_pos rfl]⟩
  · rw [if_neg e]
    constructor
    · rintro ⟨rfl, h⟩
      rw [if_neg e] at h
      exact ⟨rfl, h⟩
    · rintro ⟨rfl, h⟩
      exact ⟨rfl, by rw [if_neg e]; exact h⟩

theorem failed_storage (q : Req) (c c' : Ctx) (key : Bytes) (x : Option (Bytes × Nat)) (hwf : Ready cfg c)
    (hs : c'.st = c.st) (hf : c'.fired = true) : Wrote cfg q c c' key x true := by
  refine
    { ready := (ready_storage hb _).mpr (hs ▸ (ready_storage hb _).mp hwf),
      keeps := fun W k h => (slotFor_storage hb ..).mpr ((slotFor_storage hb ..).mp h),
      same := fun _ w k d => ?_, fault := fun _ => hf, sc := fun _ h => absurd hb h, quiet := nofun, slot := nofun }
  rw [heldC_storage hb, heldC_storage hb, hs]

theorem setRaw_storage (sgen : Nat → Bytes) (q : Req) (c c' : Ctx) (key : Bytes) (err : Bool) (hwf : Ready cfg c)
    (h : setRaw cfg sgen q c key = (c', err)) : Wrote cfg q c c' key (some (key, c.st.now + cfg.idle)) err := by
  unfold setRaw at h
  simp only [hb] at h
  split at h <;> cases h
  · exact failed_storage hb q c _ key _ hwf rfl (by simp [Ctx.fired])
  · exact wrote_storage hb q c _ key (some _) hwf (fun k => lookup_put _ _ _ _) (keysNodup_put _ _ _) rfl

theorem delRaw_storage (sgen : Nat → Bytes) (q : Req) (c c' : Ctx) (key : Bytes) (err : Bool) (hwf : Ready cfg c)
    (h : delRaw cfg sgen q c key = (c', err)) : Wrote cfg q c c' key none err := by
  unfold delRaw at h
  simp only [hb] at h
  split at h <;> cases h
  · exact failed_storage hb q c _ key _ hwf rfl (by simp [Ctx.fired])
  · exact wrote_storage hb q c _ key none hwf (fun k => lookup_erase _ _ _) (keysNodup_erase _ _) rfl

theorem getRaw_storage (sgen : Nat → Bytes) (q : Req) (c c' : Ctx) (key : Bytes) (res : Option Bool) (hwf : Ready cfg c)
    (h : getRaw cfg sgen q c key = (c', res)) : Looked cfg q c c' key res := by
  unfold getRaw at h
  simp only [hb] at h
  split at h <;> cases h
  · exact ⟨(ready_storage hb _).mpr ((ready_storage hb c).mp hwf), fun w k d => by rw [heldC_storage hb, heldC_storage hb],
      fun W k hW => (slotFor_storage hb ..).mpr ((slotFor_storage hb ..).mp hW), fun h => absurd rfl h, nofun⟩
  · refine ⟨hwf, SameTable.refl _ _, fun _ _ h => h, fun _ => rfl,
      fun hl => ⟨not_getFault q (by rw [hb]; decide), ?_⟩⟩
    · have hl : storeLive c.st key = true := Option.some.inj hl
      unfold storeLive at hl
      split at hl
      · rename_i d hd
        exact ⟨key, d, (heldC_storage hb ..).mpr ⟨rfl, hd⟩, by simp only [decide_eq_true_eq] at hl; omega,
          (slotFor_storage hb ..).mpr rfl⟩
      · cases hl

end storage

/-- a token slot as the table relation reads it -/
def tokPair (slot : Option Tok) : Option (Bytes × Nat) := slot.map fun t => (t.key, t.exp)

theorem tokPair_iff (slot : Option Tok) (k : Bytes) (d : Nat) : slot = some ⟨k, d⟩ ↔ tokPair slot = some (k, d) := by
  cases slot with
  | none => simp [tokPair]
  | some t => obtain ⟨k', d'⟩ := t; simp [tokPair]

/-- the table relation of a session store after slot `W` was set; `P` is what held of `w` before -/
theorem lookup_put_slot (sess : List (Bytes × Option Tok)) (W : Bytes) (slot : Option Tok) (w k : Bytes) (d : Nat)
    (P : Prop) (hP : w ≠ W → (P ↔ lookup sess w = some (some ⟨k, d⟩))) :
    lookup (put sess W slot) w = some (some ⟨k, d⟩) ↔ if w = W then tokPair slot = some (k, d) else P := by
  rw [lookup_put]
  by_cases e : w = W
  · rw [if_pos e, if_pos e, ← tokPair_iff]
    exact ⟨fun h => Option.some.inj h, fun h => by rw [h]⟩
  · rw [if_neg e, if_neg e, hP e]

theorem slotOK_spec (now : Nat) (slot : Option Tok) (key : Bytes) (h : slotOK now slot key = true) :
    ∃ d0, slot = some ⟨key, d0⟩ ∧ now ≤ d0 := by
  unfold slotOK at h
  cases slot with
  | none => cases h
  | some t =>
    obtain ⟨k, d⟩ := t
    simp only [Bool.and_eq_true, Bool.not_eq_true', decide_eq_false_iff_not, decide_eq_true_eq] at h
    exact ⟨d, by rw [h.2], by omega⟩

section mw
variable {cfg : Cfg} (hb : cfg.backend = .sessMw)
include hb

theorem heldC_mw {c : Ctx} {W : Bytes} {slot : Option Tok} (hmw : c.mw = some (W, slot)) (w k : Bytes) (d : Nat) :
    heldC cfg c w k d ↔ lookup (put c.st.sess W slot) w = some (some ⟨k, d⟩) := by
  unfold heldC heldOf
  rw [ctxEnd_mw hb hmw]
  simp only [hb]

theorem slotFor_mw (q : Req) (c : Ctx) (W k : Bytes) : SlotFor cfg q c W k ↔ ∃ slot, c.mw = some (W, slot) := by
  unfold SlotFor
  simp only [hb]

theorem wrote_mw (q : Req) (c : Ctx) (key : Bytes) (slot' : Option Tok) (hwf : Ready cfg c) :
    ∃ W slot, c.mw = some (W, slot) ∧
      Wrote cfg q c { c with mw := some (W, slot') } key (tokPair slot') false := by
  obtain ⟨hn, hm⟩ := hwf
  obtain ⟨W, slot, hmw, hW⟩ := hm hb
  have hmw' : ({ c with mw := some (W, slot') } : Ctx).mw = some (W, slot') := rfl
  refine
    ⟨W, slot, hmw, { ready := ⟨?_, fun _ => ⟨W, slot', rfl, hW⟩⟩, keeps := fun W' k h => ?_,
                     same := nofun, fault := nofun, sc := nofun, quiet := fun _ => rfl,
                     slot := fun _ => ⟨W, fun w k d => ?_, (slotFor_mw hb ..).mpr ⟨slot', rfl⟩, fun _ => ⟨hW, ?_⟩⟩ }⟩
  · -- the keys of the saved table do not depend on what the slot holds
    rw [ctxEnd_mw hb hmw] at hn
    rw [ctxEnd_mw hb hmw']
    unfold tableNodup at hn ⊢
    simp only [hb] at hn ⊢
    exact hn
  · obtain ⟨s0, e⟩ := (slotFor_mw hb ..).mp h
    rw [hmw] at e
    cases e
    exact (slotFor_mw hb ..).mpr ⟨slot', rfl⟩
  · rw [heldC_mw hb hmw']
    exact lookup_put_slot _ _ _ _ _ _ _ fun e => by rw [heldC_mw hb hmw, lookup_put, if_neg e]
  · unfold scOf
    rw [ctxEnd_mw hb hmw']

theorem setRaw_mw (sgen : Nat → Bytes) (q : Req) (c c' : Ctx) (key : Bytes) (err : Bool) (hwf : Ready cfg c)
    (h : setRaw cfg sgen q c key = (c', err)) : Wrote cfg q c c' key (some (key, c.st.now + cfg.idle)) err := by
  obtain ⟨W, slot, hmw, hw⟩ := wrote_mw hb q c key (some ⟨key, c.st.now + cfg.idle⟩) hwf
  unfold setRaw at h
  simp only [hb, hmw] at h
  cases h
  exact hw

theorem delRaw_mw (sgen : Nat → Bytes) (q : Req) (c c' : Ctx) (key : Bytes) (err : Bool) (hwf : Ready cfg c)
    (h : delRaw cfg sgen q c key = (c', err)) : Wrote cfg q c c' key none err := by
  obtain ⟨W, slot, hmw, hw⟩ := wrote_mw hb q c key none hwf
  unfold delRaw at h
  simp only [hb, hmw] at h
  cases h
  exact hw

theorem getRaw_mw (sgen : Nat → Bytes) (q : Req) (c c' : Ctx) (key : Bytes) (res : Option Bool) (hwf : Ready cfg c)
    (h : getRaw cfg sgen q c key = (c', res)) : Looked cfg q c c' key res := by
  unfold getRaw at h
  simp only [hb] at h
  cases h
  obtain ⟨W, slot, hmw, hW⟩ := hwf.2 hb
  refine ⟨hwf, SameTable.refl _ _, fun _ _ h => h, fun _ => rfl, fun hok => ?_⟩
  rw [hmw] at hok
  obtain ⟨d0, rfl, hle⟩ := slotOK_spec _ _ _ (Option.some.inj hok)
  exact ⟨not_getFault q (by rw [hb]; decide), W, d0, (heldC_mw hb hmw ..).mpr (lookup_put_self _ _ _), hle,
    (slotFor_mw hb ..).mpr ⟨_, hmw⟩⟩

end mw

section ss
variable {cfg : Cfg} (hb : cfg.backend = .sessStore)
include hb

theorem heldC_ss (c : Ctx) (w k : Bytes) (d : Nat) :
    heldC cfg c w k d ↔ lookup c.st.sess w = some (some ⟨k, d⟩) := by
  rw [heldC_eq (by rw [hb]; decide)]
  unfold heldOf
  simp only [hb]

theorem ready_ss (c : Ctx) : Ready cfg c ↔ keysNodup c.st.sess := by
  rw [ready_iff (by rw [hb]; decide)]
  unfold tableNodup
  simp only [hb]

theorem slotFor_ss (q : Req) (c : Ctx) (W k : Bytes) : SlotFor cfg q c W k ↔ Bound q c W := by
  unfold SlotFor
  simp only [hb]

theorem scOf_ss (c : Ctx) : scOf cfg c = c.sc := by
  unfold scOf
  rw [ctxEnd_eq (by rw [hb]; decide)]

theorem wrote_ss (sgen : Nat → Bytes) (hsgen : ∀ n, sgen n ≠ []) (q : Req) (c c' : Ctx) (key : Bytes)
    (slot : Option Tok) (err : Bool) (hwf : Ready cfg c) (h : sessOp sgen q c slot = (c', err)) :
    Wrote cfg q c c' key (tokPair slot) err := by
  unfold sessOp at h
  rcases hsg : storeGet sgen q c with ⟨c1, res⟩
  rw [hsg] at h
  obtain ⟨hs, hbd, hcase⟩ := storeGet_spec sgen hsgen q c c1 res hsg
  have hn : keysNodup c1.st.sess := hs.sess ▸ (ready_ss hb c).mp hwf
  have hkeep : ∀ W k, SlotFor cfg q c W k → Bound q c1 W := fun W k hW => hbd W ((slotFor_ss hb ..).mp hW)
  have hsame : ∀ w k d, lookup c1.st.sess w = some (some ⟨k, d⟩) ↔ heldC cfg c w k d := fun w k d => by
    rw [heldC_ss hb, hs.sess]
  rcases hcase with ⟨rfl, hfg, hfail⟩ | ⟨id, sl, rfl, hid, hfg, hrs, _, hone⟩
  · -- the session could not be read
    cases h
    exact
      { ready := (ready_ss hb _).mpr hn, keeps := fun W k hW => (slotFor_ss hb ..).mpr (hkeep W k hW),
        same := fun _ w k d => (heldC_ss hb ..).trans (hsame w k d), fault := fun _ => by simp [Ctx.fired, hfg],
        sc := fun _ _ W hW => Or.inl ⟨⟨hb, hfail⟩, by rw [scOf_ss hb, scOf_ss hb, hs.sc]⟩,
        quiet := nofun, slot := nofun }
  · simp only at h
    unfold sessSave at h
    by_cases hfs : q.failSet = true
    · -- the save failed behind the cookie: the store is as it was
      simp only [hfs, if_true] at h
      cases h
      exact
        { ready := (ready_ss hb _).mpr hn, keeps := fun W k hW => (slotFor_ss hb ..).mpr (hkeep W k hW),
          same := fun _ w k d => (heldC_ss hb ..).trans (hsame w k d), fault := fun _ => by simp [Ctx.fired],
          sc := fun _ _ W hW => Or.inr (by rw [scOf_ss hb, ← (hone W ((slotFor_ss hb ..).mp hW)).1]),
          quiet := nofun, slot := nofun }
    · simp only [hfs, Bool.false_eq_true, if_false] at h
      cases h
      have hB : Bound q { c1 with sc := some id, st := { c1.st with sess := put c1.st.sess id slot } } id :=
        ⟨hrs, hid, slot, lookup_put_self _ _ _⟩
      refine
        { ready := (ready_ss hb _).mpr (keysNodup_put _ _ _ hn), keeps := fun W k hW => ?_,
          same := nofun, fault := nofun, sc := nofun,
          quiet := fun _ => by unfold Ctx.fired; rw [← hfg, ← hs.fs, ← hs.fd],
          slot := fun _ => ⟨id, fun w k d => ?_, (slotFor_ss hb ..).mpr hB, fun _ => ⟨hid, by rw [scOf_ss hb]⟩⟩ }
      · -- a request bound to a stored session resolves to that one
        rw [slotFor_ss hb] at hW ⊢
        exact (hone W hW).1 ▸ hB
      · rw [heldC_ss hb]
        exact lookup_put_slot _ _ _ _ _ _ _ fun _ => (hsame w k d).symm

theorem getRaw_ss (sgen : Nat → Bytes) (hsgen : ∀ n, sgen n ≠ []) (q : Req) (c c' : Ctx) (key : Bytes)
    (res : Option Bool) (hwf : Ready cfg c) (h : getRaw cfg sgen q c key = (c', res)) : Looked cfg q c c' key res := by
  unfold getRaw at h
  simp only [hb] at h
  rcases hsg : storeGet sgen q c with ⟨c1, r1⟩
  rw [hsg] at h
  obtain ⟨hs, hbd, hcase⟩ := storeGet_spec sgen hsgen q c c1 r1 hsg
  have hwf1 : Ready cfg c1 := (ready_ss hb _).mpr (hs.sess ▸ (ready_ss hb _).mp hwf)
  have hsame : SameTable cfg c c1 := fun w k d => by rw [heldC_ss hb, heldC_ss hb, hs.sess]
  have hbnd : ∀ W k, SlotFor cfg q c W k → SlotFor cfg q c1 W k :=
    fun W k hW => (slotFor_ss hb ..).mpr (hbd W ((slotFor_ss hb ..).mp hW))
  rcases hcase with ⟨rfl, _, hfail⟩ | ⟨id, sl, rfl, hid, hfg, hrs, hsl, hbb⟩
  · cases h
    exact ⟨hwf1, hsame, hbnd, fun h => absurd rfl h, nofun⟩
  · cases h
    refine ⟨hwf1, hsame, hbnd, fun _ => by unfold Ctx.fired; rw [hfg, hs.fs, hs.fd], fun hok => ?_⟩
    simp only [Option.some.injEq] at hok
    rw [hs.now] at hok
    obtain ⟨d0, rfl, hle⟩ := slotOK_spec _ _ _ hok
    -- a non-empty slot was read off a stored session, to which the request is bound
    obtain ⟨hl, hbc⟩ := hsl nofun
    refine ⟨fun g => ?_, id, d0, (heldC_ss hb ..).mpr hl, hle, (slotFor_ss hb ..).mpr hbc⟩
    have := g.2
    rw [(hbb id hbc).2] at this
    cases this

end ss

theorem getRaw_spec (cfg : Cfg) (sgen : Nat → Bytes) (hsgen : cfg.backend ≠ .storage → ∀ n, sgen n ≠ []) (q : Req)
    (c c' : Ctx) (key : Bytes) (res : Option Bool) (hwf : Ready cfg c) (h : getRaw cfg sgen q c key = (c', res)) :
    Looked cfg q c c' key res := by
  cases hb : cfg.backend
  · exact getRaw_storage hb sgen q c c' key res hwf h
  · exact getRaw_ss hb sgen (hsgen (by rw [hb]; decide)) q c c' key res hwf h
  · exact getRaw_mw hb sgen q c c' key res hwf h

theorem setRaw_spec (cfg : Cfg) (sgen : Nat → Bytes) (hsgen : cfg.backend ≠ .storage → ∀ n, sgen n ≠ []) (q : Req)
    (c c' : Ctx) (key : Bytes) (err : Bool) (hwf : Ready cfg c) (h : setRaw cfg sgen q c key = (c', err)) :
    Wrote cfg q c c' key (some (key, c.st.now + cfg.idle)) err := by
  cases hb : cfg.backend
  · exact setRaw_storage hb sgen q c c' key err hwf h
  · exact wrote_ss hb sgen (hsgen (by rw [hb]; decide)) q c c' key _ err hwf ((setRaw_sessOp cfg sgen q c key hb).symm.trans h)
  · exact setRaw_mw hb sgen q c c' key err hwf h

theorem delRaw_spec (cfg : Cfg) (sgen : Nat → Bytes) (hsgen : cfg.backend ≠ .storage → ∀ n, sgen n ≠ []) (q : Req)
    (c c' : Ctx) (key : Bytes) (err : Bool) (hwf : Ready cfg c) (h : delRaw cfg sgen q c key = (c', err)) :
    Wrote cfg q c c' key none err := by
  cases hb : cfg.backend
  · exact delRaw_storage hb sgen q c c' key err hwf h
  · exact wrote_ss hb sgen (hsgen (by rw [hb]; decide)) q c c' key _ err hwf ((delRaw_sessOp cfg sgen q c key hb).symm.trans h)
  · exact delRaw_mw hb sgen q c c' key err hwf h

/-- what the session middleware hands to the csrf handler -/
theorem mwLoad_cases (sgen : Nat → Bytes) (q : Req) (c : Ctx) (hsgen : ∀ n, sgen n ≠ []) :
    ∃ W slot0, (mwLoad sgen q c).mw = some (W, slot0) ∧ W ≠ [] ∧
      (mwLoad sgen q c).st.sess = c.st.sess ∧ (mwLoad sgen q c).fired = c.fired ∧
      ((W = q.sc ∧ lookup c.st.sess W = some slot0) ∨
       (slot0 = none ∧ (q.sc = [] ∨ lookup c.st.sess q.sc = none))) := by
  unfold mwLoad
  split
  · rename_i slot heq
    have h0 : q.sc ≠ [] := by
      intro h; simp [h] at heq
    rw [if_pos h0] at heq
    exact ⟨_, _, rfl, h0, rfl, rfl, Or.inl ⟨rfl, heq⟩⟩
  · rename_i heq
    refine ⟨_, _, rfl, hsgen _, rfl, rfl, Or.inr ⟨rfl, ?_⟩⟩
    by_cases h0 : q.sc = []
    · exact Or.inl h0
    · have h0' : q.sc ≠ [] := h0
      rw [if_pos h0'] at heq
      exact Or.inr heq

/-- the context a request starts from: the table is the state's (a session a middleware in front
    created holds nothing), no fault has fired, and for the session back-ends: the slot the request is
    bound to, if it holds anything, is the one its session cookie names; and if the session the cookie
    names holds anything, the request is bound to it -/
structure Started (cfg : Cfg) (st : St) (q : Req) (c0 : Ctx) : Prop where
  ready : Ready cfg c0
  sub : ∀ w k d, heldC cfg c0 w k d → heldOf cfg st w k d
  quiet : c0.fired = false
  bound_sc : cfg.backend ≠ .storage → ∀ W k, SlotFor cfg q c0 W k → (∃ k' d, heldC cfg c0 W k' d) → W = q.sc
  sc_bound : cfg.backend ≠ .storage → q.sc ≠ [] → (∃ k d, heldOf cfg st q.sc k d) → ∀ k', SlotFor cfg q c0 q.sc k'

theorem ctx0_spec (cfg : Cfg) (sgen : Nat → Bytes) (hsgen : cfg.backend ≠ .storage → ∀ n, sgen n ≠ []) (st : St)
    (q : Req) (hn : tableNodup cfg st) : Started cfg st q (ctx0 cfg sgen st q) := by
  unfold ctx0
  by_cases hb : cfg.backend = .sessMw
  · rw [if_pos hb]
    obtain ⟨W, slot0, hmw0, hW, hsess0, hf0, hcase0⟩ := mwLoad_cases sgen q { st := st } (hsgen (by rw [hb]; decide))
    generalize mwLoad sgen q { st := st } = c0 at *
    refine
      { ready := ⟨?_, fun _ => ⟨W, slot0, hmw0, hW⟩⟩, sub := fun w k d h => ?_, quiet := hf0,
        bound_sc := fun _ W' k hB ⟨k', d, hh⟩ => ?_,
        sc_bound := fun _ hsc ⟨k, d, hh⟩ k' => (slotFor_mw hb ..).mpr ?_ }
    · rw [ctxEnd_mw hb hmw0]
      unfold tableNodup at hn ⊢
      simp only [hb] at hn ⊢
      rw [hsess0]
      exact keysNodup_put _ _ _ hn
    · -- the slot of the loaded session is what the store holds for it, or empty
      rw [heldC_mw hb hmw0, hsess0, lookup_put] at h
      unfold heldOf
      simp only [hb]
      split at h
      · rename_i e
        rcases hcase0 with ⟨_, hl⟩ | ⟨h0, _⟩
        · rw [e, hl, ← Option.some.inj h]
        · rw [h0] at h
          cases h
      · exact h
    · obtain ⟨s', e⟩ := (slotFor_mw hb ..).mp hB
      rw [hmw0] at e
      cases e
      rw [heldC_mw hb hmw0, lookup_put_self] at hh
      rcases hcase0 with ⟨hw, _⟩ | ⟨h0, _⟩
      · exact hw
      · rw [h0] at hh
        cases hh
    · unfold heldOf at hh
      simp only [hb] at hh
      rcases hcase0 with ⟨hw, _⟩ | ⟨_, h | h⟩
      · exact ⟨slot0, hw ▸ hmw0⟩
      · exact absurd h hsc
      · rw [h] at hh
        cases hh
  · rw [if_neg hb]
    have hc : ctxEnd cfg { st := st } = { st := st } := ctxEnd_eq hb _
    refine
      { ready := ⟨by rw [hc]; exact hn, fun h => absurd h hb⟩,
        sub := fun w k d h => by unfold heldC at h; rwa [hc] at h, quiet := rfl,
        bound_sc := fun hs W k hB _ => ?_, sc_bound := fun hs hsc ⟨k, d, hh⟩ k' => ?_ }
    all_goals
      have hss : cfg.backend = .sessStore := by
        cases hb' : cfg.backend
        · exact absurd hb' hs
        · rfl
        · exact absurd hb' hb
    · exact ((slotFor_ss hss ..).mp hB).1.symm
    · unfold heldOf at hh
      simp only [hss] at hh
      exact (slotFor_ss hss ..).mpr ⟨rfl, hsc, _, hh⟩

theorem ctxEnd_fired (cfg : Cfg) (c : Ctx) : (ctxEnd cfg c).fired = c.fired := by
  unfold ctxEnd
  split
  · unfold mwSave
    split <;> rfl
  · rfl

/-- generating a key does not touch the table -/
theorem bump_spec (cfg : Cfg) (q : Req) (c : Ctx) (n : Nat) (g : List Bytes) :
    SameTable cfg c { c with st := { c.st with ntok := n }, gens := g } ∧
    (Ready cfg c → Ready cfg { c with st := { c.st with ntok := n }, gens := g }) ∧
    (∀ W k, SlotFor cfg q c W k → SlotFor cfg q { c with st := { c.st with ntok := n }, gens := g } W k) ∧
    ({ c with st := { c.st with ntok := n }, gens := g } : Ctx).fired = c.fired := by
  have e : (ctxEnd cfg { c with st := { c.st with ntok := n }, gens := g }).st.store = (ctxEnd cfg c).st.store ∧
      (ctxEnd cfg { c with st := { c.st with ntok := n }, gens := g }).st.sess = (ctxEnd cfg c).st.sess := by
    unfold ctxEnd
    split
    · unfold mwSave
      cases c.mw <;> exact ⟨rfl, rfl⟩
    · exact ⟨rfl, rfl⟩
  refine ⟨fun w k d => ?_, fun h => ⟨?_, h.2⟩, fun W k h => h, rfl⟩
  · unfold heldC heldOf
    rw [e.1, e.2]
  · have := h.1
    unfold tableNodup at this ⊢
    rwa [e.1, e.2]

end C16
