import FiberModel.C16.Model
import FiberModel.BasicLemmas
import FiberModel.AssocLemmas
/-
C16 — the model's `lookup` is the shared `Assoc.lookup` (`lookup_eq`; its `erase` and `put` unfold to the
shared ones), so the association-list lemmas here are those of `FiberModel.AssocLemmas` read on the model's
functions; likewise `indexOf` (strings.Index) from `FiberModel.BasicLemmas`.
-/
namespace C16
open B

theorem indexOf_split (s pat : Bytes) (i : Nat) (h : indexOf s pat = some i) :
    ∃ p r, s = p ++ pat ++ r ∧ p.length = i :=
  B.indexOf_split h

theorem indexOf_min (s pat p r : Bytes) (i : Nat) (h : indexOf s pat = some i) (hs : s = p ++ pat ++ r) :
    i ≤ p.length := by
  obtain ⟨j, hj, hle⟩ := indexOf_le_of_split p pat r
  rw [← hs, h] at hj
  cases hj
  exact hle

theorem lookup_eq {α} : @lookup α = Assoc.lookup := Assoc.lookup_unique (fun _ => rfl) (fun _ _ _ _ => rfl)

theorem lookup_erase {α} (s : List (Bytes × α)) (k k' : Bytes) :
    lookup (erase s k) k' = if k' = k then none else lookup s k' :=
  lookup_eq ▸ Assoc.lookup_erase s k k'

theorem lookup_put {α} (s : List (Bytes × α)) (k k' : Bytes) (v : α) :
    lookup (put s k v) k' = if k' = k then some v else lookup s k' :=
  lookup_eq ▸ Assoc.lookup_put s k k' v

theorem lookup_erase_self {α} (s : List (Bytes × α)) (k : Bytes) : lookup (erase s k) k = none :=
  lookup_eq ▸ Assoc.lookup_erase_self s k

theorem lookup_put_self {α} (s : List (Bytes × α)) (k : Bytes) (v : α) : lookup (put s k v) k = some v :=
  lookup_eq ▸ Assoc.lookup_put_self s k v

theorem lookup_mem {α} (s : List (Bytes × α)) (k : Bytes) (v : α) (h : lookup s k = some v) : (k, v) ∈ s :=
  Assoc.mem_of_lookup (lookup_eq ▸ h)

/-- keys of an association list built with `put`/`erase` are distinct -/
def keysNodup {α} (s : List (Bytes × α)) : Prop := (s.map (·.1)).Nodup

theorem keysNodup_erase {α} (s : List (Bytes × α)) (k : Bytes) (h : keysNodup s) : keysNodup (erase s k) :=
  Assoc.nodup_erase h k

theorem keysNodup_put {α} (s : List (Bytes × α)) (k : Bytes) (v : α) (h : keysNodup s) : keysNodup (put s k v) :=
  Assoc.nodup_put h k v

theorem mem_lookup {α} (s : List (Bytes × α)) (k : Bytes) (v : α) (hn : keysNodup s) (h : (k, v) ∈ s) :
    lookup s k = some v :=
  lookup_eq ▸ Assoc.lookup_of_mem hn h

end C16
