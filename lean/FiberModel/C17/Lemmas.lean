import FiberModel.C17.Model
/-
C17 — helper lemmas: state-update facts, what a `lookup` result says of the storage, and the step
relation (one constructor per branch of `stepThr` / `stepFault`).
-/
namespace C17

@[simp] theorem setThread_threads_same (g : G) (t : Tid) (th : Thread) : (g.setThread t th).threads t = th := by
  simp [G.setThread]
@[simp] theorem setThread_threads_ne (g : G) {t t' : Tid} (th : Thread) (h : t' ≠ t) :
    (g.setThread t th).threads t' = g.threads t' := by
  simp [G.setThread, h]
@[simp] theorem setThread_store (g : G) (t : Tid) (th : Thread) : (g.setThread t th).store = g.store := rfl
@[simp] theorem setThread_keys (g : G) (t : Tid) (th : Thread) : (g.setThread t th).keys = g.keys := rfl
@[simp] theorem setThread_locks (g : G) (t : Tid) (th : Thread) : (g.setThread t th).locks = g.locks := rfl
@[simp] theorem setThread_nextId (g : G) (t : Tid) (th : Thread) : (g.setThread t th).nextId = g.nextId := rfl
@[simp] theorem setThread_now (g : G) (t : Tid) (th : Thread) : (g.setThread t th).now = g.now := rfl
@[simp] theorem setThread_vals (g : G) (t : Tid) (th : Thread) : (g.setThread t th).vals = g.vals := rfl
@[simp] theorem setThread_keep (g : G) (t : Tid) (th : Thread) : (g.setThread t th).keep = g.keep := rfl
@[simp] theorem setLock_vals (g : G) (i : Nat) (l : CLock) : (g.setLock i l).vals = g.vals := rfl
@[simp] theorem setLock_keep (g : G) (i : Nat) (l : CLock) : (g.setLock i l).keep = g.keep := rfl
@[simp] theorem setLock_threads (g : G) (i : Nat) (l : CLock) : (g.setLock i l).threads = g.threads := rfl
@[simp] theorem setLock_store (g : G) (i : Nat) (l : CLock) : (g.setLock i l).store = g.store := rfl
@[simp] theorem setLock_keys (g : G) (i : Nat) (l : CLock) : (g.setLock i l).keys = g.keys := rfl
@[simp] theorem setLock_nextId (g : G) (i : Nat) (l : CLock) : (g.setLock i l).nextId = g.nextId := rfl
@[simp] theorem setLock_now (g : G) (i : Nat) (l : CLock) : (g.setLock i l).now = g.now := rfl
@[simp] theorem setLock_locks_same (g : G) (i : Nat) (l : CLock) : (g.setLock i l).locks i = l := by
  simp [G.setLock]
@[simp] theorem setLock_locks_ne (g : G) {i i' : Nat} (l : CLock) (h : i' ≠ i) :
    (g.setLock i l).locks i' = g.locks i' := by
  simp [G.setLock, h]

theorem setLock_self (g : G) (i : Nat) : g.setLock i (g.locks i) = g := by
  have : (fun i' => if i' = i then g.locks i else g.locks i') = g.locks := funext fun i' => by split <;> simp_all
  simp only [G.setLock, this]

theorem lookup_some {g : G} {k : Key} {r : Tid} (h : lookup g k = some r) : ∃ exp, g.store k = some (r, exp) := by
  revert h
  fun_cases lookup g k <;> intro h <;> cases h
  exact ⟨_, ‹_›⟩

theorem lookup_none {g : G} {k : Key} (h : lookup g k = none) : ∀ r exp, g.store k = some (r, exp) → exp ≤ g.now := by
  intro r exp hs
  unfold lookup at h
  simp only [hs] at h
  split at h
  · assumption
  · cases h

inductive Step (life : Nat) (g : G) (t : Tid) : G → Prop
  | arriveInvalid (hpc : (g.threads t).pc = .idle) (hk : (g.threads t).req.key = none)
      (hi : (g.threads t).req.invalid = true) :
      Step life g t (g.setThread t { g.threads t with pc := .done, out := .errKey })
  | arriveBypass (hpc : (g.threads t).pc = .idle) (hk : (g.threads t).req.key = none)
      (hi : (g.threads t).req.invalid = false) :
      Step life g t (g.setThread t { g.threads t with pc := .atHandlerB })
  | arrive (hpc : (g.threads t).pc = .idle) (k : Key) (hk : (g.threads t).req.key = some k) :
      Step life g t (g.setThread t { g.threads t with pc := .atGet1 })
  | get1Hit (hpc : (g.threads t).pc = .atGet1) (k : Key) (hk : (g.threads t).req.key = some k) (r : Tid)
      (hl : lookup g k = some r) :
      Step life g t (g.setThread t { g.threads t with pc := .done, out := .replay r, ans := g.vals k })
  | get1Miss (hpc : (g.threads t).pc = .atGet1) (k : Key) (hk : (g.threads t).req.key = some k)
      (hl : lookup g k = none) :
      Step life g t (g.setThread t { g.threads t with pc := .atLock })
  | lockCall (hpc : (g.threads t).pc = .atLock) :
      Step life g t (g.setThread t { g.threads t with pc := .lockInc })
  | incOld (hpc : (g.threads t).pc = .lockInc) (k : Key) (hk : (g.threads t).req.key = some k) (i : Nat)
      (hki : g.keys k = some i) :
      Step life g t ((g.setLock i { g.locks i with locked := (g.locks i).locked + 1, users := t :: (g.locks i).users }).setThread t
        { g.threads t with pc := .lockAcq, lk := i })
  | incNew (hpc : (g.threads t).pc = .lockInc) (k : Key) (hk : (g.threads t).req.key = some k)
      (hki : g.keys k = none) :
      Step life g t (({ g with keys := fun k' => if k' = k then some g.nextId else g.keys k', nextId := g.nextId + 1 }.setLock
        g.nextId ⟨1, none, [t]⟩).setThread t { g.threads t with pc := .lockAcq, lk := g.nextId })
  | acquire (hpc : (g.threads t).pc = .lockAcq) (hh : (g.locks (g.threads t).lk).holder = none) :
      Step life g t ((g.setLock (g.threads t).lk { g.locks (g.threads t).lk with holder := some t }).setThread t
        { g.threads t with pc := .atGet2 })
  | get2Hit (hpc : (g.threads t).pc = .atGet2) (k : Key) (hk : (g.threads t).req.key = some k) (r : Tid)
      (hl : lookup g k = some r) :
      Step life g t (g.setThread t { g.threads t with pc := .atUnlock, out := .replay r, ans := g.vals k })
  | get2Miss (hpc : (g.threads t).pc = .atGet2) (k : Key) (hk : (g.threads t).req.key = some k)
      (hl : lookup g k = none) :
      Step life g t (g.setThread t { g.threads t with pc := .atHandler })
  | handlerFail (hpc : (g.threads t).pc = .atHandler) (hf : (g.threads t).req.fails = true) :
      Step life g t (g.setThread t { g.threads t with pc := .atUnlock, out := .errHandler, ran := true })
  | handlerOk (hpc : (g.threads t).pc = .atHandler) (hf : (g.threads t).req.fails = false) :
      Step life g t (g.setThread t { g.threads t with pc := .atSet, ran := true, doneAt := g.now, ans := some (g.threads t).req.resp })
  | set (hpc : (g.threads t).pc = .atSet) (k : Key) (hk : (g.threads t).req.key = some k) :
      Step life g t ({ g with store := fun k' => if k' = k then some (t, g.now + life) else g.store k',
                               vals := fun k' => if k' = k then some (recorded g.keep (g.threads t).req.resp) else g.vals k' }.setThread t
        { g.threads t with pc := .atUnlock, out := .own, stored := true, setAt := g.now })
  | unlockCall (hpc : (g.threads t).pc = .atUnlock) :
      Step life g t (g.setThread t { g.threads t with pc := .unlockLookup })
  | unlockFound (hpc : (g.threads t).pc = .unlockLookup) (k : Key) (hk : (g.threads t).req.key = some k) (i : Nat)
      (hki : g.keys k = some i) :
      Step life g t (g.setThread t { g.threads t with pc := .unlockRelease, lk := i })
  | unlockUnknown (hpc : (g.threads t).pc = .unlockLookup) (k : Key) (hk : (g.threads t).req.key = some k)
      (hki : g.keys k = none) :
      Step life g t (g.setThread t { g.threads t with pc := .done })
  | release (hpc : (g.threads t).pc = .unlockRelease) :
      Step life g t ((g.setLock (g.threads t).lk { g.locks (g.threads t).lk with holder := none }).setThread t
        { g.threads t with pc := .unlockDec })
  | decDelete (hpc : (g.threads t).pc = .unlockDec) (k : Key) (hk : (g.threads t).req.key = some k)
      (hz : (g.locks (g.threads t).lk).locked - 1 ≤ 0) :
      Step life g t ({ g.setLock (g.threads t).lk { g.locks (g.threads t).lk with
            locked := (g.locks (g.threads t).lk).locked - 1, users := (g.locks (g.threads t).lk).users.erase t } with
          keys := fun k' => if k' = k then none else g.keys k' }.setThread t { g.threads t with pc := .done })
  | decKeep (hpc : (g.threads t).pc = .unlockDec) (k : Key) (hk : (g.threads t).req.key = some k)
      (hz : ¬ (g.locks (g.threads t).lk).locked - 1 ≤ 0) :
      Step life g t ((g.setLock (g.threads t).lk { g.locks (g.threads t).lk with
            locked := (g.locks (g.threads t).lk).locked - 1, users := (g.locks (g.threads t).lk).users.erase t }).setThread t
          { g.threads t with pc := .done })
  | handlerB (hpc : (g.threads t).pc = .atHandlerB) :
      Step life g t (g.setThread t { g.threads t with pc := .done, ran := true, out := if (g.threads t).req.fails then .errHandler else .own, ans := if (g.threads t).req.fails then none else some (g.threads t).req.resp })
  | faultGet1 (hpc : (g.threads t).pc = .atGet1) :
      Step life g t (g.setThread t { g.threads t with pc := .done, out := .errGet1 })
  | faultLock (hpc : (g.threads t).pc = .atLock) :
      Step life g t (g.setThread t { g.threads t with pc := .done, out := .errLock })
  | faultGet2 (hpc : (g.threads t).pc = .atGet2) :
      Step life g t (g.setThread t { g.threads t with pc := .atUnlock, out := .errGet2 })
  | faultSet (hpc : (g.threads t).pc = .atSet) :
      Step life g t (g.setThread t { g.threads t with pc := .atUnlock, out := .errSet, ans := none })
  | faultUnlock (hpc : (g.threads t).pc = .atUnlock) :
      Step life g t (g.setThread t { g.threads t with pc := .leaked })

theorem step_of_stepThr (life : Nat) {g g' : G} {t : Tid} (h : stepThr life g t = some g') : Step life g t g' := by
  revert h
  -- the case analysis is `stepThr`'s own, in the order of its branches; the branches that refuse go by `cases h`
  fun_cases stepThr life g t <;> intro h <;> cases h
  · exact .arriveInvalid ‹_› ‹_› ‹_›
  · exact .arriveBypass ‹_› ‹_› (Bool.eq_false_iff.2 ‹_›)
  · exact .arrive ‹_› _ ‹_›
  · exact .get1Hit ‹_› _ ‹_› _ ‹_›
  · exact .get1Miss ‹_› _ ‹_› ‹_›
  · exact .lockCall ‹_›
  · exact .incOld ‹_› _ ‹_› _ ‹_›
  · exact .incNew ‹_› _ ‹_› ‹_›
  · exact .acquire ‹_› ‹_›
  · exact .get2Hit ‹_› _ ‹_› _ ‹_›
  · exact .get2Miss ‹_› _ ‹_› ‹_›
  · exact .handlerFail ‹_› ‹_›
  · exact .handlerOk ‹_› (Bool.eq_false_iff.2 ‹_›)
  · exact .set ‹_› _ ‹_›
  · exact .unlockCall ‹_›
  · exact .unlockFound ‹_› _ ‹_› _ ‹_›
  · exact .unlockUnknown ‹_› _ ‹_› ‹_›
  · exact .release ‹_›
  · -- `locked--`: the `if` sits under a `let` of the model, which the principle does not split
    rename_i g2
    by_cases hz : (g.locks (g.threads t).lk).locked - 1 ≤ 0
    · rw [show g2 = _ from if_pos hz]; exact .decDelete ‹_› _ ‹_› hz
    · rw [show g2 = _ from if_neg hz]; exact .decKeep ‹_› _ ‹_› hz
  · exact .handlerB ‹_›

theorem step_of_stepFault (life : Nat) {g g' : G} {t : Tid} (h : stepFault g t = some g') : Step life g t g' := by
  revert h
  fun_cases stepFault g t <;> intro h <;> cases h
  · exact .faultGet1 ‹_›
  · exact .faultLock ‹_›
  · exact .faultGet2 ‹_›
  · exact .faultSet ‹_›
  · exact .faultUnlock ‹_›

theorem Step.others {life : Nat} {g g' : G} {t t' : Tid} (hs : Step life g t g') (ht : t' ≠ t) :
    g'.threads t' = g.threads t' := by
  cases hs <;> exact setThread_threads_ne _ _ ht

theorem Step.other_keys {life : Nat} {g g' : G} {t : Tid} {k k' : Key} (hs : Step life g t g')
    (hk : (g.threads t).req.key = some k) (hkk : k' ≠ k) :
    g'.store k' = g.store k' ∧ g'.vals k' = g.vals k' ∧ g'.keys k' = g.keys k' := by
  cases hs
  -- only these three write to a table indexed by keys, at the key of the request
  case set _ k0 hk0 | incNew _ k0 hk0 _ | decDelete _ k0 hk0 _ =>
    rw [hk] at hk0; cases hk0; simp [hkk]
  all_goals exact ⟨rfl, rfl, rfl⟩

theorem Step.req {life : Nat} {g g' : G} {t : Tid} (hs : Step life g t g') (t' : Tid) :
    (g'.threads t').req = (g.threads t').req := by
  by_cases ht : t' = t
  · subst ht; cases hs <;> simp only [setThread_threads_same]
  · rw [hs.others ht]

theorem Step.keep {life : Nat} {g g' : G} {t : Tid} (hs : Step life g t g') : g'.keep = g.keep := by
  cases hs <;> rfl

theorem Step.now {life : Nat} {g g' : G} {t : Tid} (hs : Step life g t g') : g'.now = g.now := by
  cases hs <;> rfl

theorem Step.each {life : Nat} {g g' : G} {t : Tid} (hs : Step life g t g') (P : Thread → Prop)
    (h : ∀ t, P (g.threads t)) (ht : P (g.threads t) → P (g'.threads t)) (t' : Tid) : P (g'.threads t') := by
  by_cases e : t' = t
  · subst e; exact ht (h t')
  · rw [hs.others e]; exact h t'

theorem step_cases (life : Nat) {g g' : G} {a : Act} (h : step life g a = some g') :
    (∃ d, g' = { g with now := g.now + d }) ∨ (∃ t, Step life g t g') := by
  cases a with
  | thr t => exact .inr ⟨t, step_of_stepThr life h⟩
  | fault t => exact .inr ⟨t, step_of_stepFault life h⟩
  | tick d => simp [step] at h; exact .inl ⟨d, h.symm⟩

end C17
