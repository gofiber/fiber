import FiberModel.C17.FullInv
import FiberModel.C17.Known
/-
C17 — the property theorems, the predicates they are stated with and non-vacuity examples. Apart from the
one-step `fault_gives_error` (any state) and the K1 witness (one schedule) they quantify over every lifetime, every
KeepResponseHeaders setting, every assignment of requests to threads (unboundedly many threads, any keys, with or without
key / safe method, invalid keys, failing or succeeding handlers, any response) and EVERY schedule: any
interleaving of the atomic steps of the threads (including the internal steps of MemoryLock.Lock /
Unlock), a fault at any Storage.Get / Lock.Lock / Storage.Set / Lock.Unlock call, and clock ticks of
any length (`(sys life).Reach (init reqs t0 keep) g`).
-/
namespace C17

/-- **memorylock_mutex.** Under every schedule: (1) two threads that are both past `lock.mu.Lock()`
and before `lock.mu.Unlock()` for the same key are the same thread (per-key mutual exclusion, across
deletions and re-creations of the map entry); (2) a key's map entry is absent only when no thread is
between `locked++` and `locked--` for that key — i.e. an entry is deleted only when no thread holds
or waits on it; (3) all threads counted on a key point at the entry currently in the map, and its
counter is their number. -/
theorem memorylock_mutex (life : Nat) (reqs : Tid → Req) (t0 : Nat) (keep : Option (List String)) {g : G}
    (h : (sys life).Reach (init reqs t0 keep) g) :
    (∀ t t' k, holds (g.threads t).pc = true → holds (g.threads t').pc = true →
      (g.threads t).req.key = some k → (g.threads t').req.key = some k → t = t') ∧
    (∀ k, g.keys k = none → ∀ t, (g.threads t).req.key = some k → inLock (g.threads t).pc = false) ∧
    (∀ t, inLock (g.threads t).pc = true →
      ∃ k, (g.threads t).req.key = some k ∧ g.keys k = some (g.threads t).lk ∧
        (g.locks (g.threads t).lk).locked = (g.locks (g.threads t).lk).users.length ∧
        (∀ t', t' ∈ (g.locks (g.threads t).lk).users ↔
          (inLock (g.threads t').pc = true ∧ (g.threads t').lk = (g.threads t).lk))) := by
  have hf := full_reach life reqs t0 keep h
  refine ⟨fun t t' k h1 h2 k1 k2 => holders_eq hf.lock h1 h2 k1 k2, fun k hk t hkt => ?_, fun t hin => ?_⟩
  · refine Bool.eq_false_iff.2 fun hin => ?_
    have hp := hf.lock.entry hin hkt
    rw [hk] at hp; cases hp
  · obtain ⟨k, hk, hp⟩ := hf.lock.ptr t hin
    exact ⟨k, hk, hp, hf.lock.count _, fun t' => hf.lock.users _ t'⟩

/-
Full statement (false on the Go code, see `at_most_one_success_witness_K1`):
  ∀ reachable g, ∀ t1 ≠ t2 with the same key k, if t2 is executing the handler (or has completed it and
  not yet recorded the response) and the handler has completed successfully for t1, then t1's
  completion is at least a lifetime old:  doneAt t1 + life ≤ now.
It can fail only when t1's Storage.Set failed (finding K1), and does on the witness schedule: the partial theorem
assumes `Known.K1 g t1 = false`.
-/
def AtMostOnce (life : Nat) (g : G) (t1 t2 : Tid) : Prop :=
  ∀ k, t1 ≠ t2 → execRegion (g.threads t2).pc = true → (g.threads t2).req.key = some k →
    (g.threads t1).req.key = some k → (g.threads t1).ran = true → (g.threads t1).req.fails = false →
    (g.threads t1).doneAt + life ≤ g.now

/-- **at_most_one_success_partial.** Under every schedule (faults included): while a request is
executing the handler for key k, every *other* request of key k whose handler completed successfully
— and whose response was not lost by a failing `Storage.Set` (K1) — completed at least a lifetime
ago. (That no two requests of a key execute at the same time is `memorylock_mutex`.) -/
theorem at_most_one_success_partial (life : Nat) (reqs : Tid → Req) (t0 : Nat) (keep : Option (List String)) {g : G}
    (h : (sys life).Reach (init reqs t0 keep) g) (t1 t2 : Tid) (hK : Known.K1 g t1 = false) :
    AtMostOnce life g t1 t2 := by
  have hf := full_reach life reqs t0 keep h
  intro k hne hex hk2 hk1 hran hnf
  rcases (hf.loc t1).succ k hran hnf hk1 with hc | hc | hc
  · -- t1 is about to record: it holds the key's lock, and so does t2
    exact absurd (holders_eq hf.lock (by simp [hc, holds]) (holds_of_execRegion hex) hk1 hk2) hne
  · have := (hf.store.expired hex hk2 hk1 hc).1
    have := (hf.exec.setAt t1 hc).1
    omega
  · simp [Known.K1, hc] at hK

/-- **recorded_success_blocks_execution.** (no K1 restriction) Under every schedule: while a request
executes the handler (or has completed it and not yet recorded) for key k, every execution of key k
whose response was recorded was recorded at least a lifetime ago — the lifetime counted from the second
of the successful `Storage.Set`. -/
theorem recorded_success_blocks_execution (life : Nat) (reqs : Tid → Req) (t0 : Nat) (keep : Option (List String))
    {g : G} (h : (sys life).Reach (init reqs t0 keep) g) (t1 t2 : Tid) (k : Key)
    (hex : execRegion (g.threads t2).pc = true) (hk2 : (g.threads t2).req.key = some k)
    (hk1 : (g.threads t1).req.key = some k) (hs : (g.threads t1).stored = true) :
    (g.threads t1).doneAt ≤ (g.threads t1).setAt ∧ (g.threads t1).setAt + life ≤ g.now := by
  have hf := full_reach life reqs t0 keep h
  exact ⟨(hf.exec.setAt t1 hs).1, (hf.store.expired hex hk2 hk1 hs).1⟩

/-- **recorded_successes_a_lifetime_apart.** (no K1 restriction) Under every schedule: of two different
requests of the same key whose handlers completed successfully and whose responses were both recorded,
one completed at least a lifetime after the other was *recorded*. Together with K1 (= a successful
execution that was never recorded) this is the whole at-most-once clause. -/
theorem recorded_successes_a_lifetime_apart (life : Nat) (reqs : Tid → Req) (t0 : Nat) (keep : Option (List String))
    {g : G} (h : (sys life).Reach (init reqs t0 keep) g) (t1 t2 : Tid) (k : Key) (hne : t1 ≠ t2)
    (hk1 : (g.threads t1).req.key = some k) (hk2 : (g.threads t2).req.key = some k)
    (hs1 : (g.threads t1).stored = true) (hs2 : (g.threads t2).stored = true) :
    (g.threads t1).setAt + life ≤ (g.threads t2).doneAt ∨ (g.threads t2).setAt + life ≤ (g.threads t1).doneAt :=
  (oinv_reach life reqs t0 keep h).apart t1 t2 k hne hk1 hk2 hs1 hs2

/-- K1 witness: thread 0 executes, its Set fails, thread 1 executes in the same second. -/
theorem at_most_one_success_witness_K1 :
    ¬ AtMostOnce 5 ((sys 5).run (init (fun _ => { key := some 0, invalid := false, fails := false }) 100)
        (List.replicate 7 (.thr 0) ++ [.fault 0] ++ List.replicate 4 (.thr 0) ++ List.replicate 7 (.thr 1))) 0 1 := by
  intro h
  have := h 0 (by decide) (by decide) (by decide) (by decide) (by decide) (by decide)
  revert this
  decide

/-- non-vacuity of the partial theorem: the same schedule without the fault, after the lifetime has
passed thread 1 executes again, and the hypotheses of `AtMostOnce` hold for (0, 1) -/
def exA : G := (sys 5).run (init (fun _ => { key := some 0, invalid := false, fails := false }) 100)
  (List.replicate 12 (Act.thr 0) ++ [Act.tick 5] ++ List.replicate 7 (Act.thr 1))

example : Known.K1 exA 0 = false ∧ execRegion (exA.threads 1).pc = true ∧ (exA.threads 0).ran = true ∧
    (exA.threads 0).doneAt + 5 ≤ exA.now := by decide +kernel

/-- non-vacuity of `recorded_successes_a_lifetime_apart`: both requests recorded, a lifetime apart -/
def exA2 : G := (sys 5).run exA (List.replicate 6 (Act.thr 1))

example : (exA2.threads 0).stored = true ∧ (exA2.threads 1).stored = true ∧ (exA2.threads 0).setAt = 100 ∧
    (exA2.threads 1).doneAt = 105 ∧ (exA2.threads 1).pc = .done := by decide +kernel

/-
Full statement (false on the Go code for the same reason, K1): the same without the two
`Known.K1 … = false` hypotheses.
-/
/-- **successes_a_lifetime_apart_partial.** Under every schedule: two different requests of the same key
whose handlers both completed successfully, and neither of whose responses was lost by a failing
`Storage.Set` (K1), completed at least a lifetime apart. -/
theorem successes_a_lifetime_apart_partial (life : Nat) (reqs : Tid → Req) (t0 : Nat) (keep : Option (List String)) {g : G}
    (h : (sys life).Reach (init reqs t0 keep) g) :
    ∀ t1 t2 k, t1 ≠ t2 → (g.threads t1).req.key = some k → (g.threads t2).req.key = some k →
      (g.threads t1).ran = true → (g.threads t1).req.fails = false →
      (g.threads t2).ran = true → (g.threads t2).req.fails = false →
      Known.K1 g t1 = false → Known.K1 g t2 = false →
      (g.threads t1).doneAt + life ≤ (g.threads t2).doneAt ∨ (g.threads t2).doneAt + life ≤ (g.threads t1).doneAt := by
  have hf := full_reach life reqs t0 keep h
  have ho := oinv_reach life reqs t0 keep h
  intro t1 t2 k hne k1 k2 r1 f1 r2 f2 kk1 kk2
  simp only [Known.K1, beq_eq_false_iff_ne] at kk1 kk2
  -- a successful execution outside K1 is either about to record or recorded
  have hc1 := ((hf.loc t1).succ k r1 f1 k1).imp_right (Or.resolve_right · kk1)
  have hc2 := ((hf.loc t2).succ k r2 f2 k2).imp_right (Or.resolve_right · kk2)
  have hd := fun t h => (hf.exec.setAt t h).1
  -- one about to record, the other recorded
  have mixed : ∀ a b, (g.threads a).pc = .atSet → (g.threads a).req.key = some k → (g.threads b).req.key = some k →
      (g.threads b).stored = true → (g.threads b).doneAt + life ≤ (g.threads a).doneAt := fun a b ha ka kb sb => by
    have := ho.atSet a b k ha ka kb sb
    have := hd b sb
    omega
  rcases hc1 with a1 | s1 <;> rcases hc2 with a2 | s2
  · exact absurd (holders_eq hf.lock (by simp [a1, holds]) (by simp [a2, holds]) k1 k2) hne
  · exact .inr (mixed t1 t2 a1 k1 k2 s2)
  · exact .inl (mixed t2 t1 a2 k2 k1 s1)
  · have := ho.apart t1 t2 k hne k1 k2 s1 s2
    have := hd t1 s1
    have := hd t2 s2
    omega

/-- **same_answer.** Under every schedule and every KeepResponseHeaders setting: a request answered
without running the handler (`replay r`) was written exactly the recorded form of the response of
execution `r` — `r`'s status, `r`'s body and those of `r`'s headers that KeepResponseHeaders selects
(all of them when it is nil), in `r`'s order; `r` has the same key, completed the handler successfully
and its response was recorded; the handler was not run for the answered request. -/
theorem same_answer (life : Nat) (reqs : Tid → Req) (t0 : Nat) (keep : Option (List String)) {g : G}
    (h : (sys life).Reach (init reqs t0 keep) g) (t r : Tid) (ho : (g.threads t).out = .replay r) :
    (g.threads t).ans = some (recorded keep (reqs r).resp) ∧
    (reqs r).key = (reqs t).key ∧ (reqs t).key ≠ none ∧
    (g.threads r).stored = true ∧ (g.threads r).ran = true ∧ (reqs r).fails = false ∧
    (g.threads t).ran = false := by
  have hf := full_reach life reqs t0 keep h
  obtain ⟨hk, hrq⟩ := const_reach life reqs t0 keep h
  obtain ⟨a, b, c, hans⟩ := hf.store.replay t r ho
  obtain ⟨d, e, _⟩ := hf.exec.stored r c
  rw [← hk, ← hrq r, ← hrq t]
  exact ⟨hans, a, b, c, d, e, hf.exec.noRun t (by simp [ho, noRunOut])⟩

/-- the executing request itself is written its handler's response -/
theorem own_answer (life : Nat) (reqs : Tid → Req) (t0 : Nat) (keep : Option (List String)) {g : G}
    (h : (sys life).Reach (init reqs t0 keep) g) (t : Tid) (ho : (g.threads t).out = .own) :
    (g.threads t).ans = some (reqs t).resp ∧ (g.threads t).ran = true := by
  have hf := full_reach life reqs t0 keep h
  obtain ⟨_, hrq⟩ := const_reach life reqs t0 keep h
  obtain ⟨hran, hans⟩ := (hf.loc t).own ho
  rw [← hrq t]
  exact ⟨hans, hran⟩

/-- **duplicates_agree.** Any two requests answered from the record of the same execution were written
the same status, body and kept headers. -/
theorem duplicates_agree (life : Nat) (reqs : Tid → Req) (t0 : Nat) (keep : Option (List String)) {g : G}
    (h : (sys life).Reach (init reqs t0 keep) g) (t t' r : Tid)
    (ho : (g.threads t).out = .replay r) (ho' : (g.threads t').out = .replay r) :
    (g.threads t).ans = (g.threads t').ans := by
  rw [(same_answer life reqs t0 keep h t r ho).1, (same_answer life reqs t0 keep h t' r ho').1]

def exReq : Req := { key := some 0, invalid := false, fails := false,
                     resp := ⟨201, "created", [("X-A", "1"), ("Set-Cookie", "s=1"), ("x-a", "2")]⟩ }

def exB : G := (sys 5).run (init (fun _ => exReq) 100 (some ["x-A"]))
  (List.replicate 12 (Act.thr 0) ++ List.replicate 2 (Act.thr 1))

example : (exB.threads 1).out = .replay 0 ∧ (exB.threads 1).pc = .done ∧ (exB.threads 0).out = .own := by decide +kernel
example : recorded (some ["x-A"]) exReq.resp = ⟨201, "created", [("X-A", "1"), ("x-a", "2")]⟩ := by decide +kernel

/-- **lock_or_lookup_failure_no_execution.** Under every schedule: a request answered with the error of a
failed fast-path lookup, lock acquisition or second lookup (or of an invalid key) has not had the handler
run for it. -/
theorem lock_or_lookup_failure_no_execution (life : Nat) (reqs : Tid → Req) (t0 : Nat) (keep : Option (List String)) {g : G}
    (h : (sys life).Reach (init reqs t0 keep) g) (t : Tid)
    (ho : (g.threads t).out = .errGet1 ∨ (g.threads t).out = .errLock ∨ (g.threads t).out = .errGet2 ∨
          (g.threads t).out = .errKey) :
    (g.threads t).ran = false := by
  have hf := full_reach life reqs t0 keep h
  apply hf.exec.noRun t
  rcases ho with ho | ho | ho | ho <;> simp [ho, noRunOut]

/-- **fault_gives_error.** A failing `Storage.Get` / `Lock.Lock` / `Storage.Set` call is answered with
the corresponding error at once; a failing `Lock.Unlock` (it is only logged) leaves the answer, the
storage and every other request as they were. -/
theorem fault_gives_error (g g' : G) (t : Tid) (h : stepFault g t = some g') :
    ((g.threads t).pc = .atGet1 ∧ (g'.threads t).out = .errGet1 ∧ (g'.threads t).pc = .done) ∨
    ((g.threads t).pc = .atLock ∧ (g'.threads t).out = .errLock ∧ (g'.threads t).pc = .done) ∨
    ((g.threads t).pc = .atGet2 ∧ (g'.threads t).out = .errGet2) ∨
    ((g.threads t).pc = .atSet ∧ (g'.threads t).out = .errSet) ∨
    ((g.threads t).pc = .atUnlock ∧ (g'.threads t).out = (g.threads t).out ∧ (g'.threads t).ans = (g.threads t).ans ∧
      (g'.threads t).ran = (g.threads t).ran ∧ g'.store = g.store ∧ g'.vals = g.vals ∧
      ∀ t', t' ≠ t → g'.threads t' = g.threads t') := by
  revert h
  fun_cases stepFault g t <;> intro h <;> cases h <;> rw [setThread_threads_same]
  · exact .inl ⟨‹_›, rfl, rfl⟩
  · exact .inr (.inl ⟨‹_›, rfl, rfl⟩)
  · exact .inr (.inr (.inl ⟨‹_›, rfl⟩))
  · exact .inr (.inr (.inr (.inl ⟨‹_›, rfl⟩)))
  · exact .inr (.inr (.inr (.inr ⟨‹_›, rfl, rfl, rfl, rfl, rfl, fun _ => setThread_threads_ne _ _⟩)))

def exC : G := (sys 5).run (init (fun _ => { key := some 0, invalid := false, fails := false }) 100) [Act.thr 0, Act.thr 0, Act.fault 0]

example : (exC.threads 0).out = .errLock ∧ (exC.threads 0).pc = .done ∧ (exC.threads 0).ran = false := by decide +kernel

def lookErr : Out → Bool
  | .errGet1 | .errLock | .errGet2 => true
  | _ => false

/-- **lookup_or_lock_failure_final.** Take any reachable state and any request whose pending fast-path
lookup, lock acquisition or lookup under the lock is made to fail there. Then, whatever happens
afterwards (every continuation schedule `bs`, further faults included), that request is answered with
that error and the handler is never run for it. -/
theorem lookup_or_lock_failure_final (life : Nat) (reqs : Tid → Req) (t0 : Nat) (keep : Option (List String))
    {g g1 : G} (h : (sys life).Reach (init reqs t0 keep) g) (t : Tid) (hfault : stepFault g t = some g1)
    (hpc : (g.threads t).pc = .atGet1 ∨ (g.threads t).pc = .atLock ∨ (g.threads t).pc = .atGet2) (bs : List Act) :
    lookErr (((sys life).run g1 bs).threads t).out = true ∧
    (((sys life).run g1 bs).threads t).out = (g1.threads t).out ∧
    (((sys life).run g1 bs).threads t).ran = false := by
  have hf1 : Full life g1 := full_step life (full_reach life reqs t0 keep h) (a := .fault t) hfault
  -- the error of the failing call is one that is given without running the handler; `hpc` excludes `Set` and `Unlock`
  have h1 : lookErr (g1.threads t).out = true ∧ noRunOut (g1.threads t).out = true := by
    rcases fault_gives_error g g1 t hfault with ⟨_, e, _⟩ | ⟨_, e, _⟩ | ⟨_, e⟩ | ⟨p, _⟩ | ⟨p, _⟩
    iterate 3 rw [e]; exact ⟨rfl, rfl⟩
    all_goals rw [p] at hpc; simp at hpc
  obtain ⟨_, _, e⟩ := answer_final hf1 t (fun hp => by rw [hp] at h1; cases h1.1) bs
  rw [e]; exact ⟨h1.1, rfl, (hf1.loc t).noRun h1.2⟩

/-- non-vacuity of the hypotheses of `lookup_or_lock_failure_final`: a reachable state with request 0 at its
`Lock.Lock` call, where the fault is enabled -/
example : stepFault ((sys 5).run (init (fun _ => exReq) 100) [Act.thr 0, Act.thr 0]) 0 ≠ none ∧
    (((sys 5).run (init (fun _ => exReq) 100) [Act.thr 0, Act.thr 0]).threads 0).pc = .atLock := by decide +kernel

/-- **others_unaffected.** (1) A request without a key / with a safe method always has an enabled step
until it is done, that step touches neither storage nor lock table, (2) and it ends having run the
handler. (3) A step of a request with key k leaves the record and the lock-table entry of every other
key (and the recorded response of every other key), and every other thread, untouched. (4) Under every
schedule an unfinished request is blocked only inside `lock.mu.Lock()`, and only by a request with the
*same* key that holds that key's lock (which includes a request whose `Unlock` failed). -/
theorem others_unaffected (life : Nat) (reqs : Tid → Req) (t0 : Nat) (keep : Option (List String)) {g : G}
    (h : (sys life).Reach (init reqs t0 keep) g) :
    (∀ t, (g.threads t).req.key = none → (g.threads t).req.invalid = false → (g.threads t).pc ≠ .done →
      ∃ g', stepThr life g t = some g' ∧ g'.store = g.store ∧ g'.keys = g.keys ∧ g'.locks = g.locks) ∧
    (∀ t, (g.threads t).req.key = none → (g.threads t).req.invalid = false → (g.threads t).pc = .done →
      (g.threads t).ran = true) ∧
    (∀ t g' k, Step life g t g' → (g.threads t).req.key = some k →
      (∀ k', k' ≠ k → g'.store k' = g.store k' ∧ g'.vals k' = g.vals k' ∧ g'.keys k' = g.keys k') ∧
      (∀ t', t' ≠ t → g'.threads t' = g.threads t')) ∧
    (∀ t, stepThr life g t = none → (g.threads t).pc ≠ .done → (g.threads t).pc ≠ .leaked →
      (g.threads t).pc = .lockAcq ∧ (g.threads t).req.key ≠ none ∧
      ∃ t', (g.locks (g.threads t).lk).holder = some t' ∧ (g.threads t').req.key = (g.threads t).req.key) := by
  have hf := full_reach life reqs t0 keep h
  refine ⟨fun t hk hiv hnd => ?_, fun t hk hiv hd => ?_, fun t g' k hst hk => ?_, fun t hnone hnd hnl => ?_⟩
  · rcases (hf.loc t).bypass hk with hpc | hpc | hpc
    · simp only [stepThr, hpc, hk, hiv, Bool.false_eq_true, ↓reduceIte]; exact ⟨_, rfl, rfl, rfl, rfl⟩
    · simp only [stepThr, hpc]; exact ⟨_, rfl, rfl, rfl, rfl⟩
    · exact absurd hpc.1 hnd
  · rcases (hf.loc t).bypass hk with hpc | hpc | hpc
    · rw [hd] at hpc; cases hpc
    · rw [hd] at hpc; cases hpc
    · exact hpc.2 hiv
  · exact ⟨fun k' hkk => hst.other_keys hk hkk, fun t' ht => hst.others ht⟩
  · exact blocked_behind_holder hf hnone hnd hnl

/-- **no_deadlock.** Under every schedule: whenever an unfinished request cannot move, the request that
holds its key's lock either can move itself or is one whose `Unlock` failed (leaked lock) — requests
never wait for each other in a cycle. -/
theorem no_deadlock (life : Nat) (reqs : Tid → Req) (t0 : Nat) (keep : Option (List String)) {g : G}
    (h : (sys life).Reach (init reqs t0 keep) g) (t : Tid) (hnone : stepThr life g t = none)
    (hnd : (g.threads t).pc ≠ .done) (hnl : (g.threads t).pc ≠ .leaked) :
    ∃ t', (g.locks (g.threads t).lk).holder = some t' ∧ t' ≠ t ∧
      ((g.threads t').pc = .leaked ∨ (stepThr life g t').isSome = true) := by
  have hf := full_reach life reqs t0 keep h
  obtain ⟨hpc, _, t', hh, _⟩ := blocked_behind_holder hf hnone hnd hnl
  -- the holder is in the `holds` region; `t`, and any unfinished request that cannot move, is at `lockAcq`, which
  -- is outside it
  obtain ⟨h1, _⟩ := (hf.lock.holder _ t').1 hh
  refine ⟨t', hh, ?_, ?_⟩
  · intro e; subst e; simp [hpc, holds] at h1
  · by_cases hl : (g.threads t').pc = .leaked
    · exact .inl hl
    · right
      cases hs : stepThr life g t' with
      | some _ => rfl
      | none =>
        have hd : (g.threads t').pc ≠ .done := by intro e; simp [e, holds] at h1
        have := (blocked_only_at_lockAcq (hf.loc t') hs hd hl).1
        simp [this, holds] at h1

/-- non-vacuity of `no_deadlock`: request 1 waits for request 0, which is in the handler and can move -/
def exN : G := (sys 5).run (init (fun _ => exReq) 100) (List.replicate 6 (Act.thr 0) ++ List.replicate 4 (Act.thr 1))

example : (exN.threads 1).pc = .lockAcq ∧ (stepThr 5 exN 1).isNone = true ∧ (exN.threads 0).pc = .atHandler ∧
    (exN.locks (exN.threads 1).lk).holder = some 0 ∧ (stepThr 5 exN 0).isSome = true := by decide +kernel

/-- non-vacuity (blocking, Unlock fault): request 0 executes and records, its `Unlock` fails; after the
lifetime request 1 (same key) misses the record, and waits in `lock.mu.Lock()` for the leaked lock -/
def exL : G := (sys 5).run (init (fun _ => exReq) 100)
  (List.replicate 8 (Act.thr 0) ++ [Act.fault 0, Act.tick 5] ++ List.replicate 5 (Act.thr 1))

example : (exL.threads 0).pc = .leaked ∧ (exL.threads 0).out = .own ∧ (exL.threads 1).pc = .lockAcq ∧
    (stepThr 5 exL 1).isNone = true ∧ (exL.locks (exL.threads 1).lk).holder = some 0 := by decide +kernel

end C17
