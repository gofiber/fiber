import FiberModel.C17.Lemmas
/-
C17 — the MemoryLock invariant: the counted map entry of a key exists whenever some thread is
between `locked++` and `locked--` on it, all those threads hold a pointer to that one entry, its
counter is their number, and its mutex is held by at most one of them.
-/
namespace C17

/-- between `locked++` (MemoryLock.Lock) and `locked--` (MemoryLock.Unlock); a request whose `Unlock`
failed without releasing stays there for ever -/
def inLock : Pc → Bool
  | .lockAcq | .atGet2 | .atHandler | .atSet | .atUnlock | .unlockLookup | .unlockRelease | .unlockDec | .leaked => true
  | _ => false

/-- between `lock.mu.Lock()` returning and `lock.mu.Unlock()` -/
def holds : Pc → Bool
  | .atGet2 | .atHandler | .atSet | .atUnlock | .unlockLookup | .unlockRelease | .leaked => true
  | _ => false

theorem inLock_of_holds {pc : Pc} (h : holds pc = true) : inLock pc = true := by
  revert h
  fun_cases holds pc <;> intro h <;> first | rfl | cases h

structure LInv (g : G) : Prop where
  ptr : ∀ t, inLock (g.threads t).pc = true → ∃ k, (g.threads t).req.key = some k ∧ g.keys k = some (g.threads t).lk
  users : ∀ i t, t ∈ (g.locks i).users ↔ (inLock (g.threads t).pc = true ∧ (g.threads t).lk = i)
  nodup : ∀ i, (g.locks i).users.Nodup
  count : ∀ i, (g.locks i).locked = (g.locks i).users.length
  holder : ∀ i t, (g.locks i).holder = some t ↔ (holds (g.threads t).pc = true ∧ (g.threads t).lk = i)
  freshK : ∀ k i, g.keys k = some i → i < g.nextId
  freshT : ∀ t, inLock (g.threads t).pc = true → (g.threads t).lk < g.nextId
  inj : ∀ k k' i, g.keys k = some i → g.keys k' = some i → k = k'

theorem linv_init (reqs : Tid → Req) (t0 : Nat) (keep : Option (List String)) : LInv (init reqs t0 keep) := by
  refine ⟨?_, ?_, ?_, ?_, ?_, ?_, ?_, ?_⟩ <;> intros <;> simp_all [init, inLock, holds]

theorem LInv.entry {g : G} (hi : LInv g) {t : Tid} {k : Key} (hin : inLock (g.threads t).pc = true)
    (hk : (g.threads t).req.key = some k) : g.keys k = some (g.threads t).lk := by
  obtain ⟨k', hk', hp⟩ := hi.ptr t hin
  rw [hk] at hk'; cases hk'
  exact hp

theorem LInv.congr {g g' : G} (hi : LInv g) (ht : g'.threads = g.threads) (hk : g'.keys = g.keys)
    (hl : g'.locks = g.locks) (hn : g'.nextId = g.nextId) : LInv g' := by
  cases g; cases g'; cases ht; cases hk; cases hl; cases hn
  exact ⟨hi.ptr, hi.users, hi.nodup, hi.count, hi.holder, hi.freshK, hi.freshT, hi.inj⟩

theorem linv_tick {g : G} (d : Nat) (hi : LInv g) : LInv { g with now := g.now + d } :=
  hi.congr rfl rfl rfl rfl

/-- `users` and `holder` have one shape: `t'` is entered at object `i` iff its program counter says so and it
points at `i`. Such a table stays exact when object `i` and thread `t` (then pointing at `i`) are updated together. -/
theorem table_update {R : CLock → Tid → Prop} {S : Pc → Prop} {locks : Nat → CLock} {threads : Tid → Thread}
    {i : Nat} {l' : CLock} {t : Tid} {th' : Thread}
    (hold : ∀ i t', R (locks i) t' ↔ (S (threads t').pc ∧ (threads t').lk = i))
    (hoth : ∀ t', t' ≠ t → (R l' t' ↔ R (locks i) t'))
    (hme : R l' t ↔ S th'.pc) (hlk : th'.lk = i) (hatt : S (threads t).pc → (threads t).lk = i) :
    ∀ i' t', R (if i' = i then l' else locks i') t' ↔
      (S (if t' = t then th' else threads t').pc ∧ (if t' = t then th' else threads t').lk = i') := by
  intro i' t'
  by_cases hii : i' = i <;> by_cases ht : t' = t
  · rw [if_pos hii, if_pos ht, ht, hme, hlk, hii]; exact (and_iff_left rfl).symm
  · rw [if_pos hii, if_neg ht, hoth t' ht, hii]; exact hold i t'
  · rw [if_neg hii, if_pos ht, ht, hlk]
    constructor
    · intro h; obtain ⟨h1, h2⟩ := (hold i' t).1 h; exact absurd ((hatt h1).symm.trans h2).symm hii
    · intro h; exact absurd h.2.symm hii
  · rw [if_neg hii, if_neg ht]; exact hold i' t'

theorem forall_update {α β : Type} [DecidableEq α] {f : α → β} {P : β → Prop} {a : α} {b : β}
    (hold : ∀ x, P (f x)) (hnew : P b) (x : α) : P (if x = a then b else f x) := by
  by_cases h : x = a
  · rw [if_pos h]; exact hnew
  · rw [if_neg h]; exact hold x

theorem fresh_lock {g : G} (hi : LInv g) : g.locks g.nextId = ⟨0, none, []⟩ := by
  have hu : (g.locks g.nextId).users = [] := by
    refine List.eq_nil_iff_forall_not_mem.2 fun t' hm => ?_
    obtain ⟨h1, h2⟩ := (hi.users _ t').1 hm
    have := hi.freshT t' h1; omega
  have hc := hi.count g.nextId
  have hh : (g.locks g.nextId).holder = none := by
    cases hh : (g.locks g.nextId).holder with
    | none => rfl
    | some t' =>
      obtain ⟨h1, h2⟩ := (hi.holder _ t').1 hh
      have := hi.freshT t' (inLock_of_holds h1); omega
  rw [hu] at hc
  cases hl : g.locks g.nextId with
  | mk locked holder users => rw [hl] at hu hc hh; simp_all

/-- Lock object `i` and thread `t` change together and the map stays: the thread's new record `th'` points at `i`,
is entered in the new object `l'` (as user, as holder) exactly as its program counter says, and the other threads'
entries are those of the old object. The six clauses about objects and threads are `table_update` and
`forall_update`, read at the functions that `setLock` / `setThread` build. -/
theorem linv_update {g : G} (hi : LInv g) {i : Nat} {l' : CLock} {t : Tid} {th' : Thread}
    (hlk : th'.lk = i) (hat : inLock (g.threads t).pc = true → (g.threads t).lk = i)
    (hptr : inLock th'.pc = true → ∃ k, th'.req.key = some k ∧ g.keys k = some i)
    (hu_oth : ∀ t', t' ≠ t → (t' ∈ l'.users ↔ t' ∈ (g.locks i).users)) (hu_me : t ∈ l'.users ↔ inLock th'.pc = true)
    (hnodup : l'.users.Nodup) (hcount : l'.locked = l'.users.length)
    (hh_oth : ∀ t', t' ≠ t → (l'.holder = some t' ↔ (g.locks i).holder = some t'))
    (hh_me : l'.holder = some t ↔ holds th'.pc = true) : LInv ((g.setLock i l').setThread t th') := by
  refine ⟨?_, ?_, ?_, ?_, ?_, hi.freshK, ?_, hi.inj⟩
  · exact forall_update (f := g.threads)
      (P := fun th => inLock th.pc = true → ∃ k, th.req.key = some k ∧ g.keys k = some th.lk) hi.ptr
      (by rw [hlk]; exact hptr)
  · exact table_update (threads := g.threads) (R := fun l t' => t' ∈ l.users) (S := fun pc => inLock pc = true) hi.users
      hu_oth hu_me hlk hat
  · exact forall_update (f := g.locks) (P := fun l => l.users.Nodup) hi.nodup hnodup
  · exact forall_update (f := g.locks) (P := fun l => l.locked = l.users.length) hi.count hcount
  · exact table_update (threads := g.threads) (R := fun l t' => l.holder = some t') (S := fun pc => holds pc = true) hi.holder
      hh_oth hh_me hlk (fun h => hat (inLock_of_holds h))
  · refine forall_update (f := g.threads) (P := fun th => inLock th.pc = true → th.lk < g.nextId) hi.freshT fun h => ?_
    obtain ⟨k, _, hk⟩ := hptr h
    rw [hlk]; exact hi.freshK k i hk

theorem linv_frame {g : G} {t : Tid} {th' : Thread} (hi : LInv g) (hreq : th'.req = (g.threads t).req)
    (hlk : th'.lk = (g.threads t).lk)
    (hpc : inLock th'.pc = inLock (g.threads t).pc ∧ holds th'.pc = holds (g.threads t).pc) :
    LInv (g.setThread t th') := by
  -- `linv_update` with the thread's object replaced by itself
  rw [← setLock_self g (g.threads t).lk]
  exact linv_update hi hlk (fun _ => rfl) (fun h => hreq ▸ hi.ptr t (hpc.1 ▸ h)) (fun _ _ => Iff.rfl)
    (by rw [hi.users, hpc.1]; exact and_iff_left rfl) (hi.nodup _) (hi.count _) (fun _ _ => Iff.rfl)
    (by rw [hi.holder, hpc.2]; exact and_iff_left rfl)

/-- `l.keys[key] = &countedLock{}` in MemoryLock.Lock: a key without entry gets the next unused object; nobody
is counted on it yet -/
theorem linv_create {g : G} {k : Key} (hi : LInv g) (hk : g.keys k = none) :
    LInv { g with keys := fun k' => if k' = k then some g.nextId else g.keys k', nextId := g.nextId + 1 } := by
  refine ⟨?ptr, hi.users, hi.nodup, hi.count, hi.holder, ?freshK, fun t h => Nat.lt_succ_of_lt (hi.freshT t h), ?inj⟩
  case ptr =>
    intro t h
    obtain ⟨k', hk', hp⟩ := hi.ptr t h
    refine ⟨k', hk', ?_⟩
    have : k' ≠ k := fun e => by rw [e, hk] at hp; cases hp
    simpa [this] using hp
  case freshK =>
    intro k' i h
    by_cases e : k' = k
    · simp [e] at h; subst h; exact Nat.lt_succ_self _
    · simp [e] at h; exact Nat.lt_succ_of_lt (hi.freshK k' i h)
  case inj =>
    intro k1 k2 i h1 h2
    by_cases e1 : k1 = k <;> by_cases e2 : k2 = k
    · rw [e1, e2]
    · simp [e1, e2] at h1 h2; have := hi.freshK k2 i h2; omega
    · simp [e1, e2] at h1 h2; have := hi.freshK k1 i h1; omega
    · simp [e1, e2] at h1 h2; exact hi.inj k1 k2 i h1 h2

/-- `lock.locked++` in MemoryLock.Lock: the thread is counted on the object in the key's map entry -/
theorem linv_inc {g : G} {t : Tid} {k : Key} {i : Nat} (hi : LInv g)
    (hnotin : inLock (g.threads t).pc = false) (hk : (g.threads t).req.key = some k) (hki : g.keys k = some i) :
    LInv ((g.setLock i { g.locks i with locked := (g.locks i).locked + 1, users := t :: (g.locks i).users }).setThread t
      { g.threads t with pc := .lockAcq, lk := i }) := by
  have hnh : holds (g.threads t).pc = false :=
    Bool.eq_false_iff.2 fun h => by rw [inLock_of_holds h] at hnotin; cases hnotin
  have hnu : t ∉ (g.locks i).users := fun hin => by
    have := (hi.users i t).1 hin; rw [hnotin] at this; exact absurd this.1 (by simp)
  exact linv_update hi rfl (fun h => by rw [hnotin] at h; cases h) (fun _ => ⟨k, hk, hki⟩)
    (fun t' ht => List.mem_cons.trans (or_iff_right ht)) (by simp [inLock]) (List.nodup_cons.2 ⟨hnu, hi.nodup i⟩)
    (by simp only [List.length_cons]; have := hi.count i; omega)
    (fun _ _ => Iff.rfl) (by rw [hi.holder, hnh]; simp [holds])

/-- `lock.locked--` in the last block of MemoryLock.Unlock -/
theorem linv_dec {g : G} {t : Tid} (hi : LInv g) (hpc : (g.threads t).pc = .unlockDec) :
    LInv ((g.setLock (g.threads t).lk { g.locks (g.threads t).lk with
              locked := (g.locks (g.threads t).lk).locked - 1, users := (g.locks (g.threads t).lk).users.erase t }).setThread t
            { g.threads t with pc := .done }) := by
  have hmem : t ∈ (g.locks (g.threads t).lk).users := (hi.users _ t).2 ⟨by simp [hpc, inLock], rfl⟩
  have hnd := hi.nodup (g.threads t).lk
  refine linv_update hi rfl (fun _ => rfl) nofun (fun t' ht => hnd.mem_erase_iff.trans (and_iff_right ht))
    (by simp [hnd.mem_erase_iff, inLock]) (hnd.erase t) ?_ (fun _ _ => Iff.rfl) (by rw [hi.holder]; simp [hpc, holds])
  have h1 := List.length_erase_of_mem hmem
  have h2 := List.length_pos_of_mem hmem
  have hcnt := hi.count (g.threads t).lk
  simp only; omega

/-- `delete(l.keys, key)` in MemoryLock.Unlock: the entry of a key goes when nobody is counted on its object -/
theorem linv_delete {g : G} {k : Key} {i : Nat} (hi : LInv g) (hki : g.keys k = some i)
    (hz : (g.locks i).locked ≤ 0) : LInv { g with keys := fun k' => if k' = k then none else g.keys k' } := by
  have hu : (g.locks i).users = [] := List.eq_nil_of_length_eq_zero (by have := hi.count i; omega)
  refine ⟨?ptr, hi.users, hi.nodup, hi.count, hi.holder, ?freshK, hi.freshT, ?inj⟩
  case ptr =>
    intro t h
    obtain ⟨k', hk', hp⟩ := hi.ptr t h
    refine ⟨k', hk', ?_⟩
    have : k' ≠ k := fun e => by
      -- then `t` would be counted on the key's object
      rw [e, hki] at hp
      have := (hi.users i t).2 ⟨h, (Option.some.inj hp).symm⟩
      rw [hu] at this; cases this
    simpa [this] using hp
  case freshK =>
    intro k' i' h
    by_cases e : k' = k
    · simp [e] at h
    · simp [e] at h; exact hi.freshK k' i' h
  case inj =>
    intro k1 k2 i' h1 h2
    by_cases e1 : k1 = k
    · simp [e1] at h1
    · by_cases e2 : k2 = k
      · simp [e2] at h2
      · simp [e1] at h1; simp [e2] at h2; exact hi.inj k1 k2 i' h1 h2

/-- `lock.mu.Lock()` / `lock.mu.Unlock()`: only the holder of the thread's lock object changes, and only
as far as the thread itself is concerned -/
theorem linv_mutex {g : G} {t : Tid} {pc' : Pc} {h' : Option Tid} (hi : LInv g)
    (hin0 : inLock (g.threads t).pc = true) (hin : inLock pc' = true)
    (hme : h' = some t ↔ holds pc' = true)
    (hoth : ∀ t', t' ≠ t → (h' = some t' ↔ (g.locks (g.threads t).lk).holder = some t')) :
    LInv ((g.setLock (g.threads t).lk { g.locks (g.threads t).lk with holder := h' }).setThread t
      { g.threads t with pc := pc' }) :=
  linv_update hi rfl (fun _ => rfl) (fun _ => hi.ptr t hin0) (fun _ _ => Iff.rfl)
    (by simpa [hin] using (hi.users _ t).2 ⟨hin0, rfl⟩) (hi.nodup _) (hi.count _) hoth hme

theorem linv_step (life : Nat) {g g' : G} {t : Tid} (hi : LInv g) (hs : Step life g t g') : LInv g' := by
  cases hs with
  | unlockFound hpc k hk i hki =>
    -- the entry found is the one the thread already points to
    have hp := hi.entry (by simp [hpc, inLock]) hk
    rw [hki] at hp; cases hp
    exact linv_frame hi rfl rfl (by rw [hpc]; exact ⟨rfl, rfl⟩)
  | unlockUnknown hpc k hk hki =>
    -- unreachable for the middleware's own calls: the unlocking thread is still counted, so its key has an entry
    have hp := hi.entry (by simp [hpc, inLock]) hk
    rw [hki] at hp; cases hp
  | incOld hpc k hk i hki =>
    exact linv_inc hi (by simp [hpc, inLock]) hk hki
  | incNew hpc k hk hki =>
    -- the block creates the entry and then counts the thread on the new object; an object from `nextId` on is
    -- still the initial `⟨0, none, []⟩` (`fresh_lock`), so counting on it gives the `⟨1, none, [t]⟩` of the model
    have := linv_inc (t := t) (i := g.nextId) (linv_create hi hki) (by simp [hpc, inLock]) hk (by simp)
    rwa [fresh_lock hi] at this
  | acquire hpc hh =>
    refine linv_mutex hi (by simp [hpc, inLock]) rfl (by simp [holds]) fun t' ht => ?_
    rw [hh]; simp [Ne.symm ht]
  | release hpc =>
    have hmine : (g.locks (g.threads t).lk).holder = some t := (hi.holder _ t).2 ⟨by simp [hpc, holds], rfl⟩
    refine linv_mutex hi (by simp [hpc, inLock]) rfl (by simp [holds]) fun t' ht => ?_
    rw [hmine]; simp [Ne.symm ht]
  | decDelete hpc k hk hz =>
    exact linv_delete (i := (g.threads t).lk) (linv_dec hi hpc) (hi.entry (by simp [hpc, inLock]) hk) (by simpa using hz)
  | decKeep hpc k hk _ =>
    exact linv_dec hi hpc
  -- `set` writes the storage, which `LInv` does not read
  | set hpc _ _ => exact linv_frame (hi.congr rfl rfl rfl rfl) rfl rfl (by rw [hpc]; exact ⟨rfl, rfl⟩)
  -- every other step leaves the lock table and the lock pointer alone and stays inside its lock region
  | _ => exact linv_frame hi rfl rfl (by rw [‹(g.threads t).pc = _›]; exact ⟨rfl, rfl⟩)

theorem holders_eq {g : G} (hl : LInv g) {t t' : Tid} {k : Key} (h1 : holds (g.threads t).pc = true)
    (h2 : holds (g.threads t').pc = true) (k1 : (g.threads t).req.key = some k) (k2 : (g.threads t').req.key = some k) :
    t = t' := by
  -- both point at the key's one map entry, whose mutex has one holder
  have hlk := Option.some.inj ((hl.entry (inLock_of_holds h1) k1).symm.trans (hl.entry (inLock_of_holds h2) k2))
  have ha := (hl.holder _ t).2 ⟨h1, rfl⟩
  have hb := (hl.holder _ t').2 ⟨h2, hlk.symm⟩
  rw [ha] at hb
  exact Option.some.inj hb

end C17
