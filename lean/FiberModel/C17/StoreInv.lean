import FiberModel.C17.ExecInv
/-
C17 — the shared record: what holds between the storage and the requests. This is where the per-key lock is
needed: only the holder of a key's lock writes the key's record (`sinv_step`, case `set`).
-/
namespace C17

/-- What holds between the storage and the requests. Per key: the record is that of a recorded execution
of the key and holds the recorded form of its response; it outlives the lifetime of every recorded
execution of the key; while a request executes the handler for the key or is about to record, the record
has expired, and had expired when the handler completed. A replayed answer is the recorded response of a
recorded execution of the same key. Recorded executions of one key are a lifetime apart. -/
structure SInv (life : Nat) (g : G) : Prop where
  record : ∀ k r exp, g.store k = some (r, exp) →
    (g.threads r).req.key = some k ∧ (g.threads r).stored = true ∧
    g.vals k = some (recorded g.keep (g.threads r).req.resp)
  outlives : ∀ t k, (g.threads t).stored = true → (g.threads t).req.key = some k →
    ∃ r exp, g.store k = some (r, exp) ∧ (g.threads t).setAt + life ≤ exp
  exec : ∀ t k, execRegion (g.threads t).pc = true → (g.threads t).req.key = some k →
    ∀ r exp, g.store k = some (r, exp) → exp ≤ g.now ∧ ((g.threads t).pc = .atSet → exp ≤ (g.threads t).doneAt)
  replay : ∀ t r, (g.threads t).out = .replay r →
    (g.threads r).req.key = (g.threads t).req.key ∧ (g.threads t).req.key ≠ none ∧ (g.threads r).stored = true ∧
    (g.threads t).ans = some (recorded g.keep (g.threads r).req.resp)
  apart : ∀ t1 t2 k, t1 ≠ t2 → (g.threads t1).req.key = some k → (g.threads t2).req.key = some k →
    (g.threads t1).stored = true → (g.threads t2).stored = true →
    (g.threads t1).setAt + life ≤ (g.threads t2).doneAt ∨ (g.threads t2).setAt + life ≤ (g.threads t1).doneAt

theorem sinv_init (life : Nat) (reqs : Tid → Req) (t0 : Nat) (keep : Option (List String)) :
    SInv life (init reqs t0 keep) := by
  refine ⟨?_, ?_, ?_, ?_, ?_⟩ <;> intros <;> simp_all [init]

theorem sinv_tick {life : Nat} {g : G} (d : Nat) (hi : SInv life g) : SInv life { g with now := g.now + d } :=
  { hi with exec := fun t k h1 h2 r exp h3 =>
      let ⟨a, b⟩ := hi.exec t k h1 h2 r exp h3; ⟨Nat.le_trans a (Nat.le_add_right _ _), b⟩ }

/-- clause `exec` read for the recorded executions of the key (`outlives`) in place of its record -/
theorem SInv.expired {life : Nat} {g : G} (hi : SInv life g) {t t1 : Tid} {k : Key}
    (hex : execRegion (g.threads t).pc = true) (hk : (g.threads t).req.key = some k)
    (hk1 : (g.threads t1).req.key = some k) (hs1 : (g.threads t1).stored = true) :
    (g.threads t1).setAt + life ≤ g.now ∧
      ((g.threads t).pc = .atSet → (g.threads t1).setAt + life ≤ (g.threads t).doneAt) := by
  obtain ⟨r, exp, hst, hle⟩ := hi.outlives t1 k hs1 hk1
  obtain ⟨a, b⟩ := hi.exec t k hex hk r exp hst
  exact ⟨Nat.le_trans hle a, fun h => Nat.le_trans hle (b h)⟩

/-- steps that do not write the storage and leave `stored` / `setAt` of their request alone (and `doneAt`
once the response is recorded): the clauses about single requests are checked for the new record `th'` only -/
theorem sinv_frame {life : Nat} {g g' : G} {t : Tid} (hs : Step life g t g') (hi : SInv life g)
    (hst : g'.store = g.store) (hv : g'.vals = g.vals) {th' : Thread} (hth : g'.threads t = th')
    (hsto : th'.stored = (g.threads t).stored) (hset : th'.setAt = (g.threads t).setAt)
    (hdone : (g.threads t).stored = true → th'.doneAt = (g.threads t).doneAt)
    (hexec : ∀ k, execRegion th'.pc = true → (g.threads t).req.key = some k →
      ∀ r exp, g.store k = some (r, exp) → exp ≤ g.now ∧ (th'.pc = .atSet → exp ≤ th'.doneAt))
    (hreplay : ∀ r, th'.out = .replay r →
      (g.threads r).req.key = (g.threads t).req.key ∧ (g.threads t).req.key ≠ none ∧ (g.threads r).stored = true ∧
      th'.ans = some (recorded g.keep (g.threads r).req.resp)) :
    SInv life g' := by
  subst hth
  have h : ∀ t', (g'.threads t').stored = (g.threads t').stored ∧ (g'.threads t').setAt = (g.threads t').setAt ∧
      ((g.threads t').stored = true → (g'.threads t').doneAt = (g.threads t').doneAt) := by
    intro t'; by_cases e : t' = t
    · subst e; exact ⟨hsto, hset, hdone⟩
    · rw [hs.others e]; exact ⟨rfl, rfl, fun _ => rfl⟩
  have hSt := fun t' => (h t').1
  have hSa := fun t' => (h t').2.1
  refine ⟨?_, ?_, ?_, ?_, ?_⟩
  · intro k r exp h; rw [hst] at h; rw [hs.req, hSt, hv, hs.keep]; exact hi.record k r exp h
  · intro t' k h1 h2; rw [hSt] at h1; rw [hs.req] at h2; rw [hst, hSa]; exact hi.outlives t' k h1 h2
  · rw [hst, hs.now]
    refine hs.each (fun th => ∀ k, execRegion th.pc = true → th.req.key = some k →
      ∀ r exp, g.store k = some (r, exp) → exp ≤ g.now ∧ (th.pc = .atSet → exp ≤ th.doneAt)) hi.exec fun _ => ?_
    rw [hs.req]; exact hexec
  · intro t' r h
    rw [hs.keep, hs.req r, hs.req t', hSt r]
    by_cases ht : t' = t
    · subst ht; exact hreplay r h
    · rw [hs.others ht] at h ⊢; exact hi.replay t' r h
  · intro t1 t2 k hne hk1 hk2 hs1 hs2
    rw [hs.req] at hk1 hk2; rw [hSt] at hs1 hs2; rw [hSa, hSa, (h t1).2.2 hs1, (h t2).2.2 hs2]
    exact hi.apart t1 t2 k hne hk1 hk2 hs1 hs2

theorem sinv_step (life : Nat) {g g' : G} {t : Tid} (hl : LInv g) (hloc : ∀ t, Local g.now (g.threads t))
    (hi : SInv life g) (hs : Step life g t g') : SInv life g' := by
  -- taken at the still general `g'`, so that after `cases hs` each case has it at its own target state
  have hframe := @sinv_frame _ _ _ _ hs hi
  have hreq := hs.req
  cases hs
  case get1Hit hpc k hk r hlk | get2Hit hpc k hk r hlk =>
    obtain ⟨exp, hst⟩ := lookup_some hlk
    obtain ⟨r1, r2, r4⟩ := hi.record k r exp hst
    refine hframe rfl rfl (setThread_threads_same ..) rfl rfl (fun _ => rfl) nofun ?_
    intro r' hr; cases hr
    exact ⟨by rw [r1, hk], by simp [hk], r2, r4⟩
  case get2Miss hpc k hk hlk =>
    refine hframe rfl rfl (setThread_threads_same ..) rfl rfl (fun _ => rfl) ?_ (hi.replay t)
    intro k' _ hk' r exp hst
    rw [hk] at hk'; cases hk'
    exact ⟨lookup_none hlk r exp hst, nofun⟩
  case handlerOk hpc hf =>
    obtain ⟨_, hout, hsto, _⟩ := (hloc t).fresh (by rw [hpc]; rfl)
    refine hframe rfl rfl (setThread_threads_same ..) rfl rfl (fun h => by rw [hsto] at h; cases h) ?_
      (fun r h => by rw [hout] at h; cases h)
    intro k _ hk r exp hst
    have := (hi.exec t k (by rw [hpc]; rfl) hk r exp hst).1
    exact ⟨this, fun _ => this⟩
  case handlerB hpc =>
    refine hframe rfl rfl (setThread_threads_same ..) rfl rfl (fun _ => rfl) nofun ?_
    intro r; by_cases hf : (g.threads t).req.fails = true <;> simp [hf]
  case set hpc k hk =>
    clear hframe
    obtain ⟨_, _, _, s4, _⟩ := (hloc t).atSet hpc
    have hbefore := fun t1 hk1 hs1 => (hi.expired (t1 := t1) (by rw [hpc]; rfl) hk hk1 hs1).2 hpc
    refine ⟨?record, ?outlives, ?exec, ?replay, ?apart⟩
    case record =>
      intro k' r exp h
      simp only [setThread_store, setThread_vals, setThread_keep] at h ⊢
      by_cases hkk : k' = k
      · subst hkk
        simp at h
        obtain ⟨rfl, rfl⟩ := h
        simp [hk]
      · simp [hkk] at h ⊢
        obtain ⟨a, b, d⟩ := hi.record k' r exp h
        by_cases hr : r = t
        · subst hr; rw [s4] at b; cases b
        · simp only [setThread_threads_ne _ _ hr]; exact ⟨a, b, d⟩
    case outlives =>
      intro t' k' h1 h2
      simp only [setThread_store]
      by_cases ht : t' = t
      · subst ht
        simp only [setThread_threads_same] at h2 ⊢
        rw [hk] at h2; cases h2
        exact ⟨t', g.now + life, by simp, by simp⟩
      · simp only [setThread_threads_ne _ _ ht] at h1 h2 ⊢
        obtain ⟨r, exp, a, b⟩ := hi.outlives t' k' h1 h2
        by_cases hkk : k' = k
        · subst hkk
          have := (hloc t').time.2
          exact ⟨t, g.now + life, by simp, by omega⟩
        · exact ⟨r, exp, by simp [hkk, a], b⟩
    case exec =>
      intro t' k' h1 h2 r exp h3
      by_cases ht : t' = t
      · subst ht; simp [execRegion] at h1
      · simp only [setThread_threads_ne _ _ ht, setThread_store, setThread_now] at h1 h2 h3 ⊢
        by_cases hkk : k' = k
        · subst hkk
          -- both would hold the lock of the same key
          exact absurd (holders_eq hl (holds_of_execRegion h1) (by simp [hpc, holds]) h2 hk) ht
        · simp [hkk] at h3; exact hi.exec t' k' h1 h2 r exp h3
    case replay =>
      intro t' r h
      by_cases ht : t' = t
      · subst ht; simp at h
      · simp only [setThread_threads_ne _ _ ht, setThread_keep] at h ⊢
        obtain ⟨a, b, c, d⟩ := hi.replay t' r h
        rw [hreq r]
        refine ⟨a, b, ?_, d⟩
        by_cases hr : r = t
        · subst hr; simp
        · simp only [setThread_threads_ne _ _ hr]; exact c
    case apart =>
      intro t1 t2 k' hne hk1 hk2 hs1 hs2
      by_cases h1 : t1 = t
      · subst h1
        have h2 : t2 ≠ t1 := fun h => hne h.symm
        simp only [setThread_threads_same, setThread_threads_ne _ _ h2] at hk1 hk2 hs2 ⊢
        rw [hk] at hk1; cases hk1
        exact .inr (hbefore t2 hk2 hs2)
      · by_cases h2 : t2 = t
        · subst h2
          simp only [setThread_threads_same, setThread_threads_ne _ _ h1] at hk1 hk2 hs1 ⊢
          rw [hk] at hk2; cases hk2
          exact .inl (hbefore t1 hk1 hs1)
        · simp only [setThread_threads_ne _ _ h1, setThread_threads_ne _ _ h2] at hk1 hk2 hs1 hs2 ⊢
          exact hi.apart t1 t2 k' hne hk1 hk2 hs1 hs2
  case arriveInvalid | handlerFail | faultGet1 | faultLock | faultGet2 | faultSet =>
    exact hframe rfl rfl (setThread_threads_same ..) rfl rfl (fun _ => rfl) nofun nofun
  -- every other step only moves the program counter (and the lock pointer), and not into the exec region
  all_goals exact hframe rfl rfl (setThread_threads_same ..) rfl rfl (fun _ => rfl) nofun (hi.replay t)

end C17
