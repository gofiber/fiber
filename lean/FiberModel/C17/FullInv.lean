import FiberModel.C17.StoreInv
/-
C17 — the invariant of every reachable state: the lock table (`LInv`), every request's own record (`Local`)
and the shared record (`SInv`); `EInv` and `OInv` as what follows from it, and the lifting lemmas used by the
property theorems in Props.lean.
-/
namespace C17

structure Full (life : Nat) (g : G) : Prop where
  lock : LInv g
  loc : ∀ t, Local g.now (g.threads t)
  store : SInv life g

theorem full_step (life : Nat) {g g' : G} {a : Act} (hf : Full life g) (hs : step life g a = some g') :
    Full life g' := by
  rcases step_cases life hs with ⟨d, rfl⟩ | ⟨t, hst⟩
  · exact ⟨linv_tick d hf.lock, fun t => (hf.loc t).mono (Nat.le_add_right _ _), sinv_tick d hf.store⟩
  · exact ⟨linv_step life hf.lock hst, hst.now ▸ hst.each (Local g.now) hf.loc hst.local,
      sinv_step life hf.lock hf.loc hf.store hst⟩

theorem full_reach (life : Nat) (reqs : Tid → Req) (t0 : Nat) (keep : Option (List String)) {g : G}
    (h : (sys life).Reach (init reqs t0 keep) g) : Full life g :=
  Conc.inv_reach (sys life) (Full life) (fun _ _ _ hf hs => full_step life hf hs)
    ⟨linv_init reqs t0 keep, fun _ => local_init .., sinv_init life reqs t0 keep⟩ h

theorem Full.exec {life : Nat} {g : G} (hf : Full life g) : EInv life g where
  early t := (hf.loc t).fresh
  noRun t := (hf.loc t).noRun
  atSet t h := let ⟨a, b, c, d, _⟩ := (hf.loc t).atSet h; ⟨a, b, c, d, (hf.loc t).time.1⟩
  succ t k a b c := ⟨(hf.loc t).time.1, (hf.loc t).succ k a b c⟩
  stored t h := let ⟨a, b, c, _⟩ := (hf.loc t).stored h; ⟨a, b, c⟩
  setAt t h := ⟨((hf.loc t).stored h).2.2.2, (hf.loc t).time.2⟩
  record k r exp h :=
    let ⟨a, b, _⟩ := hf.store.record k r exp h
    -- the key's one record outlives its own execution
    let ⟨_, _, h', c⟩ := hf.store.outlives r k b a
    ⟨a, b, by rw [h] at h'; cases h'; exact c⟩
  kept := hf.store.outlives
  exec t k a b r exp h := (hf.store.exec t k a b r exp h).1
  replay t r h := let ⟨a, b, c, _⟩ := hf.store.replay t r h; ⟨a, b, c⟩

theorem const_reach (life : Nat) (reqs : Tid → Req) (t0 : Nat) (keep : Option (List String)) {g : G}
    (h : (sys life).Reach (init reqs t0 keep) g) : g.keep = keep ∧ ∀ t, (g.threads t).req = reqs t := by
  refine Conc.inv_reach (sys life) (fun g => g.keep = keep ∧ ∀ t, (g.threads t).req = reqs t) ?_ ⟨rfl, fun _ => rfl⟩ h
  intro g a g' ⟨h1, h2⟩ hs
  rcases step_cases life hs with ⟨d, rfl⟩ | ⟨t, hst⟩
  · exact ⟨h1, h2⟩
  · exact ⟨hst.keep.trans h1, fun t' => (hst.req t').trans (h2 t')⟩

theorem out_sticky {life : Nat} {g g' : G} {t : Tid} (hs : Step life g t g') (hl : Local g.now (g.threads t))
    (ho : (g.threads t).out ≠ .pending) : ∃ pc' lk', g'.threads t = { g.threads t with pc := pc', lk := lk' } := by
  have he : early (g.threads t).pc = true → False := fun h => ho (hl.fresh h).2.1
  cases hs <;> rw [setThread_threads_same]
  case unlockCall | unlockFound | unlockUnknown | release | decDelete | decKeep | faultUnlock => exact ⟨_, _, rfl⟩
  case set hpc _ _ | faultSet hpc => exact absurd (hl.atSet hpc).2.2.1 ho
  -- every other step starts in the early region, where there is no answer yet
  all_goals exact (he (by rw [‹(g.threads t).pc = _›]; rfl)).elim

theorem answer_final {life : Nat} {g : G} (hf : Full life g) (t : Tid) (ho : (g.threads t).out ≠ .pending)
    (bs : List Act) : ∃ pc' lk', ((sys life).run g bs).threads t = { g.threads t with pc := pc', lk := lk' } := by
  refine (Conc.inv_run (sys life) (fun g' => Full life g' ∧
    ∃ pc' lk', g'.threads t = { g.threads t with pc := pc', lk := lk' }) ?_ ⟨hf, _, _, rfl⟩ bs).2
  intro ga a gb ⟨hfa, pa, la, ea⟩ hs
  refine ⟨full_step life hfa hs, ?_⟩
  rcases step_cases life hs with ⟨d, rfl⟩ | ⟨t', hst⟩
  · exact ⟨pa, la, ea⟩
  · by_cases ht : t = t'
    · subst ht
      obtain ⟨p, l, e⟩ := out_sticky hst (hfa.loc t) (by rw [ea]; exact ho)
      exact ⟨p, l, by rw [e, ea]⟩
    · rw [hst.others ht]; exact ⟨pa, la, ea⟩

/-- the only instruction that can block is `lock.mu.Lock()`, on a held mutex (a request is finished at `done`,
and at `leaked` when its `Unlock` failed) -/
theorem blocked_only_at_lockAcq {life now : Nat} {g : G} {t : Tid} (hl : Local now (g.threads t))
    (hnone : stepThr life g t = none) (hnd : (g.threads t).pc ≠ .done) (hnl : (g.threads t).pc ≠ .leaked) :
    (g.threads t).pc = .lockAcq ∧ ∃ t', (g.locks (g.threads t).lk).holder = some t' := by
  revert hnone
  fun_cases stepThr life g t <;> intro hnone <;> cases hnone
  -- the branches of `stepThr` that refuse: the held mutex, `done`, `leaked`, and a keyed instruction met without a key
  case case12 => exact ⟨‹_›, _, ‹_›⟩
  case case28 => exact absurd ‹_› hnd
  case case29 => exact absurd ‹_› hnl
  all_goals exact absurd ‹_ = none› (hl.keyed (by rw [‹(g.threads t).pc = _›]; decide))

theorem blocked_behind_holder {life : Nat} {g : G} {t : Tid} (hf : Full life g)
    (hnone : stepThr life g t = none) (hnd : (g.threads t).pc ≠ .done) (hnl : (g.threads t).pc ≠ .leaked) :
    (g.threads t).pc = .lockAcq ∧ (g.threads t).req.key ≠ none ∧
      ∃ t', (g.locks (g.threads t).lk).holder = some t' ∧ (g.threads t').req.key = (g.threads t).req.key := by
  obtain ⟨hpc, t', hh⟩ := blocked_only_at_lockAcq (hf.loc t) hnone hnd hnl
  obtain ⟨kb, hkb, pb⟩ := hf.lock.ptr t (by simp [hpc, inLock])
  refine ⟨hpc, by simp [hkb], t', hh, ?_⟩
  obtain ⟨h1, h2⟩ := (hf.lock.holder _ t').1 hh
  obtain ⟨ka, hka, pa⟩ := hf.lock.ptr t' (inLock_of_holds h1)
  rw [h2] at pa
  rw [hka, hkb, hf.lock.inj ka kb _ pa pb]

/-- Recorded executions of a key are at least a lifetime apart, counted from the second the earlier one was
recorded (`setAt`) to the completion of the later one (`doneAt`); while a request is about to record its
response, every recorded execution of its key was recorded at least a lifetime before its handler completed. -/
structure OInv (life : Nat) (g : G) : Prop where
  atSet : ∀ t t1 k, (g.threads t).pc = .atSet → (g.threads t).req.key = some k →
    (g.threads t1).req.key = some k → (g.threads t1).stored = true →
    (g.threads t1).setAt + life ≤ (g.threads t).doneAt
  apart : ∀ t1 t2 k, t1 ≠ t2 → (g.threads t1).req.key = some k → (g.threads t2).req.key = some k →
    (g.threads t1).stored = true → (g.threads t2).stored = true →
    (g.threads t1).setAt + life ≤ (g.threads t2).doneAt ∨ (g.threads t2).setAt + life ≤ (g.threads t1).doneAt

theorem oinv_reach (life : Nat) (reqs : Tid → Req) (t0 : Nat) (keep : Option (List String)) {g : G}
    (h : (sys life).Reach (init reqs t0 keep) g) : OInv life g :=
  have hf := full_reach life reqs t0 keep h
  ⟨fun _ _ _ hpc hk hk1 hs1 => (hf.store.expired (by rw [hpc]; rfl) hk hk1 hs1).2 hpc, hf.store.apart⟩

end C17
