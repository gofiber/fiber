import FiberModel.C17.LockInv
/-
C17 — the execution / record invariant `EInv` (who may be running the handler, what the storage holds, where
answers come from) and the part of it that is about a single request: `Local`, what the handler program keeps
true of a request's own record, proved by reading the program once (`Step.local`). The part that relates the
storage to the requests is in StoreInv.lean.
-/
namespace C17

/-- before the handler has run and before any answer was determined -/
def early : Pc → Bool
  | .idle | .atGet1 | .atLock | .lockInc | .lockAcq | .atGet2 | .atHandler | .atHandlerB => true
  | _ => false

/-- executing the handler or about to record its response -/
def execRegion : Pc → Bool
  | .atHandler | .atSet => true
  | _ => false

theorem holds_of_execRegion {pc : Pc} (h : execRegion pc = true) : holds pc = true := by
  revert h
  fun_cases execRegion pc <;> intro h <;> first | rfl | cases h

/-- answers that are given without running the handler -/
def noRunOut : Out → Bool
  | .errKey | .errGet1 | .errLock | .errGet2 | .replay _ => true
  | _ => false

/-- What the handler program keeps true of a request's own record, whatever the other requests do (nobody
else writes it): the annotation of the handler closure of idempotency.go read as a sequential program.
`now` is the clock; the two ghost time stamps are never in the future. -/
structure Local (now : Nat) (th : Thread) : Prop where
  fresh : early th.pc = true →
    th.ran = false ∧ th.out = .pending ∧ th.stored = false ∧ (th.pc = .atHandlerB → th.req.key = none)
  noRun : noRunOut th.out = true → th.ran = false
  atSet : th.pc = .atSet →
    th.ran = true ∧ th.req.fails = false ∧ th.out = .pending ∧ th.stored = false ∧ th.ans = some th.req.resp
  succ : ∀ k, th.ran = true → th.req.fails = false → th.req.key = some k →
    th.pc = .atSet ∨ th.stored = true ∨ th.out = .errSet
  stored : th.stored = true →
    th.ran = true ∧ th.req.fails = false ∧ (∃ k, th.req.key = some k) ∧ th.doneAt ≤ th.setAt
  own : th.out = .own → th.ran = true ∧ th.ans = some th.req.resp
  time : th.doneAt ≤ now ∧ th.setAt ≤ now
  /-- a request without a key stays outside the keyed flow: it is rejected (invalid key) or the middleware
  steps aside, and then it ends having run the handler -/
  bypass : th.req.key = none →
    th.pc = .idle ∨ th.pc = .atHandlerB ∨ th.pc = .done ∧ (th.req.invalid = false → th.ran = true)

theorem local_init (now : Nat) (req : Req) : Local now { req := req } := by
  constructor <;> simp [early, noRunOut]

theorem Local.mono {now now' : Nat} {th : Thread} (h : Local now th) (hle : now ≤ now') : Local now' th :=
  { h with time := ⟨Nat.le_trans h.time.1 hle, Nat.le_trans h.time.2 hle⟩ }

/-- the request only moves on, inside the part before or the part after the handler -/
theorem Local.move {now : Nat} {th : Thread} (h : Local now th) {pc' : Pc} {lk' : Nat}
    (hk : th.req.key ≠ none) (hearly : early pc' = true → early th.pc = true)
    (hpc' : pc' ≠ .atSet ∧ pc' ≠ .atHandlerB) (hpc : th.pc ≠ .atSet) : Local now { th with pc := pc', lk := lk' } :=
  ⟨fun e => let ⟨a, b, c, _⟩ := h.fresh (hearly e); ⟨a, b, c, fun e => absurd e hpc'.2⟩, h.noRun,
    fun e => absurd e hpc'.1, fun k a b c => .inr ((h.succ k a b c).resolve_left hpc), h.stored, h.own, h.time,
    fun e => absurd e hk⟩

/-- the request is answered without its response being recorded -/
theorem Local.answer {now : Nat} {th : Thread} (h : Local now th) {pc' : Pc} {out' : Out} {ran' : Bool}
    {ans' : Option Resp} (hpc' : early pc' = false ∧ pc' ≠ .atSet) (hsf : th.stored = false)
    (hnoRun : noRunOut out' = true → ran' = false)
    (hsucc : ∀ k, ran' = true → th.req.fails = false → th.req.key = some k → out' = .errSet)
    (hown : out' = .own → ran' = true ∧ ans' = some th.req.resp)
    (hbyp : th.req.key = none → pc' = .done ∧ (th.req.invalid = false → ran' = true)) :
    Local now { th with pc := pc', out := out', ran := ran', ans := ans' } :=
  ⟨fun e => (by rw [hpc'.1] at e; cases e), hnoRun, fun e => absurd e hpc'.2,
    fun k a b c => .inr (.inr (hsucc k a b c)), fun e => (by rw [hsf] at e; cases e), hown, h.time,
    fun e => .inr (.inr (hbyp e))⟩

theorem Local.keyed {now : Nat} {th : Thread} (h : Local now th)
    (hpc : th.pc ≠ .idle ∧ th.pc ≠ .atHandlerB ∧ th.pc ≠ .done) : th.req.key ≠ none := by
  intro e
  rcases h.bypass e with a | a | a
  · exact hpc.1 a
  · exact hpc.2.1 a
  · exact hpc.2.2 a.1

theorem Step.local {life : Nat} {g g' : G} {t : Tid} (hs : Step life g t g') (h : Local g.now (g.threads t)) :
    Local g.now (g'.threads t) := by
  cases hs <;> rw [setThread_threads_same]
  -- arguments of `h.answer`: the new pc is late and not `atSet`; not recorded; then the clauses `noRun`, `succ`, `own`,
  -- `bypass` for the new answer
  case arriveInvalid hpc hk hi =>
    obtain ⟨hran, _, hsto, _⟩ := h.fresh (by rw [hpc]; rfl)
    exact h.answer (by decide) hsto (fun _ => hran) (by simp [hran]) nofun (fun _ => ⟨rfl, by simp [hi]⟩)
  case faultGet1 hpc | faultLock hpc | faultGet2 hpc =>
    obtain ⟨hran, _, hsto, _⟩ := h.fresh (by rw [hpc]; rfl)
    have hk := h.keyed (by rw [hpc]; decide)
    exact h.answer (by decide) hsto (fun _ => hran) (by simp [hran]) nofun (fun e => absurd e hk)
  case get1Hit hpc k hk r hlk | get2Hit hpc k hk r hlk =>
    obtain ⟨hran, _, hsto, _⟩ := h.fresh (by rw [hpc]; rfl)
    exact h.answer (by decide) hsto (fun _ => hran) (by simp [hran]) nofun (by simp [hk])
  case handlerFail hpc hf =>
    obtain ⟨_, _, hsto, _⟩ := h.fresh (by rw [hpc]; rfl)
    have hk := h.keyed (by rw [hpc]; decide)
    exact h.answer (by decide) hsto nofun (by simp [hf]) nofun (fun e => absurd e hk)
  case handlerB hpc =>
    obtain ⟨_, _, hsto, hnokey⟩ := h.fresh (by rw [hpc]; rfl)
    refine h.answer (by decide) hsto ?_ (by simp [hnokey hpc]) ?_ (fun _ => ⟨rfl, fun _ => rfl⟩)
    · by_cases hf : (g.threads t).req.fails = true <;> simp [hf, noRunOut]
    · by_cases hf : (g.threads t).req.fails = true <;> simp [hf]
  case faultSet hpc =>
    obtain ⟨_, _, _, hsto, _⟩ := h.atSet hpc
    have hk := h.keyed (by rw [hpc]; decide)
    exact h.answer (by decide) hsto nofun (fun _ _ _ _ => rfl) nofun (fun e => absurd e hk)
  case arriveBypass hpc hk hi =>
    obtain ⟨hran, hout, hsto, _⟩ := h.fresh (by rw [hpc]; rfl)
    exact ⟨fun _ => ⟨hran, hout, hsto, fun _ => hk⟩, h.noRun, nofun, fun _ _ _ c => (by rw [hk] at c; cases c), h.stored,
      h.own, h.time, fun _ => .inr (.inl rfl)⟩
  case handlerOk hpc hf =>
    obtain ⟨_, hout, hsto, _⟩ := h.fresh (by rw [hpc]; rfl)
    have hk := h.keyed (by rw [hpc]; decide)
    exact ⟨nofun, (by simp [hout, noRunOut]), fun _ => ⟨rfl, hf, hout, hsto, rfl⟩, fun _ _ _ _ => .inl rfl,
      fun e => (by rw [hsto] at e; cases e), (by simp [hout]), ⟨Nat.le_refl _, h.time.2⟩, fun e => absurd e hk⟩
  case set hpc k hk =>
    obtain ⟨hran, hnf, _, _, hans⟩ := h.atSet hpc
    exact ⟨nofun, nofun, nofun, fun _ _ _ _ => .inr (.inl rfl), fun _ => ⟨hran, hnf, ⟨k, hk⟩, h.time.1⟩,
      fun _ => ⟨hran, hans⟩, ⟨h.time.1, Nat.le_refl _⟩, by simp [hk]⟩
  case arrive hpc k hk => exact h.move (by simp [hk]) (fun _ => by rw [hpc]; rfl) (by decide) (by rw [hpc]; decide)
  -- every other step only moves the program counter (and the lock pointer) of a request that carries a key
  all_goals
    have hpc := ‹(g.threads t).pc = _›
    exact h.move (h.keyed (by rw [hpc]; decide)) (by rw [hpc]; decide) (by decide) (by rw [hpc]; decide)

-- A summary of `Local` and of `SInv` (StoreInv.lean) in one structure; it is not proved by induction but follows
-- from the two (`Full.exec`, FullInv.lean). The property theorems read `noRun`, `stored`, `setAt` here and
-- go to `Local` / `SInv` for the rest. `kept` is `SInv.outlives` (no relation to the model's `kept`).
structure EInv (life : Nat) (g : G) : Prop where
  early : ∀ t, early (g.threads t).pc = true →
    (g.threads t).ran = false ∧ (g.threads t).out = .pending ∧ (g.threads t).stored = false ∧
    ((g.threads t).pc = .atHandlerB → (g.threads t).req.key = none)
  noRun : ∀ t, noRunOut (g.threads t).out = true → (g.threads t).ran = false
  atSet : ∀ t, (g.threads t).pc = .atSet →
    (g.threads t).ran = true ∧ (g.threads t).req.fails = false ∧ (g.threads t).out = .pending ∧
    (g.threads t).stored = false ∧ (g.threads t).doneAt ≤ g.now
  succ : ∀ t k, (g.threads t).ran = true → (g.threads t).req.fails = false → (g.threads t).req.key = some k →
    (g.threads t).doneAt ≤ g.now ∧
    ((g.threads t).pc = .atSet ∨ (g.threads t).stored = true ∨ (g.threads t).out = .errSet)
  stored : ∀ t, (g.threads t).stored = true →
    (g.threads t).ran = true ∧ (g.threads t).req.fails = false ∧ ∃ k, (g.threads t).req.key = some k
  setAt : ∀ t, (g.threads t).stored = true → (g.threads t).doneAt ≤ (g.threads t).setAt ∧ (g.threads t).setAt ≤ g.now
  record : ∀ k r exp, g.store k = some (r, exp) →
    (g.threads r).req.key = some k ∧ (g.threads r).stored = true ∧ (g.threads r).setAt + life ≤ exp
  kept : ∀ t k, (g.threads t).stored = true → (g.threads t).req.key = some k →
    ∃ r exp, g.store k = some (r, exp) ∧ (g.threads t).setAt + life ≤ exp
  exec : ∀ t k, execRegion (g.threads t).pc = true → (g.threads t).req.key = some k →
    ∀ r exp, g.store k = some (r, exp) → exp ≤ g.now
  replay : ∀ t r, (g.threads t).out = .replay r →
    (g.threads r).req.key = (g.threads t).req.key ∧ (g.threads t).req.key ≠ none ∧ (g.threads r).stored = true

end C17
