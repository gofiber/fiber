import FiberModel.C04.Spec
import FiberModel.C04.PathLemmas
/-
C04 — every route of a table the model builds carries the fields `register` / `addPrefixToRoute`
derive from its Path, and its Path is its registration path (`pathOrig`) normalised. Invariants of
this form are read off where the members of a stack come from (`mem_pushRoute`, `mem_splice`,
`mem_renum`, `mem_finish`).
-/
namespace C04
open B

theorem mem_pushRoute {l : List Slot} {r : Route} {c : Nat} {s : Slot} (h : s ∈ (pushRoute l r c).1) :
    s ∈ l ∨ (∃ p, .route p ∈ l ∧ s = .route { p with handlers := p.handlers ++ r.handlers }) ∨
      s = .route { r with pos := c + 1 } := by
  revert h
  fun_cases pushRoute l r c <;> intro h
  · rename_i p t _
    rcases List.mem_cons.mp h with h | h
    · exact .inr (.inl ⟨p, List.mem_cons_self .., h⟩)
    · exact .inl (List.mem_cons_of_mem _ h)
  · exact (List.mem_cons.mp h).elim (fun h => .inr (.inr h)) .inl
  · exact (List.mem_cons.mp h).elim (fun h => .inr (.inr h)) .inl

theorem any_congr_mem {α : Type} (l : List α) (p q : α → Bool) (h : ∀ a ∈ l, p a = q a) :
    l.any p = l.any q := by
  show l.any (id ∘ p) = l.any (id ∘ q)
  rw [← List.any_map, ← List.any_map, List.map_congr_left h]

section Stacks
variable {S : List Slot → Prop}

theorem stacks_regMany {r : Route} (hS : ∀ l c, S l → S (pushRoute l r c).1) (ms : List Nat) {st : St}
    (h : ∀ k, S (st.stacks k)) : ∀ k, S ((regMany ms r st).stacks k) := by
  refine List.foldlRecOn (motive := fun st : St => ∀ k, S (st.stacks k)) ms _ h fun st h m _ k => ?_
  show S (if k = m then _ else _)
  split
  · exact hS _ _ (h m)
  · exact h k

theorem stacks_regMount (raw pre : Bytes) (sub : Nat → List Route) (hS : ∀ l, S l → S (.mount raw pre sub :: l))
    {st : St} (h : ∀ k, S (st.stacks k)) : ∀ k, S ((regMount raw pre sub st).stacks k) := by
  show ∀ k, S ((allMethods.foldl (fun st m => addMount m raw pre sub st) st).stacks k)
  refine List.foldlRecOn (motive := fun st : St => ∀ k, S (st.stacks k)) allMethods _ h fun st h m _ k => ?_
  show S (if k = m then _ else _)
  split
  · exact hS _ (h m)
  · exact h k

end Stacks

theorem splice_eq_flatMap (cfg : Cfg) (po : Bytes → List Bytes) (m : Nat) (l : List Slot) :
    splice cfg po m l = l.flatMap fun
      | .route r => [r]
      | .mount _ pre sub => (sub m).map (addPrefix cfg po pre) := by
  induction l with
  | nil => rfl
  | cons s t ih => rw [List.flatMap_cons, ← ih]; cases s <;> rfl

theorem splice_append (cfg : Cfg) (po : Bytes → List Bytes) (k : Nat) (a b : List Slot) :
    splice cfg po k (a ++ b) = splice cfg po k a ++ splice cfg po k b := by
  simp only [splice_eq_flatMap, List.flatMap_append]

theorem mem_splice {cfg : Cfg} {po : Bytes → List Bytes} {k : Nat} {l : List Slot} {r : Route}
    (h : r ∈ splice cfg po k l) :
    .route r ∈ l ∨ ∃ raw pre sub, .mount raw pre sub ∈ l ∧ ∃ x ∈ sub k, r = addPrefix cfg po pre x := by
  rw [splice_eq_flatMap, List.mem_flatMap] at h
  obtain ⟨s, hs, hr⟩ := h
  cases s with
  | route x => cases List.mem_singleton.mp hr; exact .inl hs
  | mount raw pre sub =>
    obtain ⟨x, hx, rfl⟩ := List.mem_map.mp hr
    exact .inr ⟨raw, pre, sub, hs, x, hx, rfl⟩

theorem renum_cons (c : Nat) (r : Route) (t : List Route) :
    renum c (r :: t) = { r with pos := c + 1 } :: renum (c + 1) t := rfl

theorem mem_renum {c : Nat} {l : List Route} {r : Route} (h : r ∈ renum c l) :
    ∃ x ∈ l, ∃ n, r = { x with pos := n } := by
  induction l generalizing c with
  | nil => cases h
  | cons x t ih =>
    rcases List.mem_cons.mp h with h | h
    · exact ⟨x, List.mem_cons_self .., c + 1, h⟩
    · obtain ⟨y, hy, e⟩ := ih h
      exact ⟨y, List.mem_cons_of_mem _ hy, e⟩

theorem map_renum {β : Type} (f : Route → β) (hf : ∀ r n, f { r with pos := n } = f r) (c : Nat) (l : List Route) :
    (renum c l).map f = l.map f := by
  induction l generalizing c with
  | nil => rfl
  | cons x t ih => rw [renum_cons, List.map_cons, List.map_cons, ih, hf]

theorem mem_finish {cfg : Cfg} {po : Bytes → List Bytes} {st : St} {k : Nat} {r : Route}
    (h : r ∈ finish cfg po st k) :
    ∃ x ∈ splice cfg po k (st.stacks k).reverse, ∃ n, r = { x with pos := n } := by
  unfold finish at h
  split at h
  · exact mem_renum h
  · exact ⟨r, h, r.pos, rfl⟩

def RouteOK (cfg : Cfg) (po : Bytes → List Bytes) (r : Route) : Prop :=
  r.pretty = prettyOf cfg r.raw ∧ r.path = cleanOf cfg r.raw ∧ r.params = po r.raw ∧
  r.root = (cleanOf cfg r.raw == [47]) ∧ r.star = (prettyOf cfg r.raw == [47, 42]) ∧
  r.raw = rawOf r.orig ∧ r.written = writtenOf cfg r.raw

section
variable {cfg : Cfg} {po : Bytes → List Bytes} {r : Route} (h : RouteOK cfg po r)
include h

theorem RouteOK.pretty_eq : r.pretty = prettyOf cfg r.raw := h.1
theorem RouteOK.path_eq : r.path = cleanOf cfg r.raw := h.2.1
theorem RouteOK.params_eq : r.params = po r.raw := h.2.2.1
theorem RouteOK.raw_eq : r.raw = rawOf r.orig := h.2.2.2.2.2.1
theorem RouteOK.written_eq : r.written = writtenOf cfg r.raw := h.2.2.2.2.2.2

/-- the two shortcuts as `Route.match` reads them: off the route's own pattern and clean path -/
theorem RouteOK.star_of_pretty : (r.pretty == [47, 42]) = r.star := by rw [h.2.2.2.2.1, h.1]
theorem RouteOK.root_of_path : (r.path == [47]) = r.root := by rw [h.2.2.2.1, h.2.1]

end

def SlotsOK (cfg : Cfg) (po : Bytes → List Bytes) (l : List Slot) : Prop :=
  ∀ r, Slot.route r ∈ l → RouteOK cfg po r

theorem routeOK_mkRoute (cfg : Cfg) (po : Bytes → List Bytes) (u : Bool) (p : Bytes) (hs : List Nat) :
    RouteOK cfg po (mkRoute cfg po u p hs) := ⟨rfl, rfl, rfl, rfl, rfl, rfl, rfl⟩

theorem routeOK_addPrefix (cfg : Cfg) (po : Bytes → List Bytes) (pre : Bytes) (r : Route) :
    RouteOK cfg po (addPrefix cfg po pre r) := ⟨rfl, rfl, rfl, rfl, rfl, rfl, rfl⟩

def StOK (cfg : Cfg) (po : Bytes → List Bytes) (st : St) : Prop := ∀ k, SlotsOK cfg po (st.stacks k)

theorem stOK_regMany {cfg : Cfg} {po : Bytes → List Bytes} (ms : List Nat) {r : Route} {st : St}
    (hs : StOK cfg po st) (hr : RouteOK cfg po r) : StOK cfg po (regMany ms r st) := by
  refine stacks_regMany (fun l c hl x hx => ?_) ms hs
  rcases mem_pushRoute hx with h | ⟨p, hp, e⟩ | e
  · exact hl x h
  · cases e; exact hl p hp
  · cases e; exact hr

theorem stOK_regMount {cfg : Cfg} {po : Bytes → List Bytes} (raw pre : Bytes)
    (sub : Nat → List Route) {st : St} (hs : StOK cfg po st) : StOK cfg po (regMount raw pre sub st) :=
  stacks_regMount raw pre sub (fun _ hl x hx => (List.mem_cons.mp hx).elim nofun (hl x)) hs

mutual
theorem stOK_buildItem (cfg : Cfg) (po : Bytes → List Bytes) (c : Option Bytes) :
    ∀ (i : Item) (st : St), StOK cfg po st → StOK cfg po (buildItem cfg po c i st)
  | .route ms _ _, _, h => stOK_regMany ms h (routeOK_mkRoute ..)
  | .use _ _, _, h => stOK_regMany _ h (routeOK_mkRoute ..)
  | .group _ hs items, _, h =>
    stOK_buildItems cfg po _ items _ (by
      split
      · exact h
      · exact stOK_regMany _ h (routeOK_mkRoute ..))
  | .mount _ _ _, _, h => stOK_regMount _ _ _ h
theorem stOK_buildItems (cfg : Cfg) (po : Bytes → List Bytes) (c : Option Bytes) :
    ∀ (is : List Item) (st : St), StOK cfg po st → StOK cfg po (buildItems cfg po c is st)
  | [], _, h => h
  | i :: is, st, h => stOK_buildItems cfg po c is _ (stOK_buildItem cfg po c i st h)
end

theorem routeOK_finish {cfg : Cfg} {po : Bytes → List Bytes} {st : St} (h : StOK cfg po st) (k : Nat) :
    ∀ r ∈ finish cfg po st k, RouteOK cfg po r := by
  intro r hr
  obtain ⟨x, hx, n, rfl⟩ := mem_finish hr
  show RouteOK cfg po x
  rcases mem_splice hx with hx | ⟨_, _, _, _, y, _, rfl⟩
  · exact h k x (List.mem_reverse.mp hx)
  · exact routeOK_addPrefix ..

theorem routeOK_flatten (cfg : Cfg) (po : Bytes → List Bytes) (items : List Item) (k : Nat) :
    ∀ r ∈ flatten cfg po items k, RouteOK cfg po r :=
  routeOK_finish (stOK_buildItems cfg po none items St.init fun _ _ h => nomatch h) k

theorem flatMap_eq_map_flatMap {α β γ : Type} {l : List α} {f : α → List β} {g : α → List γ} {T : γ → β}
    (h : ∀ a ∈ l, f a = (g a).map T) : l.flatMap f = (l.flatMap g).map T := by
  rw [List.map_flatMap, List.flatMap_def, List.flatMap_def, List.map_congr_left h]

theorem expandObs_eq {cfg : Cfg} {po : Bytes → List Bytes} {l : List Route}
    (h : ∀ r ∈ l, RouteOK cfg po r) : expandObs l = (expand l).map (obsOf cfg po) :=
  flatMap_eq_map_flatMap fun r hr => by
    have hr := h r hr
    rw [List.map_map]
    exact List.map_congr_left fun x _ => by
      simp [obsOf, hr.pretty_eq, hr.path_eq, hr.params_eq, hr.written_eq]

end C04
