import FiberModel.C04.FieldLemmas
/-
C04 — from the stacks the code builds (merging, placeholders, splice, renumbering) to a
denotation: per method, the list of (use, registration path, handler) entries a definition tree
registers. The registration path is kept in the canonical form `canon` (empty, or with its leading
slash): that is all `getGroupPath`, `register` and `addRoute`'s merge read of `Route.pathOrig`.
-/
namespace C04
open B

/-- the canonical registration path of a route, read off the two fields `addRoute` compares -/
def keyOf (r : Route) : Bytes := if r.orig = [] then [] else r.raw

def entriesOf (r : Route) : List Entry := r.handlers.map fun h => (r.use, keyOf r, h)

def mapRaw (T : Bytes → Bytes) (e : Entry) : Entry := (e.1, T e.2.1, e.2.2)

/-- per-handler entries of a stack, keyed by the canonical registration path -/
def expandK (l : List Route) : List Entry := l.flatMap entriesOf

@[simp] theorem expandK_nil : expandK [] = [] := rfl
theorem expandK_cons (r : Route) (l : List Route) : expandK (r :: l) = entriesOf r ++ expandK l := by
  simp [expandK]
theorem expandK_append (a b : List Route) : expandK (a ++ b) = expandK a ++ expandK b := by
  simp [expandK]

theorem keyOf_eq_canon {r : Route} (h : r.raw = rawOf r.orig) : keyOf r = canon r.orig := by
  unfold keyOf canon; rw [h]

theorem expand_eq_expandK {l : List Route} (h : ∀ r ∈ l, r.raw = rawOf r.orig) :
    expand l = (expandK l).map (mapRaw rawOf) :=
  flatMap_eq_map_flatMap fun r hr => by
    have : r.raw = rawOf (keyOf r) := by rw [keyOf_eq_canon (h r hr), rawOf_canon]; exact h r hr
    rw [entriesOf, List.map_map, this]; rfl

/-- what a mounted app's table contributes: its entries, each registration path prefixed the way
`getGroupPath` prefixes a path under a group -/
def prefixK (pre : Bytes) (κ : Bytes) : Bytes := canon (getGroupPath pre κ)

theorem expandK_map_addPrefix (cfg : Cfg) (po : Bytes → List Bytes) (pre : Bytes) (l : List Route)
    (h : ∀ r ∈ l, r.raw = rawOf r.orig) :
    expandK (l.map (addPrefix cfg po pre)) = (expandK l).map (mapRaw (prefixK pre)) := by
  unfold expandK
  rw [List.flatMap_map]
  exact flatMap_eq_map_flatMap fun r hr => by
    have hk : keyOf (addPrefix cfg po pre r) = canon (getGroupPath pre (keyOf r)) := by
      rw [keyOf_eq_canon (h r hr), ggp_canon]; rfl
    rw [entriesOf, entriesOf, List.map_map, hk]; rfl

theorem expandK_renum (c : Nat) (l : List Route) : expandK (renum c l) = expandK l := by
  unfold expandK
  rw [List.flatMap_def, map_renum entriesOf (fun _ _ => rfl), ← List.flatMap_def]

/-- entries of a stack under construction (kept newest first) -/
def expandS (cfg : Cfg) (po : Bytes → List Bytes) (k : Nat) (l : List Slot) : List Entry :=
  expandK (splice cfg po k l.reverse)

@[simp] theorem expandS_nil (cfg : Cfg) (po : Bytes → List Bytes) (k : Nat) : expandS cfg po k [] = [] := rfl

theorem expandS_cons_route (cfg : Cfg) (po : Bytes → List Bytes) (k : Nat) (r : Route) (l : List Slot) :
    expandS cfg po k (.route r :: l) = expandS cfg po k l ++ entriesOf r := by
  unfold expandS
  rw [List.reverse_cons, splice_append, expandK_append, splice, splice, expandK_cons, expandK_nil, List.append_nil]

/-- the sub-app tables a placeholder may hold: every route's Path is its registration path normalised -/
def SubOK (sub : Nat → List Route) : Prop := ∀ k, ∀ r ∈ sub k, r.raw = rawOf r.orig

theorem expandS_cons_mount (cfg : Cfg) (po : Bytes → List Bytes) (k : Nat) (raw pre : Bytes)
    (sub : Nat → List Route) (hsub : SubOK sub) (l : List Slot) :
    expandS cfg po k (.mount raw pre sub :: l) =
      expandS cfg po k l ++ (expandK (sub k)).map (mapRaw (prefixK pre)) := by
  unfold expandS
  rw [List.reverse_cons, splice_append, expandK_append, splice, splice, List.append_nil,
    expandK_map_addPrefix cfg po pre (sub k) (hsub k)]

/-- `addRoute`'s merge is invisible per handler -/
theorem expandS_pushRoute (cfg : Cfg) (po : Bytes → List Bytes) (k : Nat) (l : List Slot) (r : Route) (c : Nat) :
    expandS cfg po k (pushRoute l r c).1 = expandS cfg po k l ++ entriesOf r := by
  fun_cases pushRoute l r c
  · rename_i p t h
    rw [expandS_cons_route, expandS_cons_route, List.append_assoc]
    congr 1
    have hk : keyOf p = keyOf r := by
      -- the same `if` on both sides once "`orig` is empty" is spelt as `addRoute` compares it
      unfold keyOf
      simp only [← beq_iff_eq (b := ([] : Bytes)), h.1, h.2.1]
    simp only [entriesOf, List.map_append]
    rw [show keyOf { p with handlers := p.handlers ++ r.handlers } = keyOf p from rfl, hk, h.2.2]
  · rw [expandS_cons_route]; rfl
  · rw [expandS_cons_route]; rfl

theorem expandS_addRoute (cfg : Cfg) (po : Bytes → List Bytes) (k m : Nat) (r : Route) (st : St) :
    expandS cfg po k ((addRoute m r st).stacks k) =
      expandS cfg po k (st.stacks k) ++ (if k = m then entriesOf r else []) := by
  unfold addRoute
  by_cases h : k = m
  · subst h; simp only [if_true, expandS_pushRoute]
  · simp only [h, if_false, List.append_nil]

theorem foldl_append_count {σ β : Type} (f : σ → Nat → σ) (g : σ → List β) (k : Nat) (e : List β)
    (h : ∀ s m, g (f s m) = g s ++ if k = m then e else []) (ms : List Nat) (s : σ) :
    g (ms.foldl f s) = g s ++ (List.replicate (ms.count k) e).flatten := by
  induction ms generalizing s with
  | nil => simp only [List.foldl_nil, List.count_nil, List.replicate_zero, List.flatten_nil, List.append_nil]
  | cons m ms ih =>
    rw [List.foldl_cons, ih, h, List.append_assoc, List.count_cons]
    by_cases hk : k = m
    · subst hk
      simp only [if_true, beq_self_eq_true, List.replicate_succ, List.flatten_cons]
    · have : (m == k) = false := beq_false_of_ne fun e => hk e.symm
      simp only [hk, this, if_false, Bool.false_eq_true, List.nil_append, Nat.add_zero]

theorem expandS_regMany (cfg : Cfg) (po : Bytes → List Bytes) (k : Nat) (ms : List Nat) (r : Route) (st : St) :
    expandS cfg po k ((regMany ms r st).stacks k) =
      expandS cfg po k (st.stacks k) ++ (List.replicate (ms.count k) (entriesOf r)).flatten :=
  foldl_append_count (fun st m => addRoute m r st) (fun st => expandS cfg po k (st.stacks k)) k _
    (fun st m => expandS_addRoute cfg po k m r st) ms st

theorem expandS_addMount (cfg : Cfg) (po : Bytes → List Bytes) (k m : Nat) (raw pre : Bytes)
    (sub : Nat → List Route) (hsub : SubOK sub) (st : St) :
    expandS cfg po k ((addMount m raw pre sub st).stacks k) =
      expandS cfg po k (st.stacks k) ++
        (if k = m then (expandK (sub k)).map (mapRaw (prefixK pre)) else []) := by
  unfold addMount
  by_cases h : k = m
  · subst h; simp only [if_true, expandS_cons_mount _ _ _ _ _ _ hsub]
  · simp only [h, if_false, List.append_nil]

theorem allMethods_nodup : allMethods.Nodup := List.nodup_range

theorem count_allMethods (k : Nat) : allMethods.count k = if k < nMethods then 1 else 0 := by
  rw [List.Nodup.count allMethods_nodup, allMethods]
  simp only [List.mem_range]

theorem expandS_regMount (cfg : Cfg) (po : Bytes → List Bytes) (k : Nat) (raw pre : Bytes)
    (sub : Nat → List Route) (hsub : SubOK sub) (st : St) :
    expandS cfg po k ((regMount raw pre sub st).stacks k) =
      expandS cfg po k (st.stacks k) ++
        (if k < nMethods then (expandK (sub k)).map (mapRaw (prefixK pre)) else []) := by
  refine (foldl_append_count (fun st m => addMount m raw pre sub st) (fun st => expandS cfg po k (st.stacks k)) k _
    (fun st m => expandS_addMount cfg po k m raw pre sub hsub st) allMethods st).trans ?_
  rw [count_allMethods]
  split <;> simp

theorem expandK_finish (cfg : Cfg) (po : Bytes → List Bytes) (st : St) (k : Nat) :
    expandK (finish cfg po st k) = expandS cfg po k (st.stacks k) := by
  unfold finish
  split
  · exact expandK_renum _ _
  · rfl

theorem subOK_flatten (cfg : Cfg) (po : Bytes → List Bytes) (items : List Item) :
    SubOK (flatten cfg po items) :=
  fun k r hr => (routeOK_flatten cfg po items k r hr).raw_eq

/-- handlers `hs` registered `n` times at the registration path `κ` -/
def regEntries (use : Bool) (κ : Bytes) (n : Nat) (hs : List Nat) : List Entry :=
  (List.replicate n hs).flatten.map fun h => (use, κ, h)

mutual
/-- entries (use, canonical registration path, handler) that an item registers on method `k`, in
order; `c` = prefix of the group the item is registered on (`none`: the app itself). A mounted app
contributes its own entries, each path prefixed with the mount prefix as given. -/
def denItem (c : Option Bytes) (k : Nat) : Item → List Entry
  | .route ms p hs => regEntries false (canon (regPath c p)) (ms.count k) hs
  | .use p hs => regEntries true (canon (regPath c p)) (if k < nMethods then 1 else 0) hs
  | .group p hs items =>
    regEntries true (canon (regPath c p)) (if k < nMethods then 1 else 0) hs
      ++ denItems (some (regPath c p)) k items
  | .mount p _ sub =>
    if k < nMethods then (denItems none k sub).map (mapRaw (prefixK (regPath c p))) else []
def denItems (c : Option Bytes) (k : Nat) : List Item → List Entry
  | [] => []
  | i :: is => denItem c k i ++ denItems c k is
end

theorem entriesOf_mkRoute (cfg : Cfg) (po : Bytes → List Bytes) (use : Bool) (p : Bytes) (hs : List Nat) :
    entriesOf (mkRoute cfg po use p hs) = hs.map fun h => (use, canon p, h) := rfl

theorem regEntries_one (u : Bool) (κ : Bytes) (hs : List Nat) :
    regEntries u κ 1 hs = hs.map fun h => ((u, κ, h) : Entry) := by
  simp [regEntries]

theorem regEntries_nil (use : Bool) (raw : Bytes) (n : Nat) : regEntries use raw n [] = [] := by
  rw [regEntries, List.flatten_replicate_nil]; rfl

theorem expandS_register (cfg : Cfg) (po : Bytes → List Bytes) (k : Nat) (ms : List Nat) (u : Bool) (p : Bytes)
    (hs : List Nat) (st : St) :
    expandS cfg po k ((regMany ms (mkRoute cfg po u p hs) st).stacks k) =
      expandS cfg po k (st.stacks k) ++ regEntries u (canon p) (ms.count k) hs := by
  rw [expandS_regMany, entriesOf_mkRoute, regEntries, List.map_flatten, List.map_replicate]

theorem expandS_registerAll (cfg : Cfg) (po : Bytes → List Bytes) (k : Nat) (u : Bool) (p : Bytes)
    (hs : List Nat) (st : St) :
    expandS cfg po k ((regMany allMethods (mkRoute cfg po u p hs) st).stacks k) =
      expandS cfg po k (st.stacks k) ++ regEntries u (canon p) (if k < nMethods then 1 else 0) hs := by
  rw [expandS_register, count_allMethods]

mutual
theorem buildItem_den (cfg : Cfg) (po : Bytes → List Bytes) (c : Option Bytes) (k : Nat) :
    ∀ (i : Item) (st : St),
      expandS cfg po k ((buildItem cfg po c i st).stacks k) = expandS cfg po k (st.stacks k) ++ denItem c k i
  | .route ms _ hs, st => expandS_register cfg po k ms false _ hs st
  | .use _ hs, st => expandS_registerAll cfg po k true _ hs st
  | .group p hs items, st => by
    refine (buildItems_den cfg po (some (regPath c p)) k items _).trans ?_
    show _ = _ ++ (_ ++ _)
    rw [← List.append_assoc]
    refine congrArg (· ++ _) ?_
    by_cases h : hs = []
    · rw [if_pos h, h, regEntries_nil, List.append_nil]
    · rw [if_neg h]; exact expandS_registerAll cfg po k true _ hs st
  | .mount p scfg sub, st => by
    -- the clones are prefixed from `pathOrig`: this needs `Path = rawOf pathOrig` in the sub-app's table
    refine (expandS_regMount cfg po k _ _ _ (subOK_flatten scfg po sub) st).trans ?_
    show _ = _ ++ if k < nMethods then (denItems none k sub).map (mapRaw (prefixK (regPath c p))) else []
    unfold flatten
    rw [expandK_finish, buildItems_den scfg po none k sub St.init]
    rfl
theorem buildItems_den (cfg : Cfg) (po : Bytes → List Bytes) (c : Option Bytes) (k : Nat) :
    ∀ (is : List Item) (st : St),
      expandS cfg po k ((buildItems cfg po c is st).stacks k) = expandS cfg po k (st.stacks k) ++ denItems c k is
  | [], _ => (List.append_nil _).symm
  | i :: is, st => by
    refine (buildItems_den cfg po c k is _).trans ?_
    rw [buildItem_den cfg po c k i st, List.append_assoc]
    rfl
end

/-- The table the code builds (merges, placeholders, splice, renumbering) lists, per handler, exactly
the entries of the definition tree's denotation (keyed by the canonical registration path). -/
theorem expandK_flatten (cfg : Cfg) (po : Bytes → List Bytes) (items : List Item) (k : Nat) :
    expandK (flatten cfg po items k) = denItems none k items := by
  unfold flatten
  rw [expandK_finish, buildItems_den]
  rfl

theorem expand_flatten (cfg : Cfg) (po : Bytes → List Bytes) (items : List Item) (k : Nat) :
    expand (flatten cfg po items k) = (denItems none k items).map (mapRaw rawOf) := by
  rw [expand_eq_expandK (subOK_flatten cfg po items k), expandK_flatten]

end C04
