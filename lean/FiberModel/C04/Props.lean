import FiberModel.C04.Compose
import FiberModel.C04.Refuse
import FiberModel.C04.Known
/-
C04 — property theorems. `flatten` is the model of what the repaired code builds (register,
addRoute's merge, mount placeholders, processSubAppsRoutes' splice / addPrefixToRoute / renumbering);
`flattenSpec` registers the same definition tree with every mount replaced by a group with the mount
prefix at the same position. All statements are for every definition tree (any nesting of apps,
groups and mounts, mounts from groups, any prefixes and paths — empty ones included), every routing
configuration of the root and of the sub-apps, every opaque parser `po`, and every method index
`k < nMethods`.

The property at table level is `mount_eq_group`, at full strength: no region excluded, no assumption
on the parser. The inputs of the repaired finding F5 (known/C04.json: empty-path registration inside a
mounted app under StrictRouting or a slashes-only prefix, `Known.F5region`) are covered;
`mount_eq_group_fixed_K1_witness` evaluates both tables on the witness of that finding. The composition
with the matcher / dispatcher models of C01 and C02 is in `Compose.lean`.

Property theorems in other files: `getGroupPath_assoc`, `mount_prefix_eq_group` (PathLemmas),
`expand_flatten` (StackLemmas), `mount_eq_group_paths` (EquivLemmas), `run_eq_runE` (MoreLemmas), the
bridges `register_bridge` … `mount_dispatch_eq_group` (Compose).
-/
namespace C04
open B Known

theorem getGroupPath_rawOf (g p : Bytes) (hp : p ≠ []) :
    rawOf (getGroupPath g p) = getGroupPath (rawOf (mountPath g)) (rawOf p) :=
  (mount_prefix_eq_group hp).symm

theorem getGroupPath_assoc₃ (a p c d : Bytes) :
    getGroupPath (getGroupPath (getGroupPath a p) c) d = getGroupPath a (getGroupPath p (getGroupPath c d)) := by
  rw [getGroupPath_assoc, getGroupPath_assoc]

example : getGroupPath (getGroupPath [] (b "api/")) (b "") = b "/api/" ∧
    getGroupPath (b "/") (b "x") = b "/x" ∧ getGroupPath (b "/a//") (b "/") = b "/a/" := by
  repeat rewrite [b_ofList]
  decide +kernel

/-- The property at table level: for every method, the mounted composition and the group
composition hold — handler by handler, in order — routes that agree on everything `Route.match`
reads (use flag, parsed pattern and the text its constraints are read from, clean path, parameter keys). -/
theorem mount_eq_group (cfg : Cfg) (po : Bytes → List Bytes) (items : List Item)
    (k : Nat) (hk : k < nMethods) :
    expandObs (flatten cfg po items k) = expandObs (flattenSpec cfg po items k) := by
  rw [expandObs_eq (routeOK_flatten cfg po items k), mount_eq_group_paths cfg po items k hk]
  exact (expandObs_eq (routeOK_flatten cfg po (unmountItems items) k)).symm

/-- A sub-app's own routing configuration (CaseSensitive, StrictRouting — the model's `scfg`) is not
used for its routes once it is mounted: `addPrefixToRoute` re-prettifies and re-parses every clone
with the PARENT's configuration. Two trees that differ only in sub-app configurations (they unmount to
the same tree) serve tables that agree on everything the matcher reads. -/
theorem subapp_config_irrelevant (cfg : Cfg) (po : Bytes → List Bytes) (items items' : List Item)
    (h : unmountItems items = unmountItems items') (k : Nat) (hk : k < nMethods) :
    expandObs (flatten cfg po items k) = expandObs (flatten cfg po items' k) := by
  rw [mount_eq_group cfg po items k hk, mount_eq_group cfg po items' k hk]
  unfold flattenSpec
  rw [h]

example : unmountItems [.mount (b "/API") ⟨true, true⟩ [.route [0] (b "/X/") [1]]] =
    unmountItems [.mount (b "/API") ⟨false, false⟩ [.route [0] (b "/X/") [1]]] := rfl

def noParams : Bytes → List Bytes := fun _ => []

/-- non-vacuity: a nested tree with a parameterised and an upper-case prefix, a mount from a group,
empty paths inside mounted apps, a StrictRouting root — inside the former K1 region -/
def sampleTree : List Item :=
  [.use [] [1],
   .group (b "/V1/") [2] [.mount (b ":tenant") ⟨true, true⟩
      [.use [] [3], .route [0] (b "x") [4, 5], .mount (b "/deep/") ⟨false, false⟩ [.route [0, 2] [] [6]]]],
   .route [0] (b "/v1/:tenant/x") [7]]

example : F5region ⟨false, true⟩ sampleTree = true := by
  unfold sampleTree
  repeat rewrite [b_ofList]
  decide +kernel

/-- the sub-app's path-less middleware (handler 3) sits at the mount prefix itself, and the
path-less route of the nested app (handler 6) at its prefix as given, trailing slash included -/
example : (expand (flatten ⟨false, true⟩ noParams sampleTree 0)).map (fun e => (e.2.1, e.2.2)) =
    [(b "/", 1), (b "/V1/", 2), (b "/V1/:tenant", 3), (b "/V1/:tenant/x", 4), (b "/V1/:tenant/x", 5),
     (b "/V1/:tenant/deep/", 6), (b "/v1/:tenant/x", 7)] := by
  unfold sampleTree
  repeat rewrite [b_ofList]
  decide +kernel

example : (expand (flattenSpec ⟨false, true⟩ noParams sampleTree 0)).map (fun e => (e.2.1, e.2.2)) =
    [(b "/", 1), (b "/V1/", 2), (b "/V1/:tenant", 3), (b "/V1/:tenant/x", 4), (b "/V1/:tenant/x", 5),
     (b "/V1/:tenant/deep/", 6), (b "/v1/:tenant/x", 7)] := by
  unfold sampleTree
  repeat rewrite [b_ofList]
  decide +kernel

/-- K1's former witness (known/C04.json, F5): StrictRouting, `root.Use("/api", sub)`, `sub.Get("", h1)` -/
def witnessK1 : List Item := [.mount (b "/api") ⟨false, false⟩ [.route [0] [] [1]]]

example : F5region ⟨false, true⟩ witnessK1 = true := by
  unfold witnessK1
  repeat rewrite [b_ofList]
  decide +kernel

/-- on the witness of finding F5 both compositions hold the one route "/api" (before the repair the
mounted one held "/api/") -/
theorem mount_eq_group_fixed_K1_witness :
    expandObs (flatten ⟨false, true⟩ noParams witnessK1 0) = [⟨false, b "/api", b "/api", b "/api", [], 1⟩] ∧
    expandObs (flattenSpec ⟨false, true⟩ noParams witnessK1 0) = [⟨false, b "/api", b "/api", b "/api", [], 1⟩] := by
  unfold witnessK1
  repeat rewrite [b_ofList]
  decide +kernel

/-- "" and "/" registered one after the other in a mounted app stay two routes (`addRoute` does not
merge them), as under a group: "/api" and "/api/" -/
example : (flatten ⟨false, true⟩ noParams [.mount (b "/api") ⟨false, false⟩ [.route [0] [] [1], .route [0] (b "/") [2]]] 0).map
      (fun r => (r.raw, r.handlers)) = [(b "/api", [1]), (b "/api/", [2])] ∧
    (flattenSpec ⟨false, true⟩ noParams [.mount (b "/api") ⟨false, false⟩ [.route [0] [] [1], .route [0] (b "/") [2]]] 0).map
      (fun r => (r.raw, r.handlers)) = [(b "/api", [1]), (b "/api/", [2])] := by
  repeat rewrite [b_ofList]
  decide +kernel

/-- Registering through groups (and, read as groups with empty relative paths, through `Route(path)`
registers) builds exactly the same table — same routes, same merges, same positions — as the
group-free tree in which every path is spelled out in full; this holds inside mounted sub-apps too. -/
theorem group_eq_full_path (cfg : Cfg) (po : Bytes → List Bytes) (items : List Item) :
    flatten cfg po items = flatten cfg po (spellItems none items) ∧
    groupFree (spellItems none items) = true := by
  refine ⟨?_, groupFree_spellItems none items⟩
  unfold flatten
  rw [buildItems_spell]

example : spellItems none [.group (b "/api/") [1] [.group (b "v1") [] [.route [0] (b "x") [2]], .use [] [3]]] =
    [.use (b "/api/") [1], .route [0] (b "/api/v1/x") [2], .use (b "/api/") [3]] := by
  repeat rewrite [b_ofList]
  rfl

/-- positions are strictly increasing along every stack (after `processSubAppsRoutes`' renumbering
for an app with mounts, by registration order otherwise): `buildTree`'s sort by `pos` keeps the
stack order inside every bucket -/
theorem flatten_pos_sorted (cfg : Cfg) (po : Bytes → List Bytes) (items : List Item) (k : Nat) :
    ((flatten cfg po items k).map (·.pos)).Pairwise (· < ·) :=
  posSorted_finish cfg po (posInv_buildItems cfg po none items St.init (Or.inr fun _ => trivial)) k

/-- every route of the table carries the fields `register` derives from its Path — in particular
the mounted routes' parameter keys, parser, and root/star shortcuts (the repaired defects F1–F3) —
and its Path is its registration path normalised as `register` normalises it (F5) -/
theorem flatten_fields (cfg : Cfg) (po : Bytes → List Bytes) (items : List Item) (k : Nat) :
    ∀ r ∈ flatten cfg po items k,
      r.pretty = prettyOf cfg r.raw ∧ r.path = cleanOf cfg r.raw ∧ r.params = po r.raw ∧
      r.root = (cleanOf cfg r.raw == [47]) ∧ r.star = (prettyOf cfg r.raw == [47, 42]) ∧
      r.raw = rawOf r.orig ∧ r.written = writtenOf cfg r.raw :=
  routeOK_flatten cfg po items k

/-- Equal answers for an abstract matcher: for any matcher that reads what `Route.match` reads and
any handler behaviour (which handlers call Next), both compositions run the same chain — the same
handlers with the same match results in the same order — for every request and method.
(`Compose.lean` instantiates the matcher with C02's model of `Route.match`.) -/
theorem mount_answers_eq {V : Type} (mt : Bool → Bytes → Bytes → Bytes → List Bytes → Option V) (stops : Nat → Bool)
    (cfg : Cfg) (po : Bytes → List Bytes) (items : List Item) (hwf : wfItems items = true)
    (k : Nat) (hk : k < nMethods) :
    run mt stops (flatten cfg po items k) = run mt stops (flattenSpec cfg po items k) := by
  have e1 := run_eq_runE mt stops _ (handlers_ne_flatten cfg po items hwf k)
  have e2 : run mt stops (flattenSpec cfg po items k) = runE mt stops (expandObs (flattenSpec cfg po items k)) :=
    run_eq_runE mt stops _ (handlers_ne_flatten cfg po (unmountItems items) (wf_unmountItems items hwf) k)
  rw [e1, e2, mount_eq_group cfg po items k hk]

example : wfItems sampleTree = true := by decide +kernel

/-- Equal answers under C02's model of `Route.match`: with the opaque parser instantiated by
C02's `parseRoute` and the abstract matcher by C02's `routeMatch` (on every served route it is
`routeMatch` of the route C02's `register` builds: `mtC02_eq_routeMatch`, `register_bridge`), both
compositions run the same handlers with the same parameter values, in the same order, for every
request `(det, path)`, every constraint checker and every handler behaviour. -/
theorem mount_answers_eq_C02 (chk : C02.Constraint → Bytes → Bool) (det path : Bytes) (stops : Nat → Bool)
    (cfg : Cfg) (items : List Item) (hwf : wfItems items = true) (k : Nat) (hk : k < nMethods) :
    run (mtC02 chk det path) stops (flatten cfg poC02 items k) =
      run (mtC02 chk det path) stops (flattenSpec cfg poC02 items k) :=
  mount_answers_eq (mtC02 chk det path) stops cfg poC02 items hwf k hk

/-- every route either composition serves is matched as C02's `register`ed route is matched -/
theorem served_route_is_registered (chk : C02.Constraint → Bytes → Bool) (cfg : Cfg) (ue : Bool) (det path : Bytes)
    (items : List Item) (k : Nat) (r : Route) (hr : r ∈ flatten cfg poC02 items k)
    (r2 : C02.Route) (h2 : C02.register (cfg2 cfg ue) r.use r.orig = some r2) :
    r2.pathRaw = r.raw ∧ r2.params = r.params ∧
    mtC02 chk det path r.use r.pretty r.written r.path r.params = C02.routeMatch chk r2 det path := by
  have hok := routeOK_flatten cfg poC02 items k r hr
  obtain ⟨hb, hp⟩ := register_bridge cfg ue r hok
  have h3 := h2
  rw [hb] at h3
  obtain ⟨_, _, _, _, e⟩ := toC02_eq_some h3
  exact ⟨e ▸ rfl, hp r2 h3, mtC02_eq_routeMatch chk cfg ue det path r hok r2 h2⟩

/-- The property for the modelled router end to end: C01's dispatcher with C02's matcher and
`buildTree`'s bucket key, run on the table the mounted composition serves, answers every request
exactly as C01's model of the group composition — same handler trace, same end (reply, handler
error, 404, or 405 with the same Allow set) — and both meet C01's specification `linear`. No
locality hypothesis is left: it is `local_keyC02` (`C02.match_bucket_of_key`). Remaining hypotheses:
every registration has a handler and lists no method twice (the public API's own preconditions /
C01's `WF`), handlers do not override path or method (C01's `dispatch_refines_linear`). -/
theorem mount_dispatch_eq_group_C02 {α : Type} (chk : C02.Constraint → Bytes → Bool) (cfg : Cfg) (ue : Bool)
    (setp : Bytes × Bytes → α → Option (Bytes × Bytes)) (scr : Nat → C01.Script α)
    (hscr : ∀ i, (scr i).isOverride = false) (po : Bytes → List Bytes) (items : List Item)
    (hwf : wfItems items = true) (hnd : nodupMs items = true) (m : Nat) (hm : m < nMethods) (p : Bytes × Bytes) :
    C01.dispatchS (envC02 chk cfg ue setp) (stacksOfTable scr (keyC02 cfg ue) (flatten cfg po items)) false
        (stacksOfTable scr (keyC02 cfg ue) (flatten cfg po items) : C01.Stacks α).fuel m p =
      C01.dispatch (envC02 chk cfg ue setp) (regsItems scr (keyC02 cfg ue) none items) m p ∧
    C01.dispatch (envC02 chk cfg ue setp) (regsItems scr (keyC02 cfg ue) none items) m p =
      .ok (C01.linear (envC02 chk cfg ue setp) (regsItems scr (keyC02 cfg ue) none items) m p) :=
  mount_dispatch_eq_group scr (keyC02 cfg ue) (envC02 chk cfg ue setp) rfl hscr
    (local_keyC02 chk cfg ue setp) cfg po items hwf hnd m hm p

/-- non-vacuity: the hypotheses hold for the sample trees … -/
example : wfItems sampleTree = true ∧ nodupMs sampleTree = true ∧ hasMountTop sampleTree = true ∧
    wfItems witnessK1 = true ∧ nodupMs witnessK1 = true ∧ hasMountTop witnessK1 = true := by decide +kernel

/-- handler 1 replies, every other handler calls `Next` -/
def scrEx (i : Nat) : C01.Script Bytes := if i = 1 then .stop else .next

example : ∀ i, (scrEx i).isOverride = false := by
  intro i; unfold scrEx; split <;> rfl

/-- … and the two runs are what they should be on `witnessK1` (C01's example matcher:
literal routes match their own text): `GET /api` is answered by handler 1, `GET /api/` is a 404 -/
example :
    C01.dispatch C01.Ex.E (regsItems scrEx (fun _ => 0) none witnessK1) 0 (b "/api") = .ok ⟨[1], .stop⟩ ∧
    C01.dispatchS C01.Ex.E (stacksOfTable scrEx (fun _ => 0) (flatten ⟨false, true⟩ noParams witnessK1)) false 2 0
      (b "/api") = .ok ⟨[1], .stop⟩ ∧
    C01.dispatchS C01.Ex.E (stacksOfTable scrEx (fun _ => 0) (flatten ⟨false, true⟩ noParams witnessK1)) false 2 0
      (b "/api/") = .ok ⟨[], .notFound⟩ := by
  unfold witnessK1
  repeat rewrite [b_ofList]
  decide +kernel

/-- the locality hypothesis is not vacuous for the real key rule: a route in a 3-byte bucket -/
example : keyC02 ⟨false, false⟩ false (b "/api/x") = 47 * 65536 + 97 * 256 + 112 := by
  repeat rewrite [b_ofList]
  decide +kernel

/-- "Refused at startup" is part of answering alike: whatever paths `register` / `addPrefixToRoute`
refuse (`rf`: any predicate on the registered Path — in the code "more than `maxParams` parameters"),
the mounted composition would hold a refused route iff the group composition would. Full strength:
every tree, config, parser, guard. (From `mount_eq_group_paths`: identical Paths per handler.) -/
theorem refused_mount_iff_group (rf : Bytes → Bool) (cfg : Cfg) (po : Bytes → List Bytes) (items : List Item) :
    refused rf (flatten cfg po items) = refused rf (flattenSpec cfg po items) := by
  unfold refused refusedAt
  apply any_congr_mem
  intro k hk
  rw [mount_eq_group_paths cfg po items k (List.mem_range.mp hk)]

/-- the guard of the code as an instance: Paths with more than `n` parameters (code: n = 30) -/
theorem refused_mount_iff_group_maxParams (n : Nat) (cfg : Cfg) (po : Bytes → List Bytes) (items : List Item) :
    refused (fun p => decide ((po p).length > n)) (flatten cfg po items) =
      refused (fun p => decide ((po p).length > n)) (flattenSpec cfg po items) :=
  refused_mount_iff_group _ cfg po items

/-- non-vacuity: on the sample tree a guard that refuses one of its Paths refuses both compositions,
a guard that refuses nothing refuses neither -/
example : refused (fun p => p == ((flatten ⟨false, false⟩ noParams sampleTree 0).map (·.raw)).headD []) (flatten ⟨false, false⟩ noParams sampleTree) = true ∧
    refused (fun p => p == ((flatten ⟨false, false⟩ noParams sampleTree 0).map (·.raw)).headD []) (flattenSpec ⟨false, false⟩ noParams sampleTree) = true ∧
    refused (fun _ => false) (flatten ⟨false, false⟩ noParams sampleTree) = false := by
  unfold sampleTree
  repeat rewrite [b_ofList]
  decide +kernel

end C04
