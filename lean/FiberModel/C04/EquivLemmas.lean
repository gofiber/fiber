import FiberModel.C04.StackLemmas
/-
C04 — the central induction: the entries a definition tree registers with its mounts spliced in ARE
the entries the tree with every mount replaced by a group registers. A mounted app's registration
paths are prefixed with `getGroupPath` exactly as a group prefixes them (F5), so the two
denotations are equal by the associativity of `getGroupPath`.
-/
namespace C04
open B

/-- the group-side context of a sub-tree: the prefix `s` the sub-tree sits under in the group
composition, in front of the group prefix `c` inside the (sub-)app -/
def comp : Option Bytes → Option Bytes → Option Bytes
  | none, c => c
  | some g, c => some (match c with | none => g | some x => getGroupPath g x)

/-- what prefixing with `s` does to a canonical registration path -/
def prefixCtx : Option Bytes → Bytes → Bytes
  | none, κ => κ
  | some g, κ => prefixK g κ

theorem regPath_comp (s c : Option Bytes) (p : Bytes) :
    regPath (comp s c) p = regPath s (regPath c p) := by
  cases s with
  | none => rfl
  | some g =>
    cases c with
    | none => rfl
    | some x => exact getGroupPath_assoc g x p

theorem comp_some (s : Option Bytes) (y : Bytes) : comp s (some y) = some (regPath s y) := by
  cases s <;> rfl

theorem prefixCtx_canon (s : Option Bytes) (x : Bytes) : prefixCtx s (canon x) = canon (regPath s x) := by
  cases s with
  | none => rfl
  | some g => exact congrArg canon (ggp_canon g x)

theorem prefixCtx_prefixK (s c : Option Bytes) (p : Bytes) :
    (fun κ => prefixCtx s (prefixK (regPath c p) κ)) = prefixK (regPath (comp s c) p) := by
  funext κ
  rw [regPath_comp]
  exact (prefixCtx_canon s _).trans (congrArg canon (regPath_ggp s _ κ).symm)

theorem mapRaw_map (T U : Bytes → Bytes) (l : List Entry) :
    (l.map (mapRaw U)).map (mapRaw T) = l.map (mapRaw fun r => T (U r)) := by
  rw [List.map_map]; rfl

theorem regEntries_comp (s c : Option Bytes) (p : Bytes) (u : Bool) (n : Nat) (hs : List Nat) :
    regEntries u (canon (regPath (comp s c) p)) n hs =
      (regEntries u (canon (regPath c p)) n hs).map (mapRaw (prefixCtx s)) := by
  rw [regPath_comp, ← prefixCtx_canon, regEntries, regEntries, List.map_map]; rfl

mutual
theorem denItem_unmount (k : Nat) (hk : k < nMethods) :
    ∀ (i : Item) (s c : Option Bytes),
      denItem (comp s c) k (unmountItem i) = (denItem c k i).map (mapRaw (prefixCtx s))
  | .route _ p hs, s, c => regEntries_comp s c p false _ hs
  | .use p hs, s, c => regEntries_comp s c p true _ hs
  | .group p hs items, s, c => by
    show _ ++ _ = List.map _ (_ ++ _)
    rw [List.map_append, ← regEntries_comp, ← denItems_unmount k hk items s (some (regPath c p)),
      comp_some, regPath_comp]
  | .mount p _ sub, s, c => by
    show regEntries true _ _ [] ++ denItems (some (regPath (comp s c) p)) k (unmountItems sub) =
      (if k < nMethods then (denItems none k sub).map (mapRaw (prefixK (regPath c p))) else []).map _
    rw [regEntries_nil, List.nil_append, if_pos hk, mapRaw_map, prefixCtx_prefixK]
    exact denItems_unmount k hk sub (some (regPath (comp s c) p)) none
theorem denItems_unmount (k : Nat) (hk : k < nMethods) :
    ∀ (is : List Item) (s c : Option Bytes),
      denItems (comp s c) k (unmountItems is) = (denItems c k is).map (mapRaw (prefixCtx s))
  | [], _, _ => rfl
  | i :: is, s, c => by
    show _ ++ _ = List.map _ (_ ++ _)
    rw [List.map_append, denItem_unmount k hk i s c, denItems_unmount k hk is s c]
end

theorem denItems_unmountItems (k : Nat) (hk : k < nMethods) (is : List Item) (c : Option Bytes) :
    denItems c k (unmountItems is) = denItems c k is :=
  (denItems_unmount k hk is none c).trans (List.map_id' _)

/-- Paths: the two compositions hold, per method and per handler, the very same (use, Path, handler)
entries in the same order. Full strength: every tree, no assumption on the configuration or the
parser. -/
theorem mount_eq_group_paths (cfg : Cfg) (po : Bytes → List Bytes) (items : List Item)
    (k : Nat) (hk : k < nMethods) :
    expand (flatten cfg po items k) = expand (flattenSpec cfg po items k) := by
  unfold flattenSpec
  rw [expand_flatten, expand_flatten, denItems_unmountItems k hk]

end C04
