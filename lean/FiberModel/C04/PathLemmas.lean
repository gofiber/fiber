import FiberModel.C04.Model
import FiberModel.BasicLemmas
/-
C04 — algebra of `trimRight`, `ensureSlash`, `getGroupPath`, `mountPath`, `rawOf`, `prettyOf`.

The property rests on `getGroupPath_assoc` and the `canon` lemmas only. The lemmas on the placeholder's
own Path `rawOf (mountPath f)` (`trimR_placeholder`, `mount_prefix_eq_group`, `mount_prefix_root`)
and `prettyOf_nonstrict` stand on their own: since the repair F5 `splice` prefixes a clone with the
mount prefix as given (`Slot.mount _ pre sub`) and never reads the placeholder's Path.
-/
namespace C04
open B

/-- `trimRight · c` by recursion on the list. `trimR_cons`, `trimR_eq_nil` and what asks about the first byte
(`trimR_ensureSlash`) need this form; the rest is carried over from `B.trimRight` by `trimRight_eq_trimR`. -/
def trimR (c : Nat) : Bytes → Bytes
  | [] => []
  | x :: t =>
    match trimR c t with
    | [] => if x == c then [] else [x]
    | r => x :: r

@[simp] theorem trimR_nil (c : Nat) : trimR c [] = [] := rfl

theorem trimR_cons (c x : Nat) (t : Bytes) :
    trimR c (x :: t) = if trimR c t = [] then (if x == c then [] else [x]) else x :: trimR c t := by
  simp only [trimR]
  cases trimR c t <;> simp

theorem trimRight_eq_trimR (s : Bytes) (c : Nat) : trimRight s c = trimR c s := by
  induction s with
  | nil => rfl
  | cons x t ih =>
    rw [trimR_cons, ← ih]
    unfold trimRight
    rw [List.reverse_cons, List.dropWhile_append]
    cases List.dropWhile (fun y => y == c) t.reverse with
    | nil => by_cases hx : (x == c) = true <;> simp [hx]
    | cons a r => simp

theorem trimR_eq_nil {c : Nat} {s : Bytes} : trimR c s = [] ↔ ∀ x ∈ s, x = c := by
  induction s with
  | nil => simp
  | cons x t ih =>
    rw [trimR_cons, List.forall_mem_cons, ← ih]
    by_cases ht : trimR c t = [] <;> by_cases hx : x = c <;> simp [ht, hx]

theorem trimR_append (c : Nat) (s t : Bytes) :
    trimR c (s ++ t) = if trimR c t = [] then trimR c s else s ++ trimR c t := by
  simp only [← trimRight_eq_trimR, trimRight_append, List.isEmpty_iff]

theorem trimR_prefix (c : Nat) (s : Bytes) : trimR c s <+: s :=
  trimRight_eq_trimR s c ▸ trimRight_prefix s c

theorem trimR_length_le (c : Nat) (s : Bytes) : (trimR c s).length ≤ s.length :=
  (trimR_prefix c s).length_le

theorem trimR_idem (c : Nat) (s : Bytes) : trimR c (trimR c s) = trimR c s := by
  rw [← trimRight_eq_trimR, ← trimRight_eq_trimR]
  exact trimRight_idem s c

theorem trimR_append_single (c : Nat) (s : Bytes) : trimR c (s ++ [c]) = trimR c s := by
  rw [trimR_append]; simp [trimR_cons]

theorem trimR_head (c : Nat) (s : Bytes) (h : trimR c s ≠ []) : (trimR c s).head? = s.head? := by
  have hp := trimR_prefix c s
  rw [List.head?_eq_some_head h, List.head?_eq_some_head (hp.ne_nil h), hp.head h]

theorem lowerByte_eq_slash (x : Nat) : (lowerByte x == 47) = (x == 47) := by
  rw [Bool.eq_iff_iff, beq_iff_eq, beq_iff_eq]
  exact lowerByte_eq_iff x 47 rfl rfl

theorem trimR_toLower (s : Bytes) : trimR 47 (toLower s) = toLower (trimR 47 s) := by
  simp only [← trimRight_eq_trimR]
  exact trimRight_map (fun x => lowerByte_eq_iff x 47 rfl rfl) s

theorem ensureSlash_nil : ensureSlash [] = [47] := rfl

theorem ensureSlash_cons (x : Nat) (t : Bytes) :
    ensureSlash (x :: t) = if x = 47 then x :: t else 47 :: x :: t := by
  by_cases h : x = 47
  · subst h; rfl
  · simp only [h, if_false]
    unfold ensureSlash
    split
    · rename_i heq; simp at heq; exact absurd heq.1 h
    · rfl

theorem ensureSlash_eq (p : Bytes) : ensureSlash p = if p.head? = some 47 then p else 47 :: p := by
  cases p with
  | nil => rfl
  | cons x t => rw [ensureSlash_cons]; by_cases h : x = 47 <;> simp [h]

theorem ensureSlash_head (p : Bytes) : (ensureSlash p).head? = some 47 := by
  rw [ensureSlash_eq]; split
  · assumption
  · rfl

theorem ensureSlash_ne_nil (p : Bytes) : ensureSlash p ≠ [] := fun e => by
  have := ensureSlash_head p
  rw [e] at this
  cases this

theorem ensureSlash_of_head {p : Bytes} (h : p.head? = some 47) : ensureSlash p = p := by
  rw [ensureSlash_eq, if_pos h]

theorem ensureSlash_idem (p : Bytes) : ensureSlash (ensureSlash p) = ensureSlash p :=
  ensureSlash_of_head (ensureSlash_head p)

theorem ensureSlash_append {a : Bytes} (h : a ≠ []) (b : Bytes) :
    ensureSlash (a ++ b) = ensureSlash a ++ b := by
  cases a with
  | nil => exact absurd rfl h
  | cons x t => rw [List.cons_append, ensureSlash_cons, ensureSlash_cons]; split <;> rfl

theorem trimR_ensureSlash (p : Bytes) :
    trimR 47 (ensureSlash p) = if trimR 47 p = [] then [] else ensureSlash (trimR 47 p) := by
  by_cases h : trimR 47 p = []
  · -- slashes only in `p`, so in `ensureSlash p`
    rw [if_pos h]
    rw [trimR_eq_nil] at h ⊢
    intro x hx
    rw [ensureSlash_eq] at hx
    split at hx
    · exact h x hx
    · exact (List.mem_cons.mp hx).elim id (h x)
  · rw [if_neg h, ensureSlash_eq, ensureSlash_eq, trimR_head 47 p h]
    split
    · rfl
    · rw [trimR_cons, if_neg h]

theorem ggp_def (pre path : Bytes) :
    getGroupPath pre path = if path = [] then pre else trimR 47 pre ++ ensureSlash path := by
  unfold getGroupPath; rw [trimRight_eq_trimR]

@[simp] theorem ggp_nil_right (pre : Bytes) : getGroupPath pre [] = pre := by simp [ggp_def]

theorem ggp_of_ne {pre path : Bytes} (h : path ≠ []) :
    getGroupPath pre path = trimR 47 pre ++ ensureSlash path := by simp [ggp_def, h]

theorem ggp_eq_nil {pre path : Bytes} : getGroupPath pre path = [] ↔ pre = [] ∧ path = [] := by
  rw [ggp_def]; split <;> simp [*, ensureSlash_ne_nil]

theorem ggp_nil_left {path : Bytes} (h : path ≠ []) : getGroupPath [] path = ensureSlash path := by
  rw [ggp_of_ne h]; simp

/-- `getGroupPath` is associative: nesting groups composes prefixes the way nesting the prefixed
paths does. (mount.go relies on it: `mount` computes `getGroupPath(k1, getGroupPath(k2, k3))`,
`appendSubAppLists` computes `getGroupPath(getGroupPath(k1, k2), k3)` for the same sub-app.) -/
theorem getGroupPath_assoc (a p c : Bytes) :
    getGroupPath (getGroupPath a p) c = getGroupPath a (getGroupPath p c) := by
  by_cases hc : c = []
  · simp [hc]
  · by_cases hp : p = []
    · subst hp
      rw [ggp_nil_right, ggp_nil_left hc, ggp_of_ne hc, ggp_of_ne (ensureSlash_ne_nil c), ensureSlash_idem]
    · have hpc : getGroupPath p c ≠ [] := fun e => hc (ggp_eq_nil.mp e).2
      rw [ggp_of_ne hc, ggp_of_ne hp, ggp_of_ne hpc, ggp_of_ne hc, trimR_append, trimR_ensureSlash]
      by_cases ht : trimR 47 p = []
      · -- p consists of slashes only
        simp [ht, trimR_idem, ensureSlash_idem]
      · simp only [ht, if_false, ensureSlash_ne_nil]
        rw [ensureSlash_append ht, List.append_assoc]

example : getGroupPath (getGroupPath (b "/api/") (b "v1/")) (b "x") = b "/api/v1/x" ∧
    getGroupPath (b "/api/") (getGroupPath (b "v1/") (b "x")) = b "/api/v1/x" := by
  repeat rewrite [b_ofList]
  decide +kernel

theorem ggp_slash_right (pre : Bytes) : getGroupPath pre [47] = trimR 47 pre ++ [47] := by
  rw [ggp_of_ne (by simp)]; rfl

theorem regPath_ggp (c : Option Bytes) (p x : Bytes) :
    getGroupPath (regPath c p) x = regPath c (getGroupPath p x) := by
  cases c with
  | none => rfl
  | some g => simp only [regPath]; exact getGroupPath_assoc g p x

theorem regPath_eq_nil {c : Option Bytes} {x : Bytes} (h : regPath c x = []) : x = [] := by
  cases c with
  | none => exact h
  | some g => exact (ggp_eq_nil.mp h).2

theorem mountPath_def (f : Bytes) : mountPath f = if trimR 47 f = [] then [47] else trimR 47 f := by
  unfold mountPath; rw [trimRight_eq_trimR]

theorem trimR_placeholder (f : Bytes) :
    trimR 47 (rawOf (mountPath f)) = if trimR 47 f = [] then [] else ensureSlash (trimR 47 f) := by
  rw [mountPath_def, rawOf, trimR_ensureSlash]
  by_cases h : trimR 47 f = []
  · simp [h, trimR_cons]
  · simp only [h, if_false, trimR_idem]

/-- Prefixing a sub-app route (Path `rawOf x`, `x` non-empty) with the placeholder's Path gives the
Path `register` computes for the same route under a group with the mount prefix. -/
theorem mount_prefix_eq_group {f x : Bytes} (hx : x ≠ []) :
    getGroupPath (rawOf (mountPath f)) (rawOf x) = rawOf (getGroupPath f x) := by
  have hx' : rawOf x ≠ [] := ensureSlash_ne_nil x
  rw [ggp_of_ne hx', trimR_placeholder, ggp_of_ne hx]
  simp only [rawOf, ensureSlash_idem]
  by_cases h : trimR 47 f = []
  · simp [h, ensureSlash_idem]
  · simp only [h, if_false]
    rw [ensureSlash_append h]

example : getGroupPath (rawOf (mountPath (b "/API/"))) (rawOf (b "x")) = b "/API/x" ∧
    rawOf (getGroupPath (b "/API/") (b "x")) = b "/API/x" := by
  repeat rewrite [b_ofList]
  decide +kernel

/-- the sub-app's "/" under the placeholder = the Path of `prefix + "/"` -/
theorem mount_prefix_root (f : Bytes) :
    getGroupPath (rawOf (mountPath f)) [47] = rawOf (getGroupPath f [47]) := by
  have := mount_prefix_eq_group (f := f) (x := [47]) (by simp)
  simpa [rawOf, ensureSlash] using this

/-- a non-empty prefix of a list of at most one element is the list -/
theorem trimR_of_short {c : Nat} {s : Bytes} (hl : s.length ≤ 1) (h : trimR c s ≠ []) : trimR c s = s :=
  (trimR_prefix c s).eq_of_length (by have := List.length_pos_iff.mpr h; have := trimR_length_le c s; omega)

/-- `register` trims only a path longer than one byte; a shorter one with a non-empty trim is its own trim -/
theorem trim_if_long {l : Bytes} (h : trimR 47 l ≠ []) :
    (if l.length > 1 then trimR 47 l else l) = trimR 47 l := by
  split
  · rfl
  · exact (trimR_of_short (by omega) h).symm

theorem prettyOf_nonstrict {cfg : Cfg} (hs : cfg.strict = false) {raw : Bytes} (h : trimR 47 raw ≠ []) :
    prettyOf cfg raw = (if cfg.caseSensitive then trimR 47 raw else toLower (trimR 47 raw)) := by
  unfold prettyOf
  simp only [hs, Bool.not_false, Bool.true_and, decide_eq_true_eq, trimRight_eq_trimR]
  cases cfg.caseSensitive
  · have h' : trimR 47 (toLower raw) ≠ [] := by rw [trimR_toLower]; simpa [toLower] using h
    simp only [Bool.false_eq_true, if_false]
    rw [trim_if_long h', trimR_toLower]
  · exact trim_if_long h

/-- canonical form of a registration path: `getGroupPath` and `register` only look at whether it is
empty and, if not, at the path with its leading slash -/
def canon (o : Bytes) : Bytes := if o = [] then [] else rawOf o

theorem canon_nil : canon [] = [] := rfl

theorem canon_of_ne {o : Bytes} (h : o ≠ []) : canon o = rawOf o := by simp [canon, h]

theorem canon_eq_nil {o : Bytes} : canon o = [] ↔ o = [] := by
  unfold canon; split <;> simp [*, rawOf, ensureSlash_ne_nil]

theorem rawOf_canon (o : Bytes) : rawOf (canon o) = rawOf o := by
  by_cases h : o = []
  · simp [h, canon]
  · rw [canon_of_ne h]; exact ensureSlash_idem o

theorem ggp_canon (pre o : Bytes) : getGroupPath pre (canon o) = getGroupPath pre o := by
  by_cases h : o = []
  · simp [h, canon]
  · have hr : rawOf o ≠ [] := ensureSlash_ne_nil o
    rw [canon_of_ne h, ggp_of_ne h, ggp_of_ne hr]
    simp only [rawOf, ensureSlash_idem]

theorem canon_idem (o : Bytes) : canon (canon o) = canon o := by
  by_cases h : o = []
  · simp [h, canon]
  · rw [canon_of_ne (fun e => h (canon_eq_nil.mp e)), rawOf_canon, canon_of_ne h]

example : canon (b "x") = b "/x" ∧ canon (b "") = b "" ∧ canon (b "/") = b "/" := by
  repeat rewrite [b_ofList]
  decide +kernel

end C04
