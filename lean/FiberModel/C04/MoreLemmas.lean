import FiberModel.C04.EquivLemmas
/-
C04 — positions (`pos`) are strictly increasing along every stack; groups vs spelled-out paths;
the chain a table runs depends only on its per-handler entries; every served route has a handler
(`StNE`) when every registration of the tree has one (`wfItems`, kept by `unmountItems`).
-/
namespace C04
open B

def posSorted (l : List Route) : Prop := (l.map (·.pos)).Pairwise (· < ·)

theorem renum_pos (c : Nat) (l : List Route) : (renum c l).map (·.pos) = List.range' (c + 1) l.length := by
  induction l generalizing c with
  | nil => rfl
  | cons x t ih => rw [renum_cons, List.map_cons, ih, List.length_cons, List.range'_succ]

theorem renum_sorted (c : Nat) (l : List Route) : posSorted (renum c l) := by
  unfold posSorted
  rw [renum_pos]
  exact List.pairwise_lt_range'

/-- a stack of an app without mounts, newest first: routes only, positions strictly decreasing,
all ≤ the counter -/
def Desc : List Slot → Nat → Prop
  | [], _ => True
  | .route r :: t, c => r.pos ≤ c ∧ 1 ≤ r.pos ∧ Desc t (r.pos - 1)
  | .mount _ _ _ :: _, _ => False

theorem Desc.mono {l : List Slot} {c c' : Nat} (h : Desc l c) (hc : c ≤ c') : Desc l c' := by
  cases l with
  | nil => trivial
  | cons s t =>
    cases s with
    | route r => exact ⟨Nat.le_trans h.1 hc, h.2.1, h.2.2⟩
    | mount _ _ _ => exact h.elim

theorem desc_pushRoute {l : List Slot} {c : Nat} (r : Route) (h : Desc l c) :
    Desc (pushRoute l r c).1 (pushRoute l r c).2 ∧ c ≤ (pushRoute l r c).2 := by
  have new : Desc (.route { r with pos := c + 1 } :: l) (c + 1) ∧ c ≤ c + 1 :=
    ⟨⟨Nat.le_refl _, Nat.le_add_left 1 c, h⟩, Nat.le_succ c⟩
  fun_cases pushRoute l r c
  · exact ⟨h, Nat.le_refl _⟩
  · exact new
  · exact new

/-- either the app has mounts (it will be renumbered) or all stacks are `Desc` -/
def PosInv (st : St) : Prop := st.mounted = true ∨ ∀ k, Desc (st.stacks k) st.count

theorem posInv_regMany (ms : List Nat) (r : Route) {st : St} (h : PosInv st) : PosInv (regMany ms r st) := by
  refine List.foldlRecOn (motive := PosInv) ms _ h fun st h m _ => h.imp id fun h k => ?_
  have hp := desc_pushRoute r (h m)
  show Desc (if k = m then _ else _) _
  split
  · exact hp.1
  · exact (h k).mono hp.2

mutual
theorem posInv_buildItem (cfg : Cfg) (po : Bytes → List Bytes) (c : Option Bytes) :
    ∀ (i : Item) (st : St), PosInv st → PosInv (buildItem cfg po c i st)
  | .route ms _ _, _, h => posInv_regMany ms _ h
  | .use _ _, _, h => posInv_regMany _ _ h
  | .group _ hs items, _, h =>
    posInv_buildItems cfg po _ items _ (by
      split
      · exact h
      · exact posInv_regMany _ _ h)
  | .mount _ _ _, _, _ => Or.inl rfl
theorem posInv_buildItems (cfg : Cfg) (po : Bytes → List Bytes) (c : Option Bytes) :
    ∀ (is : List Item) (st : St), PosInv st → PosInv (buildItems cfg po c is st)
  | [], _, h => h
  | i :: is, st, h => posInv_buildItems cfg po c is _ (posInv_buildItem cfg po c i st h)
end

theorem desc_splice_sorted (cfg : Cfg) (po : Bytes → List Bytes) (k : Nat) {l : List Slot} {c : Nat}
    (h : Desc l c) :
    posSorted (splice cfg po k l.reverse) ∧ ∀ r ∈ splice cfg po k l.reverse, r.pos ≤ c := by
  revert h
  fun_induction Desc l c <;> intro h
  · exact ⟨List.Pairwise.nil, fun _ hr => nomatch hr⟩
  · rename_i x t c ih
    obtain ⟨h1, h2, h3⟩ := h
    obtain ⟨ihs, ihb⟩ := ih h3
    rw [List.reverse_cons, splice_append]
    show posSorted (_ ++ [x]) ∧ ∀ r ∈ _ ++ [x], r.pos ≤ c
    constructor
    · unfold posSorted at ihs ⊢
      rw [List.map_append, List.pairwise_append]
      refine ⟨ihs, List.pairwise_singleton .., fun a ha b hb => ?_⟩
      obtain ⟨r, hr, rfl⟩ := List.mem_map.mp ha
      cases List.mem_singleton.mp hb
      have := ihb r hr
      show r.pos < x.pos
      omega
    · intro r hr
      rcases List.mem_append.mp hr with hr | hr
      · have := ihb r hr; omega
      · cases List.mem_singleton.mp hr; exact h1
  · exact h.elim

theorem posSorted_finish (cfg : Cfg) (po : Bytes → List Bytes) {st : St} (h : PosInv st) (k : Nat) :
    posSorted (finish cfg po st k) := by
  unfold finish
  split
  · exact renum_sorted _ _
  · exact (desc_splice_sorted cfg po k (h.resolve_left ‹_› k)).1

theorem buildItems_append (cfg : Cfg) (po : Bytes → List Bytes) (c : Option Bytes) (a b : List Item) (st : St) :
    buildItems cfg po c (a ++ b) st = buildItems cfg po c b (buildItems cfg po c a st) := by
  induction a generalizing st with
  | nil => rfl
  | cons i t ih => exact ih _

mutual
theorem buildItem_spell (cfg : Cfg) (po : Bytes → List Bytes) (c : Option Bytes) :
    ∀ (i : Item) (st : St), buildItems cfg po none (spellItem c i) st = buildItem cfg po c i st
  | .route _ _ _, _ => rfl
  | .use _ _, _ => rfl
  | .group p hs items, st => by
    refine (buildItems_append cfg po none _ _ st).trans ?_
    refine (buildItems_spell cfg po _ items _).trans ?_
    show _ = buildItems cfg po _ items (if hs = [] then st else _)
    split <;> rfl
  | .mount p scfg sub, st => by
    show regMount _ _ (finish scfg po (buildItems scfg po none (spellItems none sub) St.init)) st = _
    rw [buildItems_spell scfg po none sub]
    rfl
theorem buildItems_spell (cfg : Cfg) (po : Bytes → List Bytes) (c : Option Bytes) :
    ∀ (is : List Item) (st : St), buildItems cfg po none (spellItems c is) st = buildItems cfg po c is st
  | [], _ => rfl
  | i :: is, st => by
    refine (buildItems_append cfg po none _ _ st).trans ?_
    rw [buildItem_spell cfg po c i, buildItems_spell cfg po c is]
    rfl
end

theorem groupFree_append (a b : List Item) : groupFree (a ++ b) = (groupFree a && groupFree b) := by
  induction a with
  | nil => rfl
  | cons i t ih =>
    show (groupFreeItem i && groupFree (t ++ b)) = (groupFreeItem i && groupFree t && groupFree b)
    rw [ih, Bool.and_assoc]

mutual
theorem groupFree_spellItem (c : Option Bytes) : ∀ (i : Item), groupFree (spellItem c i) = true
  | .route _ _ _ => rfl
  | .use _ _ => rfl
  | .group p hs items => by
    show groupFree ((if hs = [] then [] else [.use (regPath c p) hs]) ++ _) = true
    rw [groupFree_append, groupFree_spellItems (some (regPath c p)) items, Bool.and_true]
    split <;> rfl
  | .mount _ _ sub => by
    show (groupFree (spellItems none sub) && true) = true
    rw [groupFree_spellItems none sub]
    rfl
theorem groupFree_spellItems (c : Option Bytes) : ∀ (is : List Item), groupFree (spellItems c is) = true
  | [] => rfl
  | i :: is => by
    show groupFree (_ ++ _) = true
    rw [groupFree_append, groupFree_spellItem c i, groupFree_spellItems c is]
    rfl
end

section
variable {V : Type} (mt : Bool → Bytes → Bytes → Bytes → List Bytes → Option V) (stops : Nat → Bool)

/-- `Ctx.Next` inside a matched route: the remaining handlers of the route, then on to the stack;
a handler that does not call Next ends the chain (ctx.go `Next`, router.go `next`) -/
def runH (v : V) : List Nat → List (Nat × V) → List (Nat × V)
  | [], _ => []
  | h :: hs, rest => (h, v) :: if stops h then [] else (if hs = [] then rest else runH v hs rest)

/-- router.go `next`: scan the stack in order, run the first matching route's handlers; `mt` is
what `Route.match` computes from the fields it reads (for one fixed request) -/
def run : List Route → List (Nat × V)
  | [] => []
  | r :: rs =>
    match mt r.use r.pretty r.written r.path r.params with
    | none => run rs
    | some v => runH stops v r.handlers (run rs)

/-- the same chain over per-handler entries -/
def runE : List Obs → List (Nat × V)
  | [] => []
  | e :: es =>
    match mt e.use e.pretty e.written e.path e.params with
    | none => runE es
    | some v => (e.hid, v) :: if stops e.hid then [] else runE es

theorem runE_cons (e : Obs) (es : List Obs) :
    runE mt stops (e :: es) =
      match mt e.use e.pretty e.written e.path e.params with
      | none => runE mt stops es
      | some v => (e.hid, v) :: if stops e.hid then [] else runE mt stops es := rfl

/-- per-handler entries of one route in front of `es`: `runE` does with them what `run` does with the route -/
theorem runE_route (r : Route) (hs : List Nat) (es : List Obs) (hne : hs ≠ []) :
    runE mt stops (hs.map (fun x => (⟨r.use, r.pretty, r.written, r.path, r.params, x⟩ : Obs)) ++ es) =
      match mt r.use r.pretty r.written r.path r.params with
      | none => runE mt stops es
      | some v => runH stops v hs (runE mt stops es) := by
  cases h : mt r.use r.pretty r.written r.path r.params with
  | none =>
    clear hne
    induction hs with
    | nil => rfl
    | cons x t ih => simp only [List.map_cons, List.cons_append, runE_cons, h]; exact ih
  | some v =>
    induction hs with
    | nil => exact absurd rfl hne
    | cons x t ih =>
      show _ = (x, v) :: if stops x then [] else (if t = [] then _ else runH stops v t _)
      simp only [List.map_cons, List.cons_append, runE_cons, h]
      by_cases ht : t = []
      · subst ht; rfl
      · rw [if_neg ht, ih ht]

/-- A table whose routes all have handlers runs the same chain as its per-handler entries: merged
routes and consecutive identical routes are indistinguishable. -/
theorem run_eq_runE (l : List Route) (hne : ∀ r ∈ l, r.handlers ≠ []) :
    run mt stops l = runE mt stops (expandObs l) := by
  induction l with
  | nil => rfl
  | cons r rs ih =>
    refine .trans ?_ (runE_route mt stops r _ (expandObs rs) (hne r (List.mem_cons_self ..))).symm
    rw [← ih fun x hx => hne x (List.mem_cons_of_mem _ hx)]
    rfl

end


mutual
/-- every `Add`/`Use` of the tree passes at least one handler (the public API panics otherwise) -/
def wfItem : Item → Bool
  | .route _ _ hs => !hs.isEmpty
  | .use _ hs => !hs.isEmpty
  | .group _ _ items => wfItems items
  | .mount _ _ sub => wfItems sub
def wfItems : List Item → Bool
  | [] => true
  | i :: is => wfItem i && wfItems is
end

def SlotsNE (l : List Slot) : Prop :=
  (∀ r, Slot.route r ∈ l → r.handlers ≠ []) ∧
  (∀ raw pre sub, Slot.mount raw pre sub ∈ l → ∀ k, ∀ r ∈ sub k, r.handlers ≠ [])

def StNE (st : St) : Prop := ∀ k, SlotsNE (st.stacks k)

theorem stNE_regMany (ms : List Nat) {r : Route} {st : St} (hs : StNE st) (hr : r.handlers ≠ []) :
    StNE (regMany ms r st) := by
  refine stacks_regMany (fun l c hl => ⟨fun x hx => ?_, fun raw pre sub hx => ?_⟩) ms hs
  · rcases mem_pushRoute hx with h | ⟨p, _, e⟩ | e
    · exact hl.1 x h
    · cases e; exact fun e => hr (List.append_eq_nil_iff.mp e).2
    · cases e; exact hr
  · -- `pushRoute` adds or changes routes only: a placeholder of the new stack is one of the old
    rcases mem_pushRoute hx with h | ⟨p, _, e⟩ | e
    · exact hl.2 raw pre sub h
    · cases e
    · cases e

theorem stNE_regMount (raw pre : Bytes) (sub : Nat → List Route) {st : St}
    (hs : StNE st) (hsub : ∀ k, ∀ r ∈ sub k, r.handlers ≠ []) : StNE (regMount raw pre sub st) :=
  stacks_regMount raw pre sub (fun _ hl =>
    ⟨fun x hx => (List.mem_cons.mp hx).elim nofun (hl.1 x),
     fun raw' pre' sub' hx => (List.mem_cons.mp hx).elim (fun e => by cases e; exact hsub) (hl.2 raw' pre' sub')⟩) hs

theorem handlers_ne_finish (cfg : Cfg) (po : Bytes → List Bytes) {st : St} (h : StNE st) (k : Nat) :
    ∀ r ∈ finish cfg po st k, r.handlers ≠ [] := by
  intro r hr
  obtain ⟨x, hx, n, rfl⟩ := mem_finish hr
  show x.handlers ≠ []
  rcases mem_splice hx with hx | ⟨raw, pre, sub, hm, y, hy, rfl⟩
  · exact (h k).1 x (List.mem_reverse.mp hx)
  · exact (h k).2 raw pre sub (List.mem_reverse.mp hm) k y hy

theorem stNE_init : StNE St.init := fun _ => ⟨fun _ h => (nomatch h), fun _ _ _ h => (nomatch h)⟩

theorem ne_of_not_isEmpty {hs : List Nat} (h : (!hs.isEmpty) = true) : hs ≠ [] := by
  rintro rfl; cases h

mutual
theorem stNE_buildItem (cfg : Cfg) (po : Bytes → List Bytes) (c : Option Bytes) :
    ∀ (i : Item) (st : St), wfItem i = true → StNE st → StNE (buildItem cfg po c i st)
  | .route ms _ _, _, hw, h => stNE_regMany ms h (ne_of_not_isEmpty hw)
  | .use _ _, _, hw, h => stNE_regMany _ h (ne_of_not_isEmpty hw)
  | .group _ hs items, _, hw, h =>
    stNE_buildItems cfg po _ items _ hw (by
      split
      · exact h
      · rename_i hh; exact stNE_regMany _ h hh)
  | .mount _ scfg sub, _, hw, h =>
    stNE_regMount _ _ _ h (handlers_ne_finish scfg po (stNE_buildItems scfg po none sub St.init hw stNE_init))
theorem stNE_buildItems (cfg : Cfg) (po : Bytes → List Bytes) (c : Option Bytes) :
    ∀ (is : List Item) (st : St), wfItems is = true → StNE st → StNE (buildItems cfg po c is st)
  | [], _, _, h => h
  | i :: is, st, hw, h =>
    have hw := Bool.and_eq_true_iff.mp hw
    stNE_buildItems cfg po c is _ hw.2 (stNE_buildItem cfg po c i st hw.1 h)
end

theorem handlers_ne_flatten (cfg : Cfg) (po : Bytes → List Bytes) (items : List Item) (hw : wfItems items = true) (k : Nat) :
    ∀ r ∈ flatten cfg po items k, r.handlers ≠ [] :=
  handlers_ne_finish cfg po (stNE_buildItems cfg po none items St.init hw stNE_init) k

mutual
theorem wf_unmountItem : ∀ (i : Item), wfItem i = true → wfItem (unmountItem i) = true
  | .route _ _ _, h => h
  | .use _ _, h => h
  | .group _ _ items, h => wf_unmountItems items h
  | .mount _ _ sub, h => wf_unmountItems sub h
theorem wf_unmountItems : ∀ (is : List Item), wfItems is = true → wfItems (unmountItems is) = true
  | [], _ => rfl
  | i :: is, h =>
    have h := Bool.and_eq_true_iff.mp h
    Bool.and_eq_true_iff.mpr ⟨wf_unmountItem i h.1, wf_unmountItems is h.2⟩
end

end C04
