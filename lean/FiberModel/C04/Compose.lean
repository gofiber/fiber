import FiberModel.C04.MoreLemmas
import FiberModel.C01.Props
import FiberModel.C02.Locality
/-
C04 — composition with the dispatcher model of C01 (`C01.dispatchS`: positions, 3-byte index with
global bucket, numeric cursor, matched flag, 404/405/Allow) and, through C01's matcher parameter
`Env.M`, with the single-route matcher of C02 (section `Match`).

The table the MOUNTED composition serves (`flatten`) is handed to C01's dispatcher as `app.stack` /
`app.routesCount` (`stacksOfTable`, by definition `C01.build false` of the table's routes read as one
registration each). The GROUP composition is the program C01 models directly: its calls of
`app.register` in order (`regsItems`), run by `C01.dispatch`. `mount_dispatch_eq_group` is assembled
from C01's refinement theorems for both sides (`dispatchS_refines_linear`, `dispatch_refines_linear`;
their hypotheses from `shape_regsUpTo`, `shape_regsItems`), bridge 3 (C01's specification `linear`
reads a registration table only through its per-method, per-handler entries:
`linear_eq_of_entries`) and the equality of those entries (`entriesAt_regsUpTo`, bridge 2).

Bridge 1 (`stacks_of_table`, `stacks_of_flatten`, with `buildItems_mounted`) stands on its own: it
says that `stacksOfTable` is the right reading of the served table — for an app with mounts, i.e.
after `processSubAppsRoutes`' renumbering, that state holds exactly the table's routes at exactly
their positions. The main theorem does not pass through it.

Hypotheses that remain, and why: `hasMountTop` in `stacks_of_flatten` only (an app without mounts is
not renumbered — and then both compositions are the same program), no method listed twice in one
`Add` (C01's `WF`), override-free handlers (C01's `dispatch_refines_linear`; with overrides C01
itself is partial: its known findings K1/K2), and locality of the bucket key w.r.t. the matcher
(C01's `LocalR`; for the real matcher and key rule it is `local_keyC02`, from
`C02.match_bucket_of_key`).
-/
namespace C04
open B

section Dispatch
variable {π α : Type}
-- what the handler with a given id does (`Next`, reply, error; overrides excluded by hypothesis)
variable (scr : Nat → C01.Script α)
-- the bucket key `buildTree` derives for a route, as a function of its `Path` (for the real code:
-- the 3-byte hash of the first constant of the prettified path; instantiated below with `keyC02`,
-- over C02's parser. C01's own model of the rule is `C01.treeKey`; no theorem relates the two)
variable (keyFn : Bytes → Nat)

def hd (i : Nat) : C01.Handler α := { hid := i, script := scr i }

/-- what the dispatcher reads of a route of C01's model: position, method, use flag, `Path`, bucket
key, handlers, `pathOrig == ""` (the ghost bookkeeping fields of that model are left out) -/
def viewR (r : C01.Route α) : Nat × Nat × Bool × Bytes × Nat × List (C01.Handler α) × Bool :=
  (r.pos, r.m, r.use, r.raw, r.key, r.handlers, r.eo)

/-- the same view of a route of the served table sitting in the stack of method `k` -/
def viewOf (k : Nat) (r : Route) : Nat × Nat × Bool × Bytes × Nat × List (C01.Handler α) × Bool :=
  (r.pos, k, r.use, r.raw, keyFn r.raw, r.handlers.map (hd scr), r.orig == [])

/-- a served route read as a registration of its own (one method, its merged handlers) -/
def regOfRoute (k : Nat) (r : Route) : C01.Reg α :=
  { methods := [k], use := r.use, raw := r.raw, key := keyFn r.raw,
    handlers := r.handlers.map (hd scr), eo := r.orig == [] }

def regsOfStack (k : Nat) (l : List Route) : List (C01.Reg α) := l.map (regOfRoute scr keyFn k)

/-- the table read as registrations: method by method, stack order -/
def regsUpTo (T : Nat → List Route) : Nat → List (C01.Reg α)
  | 0 => []
  | n + 1 => regsUpTo T n ++ regsOfStack scr keyFn n (T n)

def regsOfTable (T : Nat → List Route) : List (C01.Reg α) := regsUpTo scr keyFn T nMethods

/-- the dispatcher state (`app.stack`, `app.routesCount`) holding the served table `T`: its routes
registered one by one without the duplicate merge. `stacks_of_table`: this state holds the routes of
`T` in order, numbered method by method — for a table renumbered by `processSubAppsRoutes` at exactly
their positions (`stacks_of_flatten`). -/
def stacksOfTable (T : Nat → List Route) : C01.Stacks α := C01.build false (regsOfTable scr keyFn T)

/-- without the merge `addRoute` always takes its last branch: a new route with the next position -/
theorem addRoute_false (S : C01.Stacks α) (m : Nat) (g : C01.Reg α) :
    C01.addRoute false S m g =
      { S with rev := fun i => if i = m then C01.newRoute S m g :: S.rev m else S.rev i, count := S.count + 1 } := by
  unfold C01.addRoute
  cases S.rev m <;> rfl

theorem addReg_false_single (S : C01.Stacks α) (k : Nat) (g : C01.Reg α) (hg : g.methods = [k]) :
    (C01.addReg false S g).count = S.count + 1 ∧
    ∀ i, ((C01.addReg false S g).rev i).map viewR =
      if i = k then (S.count + 1, k, g.use, g.raw, g.key, g.handlers, g.eo) :: (S.rev k).map viewR
      else (S.rev i).map viewR := by
  have e : C01.addReg false S g = { C01.addRoute false S k g with nreg := S.nreg + 1 } := by
    unfold C01.addReg; rw [hg]; rfl
  rw [e, addRoute_false]
  refine ⟨rfl, fun i => ?_⟩
  show List.map viewR (if i = k then _ else _) = _
  split <;> rfl

theorem viewOf_renum_head (k c : Nat) (r : Route) :
    viewOf scr keyFn k { r with pos := c + 1 } =
      (c + 1, k, r.use, r.raw, keyFn r.raw, r.handlers.map (hd scr), r.orig == []) := rfl

theorem foldl_regsOfStack (k : Nat) (l : List Route) (S : C01.Stacks α) :
    ((regsOfStack scr keyFn k l).foldl (C01.addReg false) S).count = S.count + l.length ∧
    ∀ i, (((regsOfStack scr keyFn k l).foldl (C01.addReg false) S).rev i).map viewR =
      if i = k then ((renum S.count l).map (viewOf scr keyFn k)).reverse ++ (S.rev k).map viewR
      else (S.rev i).map viewR := by
  induction l generalizing S with
  | nil =>
    refine ⟨rfl, fun i => ?_⟩
    split
    · rename_i h; subst h; rfl
    · rfl
  | cons r t ih =>
    rw [show regsOfStack scr keyFn k (r :: t) = regOfRoute scr keyFn k r :: regsOfStack scr keyFn k t from rfl,
      List.foldl_cons]
    obtain ⟨hc, hv⟩ := addReg_false_single S k (regOfRoute scr keyFn k r) rfl
    obtain ⟨ihc, ihv⟩ := ih (C01.addReg false S (regOfRoute scr keyFn k r))
    refine ⟨by rw [ihc, hc, List.length_cons]; omega, ?_⟩
    intro i
    rw [ihv i, hc]
    by_cases h : i = k
    · subst h
      simp only [if_true]
      rw [hv i]
      simp only [if_true, renum_cons, List.map_cons, List.reverse_cons, List.append_assoc, List.singleton_append,
        viewOf_renum_head]
      rfl
    · simp only [h, if_false]
      rw [hv i]; simp [h]

theorem offset_succ (f : Nat → List Route) (n : Nat) : offset f (n + 1) = offset f n + (f n).length := rfl

theorem build_regsUpTo (sp : Nat → List Route) (n : Nat) :
    ((regsUpTo scr keyFn sp n).foldl (C01.addReg false) (C01.Stacks.empty : C01.Stacks α)).count = offset sp n ∧
    ∀ i, (((regsUpTo scr keyFn sp n).foldl (C01.addReg false) (C01.Stacks.empty : C01.Stacks α)).rev i).map viewR =
      if i < n then ((renum (offset sp i) (sp i)).map (viewOf scr keyFn i)).reverse else [] := by
  induction n with
  | zero =>
    refine ⟨rfl, ?_⟩
    intro i
    simp [regsUpTo, C01.Stacks.empty]
  | succ n ih =>
    obtain ⟨ihc, ihv⟩ := ih
    simp only [regsUpTo, List.foldl_append]
    obtain ⟨hc, hv⟩ := foldl_regsOfStack scr keyFn n (sp n)
      ((regsUpTo scr keyFn sp n).foldl (C01.addReg false) (C01.Stacks.empty : C01.Stacks α))
    refine ⟨by rw [hc, ihc, offset_succ], ?_⟩
    intro i
    rw [hv i, ihc]
    by_cases h : i = n
    · subst h; rw [ihv i]; simp
    · have : i < n + 1 ↔ i < n := by omega
      simp only [h, if_false, this, ihv i]

theorem regsUpTo_renum (sp : Nat → List Route) (n : Nat) :
    regsUpTo scr keyFn (fun k => renum (offset sp k) (sp k)) n = regsUpTo scr keyFn sp n := by
  induction n with
  | zero => rfl
  | succ n ih => simp only [regsUpTo, ih, regsOfStack, map_renum (regOfRoute scr keyFn n) fun _ _ => rfl]

/-- **Bridge 1.** `stacksOfTable T` holds, as `app.stack` + `app.routesCount`, the routes of `T` in
their order, numbered method by method (`register`/`addRoute` WITHOUT the duplicate merge give every
route the next position), nothing in other stacks; the counter is the number of routes. For the table
`processSubAppsRoutes` leaves behind these are its own positions (`stacks_of_flatten`). -/
theorem stacks_of_table (T : Nat → List Route) :
    (stacksOfTable scr keyFn T : C01.Stacks α).count = offset T nMethods ∧
    ∀ k, ((stacksOfTable scr keyFn T : C01.Stacks α).stack k).map viewR =
      if k < nMethods then (renum (offset T k) (T k)).map (viewOf scr keyFn k) else [] := by
  have h := build_regsUpTo scr keyFn T nMethods
  refine ⟨h.1, fun k => ?_⟩
  unfold stacksOfTable C01.build regsOfTable C01.Stacks.stack
  rw [List.map_reverse, h.2 k]
  split
  · exact List.reverse_reverse _
  · rfl

/-- one call of `app.register(methods, path, …)` with the (already group-joined) path `o` -/
def mkReg (ms : List Nat) (use : Bool) (o : Bytes) (hs : List Nat) : C01.Reg α :=
  { methods := ms, use := use, raw := rawOf o, key := keyFn (rawOf o), handlers := hs.map (hd scr),
    eo := o == [] }

mutual
/-- the `register` calls an item makes when every mount is a group with the mount prefix (`c` =
prefix of the enclosing groups): `Add` → one call with the listed methods, `Use` / a group's
middleware → one `USE` call (all request methods), a group / mount → the calls of its items under
the joined prefix -/
def regsItem (c : Option Bytes) : Item → List (C01.Reg α)
  | .route ms p hs => [mkReg scr keyFn ms false (regPath c p) hs]
  | .use p hs => [mkReg scr keyFn allMethods true (regPath c p) hs]
  | .group p hs items =>
    (if hs = [] then [] else [mkReg scr keyFn allMethods true (regPath c p) hs])
      ++ regsItems (some (regPath c p)) items
  | .mount p _ sub => regsItems (some (regPath c p)) sub
def regsItems (c : Option Bytes) : List Item → List (C01.Reg α)
  | [] => []
  | i :: is => regsItem c i ++ regsItems c is
end

mutual
/-- no `Add` lists a method twice (C01's `WFReg.nodup`) -/
def nodupMsItem : Item → Bool
  | .route ms _ _ => decide ms.Nodup
  | .use _ _ => true
  | .group _ _ items => nodupMs items
  | .mount _ _ sub => nodupMs sub
def nodupMs : List Item → Bool
  | [] => true
  | i :: is => nodupMsItem i && nodupMs is
end

mutual
/-- the app itself (directly or from one of its groups) mounts a sub-app -/
def hasMountTopItem : Item → Bool
  | .mount _ _ _ => true
  | .group _ _ items => hasMountTop items
  | _ => false
def hasMountTop : List Item → Bool
  | [] => false
  | i :: is => hasMountTopItem i || hasMountTop is
end

abbrev HEntry (α : Type) := Bool × Bytes × C01.Handler α

def convE (e : Entry) : HEntry α := (e.1, e.2.1, hd scr e.2.2)

def regEntriesAt (k : Nat) (g : C01.Reg α) : List (HEntry α) :=
  if g.methods.contains k then g.handlers.map fun h => (g.use, g.raw, h) else []

/-- what method `k`'s stack holds, handler by handler, when the table is registered -/
def entriesAt (k : Nat) (regs : List (C01.Reg α)) : List (HEntry α) := regs.flatMap (regEntriesAt k)

theorem regEntriesAt_pos {k : Nat} {g : C01.Reg α} (h : g.methods.contains k = true) :
    regEntriesAt k g = g.handlers.map fun x => (g.use, g.raw, x) := if_pos h

theorem regEntriesAt_neg {k : Nat} {g : C01.Reg α} (h : g.methods.contains k = false) :
    regEntriesAt k g = [] := if_neg (h ▸ Bool.false_ne_true)

theorem entriesAt_append (k : Nat) (a b : List (C01.Reg α)) :
    entriesAt k (a ++ b) = entriesAt k a ++ entriesAt k b := by simp [entriesAt]

theorem entriesAt_nil (k : Nat) : entriesAt k ([] : List (C01.Reg α)) = [] := rfl

theorem entriesAt_cons (k : Nat) (g : C01.Reg α) (l : List (C01.Reg α)) :
    entriesAt k (g :: l) = regEntriesAt k g ++ entriesAt k l := by simp [entriesAt]

theorem entriesAt_regsOfStack (k j : Nat) (l : List Route) :
    entriesAt k (regsOfStack scr keyFn j l) = if k = j then (expand l).map (convE scr) else [] := by
  unfold entriesAt regsOfStack
  rw [List.flatMap_map]
  split
  · subst k
    unfold expand
    rw [List.map_flatMap]
    congr 1
    funext r
    rw [regEntriesAt_pos (g := regOfRoute scr keyFn j r) (by simp [regOfRoute]), List.map_map]
    exact List.map_map ..
  · rename_i h
    exact List.flatMap_eq_nil_iff.mpr fun r _ => regEntriesAt_neg (by simp [regOfRoute, h])

theorem entriesAt_regsUpTo (T : Nat → List Route) (k n : Nat) :
    entriesAt k (regsUpTo scr keyFn T n) = if k < n then (expand (T k)).map (convE scr) else [] := by
  induction n with
  | zero => simp [regsUpTo, entriesAt]
  | succ n ih =>
    simp only [regsUpTo, entriesAt_append, ih, entriesAt_regsOfStack]
    by_cases h : k = n
    · subst h; simp
    · have : k < n + 1 ↔ k < n := by omega
      simp only [h, if_false, this, List.append_nil]

theorem entriesAt_mkReg (k : Nat) (ms : List Nat) (u : Bool) (o : Bytes) (hs : List Nat) (hms : ms.Nodup) :
    entriesAt k [mkReg scr keyFn ms u o hs] =
      ((regEntries u (canon o) (ms.count k) hs).map (mapRaw rawOf)).map (convE scr) := by
  rw [entriesAt_cons, entriesAt_nil, List.append_nil, hms.count]
  by_cases h : k ∈ ms
  · rw [regEntriesAt_pos (List.contains_iff_mem.mpr h), if_pos h, regEntries_one]
    show (hs.map (hd scr)).map _ = _
    rw [List.map_map, List.map_map, List.map_map]
    refine List.map_congr_left fun x _ => ?_
    show (u, rawOf o, hd scr x) = (u, rawOf (canon o), hd scr x)
    rw [rawOf_canon]
  · rw [regEntriesAt_neg (Bool.eq_false_iff.mpr fun e => h (List.contains_iff_mem.mp e)), if_neg h]; rfl

theorem entriesAt_mkRegAll (k : Nat) (u : Bool) (o : Bytes) (hs : List Nat) :
    entriesAt k [mkReg scr keyFn allMethods u o hs] =
      ((regEntries u (canon o) (if k < nMethods then 1 else 0) hs).map (mapRaw rawOf)).map (convE scr) := by
  rw [entriesAt_mkReg scr keyFn k _ u o hs allMethods_nodup, count_allMethods]

mutual
theorem entriesAt_regsItem (k : Nat) (hk : k < nMethods) :
    ∀ (i : Item) (c : Option Bytes), nodupMsItem i = true →
      entriesAt k (regsItem scr keyFn c i) =
        ((denItem c k (unmountItem i)).map (mapRaw rawOf)).map (convE scr)
  | .route ms _ hs, _, hn => entriesAt_mkReg scr keyFn k ms false _ hs (of_decide_eq_true hn)
  | .use _ hs, _, _ => entriesAt_mkRegAll scr keyFn k true _ hs
  | .group p hs items, c, hn => by
    show entriesAt k ((if hs = [] then [] else [mkReg scr keyFn allMethods true (regPath c p) hs]) ++ _) =
      List.map _ (List.map _ (_ ++ _))
    rw [entriesAt_append, List.map_append, List.map_append,
      entriesAt_regsItems k hk items (some (regPath c p)) hn]
    refine congrArg (· ++ _) ?_
    by_cases hh : hs = []
    · rw [if_pos hh, hh, regEntries_nil]; rfl
    · rw [if_neg hh]; exact entriesAt_mkRegAll scr keyFn k true _ hs
  | .mount p _ sub, c, hn => by
    show _ = List.map _ (List.map _ (regEntries true _ _ [] ++ _))
    rw [regEntries_nil]
    exact entriesAt_regsItems k hk sub (some (regPath c p)) hn
theorem entriesAt_regsItems (k : Nat) (hk : k < nMethods) :
    ∀ (is : List Item) (c : Option Bytes), nodupMs is = true →
      entriesAt k (regsItems scr keyFn c is) =
        ((denItems c k (unmountItems is)).map (mapRaw rawOf)).map (convE scr)
  | [], _, _ => rfl
  | i :: is, c, hn => by
    have hn := Bool.and_eq_true_iff.mp hn
    show entriesAt k (_ ++ _) = List.map _ (List.map _ (_ ++ _))
    rw [entriesAt_append, List.map_append, List.map_append, entriesAt_regsItem k hk i c hn.1,
      entriesAt_regsItems k hk is c hn.2]
end

/-- **Bridge 2.** Per method, handler by handler, the group composition's `register` calls put into
the stack the denotation of the tree with every mount read as a group (`entriesAt_regsItems`) — which
is the tree's own denotation (`denItems_unmountItems`), i.e. at the root what the spliced table of
the mounted composition holds (`expand_flatten`). -/
theorem entriesAt_regsItems_flatten (cfg : Cfg) (po : Bytes → List Bytes) (items : List Item)
    (hn : nodupMs items = true) (k : Nat) (hk : k < nMethods) :
    entriesAt k (regsItems scr keyFn none items) = (expand (flatten cfg po items k)).map (convE scr) := by
  rw [entriesAt_regsItems scr keyFn k hk items none hn, denItems_unmountItems k hk, expand_flatten]

section Linear
variable (E : C01.Env π α)

/-- the registration-order scan of C01's specification, on per-handler entries: every handler asks
the matcher about its own route again (override-free handlers: same request, same answer) -/
def linE (fin : Bool → C01.End) (p : π) : List (HEntry α) → Bool → C01.Obs
  | [], matched => { trace := [], fin := fin matched }
  | (u, raw, h) :: es, matched =>
    if E.M raw u p then
      match h.script with
      | .stop => { trace := [h.hid], fin := .stop }
      | .fail c => { trace := [h.hid], fin := .fail c }
      | _ => (linE fin p es (matched || !u)).prepend [h.hid]
    else linE fin p es matched

theorem linE_cons (fin : Bool → C01.End) (p : π) (u : Bool) (raw : Bytes) (h : C01.Handler α)
    (es : List (HEntry α)) (matched : Bool) :
    linE E fin p ((u, raw, h) :: es) matched =
      if E.M raw u p then
        match h.script with
        | .stop => { trace := [h.hid], fin := .stop }
        | .fail c => { trace := [h.hid], fin := .fail c }
        | _ => (linE E fin p es (matched || !u)).prepend [h.hid]
      else linE E fin p es matched := rfl

theorem prepend_nil (o : C01.Obs) : o.prepend [] = o := by
  cases o; rfl

theorem prepend_prepend (a b : List Nat) (o : C01.Obs) : (o.prepend b).prepend a = o.prepend (a ++ b) := by
  cases o; simp [C01.Obs.prepend, List.append_assoc]

/-- what follows the handlers of one registration -/
def afterE (fin : Bool → C01.End) (p : π) (es : List (HEntry α)) (b : Bool) :
    List Nat × C01.ChainEnd π → C01.Obs
  | (tr, .stop) => { trace := tr, fin := .stop }
  | (tr, .fail c) => { trace := tr, fin := .fail c }
  | (tr, .fall _ _ _) => (linE E fin p es b).prepend tr

theorem afterE_cons (fin : Bool → C01.End) (p : π) (es : List (HEntry α)) (b : Bool) (h : Nat)
    (x : List Nat × C01.ChainEnd π) :
    (afterE E fin p es b x).prepend [h] = afterE E fin p es b (h :: x.1, x.2) := by
  obtain ⟨tr, e⟩ := x
  cases e <;> simp [afterE, C01.Obs.prepend]

/-- the entries of one registration in front of `es`: no match, and the scan goes on behind them; a
match, and its handlers run as `specChain` runs them -/
theorem linE_block (fin : Bool → C01.End) (m : Nat) (p : π) (u : Bool) (raw : Bytes) (es : List (HEntry α))
    (hs : List (C01.Handler α)) (matched : Bool) (hne : hs ≠ []) (hno : ∀ h ∈ hs, h.script.isOverride = false) :
    linE E fin p (hs.map (fun h => ((u, raw, h) : HEntry α)) ++ es) matched =
      if E.M raw u p then afterE E fin p es (matched || !u) (C01.specChain E hs m p)
      else linE E fin p es matched := by
  by_cases hm : E.M raw u p = true
  · rw [if_pos hm]
    induction hs generalizing matched with
    | nil => exact absurd rfl hne
    | cons h t ih =>
      have h0 := hno h (by simp)
      have ht : ∀ x ∈ t, x.script.isOverride = false := fun x hx => hno x (List.mem_cons_of_mem _ hx)
      simp only [List.map_cons, List.cons_append, linE_cons, hm, if_true, C01.specChain]
      cases hsc : h.script with
      | stop => simp [afterE]
      | fail c => simp [afterE]
      | setPath o => simp [hsc, C01.Script.isOverride] at h0
      | setMethod m2 => simp [hsc, C01.Script.isOverride] at h0
      | next =>
        simp only
        by_cases hte : t = []
        · subst hte
          simp [C01.specChain, afterE]
        · rw [ih (matched || !u) hte ht, afterE_cons]
          simp
  · rw [if_neg hm]
    clear hne hno
    induction hs with
    | nil => rfl
    | cons h t ih => rw [List.map_cons, List.cons_append, linE_cons, if_neg hm]; exact ih

-- a registration either does not list the method, or `linE_block`; after a match `specChain_noOv`:
-- the scan goes on with the same request
theorem linearFrom_eq_linE (all : List (C01.Reg α)) (m : Nat) (p : π) :
    ∀ (regs : List (C01.Reg α)) (matched : Bool), (∀ g ∈ regs, g.handlers ≠ []) → C01.NoOverride regs →
      C01.linearFrom E all regs m p matched =
        linE E (C01.specEnding E all m p) p (entriesAt m regs) matched := by
  intro regs
  induction regs with
  | nil => intro matched _ _; rfl
  | cons g rest ih =>
    intro matched hne hno
    have ih := fun b => ih b (fun x hx => hne x (List.mem_cons_of_mem _ hx)) fun x hx => hno x (List.mem_cons_of_mem _ hx)
    rw [entriesAt_cons, C01.linearFrom_cons]
    cases hc : g.methods.contains m with
    | false => rw [regEntriesAt_neg hc]; exact ih matched
    | true =>
      rw [regEntriesAt_pos hc, linE_block E _ m p g.use g.raw _ g.handlers matched (hne g (by simp)) (hno g (by simp))]
      show (if g.matches E p = true then _ else _) = if g.matches E p = true then _ else _
      split
      · generalize hsp : C01.specChain E g.handlers m p = x
        obtain ⟨tr, e⟩ := x
        cases e with
        | stop => rfl
        | fail c => rfl
        | fall m' p' c' =>
          obtain ⟨rfl, rfl⟩ := C01.specChain_noOv E g.handlers (hno g (by simp)) m p tr m' p' c' hsp
          exact congrArg (C01.Obs.prepend tr) (ih _)
      · exact ih matched

theorem any_const {β : Type} (c : Bool) (l : List β) (h : l ≠ []) : (l.any fun _ => c) = c := by
  cases l with
  | nil => exact absurd rfl h
  | cons a t => cases c <;> simp

/-- "some registration lists method `i`, is not a `Use` and matches" read off the entries -/
theorem any_endpoint_entries (i : Nat) (p : π) (regs : List (C01.Reg α)) (hne : ∀ g ∈ regs, g.handlers ≠ []) :
    (regs.any fun g => g.methods.contains i && !g.use && g.matches E p) =
      (entriesAt i regs).any fun e => !e.1 && E.M e.2.1 e.1 p := by
  unfold entriesAt
  rw [List.any_flatMap]
  refine any_congr_mem _ _ _ fun g hg => ?_
  cases hc : g.methods.contains i with
  | false => rw [regEntriesAt_neg hc]; rfl
  | true =>
    rw [regEntriesAt_pos hc, Bool.true_and, List.any_map]
    exact (any_const (!g.use && E.M g.raw g.use p) g.handlers (hne g hg)).symm

/-- **Bridge 3.** Two registration tables whose per-method, per-handler entries coincide (every
registration has a handler, no handler overrides path or method) have the same specification:
same trace, same end, same Allow set, for every request. -/
theorem linear_eq_of_entries (A B : List (C01.Reg α))
    (hA : ∀ g ∈ A, g.handlers ≠ []) (hB : ∀ g ∈ B, g.handlers ≠ [])
    (hnA : C01.NoOverride A) (hnB : C01.NoOverride B)
    (hent : ∀ i, i < E.nMethods → entriesAt i A = entriesAt i B)
    (m : Nat) (hm : m < E.nMethods) (p : π) :
    C01.linear E A m p = C01.linear E B m p := by
  unfold C01.linear
  rw [linearFrom_eq_linE E A m p A false hA hnA, linearFrom_eq_linE E B m p B false hB hnB, hent m hm]
  congr 1
  funext matched
  have hallow : C01.specAllow E A m p = C01.specAllow E B m p := by
    unfold C01.specAllow
    apply List.filter_congr
    intro i hi
    have hi' : i < E.nMethods := List.mem_range.mp hi
    rw [any_endpoint_entries E i p A hA, any_endpoint_entries E i p B hB, hent i hi']
  unfold C01.specEnding
  rw [hallow]

end Linear

/-- a registration as `register` makes it from handler ids: methods listed once, at least one
handler, handlers behave as `scr` says, key derived from the `Path` -/
structure ShapeOK (g : C01.Reg α) : Prop where
  nodup : g.methods.Nodup
  ne : g.handlers ≠ []
  handler : ∀ h ∈ g.handlers, h.seam = false ∧ h.script = scr h.hid
  key : g.key = keyFn g.raw

theorem shapeOK_mk (ms : List Nat) (u : Bool) (raw : Bytes) (hs : List Nat) (eo : Bool)
    (hms : ms.Nodup) (hhs : hs ≠ []) :
    ShapeOK scr keyFn ({ methods := ms, use := u, raw := raw, key := keyFn raw, handlers := hs.map (hd scr),
                         eo := eo } : C01.Reg α) := by
  refine ⟨hms, ?_, ?_, rfl⟩
  · simpa using hhs
  · intro h hh
    obtain ⟨i, _, rfl⟩ := List.mem_map.mp hh
    exact ⟨rfl, rfl⟩

theorem hyps_of_shape (E : C01.Env π α) {regs : List (C01.Reg α)} (h : ∀ g ∈ regs, ShapeOK scr keyFn g)
    (hscr : ∀ i, (scr i).isOverride = false)
    (hloc : ∀ raw u p, keyFn raw ≠ 0 → E.M raw u p = true → keyFn raw = E.pkey p) :
    C01.WF regs ∧ C01.LocalR E regs ∧ C01.NoOverride regs :=
  ⟨fun g hg => ⟨(h g hg).nodup, (h g hg).ne, fun x hx => ((h g hg).handler x hx).1⟩,
   fun g hg p hk hm => by rw [(h g hg).key] at hk ⊢; exact hloc g.raw g.use p hk hm,
   fun g hg x hx => by rw [((h g hg).handler x hx).2]; exact hscr _⟩

theorem shape_regsUpTo (T : Nat → List Route) (hT : ∀ k, ∀ r ∈ T k, r.handlers ≠ []) (n : Nat) :
    ∀ g ∈ regsUpTo scr keyFn T n, ShapeOK scr keyFn g := by
  induction n with
  | zero => intro g hg; cases hg
  | succ n ih =>
    intro g hg
    simp only [regsUpTo, List.mem_append] at hg
    rcases hg with hg | hg
    · exact ih g hg
    · obtain ⟨r, hr, rfl⟩ := List.mem_map.mp hg
      exact shapeOK_mk scr keyFn [n] r.use r.raw r.handlers _ (by simp) (hT n r hr)

theorem shape_mkReg (ms : List Nat) (u : Bool) (o : Bytes) (hs : List Nat) (hms : ms.Nodup) (hhs : hs ≠ []) :
    ∀ g ∈ [mkReg scr keyFn ms u o hs], ShapeOK scr keyFn g := by
  intro g hg
  cases List.mem_singleton.mp hg
  exact shapeOK_mk scr keyFn ms u _ hs _ hms hhs

mutual
theorem shape_regsItem : ∀ (i : Item) (c : Option Bytes), wfItem i = true → nodupMsItem i = true →
    ∀ g ∈ regsItem scr keyFn c i, ShapeOK scr keyFn g
  | .route ms _ hs, _, hw, hn => shape_mkReg scr keyFn ms false _ hs (of_decide_eq_true hn) (ne_of_not_isEmpty hw)
  | .use _ hs, _, hw, _ => shape_mkReg scr keyFn _ true _ hs allMethods_nodup (ne_of_not_isEmpty hw)
  | .group _ hs items, _, hw, hn => fun g hg => by
    rcases List.mem_append.mp hg with hg | hg
    · split at hg
      · cases hg
      · rename_i hh; exact shape_mkReg scr keyFn _ true _ hs allMethods_nodup hh g hg
    · exact shape_regsItems items _ hw hn g hg
  | .mount _ _ sub, _, hw, hn => shape_regsItems sub _ hw hn
theorem shape_regsItems : ∀ (is : List Item) (c : Option Bytes), wfItems is = true → nodupMs is = true →
    ∀ g ∈ regsItems scr keyFn c is, ShapeOK scr keyFn g
  | [], _, _, _ => fun _ hg => nomatch hg
  | i :: is, c, hw, hn => fun g hg =>
    have hw := Bool.and_eq_true_iff.mp hw
    have hn := Bool.and_eq_true_iff.mp hn
    (List.mem_append.mp hg).elim (shape_regsItem i c hw.1 hn.1 g) (shape_regsItems is c hw.2 hn.2 g)
end

theorem regMany_mounted (ms : List Nat) (r : Route) (st : St) : (regMany ms r st).mounted = st.mounted :=
  List.foldlRecOn (motive := fun s : St => s.mounted = st.mounted) ms _ rfl fun _ h _ _ => h

mutual
theorem buildItem_mounted (cfg : Cfg) (po : Bytes → List Bytes) (c : Option Bytes) :
    ∀ (i : Item) (st : St), (buildItem cfg po c i st).mounted = (st.mounted || hasMountTopItem i)
  | .route _ _ _, _ => (regMany_mounted ..).trans (Bool.or_false _).symm
  | .use _ _, _ => (regMany_mounted ..).trans (Bool.or_false _).symm
  | .group _ hs items, st => by
    refine (buildItems_mounted cfg po _ items _).trans (congrArg (· || hasMountTop items) ?_)
    split
    · rfl
    · exact regMany_mounted ..
  | .mount _ _ _, _ => (Bool.or_true _).symm
theorem buildItems_mounted (cfg : Cfg) (po : Bytes → List Bytes) (c : Option Bytes) :
    ∀ (is : List Item) (st : St), (buildItems cfg po c is st).mounted = (st.mounted || hasMountTop is)
  | [], _ => (Bool.or_false _).symm
  | i :: is, st => by
    refine (buildItems_mounted cfg po c is _).trans ?_
    rw [buildItem_mounted cfg po c i st, Bool.or_assoc]
    rfl
end

theorem mounted_buildItem (cfg : Cfg) (po : Bytes → List Bytes) (c : Option Bytes) :
    ∀ (i : Item) (st : St), (st.mounted = true ∨ hasMountTopItem i = true) →
      (buildItem cfg po c i st).mounted = true :=
  fun i st h => (buildItem_mounted cfg po c i st).trans (Bool.or_eq_true_iff.mpr h)

def spliced (cfg : Cfg) (po : Bytes → List Bytes) (items : List Item) (k : Nat) : List Route :=
  splice cfg po k ((buildItems cfg po none items St.init).stacks k).reverse

theorem flatten_mounted (cfg : Cfg) (po : Bytes → List Bytes) (items : List Item) (hm : hasMountTop items = true) :
    flatten cfg po items =
      fun k => renum (offset (spliced cfg po items) k) (spliced cfg po items k) := by
  unfold flatten finish
  rw [buildItems_mounted, hm]
  rfl

/-- **Bridge 1 for the served table of an app with mounts**: the dispatcher state `stacksOfTable`
holds, in every method stack, exactly the routes of `flatten …` in their order at their positions
(and nothing in other stacks); `app.routesCount` is the number of served routes. -/
theorem stacks_of_flatten (cfg : Cfg) (po : Bytes → List Bytes) (items : List Item) (hm : hasMountTop items = true) :
    (stacksOfTable scr keyFn (flatten cfg po items) : C01.Stacks α).count = offset (spliced cfg po items) nMethods ∧
    ∀ k, ((stacksOfTable scr keyFn (flatten cfg po items) : C01.Stacks α).stack k).map viewR =
      if k < nMethods then (flatten cfg po items k).map (viewOf scr keyFn k) else [] := by
  have h := stacks_of_table (α := α) scr keyFn (spliced cfg po items)
  rw [flatten_mounted cfg po items hm]
  unfold stacksOfTable regsOfTable at h ⊢
  rwa [regsUpTo_renum]

/-- For every definition tree (any nesting of apps, groups, `Route`
registers and mounts, from app or group, any prefixes and paths, any routing configuration of the
root and the sub-apps), every matcher `E.M` with a local bucket key, every override-free handler
behaviour `scr`, every request method `m` and path state `p`: C01's dispatcher — bucket lookup in
the 3-byte index, numeric cursor, matched flag, 404/405 + Allow — run on the table the MOUNTED
composition serves produces exactly the reply C01's model of the GROUP composition (its `register`
calls through `build` with the duplicate merge, then the same dispatcher) produces: same handler
trace, same end. (That `stacksOfTable … (flatten …)` holds the served table position by position is
`stacks_of_flatten`, for an app with mounts; without a mount `flatten` keeps registration-order
positions across methods while `stacksOfTable` numbers method by method; the order inside every
method stack is the same, `flatten_pos_sorted`.) -/
theorem mount_dispatch_eq_group (E : C01.Env π α) (hn : E.nMethods = nMethods)
    (hscr : ∀ i, (scr i).isOverride = false)
    (hloc : ∀ raw u p, keyFn raw ≠ 0 → E.M raw u p = true → keyFn raw = E.pkey p)
    (cfg : Cfg) (po : Bytes → List Bytes) (items : List Item)
    (hwf : wfItems items = true) (hnd : nodupMs items = true) (m : Nat) (hm : m < nMethods) (p : π) :
    C01.dispatchS E (stacksOfTable scr keyFn (flatten cfg po items)) false
        (stacksOfTable scr keyFn (flatten cfg po items) : C01.Stacks α).fuel m p =
      C01.dispatch E (regsItems scr keyFn none items) m p ∧
    C01.dispatch E (regsItems scr keyFn none items) m p =
      .ok (C01.linear E (regsItems scr keyFn none items) m p) := by
  have hT := shape_regsUpTo scr keyFn _ (handlers_ne_flatten cfg po items hwf) nMethods
  have hG := shape_regsItems scr keyFn items none hwf hnd
  obtain ⟨wT, lT, nT⟩ := hyps_of_shape scr keyFn E hT hscr hloc
  obtain ⟨wG, lG, nG⟩ := hyps_of_shape scr keyFn E hG hscr hloc
  have e2 := C01.dispatch_refines_linear E _ wG lG nG m p
  have e3 := linear_eq_of_entries E _ _ (fun g hg => (hT g hg).ne) (fun g hg => (hG g hg).ne) nT nG
    (fun i hi => by
      rw [hn] at hi
      rw [entriesAt_regsUpTo, if_pos hi, entriesAt_regsItems_flatten scr keyFn cfg po items hnd i hi])
    m (hn ▸ hm) p
  refine ⟨?_, e2⟩
  rw [e2, ← e3]
  exact C01.dispatchS_refines_linear E false _ wT lT nT m p

end Dispatch
/-! ## The single-route matcher: C02's model of `parseRoute` / `register` / `Route.match`

C04's model keeps the pattern parser opaque (`po`) and hands the matcher the fields `Route.match`
reads. Here both are instantiated with C02's model: `mtC02` is C02's `routeMatch` in the shape `run` /
`mount_answers_eq` expect, `envC02` C02's matcher in the shape C01's dispatcher expects (`Env.M`, a
function of the route's `Path` and `use` flag) with the bucket key `keyC02` of router.go `buildTree`.
-/
section Match
open C02 (SLASH STAR)

/-- C04's routing configuration as C02's (`UnescapePath` only concerns the request side) -/
def cfg2 (cfg : Cfg) (unescape : Bool) : C02.Config :=
  { caseSensitive := cfg.caseSensitive, strictRouting := cfg.strict, unescapePath := unescape }

/-- the opaque parser instantiated: `parseRoute(Path).params` (`[]` where `register` panics) -/
def poC02 (raw : Bytes) : List Bytes := ((C02.parseRoute raw).map (·.params)).getD []

theorem rawPattern_eq (p : Bytes) : C02.rawPattern p = rawOf p := by
  cases p with
  | nil => rfl
  | cons x t => by_cases h : x = 47 <;> simp [C02.rawPattern, rawOf, ensureSlash_cons, C02.SLASH, h]

theorem rawOf_idem (p : Bytes) : rawOf (rawOf p) = rawOf p := ensureSlash_idem p

theorem prettyPattern_eq (cfg : Cfg) (ue : Bool) (p : Bytes) :
    C02.prettyPattern (cfg2 cfg ue) p = prettyOf cfg (rawOf p) := by
  rw [← rawPattern_eq]
  cases cfg with
  | mk cs st => cases cs <;> rfl

/-- a served route as a route of C02's model (`none`: its pattern does not parse) -/
def toC02 (r : Route) : Option C02.Route :=
  match C02.parseRoute r.raw, C02.parseRouteW r.pretty r.written with
  | some pr, some pp =>
    some { pathRaw := r.raw, path := r.path, params := pr.params, parser := pp, use := r.use,
           star := r.star, root := r.root }
  | _, _ => none

theorem toC02_eq_some {r : Route} {r2 : C02.Route} (h : toC02 r = some r2) :
    ∃ pr pp, C02.parseRoute r.raw = some pr ∧ C02.parseRouteW r.pretty r.written = some pp ∧
      r2 = { pathRaw := r.raw, path := r.path, params := pr.params, parser := pp, use := r.use,
             star := r.star, root := r.root } := by
  revert h
  fun_cases toC02 r <;> intro h
  · exact ⟨_, _, ‹_›, ‹_›, (Option.some.inj h).symm⟩
  · cases h

/-- A route that carries the fields C04's model derives from its `Path`
(every route of every served table: `flatten_fields`) is the route C02's `register` builds from the
route's registration path — the same `Path`, clean path, parser (prettified pattern + the pattern as
written), `use`, root and star shortcuts; and its `Params` are the parser's parameter names. -/
theorem register_bridge (cfg : Cfg) (ue : Bool) (r : Route) (h : RouteOK cfg poC02 r) :
    C02.register (cfg2 cfg ue) r.use r.orig = toC02 r ∧
    ∀ r2, toC02 r = some r2 → r2.params = r.params := by
  have hraw : C02.rawPattern r.orig = r.raw := by rw [rawPattern_eq, h.raw_eq]
  have hpre : C02.prettyPattern (cfg2 cfg ue) r.orig = r.pretty := by
    rw [prettyPattern_eq, ← h.raw_eq, h.pretty_eq]
  have hw : r.raw.take r.pretty.length = r.written := by rw [h.written_eq, writtenOf, h.pretty_eq]
  have hc : C02.removeEscapeChar r.pretty = r.path := by rw [h.path_eq, cleanOf, h.pretty_eq]; rfl
  constructor
  · -- field by field the two `match`es become the same term
    unfold C02.register toC02
    simp only [hraw, hpre, hw, hc]
    rw [← h.star_of_pretty, ← h.root_of_path]
    rfl
  · intro r2 hr2
    obtain ⟨pr, pp, hp, _, rfl⟩ := toC02_eq_some hr2
    rw [h.params_eq, poC02, hp]
    rfl

/-- C02's `Route.match` in the shape of C04's abstract matcher: (use, prettified pattern, pattern as
written, clean path, Params) ↦ the values written on a match. The root / star shortcuts are the ones
`register` / `addPrefixToRoute` derive (`flatten_fields`). -/
def mtC02 (chk : C02.Constraint → Bytes → Bool) (det path : Bytes) :
    Bool → Bytes → Bytes → Bytes → List Bytes → Option (List Bytes) :=
  fun use pretty written clean params =>
    match C02.parseRouteW pretty written with
    | none => none
    | some pp =>
      C02.routeMatch chk { pathRaw := [], path := clean, params := params, parser := pp, use := use,
                           star := pretty == [SLASH, STAR], root := clean == [SLASH] } det path

theorem routeMatch_pathRaw (chk : C02.Constraint → Bytes → Bool) (r : C02.Route) (x det path : Bytes) :
    C02.routeMatch chk { r with pathRaw := x } det path = C02.routeMatch chk r det path := rfl

/-- on a served route, `mtC02` is C02's `routeMatch` of the route `register` builds -/
theorem mtC02_eq_routeMatch (chk : C02.Constraint → Bytes → Bool) (cfg : Cfg) (ue : Bool) (det path : Bytes)
    (r : Route) (h : RouteOK cfg poC02 r) (r2 : C02.Route)
    (hr : C02.register (cfg2 cfg ue) r.use r.orig = some r2) :
    mtC02 chk det path r.use r.pretty r.written r.path r.params = C02.routeMatch chk r2 det path := by
  obtain ⟨hb, hp⟩ := register_bridge cfg ue r h
  rw [hb] at hr
  have hpar := hp r2 hr
  obtain ⟨pr, pp, _, hw, rfl⟩ := toC02_eq_some hr
  unfold mtC02
  simp only [hw]
  rw [← h.star_of_pretty, ← h.root_of_path, ← hpar]
  rfl

/-- router.go `buildTree` / ctx.go `configDependentPaths`: the bucket hash of a ≤3-byte key (0 = the
global bucket) -/
def hash3 (k : Bytes) : Nat := k.foldl (fun acc x => acc * 256 + x) 0

/-- the bucket key of the route registered at `Path` raw (a function of the parser only) -/
def keyC02 (cfg : Cfg) (ue : Bool) (raw : Bytes) : Nat :=
  match C02.register (cfg2 cfg ue) false raw with
  | some r => hash3 (C02.routeTreeKey r)
  | none => 0

/-- C01's matcher / request-hash parameters instantiated with C02's model; a path state is the pair
(detectionPath, path) of `configDependentPaths` -/
def envC02 {α : Type} (chk : C02.Constraint → Bytes → Bool) (cfg : Cfg) (ue : Bool)
    (setp : Bytes × Bytes → α → Option (Bytes × Bytes)) : C01.Env (Bytes × Bytes) α :=
  { M := fun raw use p =>
      match C02.register (cfg2 cfg ue) use raw with
      | some r => (C02.routeMatch chk r p.1 p.2).isSome
      | none => false
    pkey := fun p => hash3 (C02.reqTreeKey p.1)
    setp := setp
    nMethods := nMethods }

theorem register_use_irrelevant (c : C02.Config) (u : Bool) (raw : Bytes) (r : C02.Route)
    (h : C02.register c u raw = some r) : C02.register c false raw = some { r with use := false } := by
  unfold C02.register at h ⊢
  simp only at h ⊢
  split at h
  · cases h; rfl
  · cases h

theorem routeTreeKey_use (r : C02.Route) : C02.routeTreeKey { r with use := false } = C02.routeTreeKey r := rfl

/-- C01's `LocalR` for the real matcher and key rule: a route filed under a
non-global bucket only matches requests that are looked up in that bucket — `C02.match_bucket_of_key`. -/
theorem local_keyC02 {α : Type} (chk : C02.Constraint → Bytes → Bool) (cfg : Cfg) (ue : Bool)
    (setp : Bytes × Bytes → α → Option (Bytes × Bytes)) (raw : Bytes) (u : Bool) (p : Bytes × Bytes)
    (hk : keyC02 cfg ue raw ≠ 0) (hm : (envC02 chk cfg ue setp).M raw u p = true) :
    keyC02 cfg ue raw = (envC02 chk cfg ue setp).pkey p := by
  simp only [envC02] at hm ⊢
  cases hr : C02.register (cfg2 cfg ue) u raw with
  | none => simp [hr] at hm
  | some r =>
    simp only [hr] at hm
    unfold keyC02 at hk ⊢
    rw [register_use_irrelevant _ u raw r hr] at hk ⊢
    simp only [routeTreeKey_use] at hk ⊢
    obtain ⟨vs, hvs⟩ := Option.isSome_iff_exists.mp hm
    rw [C02.match_bucket_of_key hr (fun e => hk (by rw [e]; rfl)) hvs]

end Match

end C04
