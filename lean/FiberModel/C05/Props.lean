import FiberModel.C05.Lemmas
import FiberModel.C05.SchedLemmas
import FiberModel.C05.Values
import FiberModel.C05.Facts
import FiberModel.C05.StoreLemmas
/-
C05 — property theorems.

The model (`Model.lean`) recycles contexts and Redirect objects exactly as the regenerated table
(`Generated/C05Facts.lean`, re-extracted from ctx.go / redirect.go / ctx_interface.go / router.go on
every check run) says `Reset` / `release` / the life-cycle calls do. `fields_reset_or_overwritten`
is the obligation over that table (closed by `decide` over the WHOLE table: a new field of
`DefaultCtx`, or a dropped assignment in `Reset` / `release` / `Redirect.release`, or a dropped wipe
in the flash decoder breaks it); the other theorems hold for every table that meets it.
-/
namespace C05
open B

/-- Fields that are set once by `NewDefaultCtx` and never written again. -/
def constantFields : List String := ["app", "req", "res"]

/-- A field of the pooled context cannot carry anything from one request into the next when it is
    assigned by `Reset`, or emptied by `release`, or constant, or `values` with the matcher shaped so
    that slots are written before they are read (`values_slots_independent_of_leftovers`), or the flash slice (re-sliced by `release`, its leftover
    elements wiped by the decoder before it decodes, `flash_decode_independent_of_leftovers`). -/
def FieldFact.accounted (lc : Lifecycle) (f : FieldFact) : Bool :=
  f.reset.overwrites || f.release.overwrites || constantFields.contains f.name ||
  (f.name == "values" && lc.starWritesSlot0 && lc.getMatchWritesBeforeRead && lc.paramsReadsRouteSlots) ||
  (f.name == "flashMessages" && emptiesSlice f.release && lc.flashDecodeWipes)
  -- (a flash slice set to nil by `release` is covered by `f.release.overwrites`)

/-- **Obligation over the regenerated tables.** Every field of `DefaultCtx` is accounted for, every
    field of `Redirect` is reset by `Redirect.release`, and the digest the model runs with is in order
    (all per-request fields, the life-cycle calls, the decoder's wipe). -/
theorem fields_reset_or_overwritten :
    Facts.ctxFields.all (FieldFact.accounted Facts.lifecycle) = true ∧
    Facts.redirectFields.all (fun f => f.release.overwrites || emptiesSlice f.release) = true ∧
    theFacts.ok = true := by decide +kernel

theorem theFacts_ok : theFacts.ok = true := fields_reset_or_overwritten.2.2

/-! ### Shared objects outside the pooled context (`Facts.sharedObjects`, regenerated)

The fields of `DefaultCtx` / `Redirect` are not the only way from one request to the next: anything hanging off
`*App`, any package-level variable, any pool a handler-time function takes objects from does the same. The
translator lists ALL fields of `App`, ALL package-level variables of the anchored files
and all foreign pools used from the anchored files, each with the functions that write it. Every object that is
written at all must be known here, with every one of its writers, and say where its isolation argument is. -/

inductive SharedWhy where
  | ctxPool        -- App.pool: every pooled context is wiped by Reset / release (`ctxFields`, life-cycle facts, `poolOpsConfined`)
  | redirectPool   -- redirectPool: every pooled Redirect is reset by `Redirect.release` (`redirectFields`)
  | memoTable      -- App.sendfiles: transparent memo table (`sendFileCompared`, `sendFileStoresOwnConfig`; `probe_independent_of_history_with_store`)
  | startup        -- written by construction / registration / startup functions only (`New`, `init`, `addRoute`, `buildTree`, `mount`, `Register…`); registering routes while serving is state the application shares on purpose
  | foreignPool    -- a pool outside the anchored files: its own package wipes the object (binder: `Reset()` on Put and every field set before use; bytebufferpool: `Reset()` on Put); not modelled, exercised by the reflective vector
  deriving DecidableEq, Repr

structure SharedRule where
  owner : String
  name : String
  writers : List String
  why : SharedWhy

def sharedRules : List SharedRule := [
  ⟨"App", "pool", ["App.AcquireCtx", "App.ReleaseCtx", "New"], .ctxPool⟩,
  ⟨"package", "redirectPool", ["AcquireRedirect", "ReleaseRedirect"], .redirectPool⟩,
  ⟨"App", "sendfiles", ["DefaultCtx.SendFile"], .memoTable⟩,
  ⟨"App", "server", ["App.NewCtxFunc", "App.init"], .startup⟩,
  ⟨"App", "getBytes", ["New"], .startup⟩,
  ⟨"App", "getString", ["New"], .startup⟩,
  ⟨"App", "hooks", ["New"], .startup⟩,
  ⟨"App", "latestRoute", ["App.addRoute"], .startup⟩,
  ⟨"App", "newCtxFunc", ["App.NewCtxFunc"], .startup⟩,
  ⟨"App", "tlsHandler", ["App.SetTLSHandler"], .startup⟩,
  ⟨"App", "mountFields", ["App.appendSubAppLists", "App.generateAppListKeys", "App.mount", "Group.mount", "New"], .startup⟩,
  ⟨"App", "state", ["New"], .startup⟩,
  ⟨"App", "stack", ["App.addRoute", "App.processSubAppsRoutes", "New"], .startup⟩,
  ⟨"App", "treeStack", ["App.buildTree", "New"], .startup⟩,
  ⟨"App", "customBinders", ["App.RegisterCustomBinder"], .startup⟩,
  ⟨"App", "customConstraints", ["App.RegisterCustomConstraint"], .startup⟩,
  ⟨"App", "config", ["App.handleTrustedProxy", "New"], .startup⟩,
  ⟨"App", "configured", ["New"], .startup⟩,
  ⟨"App", "routesRefreshed", ["App.addRoute", "App.buildTree", "App.processSubAppsRoutes"], .startup⟩,
  ⟨"foreign", "binder.CBORBinderPool", ["Bind.CBOR"], .foreignPool⟩,
  ⟨"foreign", "binder.CookieBinderPool", ["Bind.Cookie"], .foreignPool⟩,
  ⟨"foreign", "binder.FormBinderPool", ["Bind.Form"], .foreignPool⟩,
  ⟨"foreign", "binder.HeaderBinderPool", ["Bind.Header"], .foreignPool⟩,
  ⟨"foreign", "binder.JSONBinderPool", ["Bind.JSON"], .foreignPool⟩,
  ⟨"foreign", "binder.QueryBinderPool", ["Bind.Query"], .foreignPool⟩,
  ⟨"foreign", "binder.RespHeaderBinderPool", ["Bind.RespHeader"], .foreignPool⟩,
  ⟨"foreign", "binder.URIBinderPool", ["Bind.URI"], .foreignPool⟩,
  ⟨"foreign", "binder.XMLBinderPool", ["Bind.XML"], .foreignPool⟩,
  ⟨"foreign", "bytebufferpool", ["DefaultCtx.Links", "DefaultCtx.Render", "DefaultCtx.String", "DefaultCtx.getLocationFromRoute",
                                 "Redirect.Route"], .foreignPool⟩
]

/-- an object nobody writes is a constant; a written one must be known, with every one of its writers -/
def SharedObj.accounted (o : SharedObj) : Bool :=
  o.writers.isEmpty ||
  sharedRules.any fun r => r.owner == o.owner && r.name == o.name && o.writers.all r.writers.contains

/-- The inventory is evaluated once: the obligation (first) and the four examples below it read this. -/
theorem shared_objects_accounted_sharp :
    Facts.sharedObjects.all SharedObj.accounted = true ∧
    (Facts.sharedObjects.filter fun o => o.name == "pool" || o.name == "redirectPool" || o.name == "sendfiles").length = 3 ∧
    SharedObj.accounted ⟨"App", "hostCache", "map[string]string", ["DefaultCtx.Hostname"]⟩ = false ∧
    SharedObj.accounted ⟨"App", "config", "Config", ["App.handleTrustedProxy", "DefaultCtx.Host", "New"]⟩ = false ∧
    SharedObj.accounted ⟨"foreign", "headerParamPool", "pool", ["DefaultCtx.Accepts"]⟩ = false := by decide +kernel

/-- **Obligation over the regenerated inventory.** Every field of `App`, every package-level variable of the
    anchored files and every foreign pool used from them is either never written or known with all its writers.
    A new lazily filled cache on `App`, a new package-level pool, a handler-time function that starts writing an
    existing field, a new foreign pool in a context accessor: all break this. -/
theorem shared_objects_accounted : Facts.sharedObjects.all SharedObj.accounted = true := shared_objects_accounted_sharp.1

/-- the three objects that ARE written while serving are there (the obligation is not vacuous) … -/
example : (Facts.sharedObjects.filter fun o => o.name == "pool" || o.name == "redirectPool" || o.name == "sendfiles").length = 3 := by
  obtain ⟨-, h, -⟩ := shared_objects_accounted_sharp; exact h
/-- … and sharp: an unknown cache on `App`, or a known field with a new writer, is not accounted for -/
example : SharedObj.accounted ⟨"App", "hostCache", "map[string]string", ["DefaultCtx.Hostname"]⟩ = false := by
  obtain ⟨-, -, h, -⟩ := shared_objects_accounted_sharp; exact h
example : SharedObj.accounted ⟨"App", "config", "Config", ["App.handleTrustedProxy", "DefaultCtx.Host", "New"]⟩ = false := by
  obtain ⟨-, -, -, h, -⟩ := shared_objects_accounted_sharp; exact h
example : SharedObj.accounted ⟨"foreign", "headerParamPool", "pool", ["DefaultCtx.Accepts"]⟩ = false := by
  obtain ⟨-, -, -, -, h⟩ := shared_objects_accounted_sharp; exact h

/-- `Params` reads slot i of `c.values` only for i below the number of parameters of the matched
    route, and `getMatch` has written exactly those slots: whatever an earlier request left in the
    array (`old`) is never returned. -/
theorem values_overwritten_before_read (vs old : List Bytes) :
    readParams (writeValues vs old) vs.length = vs := writeValues_params vs old

/-- `Values.lean` reads the slots with the model's `Params`. -/
theorem readSlots_eq_readParams : readSlots = readParams := rfl

/-- The same for the real matcher's shape (path.go `getMatch` as a loop over segments with everything it
    computes from the current request left abstract, `Values.lean`; the shape itself is a regenerated
    fact: `getMatchWritesBeforeRead`, `starWritesSlot0`, `paramsReadsRouteSlots`): on the same request, two
    arrays with different leftovers lead to the same match decision and, after a match, to the same
    values in all slots of the route's parameters (`readSlots_eq_readParams`). -/
theorem values_slots_independent_of_leftovers (m : Matcher) (segs : List Seg) (path : Bytes) (a a' : List Bytes)
    (hlen : a.length = a'.length) (hcap : nParams segs ≤ a.length) :
    (getMatch m segs path a 0).isSome = (getMatch m segs path a' 0).isSome ∧
    ∀ r r', getMatch m segs path a 0 = some r → getMatch m segs path a' 0 = some r' →
      readSlots r (nParams segs) = readSlots r' (nParams segs) := by
  have h := getMatch_indep m segs path a a' 0 hlen (by rwa [Nat.zero_add]) rfl
  rw [Nat.zero_add] at h
  refine ⟨?_, fun r r' hr hr' => ?_⟩
  · simpa only [Option.isSome_map] using congrArg Option.isSome h
  · rw [hr, hr'] at h
    exact Option.some.inj h

/-- `/q/:x?` on the request `/q` over an array that still holds `alice`: the slot is overwritten with "" -/
example : (getMatch demoMatcher [.const (b "/q/"), .param 0] (b "/q") [b "alice", b "secret"] 0).map (readSlots · 1)
    = some [[]] := by decide +kernel

/-- **App.sendfiles is a transparent memo table.** When `compareConfig` compares every field the cached
    entry depends on (regenerated fact, part of `theFacts.ok`), then after ANY sequence of earlier
    `SendFile` calls of any requests (lookups, inserts, also the duplicate appends of requests that
    missed at the same time) a call gets exactly the entry it would have built itself on a fresh app —
    which is what the model's `sendFile` uses (`sfVal cfg`). -/
theorem sendfile_store_transparent (m : SFMask) (hm : m.complete = true) (ops : List SFOp) (cfg : SFCfg) :
    (SFStore.serve m (SFStore.run m [] ops) cfg).1 = sfVal cfg ∧ (SFStore.serve m [] cfg).1 = sfVal cfg :=
  ⟨(serve_transparent hm (run_wf hm ops wf_nil) cfg).eq, (serve_transparent hm wf_nil cfg).eq⟩

theorem sendfile_store_transparent_current (ops : List SFOp) (cfg : SFCfg) :
    (SFStore.serve theFacts.sfMask (SFStore.run theFacts.sfMask [] ops) cfg).1 = sfVal cfg :=
  (sendfile_store_transparent theFacts.sfMask (ok_fields theFacts_ok).sfComplete ops cfg).1

/-- Sharpness (a comparison without `MaxAge`): after a call with `MaxAge: 3600` a call that differs
    only in `MaxAge: 0` is handed the earlier call's entry — `Cache-Control: public, max-age=3600`. -/
theorem sendfile_compare_without_maxAge_leaks :
    (SFStore.serve ⟨true, true, true, true, true, false⟩
        (SFStore.run ⟨true, true, true, true, true, false⟩ [] [.serve ⟨0, false, false, false, 0, 3600⟩])
        ⟨0, false, false, false, 0, 0⟩).1.maxAge = 3600 ∧
    (sfVal ⟨0, false, false, false, 0, 0⟩).maxAge = 0 := by decide +kernel

/-- With the decoder's wipe in place, what the flash readers return is a function of the cookie
    alone: two slices with the same visible part and ANY leftovers in their spare capacity decode
    alike. -/
theorem flash_decode_independent_of_leftovers (F : RFacts) (hw : F.lc.flashDecodeWipes = true)
    (cookie : Bytes) (fl fl' : Slice) (h : fl.vis = fl'.vis) :
    (flashStep F cookie fl).1.vis = (flashStep F cookie fl').1.vis := (flashStep_indep F hw cookie fl fl' h).1

/-- Every schedule keeps the concurrent world in order: the pools hold clean objects only, every
    request in flight agrees (up to unreadable garbage) with a twin served alone by a fresh application,
    every finished request observed what it would have observed on a fresh application. -/
theorem runSched_invariant {F : RFacts} (ok : F.ok = true) (evs : List Ev) :
    (runSched F CWorld.empty evs).Inv F := runSched_inv (ok_fields ok) evs (World.empty_clean.toC_inv F)

/-- **Main theorem, schedules.** For every table digest in order and EVERY schedule — any number of
    requests (valid, malformed, crafted cookies, any scripts) whose atomic steps (acquire+Reset; flash
    check+middleware+route match; each handler action; epilogue+release) are interleaved in any order,
    with arbitrary choices of which pooled context / Redirect every `Get` returns and with sync.Pool
    dropping pooled objects at any time — every request that finishes has observed exactly what it
    observes when it is the only request a fresh application ever serves. -/
theorem finished_independent_of_schedule {F : RFacts} (ok : F.ok = true) (evs : List Ev)
    (id : Nat) (rq : Req) (o : Obs) (h : (id, rq, o) ∈ (runSched F CWorld.empty evs).finished) :
    some o = probeFresh F rq :=
  probeFresh_eq ((runSched_invariant ok evs).finished _ h)

theorem finished_independent_of_schedule_current (evs : List Ev)
    (id : Nat) (rq : Req) (o : Obs) (h : (id, rq, o) ∈ (runSched theFacts CWorld.empty evs).finished) :
    some o = probeFresh theFacts rq :=
  finished_independent_of_schedule theFacts_ok evs id rq o h

/-- A sequential `step` IS the schedule in which the request runs alone (acquire, enter, one `act` per
    script action, done): the concurrent semantics contains the sequential one the correspondence check
    validates against the real server. -/
theorem step_as_schedule {F : RFacts} (ok : F.ok = true) (w : World) (fin : List (Nat × Req × Obs))
    (id : Nat) (rq : Req) (pk : Pick) :
    runSched F (w.toC fin) (soloEvents id rq pk) =
      (step F w rq pk).1.toC (match (step F w rq pk).2 with | some o => (id, rq, o) :: fin | none => fin) := by
  rw [soloEvents_eq, runSched_cons, cstep_acquire_solo]
  by_cases hb : rq.bad ≠ 0
  · -- rejected: `acquire` does all of `serveBad` and registers no flight, so the other events find nothing
    have hn : (step F w rq pk).2 = none := by simp only [step, if_pos hb]
    rw [if_pos hb, hn]
    exact runSched_fixed (List.forall_mem_cons.mpr ⟨rfl, List.forall_mem_append.mpr
      ⟨List.forall_mem_replicate.mpr (.inr rfl), List.forall_mem_singleton.mpr rfl⟩⟩)
  · -- well-formed: after `acquire; enter` the request is the only flight; `solo_rest` runs the rest as
    -- `Flight.complete`, and `complete_enter` folds the `enter` back in: that is `serveOn`
    rw [if_neg hb, runSched_cons, cstep_enter_solo,
      solo_rest F _ fin id pk.red _ _ _ (enter_entered F _ w.reds pk.red) (enter_todo_le (ok_fields ok) _ rq w.reds pk.red),
      complete_enter, enter_orig F _ w.reds pk.red]
    -- `Flight.acquire` is unfolded for `(Flight.acquire ..).orig = rq`, the request on record
    simp [World.toC, step, hb, serveOn, Flight.acquire]

def histEvents : Nat → List (Req × Pick) → List Ev
  | _, [] => []
  | n, (rq, pk) :: rest => soloEvents n rq pk ++ histEvents (n + 1) rest

/-- … so every sequential history is a schedule, and leaves the same pools. -/
theorem history_as_schedule {F : RFacts} (ok : F.ok = true) (hist : List (Req × Pick)) :
    ∀ (w : World) (fin : List (Nat × Req × Obs)) (n : Nat),
      ∃ fin', runSched F (w.toC fin) (histEvents n hist) = (runHistory F w hist).toC fin' := by
  intro w fin n
  fun_induction histEvents n hist generalizing w fin
  case case1 => exact ⟨fin, rfl⟩
  case case2 n rq pk rest ih =>
    simp only [runSched_append, step_as_schedule ok, runHistory]
    exact ih _ _

/-- One request (well-formed or not) against a clean world with arbitrary pool choices observes what it
    observes on a fresh application, and the world stays clean: the schedule invariant for the schedule in
    which the request runs alone. -/
theorem step_fresh {F : RFacts} (ok : F.ok = true) {w : World} (hw : w.Clean) (rq : Req) (pk : Pick) :
    (step F w rq pk).2 = probeFresh F rq ∧ (step F w rq pk).1.Clean := by
  have inv := runSched_inv (ok_fields ok) (soloEvents 0 rq pk) (hw.toC_inv F)
  rw [step_as_schedule ok] at inv
  revert inv
  -- rejected: no observation on either side; well-formed: the observation is on record
  fun_cases step F w rq pk <;> intro inv <;> refine ⟨?_, inv.ctxs, inv.reds⟩
  case case1 => simp only [step, probeFresh, if_pos ‹rq.bad ≠ 0›]
  case case2 => exact probeFresh_eq (inv.finished _ List.mem_cons_self)

theorem step_sim {F : RFacts} (ok : F.ok = true) {w w' : World} (hw : w.Clean) (hw' : w'.Clean)
    (rq : Req) (pk pk' : Pick) :
    (step F w rq pk).2 = (step F w' rq pk').2 ∧ (step F w rq pk).1.Clean :=
  ⟨(step_fresh ok hw rq pk).1.trans (step_fresh ok hw' rq pk').1.symm, (step_fresh ok hw rq pk).2⟩

theorem runHistory_clean {F : RFacts} (ok : F.ok = true) (hist : List (Req × Pick)) {w : World} (hw : w.Clean) :
    (runHistory F w hist).Clean := by
  induction hist generalizing w with
  | nil => exact hw
  | cons x rest ih => exact ih (step_fresh ok hw x.1 x.2).2

/-- **Main theorem.** For every table digest that is in order, every history of requests (valid,
    malformed, with crafted flash cookies, any handler scripts) served through the pooled contexts
    with ARBITRARY choices of which pooled context / Redirect object each request receives, and every
    probe: the probe's observation (response status, headers, flash cookie, body; route parameters,
    flash messages, old input, view bindings, locals, base URL seen by its handler) equals its
    observation on a fresh application. -/
theorem probe_independent_of_history {F : RFacts} (ok : F.ok = true) (hist : List (Req × Pick)) (probe : Req) (pk : Pick) :
    probeAfter F hist probe pk = probeFresh F probe :=
  (step_fresh ok (runHistory_clean ok hist World.empty_clean) probe pk).1

theorem probe_independent_of_history_current (hist : List (Req × Pick)) (probe : Req) (pk : Pick) :
    probeAfter theFacts hist probe pk = probeFresh theFacts probe :=
  probe_independent_of_history theFacts_ok hist probe pk

/-- **Main theorem, sequential, store included.** For every table digest in order (which includes: `compareConfig`
    compares every field of the `SendFile` struct), every history with arbitrary pool choices — whatever entries
    its `SendFile` calls have put into `App.sendfiles` — and every probe: the probe's observation, served from
    the pools AND the store the history left behind, equals its observation on a fresh application (empty pools,
    empty store). -/
theorem probe_independent_of_history_with_store {F : RFacts} (ok : F.ok = true) (hist : List (Req × Pick))
    (probe : Req) (pk : Pick) :
    probeAfterS F hist probe pk = probeFreshS F probe := by
  rw [probeAfterS_eq (ok_fields ok).sfComplete, probeFreshS_eq (ok_fields ok).sfComplete]
  exact probe_independent_of_history ok hist probe pk

theorem probe_independent_of_history_with_store_current (hist : List (Req × Pick)) (probe : Req) (pk : Pick) :
    probeAfterS theFacts hist probe pk = probeFreshS theFacts probe :=
  probe_independent_of_history_with_store theFacts_ok hist probe pk

/-- **Main theorem, schedules, store included.** In every schedule of the atomic steps of any number of
    overlapping requests — where every `SendFile` action reads and extends the one store shared by all of them,
    and duplicate appends of requests that missed at the same time may happen at any point — every request that
    finishes observed exactly what it observes as the only request of a fresh application. -/
theorem finished_independent_of_schedule_with_store {F : RFacts} (ok : F.ok = true) (evs : List EvS)
    (id : Nat) (rq : Req) (o : Obs) (h : (id, rq, o) ∈ (runSchedS F CWorldS.empty evs).c.finished) :
    some o = probeFreshS F rq := by
  rw [(runSchedS_eq (ok_fields ok).sfComplete evs (ws := CWorldS.empty) wf_nil).eq] at h
  rw [probeFreshS_eq (ok_fields ok).sfComplete]
  exact finished_independent_of_schedule ok _ id rq o h

/-- the store-threaded semantics is the store-free one whenever the comparison is complete (so the theorems
    above and the ones about `probeAfter` / `runSched` speak about the same observations) -/
theorem store_semantics_coincide {F : RFacts} (ok : F.ok = true) (hist : List (Req × Pick)) (probe : Req) (pk : Pick) :
    probeAfterS F hist probe pk = probeAfter F hist probe pk := probeAfterS_eq (ok_fields ok).sfComplete hist probe pk

/-! ### Non-vacuity and sharpness

The examples run on `refFacts`, a fixed digest in order, so that they
do not depend on the regenerated tables: a harmless refactoring of `Reset` / `release` must not break an
example. -/

def refFacts : RFacts :=
  { rFasthttp := true, rBaseURI := true, rPathOriginal := true, rPath := true, rDetectionPath := true,
    rTreePathHash := true, rIndexRoute := true, rIndexHandler := true, rMethodInt := true, rMatched := true,
    lRoute := true, lBind := true, lRedirect := true, lViewBind := true, lFlash := .reslice0, lFasthttp := true,
    dMessages := .reslice0, dStatus := true,
    sfMask := ⟨true, true, true, true, true, true⟩, sfAllCompared := true,
    lc := { acquireResets := true, releaseBeforePut := true, handlerDefersRelease := true,
            redirectReleaseBeforePut := true, ctxReleaseReturnsRedirect := true, flashDecodeWipes := true,
            flashDropsOnError := true, errorHandlerDefersRelease := true, poolOpsConfined := true,
            starWritesSlot0 := true, getMatchWritesBeforeRead := true, paramsReadsRouteSlots := true,
            sendFileStoresOwnConfig := true } }

example : refFacts.ok = true := by decide +kernel

/-- A history that plants state in every channel the property names (view binding, locals, flash
    messages, redirect messages + status, binder mode, base URL, route parameters), then the classic
    probe: a flash cookie `91 80` (one message with no fields), a redirect, a failing bind. -/
def demoHist : List (Req × Pick) :=
  [(⟨b "POST", b "/p/alice/secret", b "admin.internal", [(b "n", b "x")],
     some [0x91, 0x84, 0xa3, 0x6b, 0x65, 0x79, 0xa1, 0x6b, 0xa5, 0x76, 0x61, 0x6c, 0x75, 0x65, 0xa1, 0x76,
           0xa5, 0x6c, 0x65, 0x76, 0x65, 0x6c, 0x21, 0xaa, 0x69, 0x73, 0x4f, 0x6c, 0x64, 0x49, 0x6e, 0x70, 0x75, 0x74, 0xc2],
     0, [.vb (b "user") (b "alice"), .lo (b "u") (b "alice"), .wi (b "k") (b "v") 5, .rs 301, .ba, .bu]⟩, ⟨0, 0⟩)]

def demoProbe : Req :=
  ⟨b "GET", b "/q", b "h.example.com", [(b "n", b "x")], some [0x91, 0x80], 0, [.ob, .bq, .to (b "/t")]⟩

/-- One run, read four times: status 302 and no flash cookie of its own (the incoming one expires); one all-empty
    message; no bindings; no parameters. The four examples below are its conjuncts in order. -/
theorem demo_probe_obs :
    (probeAfter refFacts demoHist demoProbe ⟨0, 0⟩).map (fun o => (o.resp.status, o.resp.setFlash)) = some (302, .expire) ∧
    (probeAfter refFacts demoHist demoProbe ⟨0, 0⟩).map (fun o => o.seen.map (·.msgs)) = some (some [Msg.zero]) ∧
    (probeAfter refFacts demoHist demoProbe ⟨0, 0⟩).map (fun o => o.seen.map (·.view)) = some (some []) ∧
    (probeAfter refFacts demoHist demoProbe ⟨0, 0⟩).map (fun o => o.seen.map (·.params)) = some (some [[]]) := by
  decide +kernel

example : (probeAfter refFacts demoHist demoProbe ⟨0, 0⟩).map (fun o => (o.resp.status, o.resp.setFlash))
    = some (302, .expire) := demo_probe_obs.1
example : (probeAfter refFacts demoHist demoProbe ⟨0, 0⟩).map (fun o => o.seen.map (·.msgs)) = some (some [Msg.zero]) := demo_probe_obs.2.1
example : (probeAfter refFacts demoHist demoProbe ⟨0, 0⟩).map (fun o => o.seen.map (·.view)) = some (some []) := demo_probe_obs.2.2.1
example : (probeAfter refFacts demoHist demoProbe ⟨0, 0⟩).map (fun o => o.seen.map (·.params)) = some (some [[]]) := demo_probe_obs.2.2.2

/-- Sharpness: the same history leaks when the table is NOT in order. Without the decoder's wipe (the code
    before fix cd65980, finding F1) the probe's empty message `91 80` shows the previous request's flash
    message … -/
theorem old_flash_decode_leaks_previous_message :
    (probeAfter { refFacts with lc := { refFacts.lc with flashDecodeWipes := false } } demoHist demoProbe ⟨0, 0⟩).map
      (fun o => o.seen.map (·.msgs))
    = some (some [⟨b "k", b "v", 0x21, false⟩]) ∧
    (probeFresh { refFacts with lc := { refFacts.lc with flashDecodeWipes := false } } demoProbe).map
      (fun o => o.seen.map (·.msgs))
    = some (some [Msg.zero]) := by decide +kernel

/-- … without `release` clearing the view map the probe renders the previous user's binding … -/
example : (probeAfter { refFacts with lViewBind := false } demoHist demoProbe ⟨0, 0⟩).map (fun o => o.seen.map (·.view))
    = some (some [(b "user", b "alice")]) := by decide +kernel

/-- … without `Redirect.release` resetting the pooled object the probe redirects with the previous
    request's status and flash message … -/
example : (probeAfter { refFacts with dStatus := false, dMessages := .none } demoHist demoProbe ⟨0, 0⟩).map
      (fun o => (o.resp.status, o.resp.setFlash))
    = some (301, .msgs [⟨b "k", b "v", 5, false⟩]) := by decide +kernel

/-- … without `Reset` clearing the cached base URL the probe is told the previous request's host … -/
example : (probeAfter { refFacts with rBaseURI := false } demoHist demoProbe ⟨0, 0⟩).map (fun o => o.seen.map (·.base))
    = some (some (b "http://admin.internal")) := by (repeat rw [b_ofList]); decide +kernel

/-- … and without `release` dropping the Bind object the probe inherits automatic error handling (400). -/
example : (probeAfter { refFacts with lBind := false, lRedirect := false } demoHist ⟨b "GET", b "/q", b "h.example.com", [(b "n", b "x")], none, 0, [.bq]⟩ ⟨0, 0⟩).map
      (fun o => o.resp.status)
    = some 400 := by (repeat rw [b_ofList]); decide +kernel

/-- history: `SendFile(f.txt, {MaxAge: 3600})`; probe: `SendFile(f.txt, {MaxAge: 0})` -/
def sfHist : List (Req × Pick) :=
  [(⟨b "GET", b "/plain", b "h.example.com", [], none, 0, [.sf ⟨0, false, false, false, 0, 3600⟩ 0]⟩, ⟨0, 0⟩)]

def sfProbe : Req := ⟨b "GET", b "/plain", b "h.example.com", [], none, 0, [.sf ⟨0, false, false, false, 0, 0⟩ 0]⟩

/-- One run of the probe after the history, read twice: the store it leaves, and what the probe observes
    (`probeAfterS` is the observation of that very `stepS`). The two examples below are its conjuncts. -/
theorem sf_probe_obs :
    ((runHistoryS refFacts WorldS.empty sfHist).sfs.length = 1 ∧
      (stepS refFacts (runHistoryS refFacts WorldS.empty sfHist) sfProbe ⟨0, 0⟩).1.sfs.length = 2) ∧
    (probeAfterS refFacts sfHist sfProbe ⟨0, 0⟩).map (fun o => (o.resp.status, o.resp.cacheControl)) = some (200, []) := by
  decide +kernel

/-- the history really leaves an entry in the store, and the probe (a different configuration) adds its own -/
example : (runHistoryS refFacts WorldS.empty sfHist).sfs.length = 1 ∧
    (stepS refFacts (runHistoryS refFacts WorldS.empty sfHist) sfProbe ⟨0, 0⟩).1.sfs.length = 2 := sf_probe_obs.1

/-- the probe is served without Cache-Control, as on a fresh app -/
example : (probeAfterS refFacts sfHist sfProbe ⟨0, 0⟩).map (fun o => (o.resp.status, o.resp.cacheControl)) = some (200, []) := sf_probe_obs.2

/-- Sharpness: with a comparison that forgets `MaxAge` (the digest is then NOT in order) the probe finds the
    history's entry in the store and answers with the earlier request's `Cache-Control` — while on a fresh app
    it sends none -/
example : (probeAfterS { refFacts with sfMask := ⟨true, true, true, true, true, false⟩ } sfHist sfProbe ⟨0, 0⟩).map
      (fun o => o.resp.cacheControl) = some (b "public, max-age=3600") ∧
    (probeFreshS { refFacts with sfMask := ⟨true, true, true, true, true, false⟩ } sfProbe).map
      (fun o => o.resp.cacheControl) = some [] := by (repeat rw [b_ofList]); decide +kernel

example : ({ refFacts with sfMask := ⟨true, true, true, true, true, false⟩ } : RFacts).ok = false := by decide +kernel

/-- two overlapping requests with the same new configuration, a duplicate append in between, then the probe
    with another configuration: three entries in the store, the probe unaffected -/
def sfSched : List EvS :=
  [.ev (.acquire 1 sfHist.head!.1 ⟨0, 0⟩), .ev (.enter 1 0), .ev (.acquire 2 sfProbe ⟨0, 0⟩), .ev (.enter 2 0),
   .ev (.act 1 0), .dupAppend ⟨0, false, false, false, 0, 3600⟩, .ev (.act 2 0), .ev (.done 1 0), .ev (.done 2 0)]

example : (runSchedS refFacts CWorldS.empty sfSched).sfs.length = 3 ∧
    (obsOf (runSchedS refFacts CWorldS.empty sfSched).c 2).map (fun o => o.resp.cacheControl) = some [] := by decide +kernel

example : (obsOf (runSchedS { refFacts with sfMask := ⟨true, true, true, true, true, false⟩ } CWorldS.empty sfSched).c 2).map
    (fun o => o.resp.cacheControl) = some (b "public, max-age=3600") := by (repeat rw [b_ofList]); decide +kernel

def demoA : Req := demoHist.head!.1

/-- the probe without a cookie: its first `c.Redirect()` happens inside the handler (`ob`) -/
def demoB : Req :=
  ⟨b "GET", b "/q", b "h.example.com", [(b "n", b "x")], none, 0, [.ob, .bq, .to (b "/t")]⟩

/-- Two overlapping requests: A (id 1: plants view binding, local, flash message through its cookie,
    redirect message + status, binder mode, base URL) and the probe B (id 2). B acquires its context while
    A is running (two contexts outstanding); A finishes — its context and its Redirect go back to the
    pools — while B has not started its handler; B's `c.Redirect()` then receives the very Redirect
    object A has just released; a garbage collection drops A's context from the pool in between. -/
def demoSched : List Ev :=
  [.acquire 1 demoA ⟨0, 0⟩, .enter 1 0, .acquire 2 demoB ⟨0, 0⟩, .enter 2 0, .act 1 0, .act 1 0, .act 1 0,
   .act 1 0, .act 1 0, .act 1 0, .done 1 0, .gc 0 7, .act 2 0, .act 2 0, .act 2 0, .done 2 0]

/-- One run of the schedule, read three times: both requests finish, B second; the Redirect pool before and after
    B's `c.Redirect()`; B redirects with 302 and no flash cookie. The three examples below are its conjuncts in order. -/
theorem demo_sched_obs :
    ((runSched refFacts CWorld.empty demoSched).finished.map (·.1)) = [2, 1] ∧
    ((runSched refFacts CWorld.empty (demoSched.take 13)).reds.length = 0 ∧
      (runSched refFacts CWorld.empty (demoSched.take 12)).reds.length = 1) ∧
    (obsOf (runSched refFacts CWorld.empty demoSched) 2).map (fun o => (o.resp.status, o.resp.setFlash))
    = some (302, .none) := by decide +kernel

example : ((runSched refFacts CWorld.empty demoSched).finished.map (·.1)) = [2, 1] := demo_sched_obs.1

/-- B got A's Redirect object (the pool is empty again while B holds it), and still redirects with 302
    and no flash cookie -/
example : (runSched refFacts CWorld.empty (demoSched.take 13)).reds.length = 0 ∧
    (runSched refFacts CWorld.empty (demoSched.take 12)).reds.length = 1 := demo_sched_obs.2.1
example : (obsOf (runSched refFacts CWorld.empty demoSched) 2).map (fun o => (o.resp.status, o.resp.setFlash))
    = some (302, .none) := demo_sched_obs.2.2

/-- Sharpness: the same schedule leaks when `Redirect.release` does not reset the pooled object -/
example : (obsOf (runSched { refFacts with dStatus := false, dMessages := .none } CWorld.empty demoSched) 2).map
      (fun o => (o.resp.status, o.resp.setFlash))
    = some (301, .msgs [⟨b "k", b "v", 5, false⟩]) := by decide +kernel

end C05
