import FiberModel.C05.Store
import FiberModel.C05.Lemmas
/-
C05 — the store-threaded semantics (`Store.lean`) coincides with the store-free one (`Model.lean`, `Sched.lean`)
whenever `compareConfig` compares every field a cached entry depends on; the store stays well-formed (every
entry holds what its own configuration builds).
-/
namespace C05
open B

theorem actS_eq {m : SFMask} (hm : m.complete = true) {st : SFStore} (wf : st.WF)
    (rq : Req) (params : List Bytes) (fv : List Msg) (pick : Nat) (s : Live) (a : Act) :
    Transparent ((actS m rq params fv pick s st a).1 = act rq params fv pick s a) (actS m rq params fv pick s st a).2 := by
  cases a with
  | sf cfg hdr =>
    have h := serve_transparent hm wf cfg
    exact ⟨by simp only [actS, act, sendFile, h.eq], h.wf⟩
  | _ => exact ⟨rfl, wf⟩

theorem runScriptS_eq {m : SFMask} (hm : m.complete = true) (rq : Req) (params : List Bytes) (fv : List Msg) (pick : Nat)
    (sc : List Act) (s : Live) {st : SFStore} (wf : st.WF) :
    Transparent ((runScriptS m rq params fv pick s st sc).1 = runScript rq params fv pick s sc)
      (runScriptS m rq params fv pick s st sc).2 := by
  fun_induction runScriptS m rq params fv pick s st sc
  case case1 => exact ⟨rfl, wf⟩
  case case2 s st a rest ih =>
    have h := actS_eq hm wf rq params fv pick s a
    have h2 := ih h.wf
    exact ⟨by rw [h2.eq, h.eq]; rfl, h2.wf⟩

theorem stepActS_eq {m : SFMask} (hm : m.complete = true) {st : SFStore} (wf : st.WF)
    (f : Flight) (reds : List Redirect) (p : Nat) :
    Transparent ((f.stepActS m reds st p).1 = f.stepAct reds p) (f.stepActS m reds st p).2 := by
  fun_cases Flight.stepActS m f reds st p
  case case1 ht => exact ⟨(stepAct_nil ht reds p).symm, wf⟩
  case case2 a rest ht =>
    have h := actS_eq hm wf f.rq f.params f.fl.vis p { f.s with reds := reds } a
    exact ⟨by rw [stepAct_cons ht, h.eq], h.wf⟩

theorem completeS_eq {F : RFacts} (hm : F.sfMask.complete = true) {st : SFStore} (wf : st.WF)
    (g : Flight) (reds : List Redirect) (p : Nat) :
    Transparent ((g.completeS F reds st p).1 = g.complete F reds p) (g.completeS F reds st p).2 := by
  have h := runScriptS_eq hm (g.enter F reds p).1.rq (g.enter F reds p).1.params (g.enter F reds p).1.fl.vis p
    (g.enter F reds p).1.todo { (g.enter F reds p).1.s with reds := (g.enter F reds p).2 } wf
  unfold Flight.completeS Flight.complete
  exact ⟨by simp only [h.eq], h.wf⟩

theorem stepS_eq {F : RFacts} (hm : F.sfMask.complete = true) {ws : WorldS} (wf : ws.sfs.WF) (rq : Req) (pk : Pick) :
    Transparent ((stepS F ws rq pk).1.w = (step F ws.w rq pk).1 ∧ (stepS F ws rq pk).2 = (step F ws.w rq pk).2)
      (stepS F ws rq pk).1.sfs := by
  unfold stepS
  by_cases hb : rq.bad ≠ 0
  · rw [if_pos hb]
    refine ⟨⟨rfl, ?_⟩, wf⟩
    simp [step, hb]
  · rw [if_neg hb]
    have h := completeS_eq hm wf (Flight.acquire F (takeAt ws.w.ctxs pk.ctx Ctx.fresh).1 rq) ws.w.reds pk.red
    refine ⟨⟨?_, ?_⟩, h.wf⟩ <;> simp only [step, hb, if_false, serveOn, h.eq]

theorem runHistoryS_eq {F : RFacts} (hm : F.sfMask.complete = true) (hist : List (Req × Pick))
    {ws : WorldS} (wf : ws.sfs.WF) :
    Transparent ((runHistoryS F ws hist).w = runHistory F ws.w hist) (runHistoryS F ws hist).sfs := by
  fun_induction runHistoryS F ws hist
  case case1 => exact ⟨rfl, wf⟩
  case case2 ws rq pk rest ih =>
    have h := stepS_eq hm wf rq pk
    have h2 := ih h.wf
    exact ⟨by rw [runHistory, h2.eq, h.eq.1], h2.wf⟩

theorem probeAfterS_eq {F : RFacts} (hm : F.sfMask.complete = true) (hist : List (Req × Pick)) (probe : Req) (pk : Pick) :
    probeAfterS F hist probe pk = probeAfter F hist probe pk := by
  have h := runHistoryS_eq (F := F) hm hist (ws := WorldS.empty) wf_nil
  unfold probeAfterS probeAfter
  rw [(stepS_eq hm h.wf probe pk).eq.2, h.eq]
  rfl

theorem probeFreshS_eq {F : RFacts} (hm : F.sfMask.complete = true) (probe : Req) :
    probeFreshS F probe = probeFresh F probe :=
  probeAfterS_eq hm [] probe ⟨0, 0⟩

theorem cstepS_eq {F : RFacts} (hm : F.sfMask.complete = true) {ws : CWorldS} (wf : ws.sfs.WF) (e : EvS) :
    Transparent ((cstepS F ws e).c = (match e.plain with | some e => cstep F ws.c e | none => ws.c)) (cstepS F ws e).sfs := by
  fun_cases cstepS F ws e
  case case1 id p hl => exact ⟨by simp only [EvS.plain, cstep, hl], wf⟩
  case case2 id p f hl =>
    have h := stepActS_eq hm wf f ws.c.reds p
    exact ⟨by simp only [EvS.plain, cstep, hl, h.eq], h.wf⟩
  case case3 => exact ⟨rfl, wf⟩
  case case4 cfg => exact ⟨rfl, wf_append wf cfg⟩

theorem runSchedS_eq {F : RFacts} (hm : F.sfMask.complete = true) (evs : List EvS) {ws : CWorldS} (wf : ws.sfs.WF) :
    Transparent ((runSchedS F ws evs).c = runSched F ws.c (evs.filterMap EvS.plain)) (runSchedS F ws evs).sfs := by
  induction evs generalizing ws with
  | nil => exact ⟨rfl, wf⟩
  | cons e rest ih =>
    have h := cstepS_eq hm wf e
    have h2 := ih h.wf
    simp only [runSchedS, List.foldl_cons] at h2 ⊢
    refine ⟨?_, h2.wf⟩
    rw [h2.eq, h.eq]
    cases e <;> rfl

end C05
