import FiberModel.C05.Sched
import FiberModel.C05.Lemmas
/-
C05 — the invariant of the schedule theorems (`obsFresh`, `FlightOK`, `CWorld.Inv`; `World.toC`) and its proof:
every request in flight has a twin served alone on a fresh application; each atomic step keeps the two in
agreement up to garbage and keeps everything in the pools clean. Second half: the schedule in which one request
runs alone, computed (`cstep_acquire_solo`, `cstep_enter_solo`, `solo_rest`): it ends in the world of `Flight.complete`,
which is what makes a sequential `step` a schedule (`step_as_schedule`, Props).
-/
namespace C05
open B

/-- the observation of a request served alone by a fresh application -/
def obsFresh (F : RFacts) (rq : Req) : Obs := (serveOn F Ctx.fresh [] rq 0).2.2

/-- the hypothesis is what `CWorld.Inv.finished` says of an entry of the record -/
theorem probeFresh_eq {F : RFacts} {rq : Req} {o : Obs} (h : rq.bad = 0 ∧ o = obsFresh F rq) :
    some o = probeFresh F rq := by
  -- with `rq.bad = 0`, `step` on the empty world takes a fresh context and runs `serveOn` over the empty pool with
  -- pick 0: the term `obsFresh` is defined as
  simp [probeFresh, step, h.1, h.2, takeAt, World.empty, obsFresh]

/-- a request in flight agrees (up to garbage) with a twin whose uninterrupted completion is the
    request's service by a fresh application -/
def FlightOK (F : RFacts) (f : Flight) : Prop :=
  f.orig.bad = 0 ∧ ∃ g gr, Twin f g ∧ PoolClean gr ∧ (g.complete F gr 0).2.2 = obsFresh F f.orig

structure CWorld.Inv (F : RFacts) (w : CWorld) : Prop where
  ctxs : ∀ c ∈ w.ctxs, c.Clean
  reds : PoolClean w.reds
  flights : ∀ p ∈ w.flights, FlightOK F p.2
  finished : ∀ x ∈ w.finished, x.2.1.bad = 0 ∧ x.2.2 = obsFresh F x.2.1

/-- the concurrent world with nobody in flight -/
def World.toC (w : World) (fin : List (Nat × Req × Obs)) : CWorld := ⟨w.ctxs, w.reds, [], fin⟩

theorem World.Clean.toC_inv {w : World} (hw : w.Clean) (F : RFacts) : (w.toC []).Inv F :=
  ⟨hw.ctxs, hw.reds, fun _ h => (nomatch h), fun _ h => (nomatch h)⟩

theorem CWorld.Inv.flight {F : RFacts} {w : CWorld} (h : w.Inv F) {id : Nat} {f : Flight}
    (hf : w.flights.lookup id = some f) : FlightOK F f := by
  obtain ⟨l₁, l₂, e, -⟩ := List.lookup_eq_some_iff.mp hf
  exact h.flights _ (e ▸ List.mem_append_right _ List.mem_cons_self)

theorem setFlight_forall {P : Flight → Prop} {fs : List (Nat × Flight)} {id : Nat} {f : Flight}
    (hf : P f) (h : ∀ p ∈ fs, P p.2) : ∀ p ∈ setFlight fs id f, P p.2 := by
  refine List.forall_mem_map.mpr fun q hq => ?_
  split
  · exact hf
  · exact h q hq

theorem dropFlight_mem {fs : List (Nat × Flight)} {id : Nat} {p : Nat × Flight}
    (h : p ∈ dropFlight fs id) : p ∈ fs := (List.mem_filter.mp h).1

theorem flightOK_acquire {F : RFacts} (ok : F.Ok) (rq : Req) (hb : rq.bad = 0) {c0 : Ctx} (h : c0.Clean) :
    FlightOK F (Flight.acquire F c0 rq) :=
  ⟨hb, Flight.acquire F Ctx.fresh rq, [], acquire_twin ok rq h Ctx.fresh_clean, fun _ h => (nomatch h), rfl⟩

theorem flightOK_enter {F : RFacts} (ok : F.Ok) {f : Flight} (h : FlightOK F f) {reds : List Redirect}
    (hp : PoolClean reds) (p : Nat) :
    FlightOK F (f.enter F reds p).1 ∧ PoolClean (f.enter F reds p).2 := by
  obtain ⟨hb, g, gr, t, hg, hc⟩ := h
  -- the twin keeps its own pool and pick 0: `Twin` does not see which pooled object either side got
  have e := enter_twin F ok.flashDecodeWipes t reds gr p 0 hp hg
  refine ⟨⟨enter_orig F f reds p ▸ hb, (g.enter F gr 0).1, (g.enter F gr 0).2, e.1, e.2.2, ?_⟩, e.2.1⟩
  rw [complete_enter, enter_orig F f reds p]; exact hc

theorem flightOK_act {F : RFacts} {f : Flight} (h : FlightOK F f) {reds : List Redirect}
    (hp : PoolClean reds) (p : Nat) :
    FlightOK F (f.stepAct reds p).1 ∧ PoolClean (f.stepAct reds p).2 := by
  obtain ⟨hb, g, gr, t, hg, hc⟩ := h
  have e := stepAct_twin t reds gr p 0 hp hg
  refine ⟨⟨stepAct_orig f reds p ▸ hb, (g.stepAct gr 0).1, (g.stepAct gr 0).2, e.1, e.2.2, ?_⟩, e.2.1⟩
  rw [stepAct_orig, complete_act F g fun he => t.todo ▸ t.todoNil (t.entered.trans he)]
  exact hc

theorem CWorld.Inv.stepped {F : RFacts} {w : CWorld} (h : w.Inv F) (id : Nat) {f' : Flight} {reds' : List Redirect}
    (e : FlightOK F f' ∧ PoolClean reds') :
    CWorld.Inv F { w with reds := reds', flights := setFlight w.flights id f' } :=
  ⟨h.ctxs, e.2, setFlight_forall e.1 h.flights, h.finished⟩

/-- shared by `done` and `abort`, which differ only in the record they leave: `fin` is a parameter -/
theorem CWorld.Inv.retired {F : RFacts} (ok : F.Ok) {w : CWorld} (h : w.Inv F) (f : Flight) (id p : Nat)
    {fin : List (Nat × Req × Obs)} (hfin : ∀ x ∈ fin, x.2.1.bad = 0 ∧ x.2.2 = obsFresh F x.2.1) :
    CWorld.Inv F ⟨(f.retire F w.reds p).1 :: w.ctxs, (f.retire F w.reds p).2.1, dropFlight w.flights id, fin⟩ :=
  have rc := retire_clean ok f h.reds p
  ⟨List.forall_mem_cons.mpr ⟨rc.1, h.ctxs⟩, rc.2, fun q hq => h.flights q (dropFlight_mem hq), hfin⟩

theorem cstep_inv {F : RFacts} (ok : F.Ok) {w : CWorld} (h : w.Inv F) (e : Ev) : (cstep F w e).Inv F := by
  -- the cases are `cstep`'s own, in its order; those that leave the world as it is are at the end
  fun_cases cstep F w e
  case case2 id rq pc _ _ =>
    -- acquire, rejected: `serveBad` is a retirement
    have sb := retire_clean ok
      { Flight.acquire F (takeAt w.ctxs pc.ctx Ctx.fresh).1 rq with out := .notFound, entered := true } h.reds pc.red
    exact ⟨List.forall_mem_cons.mpr ⟨sb.1, (takeAt_forall Ctx.fresh_clean h.ctxs pc.ctx).2⟩, sb.2, h.flights, h.finished⟩
  case case3 id rq pc _ hb =>
    -- acquire, well-formed
    have t := takeAt_forall Ctx.fresh_clean h.ctxs pc.ctx
    exact ⟨t.2, h.reds,
      List.forall_mem_cons.mpr ⟨flightOK_acquire ok rq (Decidable.not_not.mp hb) t.1, h.flights⟩, h.finished⟩
  -- enter, act
  case case5 id p f hf => exact h.stepped id (flightOK_enter ok (h.flight hf) h.reds p)
  case case7 id p f hf => exact h.stepped id (flightOK_act (h.flight hf) h.reds p)
  case case9 id pr f hf hready =>
    -- done, ready
    simp only [Bool.and_eq_true, List.isEmpty_iff] at hready
    obtain ⟨hb, g, gr, t, hg, hc⟩ := h.flight hf
    refine h.retired ok f id pr (List.forall_mem_cons.mpr ⟨⟨hb, ?_⟩, h.finished⟩)
    -- the twin is ready as well, so its completion is its retirement
    rw [← hc, complete_of_done F g (t.entered ▸ hready.1) (t.todo ▸ hready.2) gr 0]
    exact retire_obs F t w.reds gr pr 0
  -- abort, gc
  case case12 id pr f _ => exact h.retired ok f id pr h.finished
  case case13 i j =>
    exact ⟨fun c hc => h.ctxs c (List.mem_of_mem_eraseIdx hc), fun r hr => h.reds r (List.mem_of_mem_eraseIdx hr),
           h.flights, h.finished⟩
  -- the id is in flight already (acquire) / is not in flight / is not ready (done)
  all_goals exact h

theorem runSched_inv {F : RFacts} (ok : F.Ok) (evs : List Ev) {w : CWorld} (h : w.Inv F) :
    (runSched F w evs).Inv F :=
  List.foldlRecOn (motive := CWorld.Inv F) evs _ h fun _ hw e _ => cstep_inv ok hw e

theorem stepAct_todo_length (f : Flight) (reds : List Redirect) (p : Nat) :
    (f.stepAct reds p).1.todo.length = f.todo.length - 1 := by
  cases h : f.todo with
  | nil => rw [stepAct_nil h, h]; rfl
  | cons a rest => rw [stepAct_cons h]; simp

theorem setFlight_single (id : Nat) (f f' : Flight) : setFlight [(id, f)] id f' = [(id, f')] := by
  simp [setFlight]

theorem solo_rest (F : RFacts) (cs : List Ctx) (fin : List (Nat × Req × Obs)) (id p : Nat) (n : Nat)
    (f : Flight) (reds : List Redirect) (he : f.entered = true) (hl : f.todo.length ≤ n) :
    runSched F ⟨cs, reds, [(id, f)], fin⟩ (List.replicate n (.act id p) ++ [.done id p]) =
      ⟨(f.complete F reds p).1 :: cs, (f.complete F reds p).2.1, [],
       (id, f.orig, (f.complete F reds p).2.2) :: fin⟩ := by
  induction n generalizing f reds with
  | zero =>
    have ht : f.todo = [] := List.length_eq_zero_iff.mp (Nat.le_zero.mp hl)
    rw [complete_of_done F f he ht]
    simp [runSched, cstep, he, ht, dropFlight]
  | succ n ih =>
    rw [List.replicate_succ, List.cons_append, runSched, List.foldl_cons]
    simp only [cstep, List.lookup_cons_self, setFlight_single]
    rw [← complete_act F f (by simp [he]) reds p, ← stepAct_orig f reds p]
    exact ih _ _ ((stepAct_entered f reds p).trans he) (by rw [stepAct_todo_length]; omega)

theorem enter_todo_le {F : RFacts} (ok : F.Ok) (c0 : Ctx) (rq : Req) (reds : List Redirect) (p : Nat) :
    ((Flight.acquire F c0 rq).enter F reds p).1.todo.length ≤ rq.script.length := by
  rw [acquire_of_ok ok]
  -- entered already (it is not); `notImplemented`: no script; otherwise the script only for a handler
  fun_cases Flight.enter F _ reds p
  case case1 h => cases h
  case case2 => exact Nat.zero_le _
  case case3 => cases outcome rq (methodIntOf rq.method) (-1) false <;> simp

theorem runSched_append (F : RFacts) (w : CWorld) (a b : List Ev) :
    runSched F w (a ++ b) = runSched F (runSched F w a) b := by
  simp [runSched, List.foldl_append]

theorem runSched_cons (F : RFacts) (w : CWorld) (e : Ev) (evs : List Ev) :
    runSched F w (e :: evs) = runSched F (cstep F w e) evs := rfl

theorem runSched_fixed {F : RFacts} {w : CWorld} {evs : List Ev} (h : ∀ e ∈ evs, cstep F w e = w) :
    runSched F w evs = w :=
  List.foldlRecOn (motive := (· = w)) evs _ rfl fun _ hw e he => hw.symm ▸ h e he

/-- a rejected request is served inside its `acquire` event: the sequential step; no flight is registered -/
theorem cstep_acquire_solo (F : RFacts) (w : World) (fin : List (Nat × Req × Obs)) (id : Nat) (rq : Req) (pk : Pick) :
    cstep F (w.toC fin) (.acquire id rq pk) =
      if rq.bad ≠ 0 then (step F w rq pk).1.toC fin
      else ⟨(takeAt w.ctxs pk.ctx Ctx.fresh).2, w.reds, [(id, Flight.acquire F (takeAt w.ctxs pk.ctx Ctx.fresh).1 rq)], fin⟩ := by
  by_cases hb : rq.bad ≠ 0 <;> simp [cstep, World.toC, step, hb]

theorem cstep_enter_solo (F : RFacts) (cs : List Ctx) (reds : List Redirect) (f : Flight)
    (fin : List (Nat × Req × Obs)) (id p : Nat) :
    cstep F ⟨cs, reds, [(id, f)], fin⟩ (.enter id p) = ⟨cs, (f.enter F reds p).2, [(id, (f.enter F reds p).1)], fin⟩ := by
  simp only [cstep, List.lookup_cons_self, setFlight_single]

theorem soloEvents_eq (id : Nat) (rq : Req) (pk : Pick) :
    soloEvents id rq pk = .acquire id rq pk :: .enter id pk.red ::
      (List.replicate rq.script.length (.act id pk.red) ++ [.done id pk.red]) := by
  simp [soloEvents, List.map_const']

end C05
