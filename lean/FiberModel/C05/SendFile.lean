import FiberModel.Basic
/-
C05 — `App.sendfiles`: an app-level, lazily filled cache reached from `c.SendFile`.

ctx.go `SendFile` keeps, per application, a list of `sendFileStore{config, handler, cacheControlValue}`:
the fasthttp FS handler built from a configuration (FS, Compress, ByteRange, CacheDuration) and the
Cache-Control value (MaxAge). A call looks for the first entry whose `compareConfig(cfg)` says "same
configuration" (under RLock) and, on a miss, builds an entry from `cfg` and appends it (under Lock).
This is state shared between all requests of the app. It cannot carry anything from one request into
another exactly when it is a transparent memo table: the comparison looks at every field the cached value
depends on, so what a lookup returns is what the request would have built itself.

Which fields `compareConfig` compares is a regenerated fact (`Facts.sendFileCompared`, one row per field
of the `SendFile` struct); `SFMask` is that table.
-/
namespace C05
open B

/-- a `SendFile` configuration (harness vocabulary: FS 0 none / 1 directory A / 2 directory B;
    CacheDuration and MaxAge as the values themselves) -/
structure SFCfg where
  fs : Nat
  compress : Bool
  byteRange : Bool
  download : Bool
  cacheDur : Nat
  maxAge : Nat
  deriving DecidableEq, Repr, Inhabited

/-- which fields `compareConfig` compares -/
structure SFMask where
  fs : Bool
  compress : Bool
  byteRange : Bool
  download : Bool
  cacheDur : Bool
  maxAge : Bool
  deriving DecidableEq, Repr, Inhabited

/-- ctx.go `(*sendFileStore).compareConfig` -/
def SFMask.same (m : SFMask) (a b : SFCfg) : Bool :=
  (!m.fs || a.fs == b.fs) && (!m.compress || a.compress == b.compress) && (!m.byteRange || a.byteRange == b.byteRange) &&
  (!m.download || a.download == b.download) && (!m.cacheDur || a.cacheDur == b.cacheDur) && (!m.maxAge || a.maxAge == b.maxAge)

/-- what an entry holds: the parameters of the fasthttp FS handler and the Cache-Control value -/
structure SFVal where
  fs : Nat
  compress : Bool
  byteRange : Bool
  cacheDur : Nat
  maxAge : Nat
  deriving DecidableEq, Repr, Inhabited

/-- the entry `SendFile` builds from a configuration on a miss (`Download` is not part of it: the
    Content-Disposition header is set from the caller's own configuration) -/
def sfVal (c : SFCfg) : SFVal :=
  { fs := c.fs, compress := c.compress, byteRange := c.byteRange, cacheDur := c.cacheDur, maxAge := c.maxAge }

abbrev SFStore := List (SFCfg × SFVal)

/-- the read half of `SendFile`: first entry `compareConfig` accepts -/
def SFStore.lookup (m : SFMask) (st : SFStore) (c : SFCfg) : Option SFVal :=
  (st.find? fun e => m.same e.1 c).map (·.2)

/-- the two halves are separate critical sections: two requests with the same new configuration may both
    miss and both append -/
inductive SFOp where
  | serve (c : SFCfg)      -- lookup; on a miss build and append
  | append (c : SFCfg)     -- the append of a request that missed earlier
  deriving Repr

def SFStore.serve (m : SFMask) (st : SFStore) (c : SFCfg) : SFVal × SFStore :=
  match st.lookup m c with
  | some v => (v, st)
  | none => (sfVal c, st ++ [(c, sfVal c)])

def SFStore.step (m : SFMask) (st : SFStore) : SFOp → SFStore
  | .serve c => (st.serve m c).2
  | .append c => st ++ [(c, sfVal c)]

def SFStore.run (m : SFMask) (st : SFStore) (ops : List SFOp) : SFStore := ops.foldl (SFStore.step m) st

/-- every field the cached value depends on is compared -/
def SFMask.complete (m : SFMask) : Bool := m.fs && m.compress && m.byteRange && m.cacheDur && m.maxAge

def SFStore.WF (st : SFStore) : Prop := ∀ e ∈ st, e.2 = sfVal e.1

theorem same_sfVal {m : SFMask} (hm : m.complete = true) {a b : SFCfg} (h : m.same a b = true) : sfVal a = sfVal b := by
  simp only [SFMask.complete, Bool.and_eq_true] at hm
  obtain ⟨⟨⟨⟨h1, h2⟩, h3⟩, h4⟩, h5⟩ := hm
  simp only [SFMask.same, h1, h2, h3, h4, h5, Bool.not_true, Bool.false_or, Bool.and_eq_true, beq_iff_eq] at h
  obtain ⟨⟨⟨⟨⟨e1, e2⟩, e3⟩, _⟩, e5⟩, e6⟩ := h
  simp [sfVal, e1, e2, e3, e5, e6]

theorem lookup_transparent {m : SFMask} (hm : m.complete = true) {st : SFStore} (wf : st.WF) (c : SFCfg) (v : SFVal)
    (h : st.lookup m c = some v) : v = sfVal c := by
  obtain ⟨e, hf, rfl⟩ := Option.map_eq_some_iff.mp h
  have hs := List.find?_some hf
  exact (wf e (List.mem_of_find?_eq_some hf)).trans (same_sfVal hm hs)

theorem wf_nil : SFStore.WF [] := fun _ h => nomatch h

theorem wf_append {st : SFStore} (wf : st.WF) (c : SFCfg) : SFStore.WF (st ++ [(c, sfVal c)]) :=
  List.forall_mem_append.mpr ⟨wf, List.forall_mem_singleton.mpr rfl⟩

/-- What a call on the store, and every layer of the store-threaded semantics above it (`StoreLemmas.lean`), keeps:
    its result is the store-free one (`eq`), and the store it leaves is well-formed (`wf`), so the next lookup
    is transparent again. -/
structure Transparent (P : Prop) (st : SFStore) : Prop where
  eq : P
  wf : st.WF

theorem serve_transparent {m : SFMask} (hm : m.complete = true) {st : SFStore} (wf : st.WF) (c : SFCfg) :
    Transparent ((st.serve m c).1 = sfVal c) (st.serve m c).2 := by
  fun_cases SFStore.serve m st c
  case case1 v h => exact ⟨lookup_transparent hm wf c v h, wf⟩
  case case2 => exact ⟨rfl, wf_append wf c⟩

theorem run_wf {m : SFMask} (hm : m.complete = true) (ops : List SFOp) {st : SFStore} (wf : st.WF) : (st.run m ops).WF :=
  List.foldlRecOn (motive := SFStore.WF) ops _ wf fun _ wf op _ =>
    match op with
    | .serve c => (serve_transparent hm wf c).wf
    | .append c => wf_append wf c

end C05
