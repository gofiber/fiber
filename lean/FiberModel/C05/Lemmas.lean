import FiberModel.C05.Model
/-
C05 — what Props.lean is stated with (`RFacts.ok`; `Ctx.Clean`, `Redirect.Clean`, `PoolClean`, `World.Clean`;
`Live.core`, `Twin`) and why nothing a request does can read the garbage of a pooled object (spare capacity,
stale `values`, routing scratch, which object the pool hands out) when the table digest is in order.
-/
namespace C05
open B

def emptiesSlice : Assign → Bool
  | .reslice0 | .cleared | .zero => true
  | _ => false

/-- Every per-request field is assigned by Reset or emptied by release, the life-cycle calls are in
    place, and the flash decoder wipes the reused slice before decoding into it. -/
def RFacts.ok (F : RFacts) : Bool :=
  F.rFasthttp && F.rBaseURI && F.rPathOriginal && F.rPath && F.rDetectionPath && F.rTreePathHash &&
  F.rIndexRoute && F.rIndexHandler && F.rMethodInt && F.rMatched &&
  F.lRoute && F.lBind && F.lRedirect && F.lViewBind && emptiesSlice F.lFlash &&
  emptiesSlice F.dMessages && F.dStatus &&
  F.lc.acquireResets && F.lc.releaseBeforePut && F.lc.handlerDefersRelease &&
  F.lc.redirectReleaseBeforePut && F.lc.ctxReleaseReturnsRedirect && F.lc.flashDecodeWipes &&
  -- structural facts the model takes for granted: pooled objects only leave / enter the pools through
  -- Acquire* / Release*; the route-parameter slots are written before they are read (Values.lean)
  F.lc.poolOpsConfined && F.lc.starWritesSlot0 && F.lc.getMatchWritesBeforeRead && F.lc.paramsReadsRouteSlots &&
  -- App.sendfiles is a transparent memo table (SendFile.lean): compareConfig compares every field of the
  -- SendFile struct and an entry is keyed by the configuration it was built from
  F.sfAllCompared && F.sfMask.complete && F.lc.sendFileStoresOwnConfig

/-- The conjuncts of `RFacts.ok` that the proofs use, by name: the lemmas of this directory assume these, and the
    theorems of `Props.lean` get them from `F.ok = true` (`ok_fields`). The other six are shape facts the model
    has built in. -/
structure RFacts.Ok (F : RFacts) : Prop where
  rFasthttp : F.rFasthttp = true
  rBaseURI : F.rBaseURI = true
  rPathOriginal : F.rPathOriginal = true
  rPath : F.rPath = true
  rDetectionPath : F.rDetectionPath = true
  rTreePathHash : F.rTreePathHash = true
  rIndexRoute : F.rIndexRoute = true
  rIndexHandler : F.rIndexHandler = true
  rMethodInt : F.rMethodInt = true
  rMatched : F.rMatched = true
  lRoute : F.lRoute = true
  lBind : F.lBind = true
  lRedirect : F.lRedirect = true
  lViewBind : F.lViewBind = true
  lFlash : emptiesSlice F.lFlash = true
  dMessages : emptiesSlice F.dMessages = true
  dStatus : F.dStatus = true
  acquireResets : F.lc.acquireResets = true
  releaseBeforePut : F.lc.releaseBeforePut = true
  handlerDefersRelease : F.lc.handlerDefersRelease = true
  redirectReleaseBeforePut : F.lc.redirectReleaseBeforePut = true
  ctxReleaseReturnsRedirect : F.lc.ctxReleaseReturnsRedirect = true
  flashDecodeWipes : F.lc.flashDecodeWipes = true
  sfComplete : F.sfMask.complete = true

theorem ok_fields {F : RFacts} (h : F.ok = true) : F.Ok := by
  simp only [RFacts.ok, Bool.and_eq_true] at h
  constructor <;> simp only [h]

/-- what `release` leaves of a context: nothing of the request, except garbage nobody can read -/
structure Ctx.Clean (c : Ctx) : Prop where
  route : c.route = none
  bind : c.bind = none
  redirect : c.redirect = none
  viewBind : c.viewBind = []
  flash : c.flash.vis = []

def Redirect.Clean (r : Redirect) : Prop := r.status = 302 ∧ r.msgs.vis = []

def PoolClean (reds : List Redirect) : Prop := ∀ r ∈ reds, r.Clean

structure World.Clean (w : World) : Prop where
  ctxs : ∀ c ∈ w.ctxs, c.Clean
  reds : PoolClean w.reds

theorem Ctx.fresh_clean : Ctx.fresh.Clean := ⟨rfl, rfl, rfl, rfl, rfl⟩
theorem Redirect.fresh_clean : Redirect.fresh.Clean := ⟨rfl, rfl⟩
theorem World.empty_clean : World.empty.Clean := ⟨fun _ h => (nomatch h), fun _ h => (nomatch h)⟩

theorem applyRelease_vis {k : Assign} (h : emptiesSlice k = true) (s : Slice) : (applyRelease k s).vis = [] := by
  cases k with
  | reslice0 | cleared | zero => rfl
  | _ => cases h

theorem takeAt_forall {α : Type} {pool : List α} {new : α} {P : α → Prop} (hnew : P new)
    (hp : ∀ x ∈ pool, P x) (i : Nat) : P (takeAt pool i new).1 ∧ ∀ x ∈ (takeAt pool i new).2, P x := by
  fun_cases takeAt pool i new
  case case1 x hx => exact ⟨hp x (List.mem_of_getElem? hx), fun y hy => hp y (List.mem_of_mem_eraseIdx hy)⟩
  case case2 => exact ⟨hnew, hp⟩

theorem getD_append_left (vs rest : List Bytes) (i : Nat) (h : i < vs.length) :
    (vs ++ rest).getD i [] = vs.getD i [] := by
  simp [List.getD, List.getElem?_append_left h]

theorem writeValues_params (vs old : List Bytes) : readParams (writeValues vs old) vs.length = vs := by
  unfold readParams writeValues
  apply List.ext_getElem
  · rw [List.length_map, List.length_range]
  · intro i _ h
    rw [List.getElem_map, List.getElem_range, getD_append_left vs _ i h, List.getD_eq_getElem?_getD,
      List.getElem?_eq_getElem h, Option.getD_some]

theorem zipWith_replicate_length {α β γ : Type} (f : α → β → γ) (l : List α) (b : β) :
    List.zipWith f l (List.replicate l.length b) = l.map (f · b) := by
  rw [← List.map_const', List.zipWith_map_right, List.zipWith_self]

theorem decodeInto_zeros_vis (k : Nat) (ps : List PMsg) :
    (decodeInto (List.replicate k Msg.zero) ps).vis = ps.map (·.over Msg.zero) := by
  unfold decodeInto
  simp only [List.length_replicate]
  split
  · rename_i h
    rw [List.take_replicate, Nat.min_eq_left h, zipWith_replicate_length]
  · rw [List.take_replicate, Nat.min_self, zipWith_replicate_length]

theorem flashStep_indep (F : RFacts) (hw : F.lc.flashDecodeWipes = true) (v : Bytes) (fl fl' : Slice)
    (h : fl.vis = fl'.vis) :
    (flashStep F v fl).1.vis = (flashStep F v fl').1.vis ∧ (flashStep F v fl).2 = (flashStep F v fl').2 := by
  unfold flashStep
  by_cases hv : v = []
  · simp [hv, h]
  · simp only [hv, if_false, hw, if_true, List.map_const']
    cases parseFlash v <;> simp [decodeInto_zeros_vis]

/-- the part of a pooled Redirect a request can see -/
def Redirect.view (r : Redirect) : Nat × List Msg := (r.status, r.msgs.vis)

/-- the handler state without the garbage: no spare capacity, no pool -/
structure Core where
  bind : Option Bool
  redirect : Option (Nat × List Msg)
  viewBind : List (Bytes × Bytes)
  baseURI : Bytes
  locals : List (Bytes × Bytes)
  resp : Resp
  seen : Option Seen
  err : Option Nat

def Live.core (s : Live) : Core :=
  { bind := s.bind, redirect := s.redirect.map Redirect.view, viewBind := s.viewBind, baseURI := s.baseURI,
    locals := s.locals, resp := s.resp, seen := s.seen, err := s.err }

/-- Agreement up to garbage: the second state is the first with another attached Redirect of the same
    view and another pool. Substituting it turns every other field into the same term on both sides. -/
theorem core_eq_iff {s s' : Live} : s.core = s'.core ↔
    ∃ r reds, s' = { s with redirect := r, reds := reds } ∧ s.redirect.map Redirect.view = r.map Redirect.view := by
  constructor
  · intro h
    cases s; cases s'
    simp only [Live.core, Core.mk.injEq] at h
    obtain ⟨rfl, h2, rfl, rfl, rfl, rfl, rfl, rfl⟩ := h
    exact ⟨_, _, rfl, h2⟩
  · rintro ⟨r, reds, rfl, hr⟩
    exact congrArg (Core.mk _ · _ _ _ _ _ _) hr

theorem withRedirect_clean (s : Live) (p : Nat) (hp : PoolClean s.reds) : PoolClean (s.withRedirect p).1.reds := by
  unfold Live.withRedirect
  split
  · exact hp
  · exact (takeAt_forall Redirect.fresh_clean hp p).2

/-- The two Redirects show the same view: attached ones by hypothesis, pooled ones because they are clean,
    whichever objects they are. -/
theorem withRedirect_sim (s s' : Live) (p p' : Nat) (h : s.core = s'.core)
    (hp : PoolClean s.reds) (hp' : PoolClean s'.reds) :
    ∃ t r r' reds', s.withRedirect p = (t, r) ∧
      s'.withRedirect p' = ({ t with redirect := some r', reds := reds' }, r') ∧
      t.redirect = some r ∧ r.view = r'.view := by
  obtain ⟨q, reds', rfl, hr⟩ := core_eq_iff.mp h
  unfold Live.withRedirect
  cases hs : s.redirect with
  | some r =>
    rw [hs] at hr
    cases q with
    | none => cases hr
    | some r' => exact ⟨s, r, r', reds', rfl, rfl, hs, Option.some.inj hr⟩
  | none =>
    rw [hs] at hr
    cases q with
    | some r' => cases hr
    | none =>
      have c := (takeAt_forall Redirect.fresh_clean hp p).1
      have c' := (takeAt_forall Redirect.fresh_clean hp' p').1
      exact ⟨_, _, _, _, rfl, rfl, rfl, Prod.ext (c.1.trans c'.1.symm) (c.2.trans c'.2.symm)⟩

theorem withMsg_vis_congr {a a' : Slice} (h : a.vis = a'.vis) (k v : Bytes) (l : Nat) :
    (withMsg a k v l).vis = (withMsg a' k v l).vis := by
  unfold withMsg
  rw [h]
  split <;> simp [Slice.push, h]

theorem foldl_push_vis {α : Type} (g : α → Msg) (l : List α) (a : Slice) :
    (l.foldl (fun sl x => sl.push (g x)) a).vis = a.vis ++ l.map g := by
  induction l generalizing a with
  | nil => simp
  | cons x l ih =>
    rw [List.foldl_cons, ih]
    simp [Slice.push]

theorem act_sh (rq : Req) (params : List Bytes) (fv : List Msg) (p : Nat) (s : Live) (k v : Bytes) :
    act rq params fv p s (.sh k v) =
      { s with resp := if k = b "X-A" then { s.resp with xa := some v }
                       else if k = b "X-B" then { s.resp with xb := some v } else s.resp } := by
  show (if k = b "X-A" then _ else if k = b "X-B" then _ else s : Live) = _
  -- by hand: `split` on these tests is several times slower to check
  by_cases h1 : k = b "X-A"
  · rw [if_pos h1, if_pos h1]
  · rw [if_neg h1, if_neg h1]
    by_cases h2 : k = b "X-B"
    · rw [if_pos h2, if_pos h2]
    · rw [if_neg h2, if_neg h2]

theorem act_clean (rq : Req) (params : List Bytes) (fv : List Msg) (p : Nat) (s : Live) (a : Act)
    (hp : PoolClean s.reds) : PoolClean (act rq params fv p s a).reds := by
  cases a with
  | wi _ _ _ | inp | rs _ | to _ | ob => exact withRedirect_clean s p hp
  | sh k v => rw [act_sh]; exact hp
  | _ => exact hp

theorem act_sim (rq : Req) (params : List Bytes) (fv : List Msg) (p p' : Nat) (s s' : Live) (a : Act)
    (h : s.core = s'.core) (hp : PoolClean s.reds) (hp' : PoolClean s'.reds) :
    (act rq params fv p s a).core = (act rq params fv p' s' a).core := by
  obtain ⟨t, r, r', reds', e, e', htr, hv⟩ := withRedirect_sim s s' p p' h hp hp'
  obtain ⟨hs, hm⟩ := Prod.mk.inj hv
  obtain ⟨q, reds'', rfl, hr⟩ := core_eq_iff.mp h
  -- Redirect actions: rewrite both `withRedirect`s; the two sides then differ in the Redirects' views only
  cases a with
  | wi k v l => simp only [act, e, e', Live.core, Option.map_some, Redirect.view, hs, withMsg_vis_congr hm]
  | inp => simp only [act, e, e', Live.core, Option.map_some, Redirect.view, hs, foldl_push_vis, hm]
  | rs n => simp only [act, e, e', Live.core, Option.map_some, Redirect.view, hm]
  | to q => simp only [act, e, e', Live.core, htr, Option.map_some, hv, hs, hm]
  | ob => simp only [act, e, e', Live.core, htr, Option.map_some, hv]
  | sh k v =>
    -- an `if` on the whole state, not a record update: through its equation
    rw [act_sh, act_sh]
    exact core_eq_iff.mpr ⟨q, reds'', rfl, hr⟩
  | _ =>
    -- the action touches neither the attached Redirect nor the pool
    exact core_eq_iff.mpr ⟨q, reds'', rfl, hr⟩

theorem runScript_clean (rq : Req) (params : List Bytes) (fv : List Msg) (p : Nat) (sc : List Act) (s : Live)
    (hp : PoolClean s.reds) : PoolClean (runScript rq params fv p s sc).reds :=
  List.foldlRecOn (motive := fun s => PoolClean s.reds) sc _ hp fun s hs a _ => act_clean rq params fv p s a hs

/-- what of two contexts must agree for the handler chain to behave the same -/
structure CtxSim (c c' : Ctx) : Prop where
  methodInt : c.methodInt = c'.methodInt
  indexRoute : c.indexRoute = c'.indexRoute
  matched : c.matched = c'.matched
  baseURI : c.baseURI = c'.baseURI
  bind : c.bind = c'.bind
  redirect : c.redirect.map Redirect.view = c'.redirect.map Redirect.view
  viewBind : c.viewBind = c'.viewBind
  flash : c.flash.vis = c'.flash.vis

theorem start_core {c c' : Ctx} (h : CtxSim c c') (reds reds' : List Redirect) :
    (Live.start c reds).core = (Live.start c' reds').core := by
  simp [Live.start, Live.core, h.baseURI, h.bind, h.redirect, h.viewBind]

theorem flashStage_sim (F : RFacts) (hw : F.lc.flashDecodeWipes = true) (cookie : Option Bytes) (p p' : Nat)
    (s s' : Live) (fl fl' : Slice) (h : s.core = s'.core) (hf : fl.vis = fl'.vis)
    (hp : PoolClean s.reds) (hp' : PoolClean s'.reds) :
    (flashStage F cookie p s fl).1.core = (flashStage F cookie p' s' fl').1.core ∧
    (flashStage F cookie p s fl).2.vis = (flashStage F cookie p' s' fl').2.vis ∧
    PoolClean (flashStage F cookie p s fl).1.reds ∧ PoolClean (flashStage F cookie p' s' fl').1.reds := by
  cases cookie with
  | none => exact ⟨h, hf, hp, hp'⟩
  | some v =>
    obtain ⟨t, r, r', reds', e, e', htr, hv⟩ := withRedirect_sim s s' p p' h hp hp'
    obtain ⟨f1, f2⟩ := flashStep_indep F hw v fl fl' hf
    have hc := withRedirect_clean s p hp
    have hc' := withRedirect_clean s' p' hp'
    rw [e] at hc
    rw [e'] at hc'
    simp only [flashStage, e, e']
    exact ⟨by simp only [Live.core, htr, Option.map_some, hv, f2], f1, hc, hc'⟩

theorem reset_of_ok {F : RFacts} (ok : F.Ok) (rq : Req) (c : Ctx) :
    reset F rq c =
      { c with indexRoute := -1, indexHandler := 0, matched := false, pathOriginal := rq.path,
               methodInt := methodIntOf rq.method, fasthttp := some rq, baseURI := [], path := rq.path,
               detectionPath := rq.path, treePathHash := hash3 rq.path } := by
  simp only [reset, ok.rFasthttp, ok.rBaseURI, ok.rPathOriginal, ok.rPath, ok.rDetectionPath, ok.rTreePathHash,
    ok.rIndexRoute, ok.rIndexHandler, ok.rMethodInt, ok.rMatched, if_true]

theorem reset_sim {F : RFacts} (ok : F.Ok) (rq : Req) {c0 c0' : Ctx} (h : c0.Clean) (h' : c0'.Clean) :
    CtxSim (reset F rq c0) (reset F rq c0') := by
  rw [reset_of_ok ok, reset_of_ok ok]
  exact ⟨rfl, rfl, rfl, rfl, h.bind.trans h'.bind.symm, by rw [h.redirect, h'.redirect],
         h.viewBind.trans h'.viewBind.symm, h.flash.trans h'.flash.symm⟩

theorem released_clean {F : RFacts} (ok : F.Ok) (r : Redirect) : (r.released F).Clean :=
  ⟨by simp only [Redirect.released, ok.dStatus, if_true], applyRelease_vis ok.dMessages _⟩

theorem release_clean {F : RFacts} (ok : F.Ok) (c : Ctx) : (release F c).Clean := by
  refine ⟨?_, ?_, ?_, ?_, applyRelease_vis ok.lFlash _⟩ <;>
    simp only [release, ok.lRoute, ok.lBind, ok.lRedirect, ok.lViewBind, if_true]

theorem enter_of_entered (F : RFacts) {f : Flight} (h : f.entered = true) (reds : List Redirect) (p : Nat) :
    f.enter F reds p = (f, reds) := by
  unfold Flight.enter; simp [h]

theorem enter_notImpl (F : RFacts) {f : Flight} (he : f.entered = false) (ho : f.out = .notImplemented)
    (reds : List Redirect) (p : Nat) :
    f.enter F reds p = ({ f with s := { f.s with reds := reds }, entered := true }, reds) := by
  unfold Flight.enter
  simp only [he, Bool.false_eq_true, if_false, ho]

theorem enter_run (F : RFacts) {f : Flight} (he : f.entered = false) (ho : f.out ≠ .notImplemented)
    (reds : List Redirect) (p : Nat) :
    f.enter F reds p =
      ({ f with s := { (flashStage F f.rq.flash p { f.s with reds := reds } f.fl).1 with
                       resp := { (flashStage F f.rq.flash p { f.s with reds := reds } f.fl).1.resp with mw := true } },
                fl := (flashStage F f.rq.flash p { f.s with reds := reds } f.fl).2, entered := true,
                values := (match f.out with | .handler _ vs => writeValues vs f.values | _ => f.values),
                todo := (match f.out with | .handler _ _ => f.rq.script | _ => []) },
       (flashStage F f.rq.flash p { f.s with reds := reds } f.fl).1.reds) := by
  fun_cases Flight.enter F f reds p
  case case1 h => cases he.symm.trans h
  case case2 h => exact absurd h ho
  case case3 => rfl

theorem enter_entered (F : RFacts) (f : Flight) (reds : List Redirect) (p : Nat) :
    (f.enter F reds p).1.entered = true := by
  fun_cases Flight.enter F f reds p
  case case1 h => exact h
  all_goals rfl

theorem enter_orig (F : RFacts) (f : Flight) (reds : List Redirect) (p : Nat) :
    (f.enter F reds p).1.orig = f.orig := by
  fun_cases Flight.enter F f reds p <;> rfl

theorem stepAct_entered (f : Flight) (reds : List Redirect) (p : Nat) :
    (f.stepAct reds p).1.entered = f.entered := by
  fun_cases Flight.stepAct f reds p <;> rfl

theorem stepAct_orig (f : Flight) (reds : List Redirect) (p : Nat) : (f.stepAct reds p).1.orig = f.orig := by
  fun_cases Flight.stepAct f reds p <;> rfl

/-- what two flights of the same request must agree on for everything observable to agree: the
    handler state up to garbage, the visible flash messages, what `Params` returns. Not compared: spare
    capacity of slices, `c.values` beyond the matched route's slots, routing scratch, pools. -/
structure Twin (f g : Flight) : Prop where
  orig : f.orig = g.orig
  rq : f.rq = g.rq
  out : f.out = g.out
  todo : f.todo = g.todo
  entered : f.entered = g.entered
  core : f.s.core = g.s.core
  flash : f.fl.vis = g.fl.vis
  params : f.entered = true → f.params = g.params
  todoNil : f.entered = false → f.todo = []

theorem acquire_of_ok {F : RFacts} (ok : F.Ok) (c0 : Ctx) (rq : Req) :
    Flight.acquire F c0 rq =
      { orig := rq, rq := rq, c := reset F rq c0, out := outcome rq (methodIntOf rq.method) (-1) false,
        s := Live.start (reset F rq c0) [], fl := (reset F rq c0).flash, values := (reset F rq c0).values,
        todo := [], entered := false } := by
  simp only [Flight.acquire, ok.acquireResets, if_true]
  rw [reset_of_ok ok]
  rfl

theorem acquire_twin {F : RFacts} (ok : F.Ok) (rq : Req) {c0 c0' : Ctx} (h : c0.Clean) (h' : c0'.Clean) :
    Twin (Flight.acquire F c0 rq) (Flight.acquire F c0' rq) := by
  have rsim := reset_sim ok rq h h'
  rw [acquire_of_ok ok, acquire_of_ok ok]
  exact ⟨rfl, rfl, rfl, rfl, rfl, start_core rsim [] [], rsim.flash, fun he => (nomatch he), fun _ => rfl⟩

theorem enter_twin (F : RFacts) (hw : F.lc.flashDecodeWipes = true) {f g : Flight} (t : Twin f g)
    (reds reds' : List Redirect) (p p' : Nat) (hp : PoolClean reds) (hp' : PoolClean reds') :
    Twin (f.enter F reds p).1 (g.enter F reds' p').1 ∧
    PoolClean (f.enter F reds p).2 ∧ PoolClean (g.enter F reds' p').2 := by
  cases he : f.entered with
  | true =>
    rw [enter_of_entered F he, enter_of_entered F (t.entered ▸ he)]
    exact ⟨t, hp, hp'⟩
  | false =>
    have he' : g.entered = false := t.entered ▸ he
    by_cases ho : f.out = .notImplemented
    · have ho' : g.out = .notImplemented := t.out ▸ ho
      rw [enter_notImpl F he ho, enter_notImpl F he' ho']
      exact ⟨⟨t.orig, t.rq, t.out, t.todo, rfl, t.core, t.flash, fun _ => by simp only [Flight.params, ho, ho'],
        fun h => nomatch h⟩, hp, hp'⟩
    · have ho' : g.out ≠ .notImplemented := t.out ▸ ho
      obtain ⟨f1, f2, f3, f4⟩ := flashStage_sim F hw f.rq.flash p p' { f.s with reds := reds } { g.s with reds := reds' }
        f.fl g.fl t.core t.flash hp hp'
      rw [enter_run F he ho, enter_run F he' ho', ← t.rq, ← t.out]
      refine ⟨⟨t.orig, rfl, rfl, rfl, rfl,
        congrArg (fun c : Core => { c with resp := { c.resp with mw := true } }) f1, f2, fun _ => ?_,
        fun h => nomatch h⟩, f3, f4⟩
      -- `Params` reads back exactly the slots the match has just written
      simp only [Flight.params]
      cases f.out with
      | handler id vs => exact (writeValues_params vs _).trans (writeValues_params vs _).symm
      | _ => rfl

theorem stepAct_nil {f : Flight} (h : f.todo = []) (reds : List Redirect) (p : Nat) : f.stepAct reds p = (f, reds) := by
  unfold Flight.stepAct; rw [h]

theorem stepAct_cons {f : Flight} {a : Act} {rest : List Act} (h : f.todo = a :: rest) (reds : List Redirect) (p : Nat) :
    f.stepAct reds p = ({ f with s := act f.rq f.params f.fl.vis p { f.s with reds := reds } a, todo := rest },
                        (act f.rq f.params f.fl.vis p { f.s with reds := reds } a).reds) := by
  unfold Flight.stepAct; rw [h]

theorem stepAct_twin {f g : Flight} (t : Twin f g) (reds reds' : List Redirect) (p p' : Nat)
    (hp : PoolClean reds) (hp' : PoolClean reds') :
    Twin (f.stepAct reds p).1 (g.stepAct reds' p').1 ∧
    PoolClean (f.stepAct reds p).2 ∧ PoolClean (g.stepAct reds' p').2 := by
  cases hgt : g.todo with
  | nil =>
    rw [stepAct_nil (t.todo ▸ hgt), stepAct_nil hgt]
    exact ⟨t, hp, hp'⟩
  | cons a rest =>
    have hft : f.todo = a :: rest := t.todo ▸ hgt
    -- a script is only there after the match: until then `values`, hence `params`, may differ and nothing reads them
    have he : f.entered = true := by
      cases hfe : f.entered with
      | true => rfl
      | false => rw [t.todoNil hfe] at hft; cases hft
    rw [stepAct_cons hft, stepAct_cons hgt, t.rq, t.params he, t.flash]
    exact ⟨⟨t.orig, rfl, t.out, rfl, t.entered, act_sim _ _ _ p p' _ _ a t.core hp hp', t.flash,
             fun _ => t.params he, fun h => nomatch he.symm.trans h⟩,
           act_clean _ _ _ p _ a hp, act_clean _ _ _ p' _ a hp'⟩

theorem resp_twin {f g : Flight} (t : Twin f g) : f.resp = g.resp := by
  obtain ⟨r, reds, hs, -⟩ := core_eq_iff.mp t.core
  unfold Flight.resp
  rw [← t.out, ← t.rq, hs]
  cases f.out <;> rfl

theorem retire_obs (F : RFacts) {f g : Flight} (t : Twin f g) (reds reds' : List Redirect) (p p' : Nat) :
    (f.retire F reds p).2.2 = (g.retire F reds' p').2.2 := by
  have hseen : f.s.seen = g.s.seen := congrArg Core.seen t.core
  simp only [Flight.retire, resp_twin t, hseen]

theorem atEnd_clean (f : Flight) {reds : List Redirect} (hp : PoolClean reds) (p : Nat) : PoolClean (f.atEnd reds p).reds := by
  unfold Flight.atEnd
  split
  · exact runScript_clean _ _ _ p plantActs _ hp
  · exact hp

theorem retire_clean {F : RFacts} (ok : F.Ok) (f : Flight) {reds : List Redirect} (hp : PoolClean reds) (p : Nat) :
    (f.retire F reds p).1.Clean ∧ PoolClean (f.retire F reds p).2.1 := by
  have hc := atEnd_clean f hp p
  simp only [Flight.retire, ok.releaseBeforePut, ok.handlerDefersRelease, ok.redirectReleaseBeforePut,
    ok.ctxReleaseReturnsRedirect, ok.lRedirect, Bool.and_self, if_true]
  refine ⟨release_clean ok _, ?_⟩
  split
  · exact List.forall_mem_cons.mpr ⟨released_clean ok _, hc⟩
  · exact hc

theorem complete_enter (F : RFacts) (g : Flight) (reds : List Redirect) (p : Nat) :
    (g.enter F reds p).1.complete F (g.enter F reds p).2 p = g.complete F reds p := by
  unfold Flight.complete
  rw [enter_of_entered F (enter_entered F g reds p)]

theorem complete_act (F : RFacts) (g : Flight) (hn : g.entered = false → g.todo = []) (reds : List Redirect) (p : Nat) :
    (g.stepAct reds p).1.complete F (g.stepAct reds p).2 p = g.complete F reds p := by
  cases h : g.todo with
  | nil => rw [stepAct_nil h]
  | cons a rest =>
    have he : g.entered = true := by
      cases hge : g.entered with
      | true => rfl
      | false => rw [hn hge] at h; cases h
    unfold Flight.complete
    -- the second flight is the stepped one: its `entered` is `g.entered` only after unfolding, hence `by exact`
    rw [stepAct_cons h, enter_of_entered F he, enter_of_entered F (by exact he)]
    simp only [h, runScript, List.foldl_cons]
    rfl

theorem complete_of_done (F : RFacts) (g : Flight) (he : g.entered = true) (ht : g.todo = []) (reds : List Redirect) (p : Nat) :
    g.complete F reds p = g.retire F reds p := by
  unfold Flight.complete
  rw [enter_of_entered F he]
  simp only [ht, runScript, List.foldl_nil]
  rfl

end C05
