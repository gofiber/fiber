import FiberModel.Basic
/-
C05 — route parameter slots (`c.values`) are written before they are read.

`c.values` is never reset: `DefaultCtx.Reset` / `release` leave the array alone (a field fact of the
regenerated table). What keeps an earlier request's parameter values from surfacing is the shape of the
matcher:

  * path.go `routeParser.getMatch` walks the route's segments; at every parameter segment it WRITES slot
    `paramsIterator` with a piece of the current path, then (and only then) reads that slot back for the
    constraint check, then advances `paramsIterator`; it never reads a slot it has not written in this call;
  * router.go `Route.match` writes slot 0 on both branches of the catch-all route;
  * ctx.go `Params` reads slot `i` only for `i < len(route.Params)` of the matched route.

`Matcher` is that shape with everything computed from the current request (`findParamLen`, the constant
comparisons, the constraint checks) left abstract: whatever those functions are, the slots the matched
route's parameters occupy come out independent of what the array held before.
-/
namespace C05
open B

inductive Seg where
  | const (c : Bytes)           -- constant part: compared with the path, never touches params
  | param (k : Nat)             -- parameter segment number k of the route
  deriving Repr

/-- what `getMatch` computes from the current request alone -/
structure Matcher where
  constLen : Bytes → Bytes → Option Nat      -- constant vs. rest of the path: consumed length, or no match
  paramLen : Nat → Bytes → Nat               -- `findParamLen`
  optional : Nat → Bool                      -- `segment.IsOptional`
  constraintsOk : Nat → Bytes → Bool         -- `CheckConstraint` on the value just written
  partialCheck : Bool

/-- path.go `getMatch`: `it` is `paramsIterator`; returns the array on a match -/
def getMatch (m : Matcher) : List Seg → Bytes → List Bytes → Nat → Option (List Bytes)
  | [], rest, params, _ => if rest ≠ [] ∧ !m.partialCheck then none else some params
  | .const c :: segs, path, params, it =>
    match m.constLen c path with
    | none => none
    | some i => getMatch m segs (path.drop i) params it
  | .param k :: segs, path, params, it =>
    let i := m.paramLen k path
    if !m.optional k && i == 0 then none
    else if params.length ≤ it then none                         -- a request holds at most maxParams values
    else
      let params := params.set it (path.take i)                 -- params[paramsIterator] = path[:i]
      if !(m.optional k && i == 0) && !m.constraintsOk k (params.getD it []) then none
      else getMatch m segs (path.drop i) params (it + 1)

def nParams : List Seg → Nat
  | [] => 0
  | .const _ :: s => nParams s
  | .param _ :: s => nParams s + 1

/-- `ctx.go Params` for the matched route: slots `0 … n-1` -/
def readSlots (values : List Bytes) (n : Nat) : List Bytes := (List.range n).map fun i => values.getD i []

theorem getD_set_self (l : List Bytes) (i : Nat) (v : Bytes) (h : i < l.length) : (l.set i v).getD i [] = v := by
  simp [List.getD, List.getElem?_set_self h]

theorem readSlots_set (a : List Bytes) {it : Nat} (v : Bytes) (h : it < a.length) :
    readSlots (a.set it v) (it + 1) = readSlots a it ++ [v] := by
  unfold readSlots
  rw [List.range_succ, List.map_append, List.map_singleton, getD_set_self a it v h]
  congr 1
  apply List.map_congr_left
  intro i hi
  have : it ≠ i := Nat.ne_of_gt (List.mem_range.mp hi)
  simp only [List.getD, List.getElem?_set_ne this]

/-- the constraint check reads back the value just written -/
theorem getMatch_param (m : Matcher) (k : Nat) (segs : List Seg) (path : Bytes) {params : List Bytes} {it : Nat}
    (h : it < params.length) :
    getMatch m (.param k :: segs) path params it =
      if (!m.optional k && m.paramLen k path == 0) = true then none
      else if (!(m.optional k && m.paramLen k path == 0) &&
               !m.constraintsOk k (path.take (m.paramLen k path))) = true then none
      else getMatch m segs (path.drop (m.paramLen k path)) (params.set it (path.take (m.paramLen k path))) (it + 1) := by
  simp only [getMatch, if_neg (Nat.not_le.mpr h), getD_set_self params it _ h]

/-- Two runs of the matcher on the same request over arrays with different leftovers (that agree on the
    slots below `it`, already written in this call) take the same decisions and agree on every slot
    below `it + nParams segs`. -/
theorem getMatch_indep (m : Matcher) (segs : List Seg) (path : Bytes) (a a' : List Bytes) (it : Nat)
    (hlen : a.length = a'.length) (hcap : it + nParams segs ≤ a.length) (hlow : readSlots a it = readSlots a' it) :
    (getMatch m segs path a it).map (readSlots · (it + nParams segs)) =
      (getMatch m segs path a' it).map (readSlots · (it + nParams segs)) := by
  induction segs generalizing path a a' it with
  | nil =>
    simp only [getMatch, apply_ite (Option.map _), Option.map_none, Option.map_some, nParams, Nat.add_zero, hlow]
  | cons s segs ih =>
    cases s with
    | const c =>
      simp only [getMatch]
      cases m.constLen c path with
      | none => rfl
      | some i => exact ih (path.drop i) a a' it hlen hcap hlow
    | param k =>
      have hit : it < a.length := Nat.lt_of_lt_of_le (Nat.lt_add_of_pos_right (Nat.succ_pos _)) hcap
      have e : it + 1 + nParams segs = it + nParams (.param k :: segs) := Nat.add_right_comm it 1 _
      rw [getMatch_param m k segs path hit, getMatch_param m k segs path (hlen ▸ hit), ← e]
      -- the guards do not look at the arrays: compare the continuations
      simp only [apply_ite (Option.map _), Option.map_none]
      rw [ih _ (a.set it _) (a'.set it _) (it + 1) (by simp only [List.length_set, hlen])
        (by rw [List.length_set, e]; exact hcap)
        (by rw [readSlots_set a _ hit, readSlots_set a' _ (hlen ▸ hit), hlow])]

/-! non-vacuity: `/q/:x?` on the request `/q` over an array that still holds an earlier request's value -/

def demoMatcher : Matcher :=
  { constLen := fun c p => if c.isPrefixOf p then some c.length
                           else if c.dropLast.isPrefixOf p ∧ p.length = c.length - 1 then some (c.length - 1) else none,
    paramLen := fun _ p => (p.takeWhile (· ≠ 47)).length,
    optional := fun _ => true, constraintsOk := fun _ _ => true, partialCheck := false }

example : getMatch demoMatcher [.const (b "/q/"), .param 0] (b "/q") [b "alice", b "secret"] 0 = some [[], b "secret"] := by (repeat rw [b_ofList]); decide +kernel
example : getMatch demoMatcher [.const (b "/q/"), .param 0] (b "/q/bob") [b "alice", b "secret"] 0 = some [b "bob", b "secret"] := by (repeat rw [b_ofList]); decide +kernel

end C05
