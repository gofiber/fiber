import FiberModel.C18.Props
import FiberModel.C18.Malformed
/-
C18 (b') — theorems about responses with unparsable `Set-Cookie` headers (model: Malformed.lean).
-/
namespace C18
open B

/-- **A malformed `Set-Cookie` is invisible to every other host.** Take any history in which host A answers a request
    with any list of `Set-Cookie` lines — well-formed, malformed (early / late), in any order. What the operations on
    any OTHER host key `k` observe (every `Get`, every Cookie header on the wire, before and after that response) is
    what they observe when A's response carries any other list instead (`items' := []`: no `Set-Cookie` at all) — for
    every pool policy on either side, so also when the pool hands the objects of that response to later stores for `k`. -/
theorem malformed_setcookie_invisible_to_other_hosts (pol pol' : Policy) (pre post : List (Nat × JarOp)) (now : Nat)
    (host reqPath : Bytes) (items items' : List SetItem) (k : Bytes) (hk : hostKey host ≠ k) :
    projObs k (pre ++ (now, respOf host reqPath items) :: post)
        (runJarT pol (pre ++ (now, respOf host reqPath items) :: post) JarState.init) =
    projObs k (pre ++ (now, respOf host reqPath items') :: post)
        (runJarT pol' (pre ++ (now, respOf host reqPath items') :: post) JarState.init) := by
  rw [jar_no_cross_host pol pol' _ k, jar_no_cross_host pol' pol' _ k]
  congr 1
  simp [projHist, respOf, concerns, opKey, hk]

/-- the scenario: a.com answers [malformed k=leak, well-formed k2=v]; then a secret is stored for b.com;
    then a.com, b.com and c.org are read (Get and wire) -/
def malHist (items : List SetItem) : List (Nat × JarOp) :=
  [(10, respOf (b "a.com") (b "/") items),
   (10, .set (b "b.com") ⟨b "s", b "secretB", [], none⟩),
   (10, .get (b "a.com") (b "/")), (10, .get (b "b.com") (b "/")), (10, respOf (b "b.com") (b "/") []),
   (10, .get (b "c.org") (b "/"))]

def malItems : List SetItem :=
  [{ cookie := ⟨b "k", b "leak", b "/", some 99⟩, mal := .early }, wf ⟨b "k2", b "v", [], none⟩]

/-- non-vacuity: the hypothesis is met (a.com ≠ b.com), host A really stores the malformed cookie (what `ParseBytes`
    left: name and value, no path, no expiry), and b.com reads exactly its own secret, c.org nothing -/
example : hostKey (b "a.com") ≠ b "b.com" ∧
    runJarT lifo (malHist malItems) JarState.init =
      [.header [], .done, .cookies [⟨b "k", b "leak", [], none⟩, ⟨b "k2", b "v", [], none⟩],
       .cookies [⟨b "s", b "secretB", [], none⟩], .header (b "s=secretB"), .cookies []] ∧
    projObs (b "b.com") (malHist malItems) (runJarT lifo (malHist malItems) JarState.init) =
      projObs (b "b.com") (malHist []) (runJarT lifo (malHist []) JarState.init) := by
  unfold malHist malItems; repeat rw [b_ofList]; decide +kernel

/-- **A malformed `Set-Cookie` that is not the last one is stored as what `ParseBytes` left of it**: the response
    acts on the jar exactly like one whose lines are the parsed cookies. -/
theorem malformed_before_wellformed_acts_as_parsed (host reqPath : Bytes) (items : List SetItem) (c : Cookie) :
    respOf host reqPath (items ++ [wf c]) = .resp host reqPath (items.map (·.parsed) ++ [c]) := by
  simp [respOf, jarItems, hookFails, wf, SetItem.malformed, SetItem.parsed]

example : respOf (b "a.com") (b "/") malItems =
    .resp (b "a.com") (b "/") [⟨b "k", b "leak", [], none⟩, ⟨b "k2", b "v", [], none⟩] := by
  unfold malItems; repeat rw [b_ofList]; decide +kernel

/-- **A response whose last `Set-Cookie` is malformed stores nothing** (the client hook returns the parse error before
    the jar step): under every host key the abstract jar afterwards is the jar after the lookup alone — also the
    well-formed cookies of that response are not stored. -/
theorem malformed_last_stores_nothing (now : Nat) (j : AbsJar) (host reqPath : Bytes) (items : List SetItem) (it : SetItem)
    (hm : it.malformed = true) (k : Bytes) :
    absGetHost (absStep now j (respOf host reqPath (items ++ [it]))) k = absGetHost (absPurge j host now) k := by
  have hf : hookFails (items ++ [it]) = true := by simp [hookFails, hm]
  simp only [respOf, jarItems, hf, if_true, absStep]
  rw [absGetHost_absResp]
  split
  · rename_i e; subst e; rfl
  · rfl

example : runJarT lifo [(10, respOf (b "a.com") (b "/") [wf ⟨b "k2", b "v", [], none⟩, ⟨⟨b "k", b "x", [], none⟩, .late⟩]),
      (10, .get (b "a.com") (b "/"))] JarState.init = [.header [], .cookies []] := by
  repeat rw [b_ofList]; decide +kernel

end C18
