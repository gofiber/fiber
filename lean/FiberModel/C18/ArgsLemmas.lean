import FiberModel.C18.AsmLemmas
import FiberModel.C11.Lemmas
import FiberModel.BasicLemmas
import FiberModel.ListLemmas
/-
C18 (a) — fasthttp's argument codec on the query string and the form body: rendering then parsing gives the
arguments back (`parseArgsNV_renderArgsNV`), decoding keeps bytes below 256, and what the URL's own query parses
to is well-formed (`parsed_argOK`).
-/
namespace C18
open B C11

def BytesOK (s : Bytes) : Prop := ∀ c ∈ s, c < 256
def KVOK (kv : KV) : Prop := BytesOK kv.1 ∧ BytesOK kv.2 ∧ ¬ (kv.1 = [] ∧ kv.2 = [])

/-- an argument that survives a render / parse round trip: byte values, not entirely empty, and a
    value-less argument (`?flag`) has no value -/
def ArgOK (a : Arg) : Prop :=
  BytesOK a.key ∧ BytesOK a.value ∧ ¬ (a.key = [] ∧ a.value = []) ∧ (a.noValue = true → a.value = [])

theorem parseArgSeg_renderArgNV (a : Arg) (h : ArgOK a) : parseArgSeg (renderArgNV a) = a := by
  obtain ⟨hk, hv, _, hnv⟩ := h
  unfold parseArgSeg renderArgNV
  cases hn : a.noValue with
  | true =>
    have h1 : (urlencode a.key).contains 61 = false :=
      List.contains_eq_false_of_forall_ne fun x hx => (urlencode_clean a.key x hx).2
    simp only [if_true, h1, Bool.false_eq_true, if_false, urldecode_urlencode _ hk]
    cases a with
    | mk key value noValue => simp only at hn hnv ⊢; subst hn; simp [hnv rfl]
  | false =>
    -- with a value it is C11's codec for key/value pairs
    have h1 : (urlencode a.key ++ [61] ++ urlencode a.value).contains 61 = true := by simp
    simp only [Bool.false_eq_true, if_false, h1, if_true]
    show Arg.mk (parseSeg (renderArg (a.key, a.value))).1 (parseSeg (renderArg (a.key, a.value))).2 false = a
    rw [parseSeg_renderArg (a.key, a.value) hk hv, ← hn]

theorem renderArgNV_clean (a : Arg) : ∀ x ∈ renderArgNV a, x ≠ 38 := by
  unfold renderArgNV
  split
  · exact fun x hx => (urlencode_clean _ x hx).1
  · exact renderArg_clean (a.key, a.value)

theorem parseArgsNV_renderArgsNV (as : List Arg) (h : ∀ a ∈ as, ArgOK a) : parseArgsNV (renderArgsNV as) = as :=
  parse_split_join 38 [] renderArgNV parseArgSeg (fun a : Arg => !(a.key.isEmpty && a.value.isEmpty)) as nofun
    (fun (a : Arg) _ => renderArgNV_clean a)
    (fun (a : Arg) ha => ⟨parseArgSeg_renderArgNV a (h a ha), parseArgSeg_renderArgNV a (h a ha)⟩)
    (fun (a : Arg) ha => by
      have := (h a ha).2.2.1
      cases hk : a.key <;> cases hv : a.value <;> simp_all)
    rfl

theorem hex2int_lt (c a : Nat) (h : hex2int c = some a) : a < 16 := by
  revert h
  fun_cases hex2int c <;> intro h <;> cases h <;> omega

theorem plus_lt (c : Nat) (h : c < 256) : (if (c == 43) = true then 32 else c) < 256 := by
  split <;> omega

theorem urldecode_lt (s : Bytes) (h : BytesOK s) : BytesOK (urldecode s) := by
  unfold BytesOK at *
  -- a byte written is the byte read, a blank for '+', '%' itself, or two hex digits
  fun_induction urldecode s <;>
    simp only [List.mem_cons, forall_eq_or_imp, List.not_mem_nil, false_imp_iff, implies_true, and_true] at *
  case case2 => omega
  case case3 => exact h
  case case4 => exact ⟨by omega, h.2⟩
  case case5 ih => exact ⟨plus_lt _ h.1, ih h.2⟩
  case case6 hb ha ih => exact ⟨by have := hex2int_lt _ _ ha; have := hex2int_lt _ _ hb; omega, ih h.2.2.2⟩
  case case7 ih => exact ⟨by omega, ih h.2⟩
  case case8 ih => exact ⟨plus_lt _ h.1, ih h.2⟩

theorem mem_cutEq (s : Bytes) : (∀ x ∈ (cutEq s).1, x ∈ s) ∧ (∀ x ∈ (cutEq s).2, x ∈ s) := by
  fun_induction cutEq s
  case case1 => exact ⟨nofun, nofun⟩
  case case2 => exact ⟨nofun, fun x hx => List.mem_cons_of_mem _ hx⟩
  case case3 ih =>
    exact ⟨fun x hx => (List.mem_cons.mp hx).elim (· ▸ List.mem_cons_self) fun h => List.mem_cons_of_mem _ (ih.1 x h),
      fun x hx => List.mem_cons_of_mem _ (ih.2 x hx)⟩

theorem parsed_argOK (q : Bytes) (hq : BytesOK q) : ∀ a ∈ parseArgsNV q, ArgOK a := by
  intro a ha
  unfold parseArgsNV at ha
  obtain ⟨ha1, ha2⟩ := List.mem_filter.mp ha
  obtain ⟨seg, hseg, rfl⟩ := List.mem_map.mp ha1
  have hsegOK : BytesOK seg := fun x hx => hq x ((mem_splitOn_infix hseg).subset hx)
  have hne : ¬ ((parseArgSeg seg).key = [] ∧ (parseArgSeg seg).value = []) := by
    intro ⟨h1, h2⟩; simp [h1, h2] at ha2
  revert hne
  fun_cases parseArgSeg seg <;> intro hne
  · exact ⟨urldecode_lt _ (fun x hx => hsegOK x ((mem_cutEq seg).1 x hx)),
      urldecode_lt _ (fun x hx => hsegOK x ((mem_cutEq seg).2 x hx)), hne, nofun⟩
  · exact ⟨urldecode_lt _ hsegOK, nofun, by simpa using hne, fun _ => rfl⟩

theorem map_argOf_OK {l : List KV} (h : ∀ kv ∈ l, KVOK kv) : ∀ a ∈ l.map argOf, ArgOK a :=
  List.forall_mem_map.mpr fun kv hkv => ⟨(h kv hkv).1, (h kv hkv).2.1, (h kv hkv).2.2, nofun⟩

end C18
