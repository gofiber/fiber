import FiberModel.C18.ArgsLemmas
/-
C18 (a) — `replacePathParams` against the property's placeholder reading of the template
(`substParams = expectedURI`), and what `assembly_meets_spec_partial` needs besides: the domain `AsmDomain`, the
closed form of `assemble`, host / path and cookies against their clauses.
-/
namespace C18
open B C11

theorem replaceAll_go_nil (pat rep : Bytes) (fuel : Nat) : replaceAll.go pat rep fuel [] = [] := by
  cases fuel <;> simp [replaceAll.go]

theorem replaceAll_go_fuel (pat rep : Bytes) : ∀ (f f' : Nat) (s : Bytes), s.length ≤ f → s.length ≤ f' →
    replaceAll.go pat rep f s = replaceAll.go pat rep f' s := by
  intro f
  induction f with
  | zero => intro f' s h _; cases s <;> simp_all [replaceAll.go, replaceAll_go_nil]
  | succ f ih =>
    intro f' s h h'
    cases s with
    | nil => simp [replaceAll_go_nil]
    | cons c cs =>
      cases f' with
      | zero => simp at h'
      | succ f' =>
        simp only [List.length_cons, Nat.add_le_add_iff_right] at h h'
        simp only [replaceAll.go]
        split
        · rfl
        · next he =>
          have : 1 ≤ pat.length := by cases pat <;> simp_all
          split
          · rw [ih f' _ (by simp; omega) (by simp; omega)]
          · rw [ih f' cs h h']

theorem replaceAll_copy (pat rep : Bytes) (c : Nat) (cs : Bytes) (hp : pat ≠ []) (hn : pat.isPrefixOf (c :: cs) = false) :
    replaceAll (c :: cs) pat rep = c :: replaceAll cs pat rep := by
  have : pat.isEmpty = false := by cases pat <;> simp_all
  simp [replaceAll, replaceAll.go, this, hn]

theorem replaceAll_match (pat rep rest : Bytes) (hp : pat ≠ []) :
    replaceAll (pat ++ rest) pat rep = rep ++ replaceAll rest pat rep := by
  cases pat with
  | nil => exact absurd rfl hp
  | cons p ps =>
    have h1 : (p :: ps).isPrefixOf (p :: (ps ++ rest)) = true :=
      List.isPrefixOf_iff_prefix.mpr (List.prefix_append (p :: ps) rest)
    unfold replaceAll
    simp only [List.cons_append, List.length_cons, replaceAll.go, List.isEmpty_cons, Bool.false_eq_true, if_false, h1, if_true]
    rw [replaceAll_go_fuel _ rep _ rest.length _ (by simp) (by simp)]
    simp

theorem replaceAll_skip (p : Nat) (ps rep : Bytes) : ∀ (w rest : Bytes), (∀ x ∈ w, x ≠ p) →
    replaceAll (w ++ rest) (p :: ps) rep = w ++ replaceAll rest (p :: ps) rep
  | [], _, _ => rfl
  | x :: xs, rest, hw => by
    have hpx : (p == x) = false := beq_eq_false_iff_ne.mpr fun e => hw x (List.mem_cons_self ..) e.symm
    rw [List.cons_append, replaceAll_copy _ _ _ _ (by simp) (by simp [List.isPrefixOf, hpx]),
      replaceAll_skip p ps rep xs rest fun y hy => hw y (List.mem_cons_of_mem _ hy)]
    rfl

/-- the template a token list stands for -/
def untok (ts : List Tok) : Bytes :=
  ts.flatMap fun t => match t with
    | .lit c => [c]
    | .ph n => 58 :: n

def phOK (ts : List Tok) : Bool :=
  ts.all fun t => match t with
    | .lit _ => true
    | .ph n => !n.isEmpty && n.all nameByte

/-- the template with the placeholders in `S` filled in -/
def renderS (reqP clientP : List KV) (S : List Bytes) (ts : List Tok) : Bytes :=
  ts.flatMap fun t => match t with
    | .lit c => [c]
    | .ph n => if S.contains n then valOf reqP clientP n else 58 :: n

theorem renderS_cons (reqP clientP : List KV) (S : List Bytes) (t : Tok) (ts : List Tok) :
    renderS reqP clientP S (t :: ts) =
      (match t with
        | .lit c => [c]
        | .ph n => if S.contains n then valOf reqP clientP n else 58 :: n) ++ renderS reqP clientP S ts := by
  simp [renderS]

theorem prefix_of_name (k n r : Bytes) (d : Nat) (hk : k.all nameByte = true) (hd : nameByte d = false)
    (h : k.isPrefixOf (n ++ d :: r) = true) : k.isPrefixOf n = true := by
  induction k generalizing n with
  | nil => simp
  | cons x xs ih =>
    simp only [List.all_cons, Bool.and_eq_true] at hk
    cases n with
    | nil =>
      simp only [List.nil_append, List.isPrefixOf, Bool.and_eq_true, beq_iff_eq] at h
      rw [h.1] at hk; rw [hd] at hk; cases hk.1
    | cons y ys =>
      simp only [List.cons_append, List.isPrefixOf, Bool.and_eq_true, beq_iff_eq] at h ⊢
      exact ⟨h.1, ih ys hk.2 h.2⟩

theorem prefix_of_name_end (k n : Bytes) (hk : k ≠ []) (h : k.isPrefixOf (n ++ []) = true) : k.isPrefixOf n = true := by
  simpa using h

def colonTok : Tok → Bool
  | .lit c => c == 58
  | .ph _ => true

/-- a key of name bytes is no prefix of what follows a ':' construct, unless it is a prefix of the name: the rendering
    of the tokens behind the construct is empty or starts with a byte that cannot continue a name -/
theorem no_prefix_after (reqP clientP : List KV) (S : List Bytes) {k : Bytes} (hkn : k.all nameByte = true) {t : Tok}
    {ts : List Tok} (hadj : adjOK (t :: ts) = true) (ht : colonTok t = true) (n : Bytes)
    (hpre : k.isPrefixOf (n ++ renderS reqP clientP S ts) = true) : k.isPrefixOf n = true := by
  cases ts with
  | nil => exact List.append_nil n ▸ hpre
  | cons u rest =>
    cases u with
    | lit d =>
      refine prefix_of_name k n (renderS reqP clientP S rest) d hkn ?_ (by rw [renderS_cons] at hpre; exact hpre)
      cases t with
      | lit c =>
        simp only [colonTok, beq_iff_eq] at ht
        simp only [adjOK, ht, bne_self_eq_false, Bool.false_or, Bool.and_eq_true, Bool.not_eq_true'] at hadj
        exact hadj.1
      | ph n =>
        simp only [adjOK, Bool.and_eq_true, Bool.not_eq_true'] at hadj
        exact hadj.1
    | ph m =>
      cases t with
      | lit c =>
        simp only [colonTok, beq_iff_eq] at ht
        simp [adjOK, ht] at hadj
      | ph n => simp [adjOK] at hadj

theorem adjOK_tail (t : Tok) (ts : List Tok) (h : adjOK (t :: ts) = true) : adjOK ts = true := by
  cases ts with
  | nil => rfl
  | cons u rest => simp only [adjOK, Bool.and_eq_true] at h; exact h.2

/-- one round of `strings.ReplaceAll(uri, ":"+k, val)` fills in exactly the placeholders named `k` -/
theorem subst_step (reqP clientP : List KV) (S : List Bytes) (k : Bytes)
    (hk : k ≠ []) (hkn : k.all nameByte = true) :
    ∀ (ts : List Tok), phOK ts = true → adjOK ts = true →
      (∀ n, Tok.ph n ∈ ts → k.isPrefixOf n = true → n ≠ k → S.contains n = true) →
      (∀ n, Tok.ph n ∈ ts → S.contains n = true → ∀ x ∈ valOf reqP clientP n, x ≠ 58) →
      replaceAll (renderS reqP clientP S ts) (58 :: k) (valOf reqP clientP k) = renderS reqP clientP (k :: S) ts := by
  intro ts
  induction ts with
  | nil => intro _ _ _ _; rfl
  | cons t ts ih =>
    intro hph hadj hH hV
    have hph' : phOK ts = true := by simp only [phOK, List.all_cons, Bool.and_eq_true] at hph ⊢; exact hph.2
    have IH := ih hph' (adjOK_tail t ts hadj) (fun n hn => hH n (List.mem_cons_of_mem _ hn))
      (fun n hn => hV n (List.mem_cons_of_mem _ hn))
    have noPrefixAfter : colonTok t = true → ∀ n : Bytes,
        k.isPrefixOf (n ++ renderS reqP clientP S ts) = true → k.isPrefixOf n = true :=
      fun ht => no_prefix_after reqP clientP S hkn hadj ht
    rw [renderS_cons, renderS_cons]
    generalize hrest : renderS reqP clientP S ts = rest at IH noPrefixAfter ⊢
    cases t with
    | lit c =>
      have hn : (58 :: k).isPrefixOf (c :: rest) = false := by
        by_cases hc : c = 58
        · subst hc
          cases hp : k.isPrefixOf rest with
          | false => simp [List.isPrefixOf, hp]
          | true =>
            have := noPrefixAfter (by simp [colonTok]) [] (by simpa using hp)
            cases k with
            | nil => exact absurd rfl hk
            | cons x xs => simp [List.isPrefixOf] at this
        · have : (58 == c) = false := beq_eq_false_iff_ne.mpr (fun e => hc e.symm)
          simp [List.isPrefixOf, this]
      rw [List.singleton_append, replaceAll_copy _ _ _ _ (by simp) hn, IH]; rfl
    | ph n =>
      have hnOK : n.all nameByte = true := by
        simp only [phOK, List.all_cons, Bool.and_eq_true] at hph; exact hph.1.2
      cases hS : S.contains n with
      | true =>
        have hkn' : (k :: S).contains n = true := by
          simp only [List.contains_cons, Bool.or_eq_true]; exact Or.inr hS
        simp only [hS, if_true, hkn']
        rw [replaceAll_skip 58 k _ _ rest (hV n (List.mem_cons_self ..) hS), IH]
      | false =>
        by_cases hnk : n = k
        · subst hnk
          simp only [hS, Bool.false_eq_true, if_false, List.contains_cons, beq_self_eq_true, Bool.true_or, if_true]
          rw [replaceAll_match _ _ _ (by simp), IH]
        · have hkn' : (k :: S).contains n = false := by
            simp only [List.contains_cons, Bool.or_eq_false_iff]
            exact ⟨beq_eq_false_iff_ne.mpr hnk, hS⟩
          simp only [hS, Bool.false_eq_true, if_false, hkn']
          have hn : (58 :: k).isPrefixOf (58 :: (n ++ rest)) = false := by
            cases hp : k.isPrefixOf (n ++ rest) with
            | false => simp [List.isPrefixOf, hp]
            | true =>
              have := hH n (List.mem_cons_self ..) (noPrefixAfter (by simp [colonTok]) n hp) hnk
              rw [hS] at this; cases this
          have hskip : ∀ x ∈ n, x ≠ 58 := by
            intro x hx e
            have := List.all_eq_true.mp hnOK x hx
            rw [e] at this; revert this; decide
          rw [List.cons_append, replaceAll_copy _ _ _ _ (by simp) hn, replaceAll_skip 58 k _ _ rest hskip, IH]
          simp

theorem renderS_congr (reqP clientP : List KV) (S S' : List Bytes) (h : ∀ n, S.contains n = S'.contains n) (ts : List Tok) :
    renderS reqP clientP S ts = renderS reqP clientP S' ts := by
  unfold renderS
  congr 1
  funext t
  cases t with
  | lit c => rfl
  | ph n => simp only [h n]

/-- The keys still to come (`Q`, in the order of `replacePathParams`) fill in their placeholders one after the other;
    `P` = the keys done. A pending key that properly extends the next key is longer, so it would stand before it. -/
theorem subst_fold (reqP clientP : List KV) (ts : List Tok) (hph : phOK ts = true) (hadj : adjOK ts = true) :
    ∀ (Q P : List Bytes), Q.Pairwise (fun a c => keyBefore a c = true) →
      (∀ k ∈ Q, k ≠ [] ∧ k.all nameByte = true) →
      (∀ n, Tok.ph n ∈ ts → ∀ k ∈ Q, k.isPrefixOf n = true → n ≠ k → n ∈ P ∨ n ∈ Q) →
      (∀ n, Tok.ph n ∈ ts → n ∈ P ∨ n ∈ Q → ∀ x ∈ valOf reqP clientP n, x ≠ 58) →
      Q.foldl (fun u k => replaceAll u (58 :: k) (valOf reqP clientP k)) (renderS reqP clientP P ts) =
        renderS reqP clientP (Q.reverse ++ P) ts := by
  intro Q
  induction Q with
  | nil => intro P _ _ _ _; rfl
  | cons k Q ih =>
    intro P hs hk hcl hv
    obtain ⟨hs1, hs2⟩ := List.pairwise_cons.mp hs
    have hkm : k ∈ k :: Q := List.mem_cons_self ..
    have hstep := subst_step reqP clientP P k (hk k hkm).1 (hk k hkm).2 ts hph hadj
      (fun n hn' hpre hne => by
        rcases hcl n hn' k hkm hpre hne with h1 | h1
        · simpa using h1
        · rcases List.mem_cons.mp h1 with e | e
          · exact absurd e hne
          · have : ¬ n.length ≤ k.length := fun hl => hne ((List.isPrefixOf_iff_prefix.mp hpre).eq_of_length_le hl).symm
            rcases (keyBefore_iff k n).mp (hs1 n e) with h | ⟨h, -⟩ <;> omega)
      (fun n hn' hS => hv n hn' (.inl (by simpa using hS)))
    -- `k` passes from the pending keys to the done ones
    have mv : ∀ n, (n ∈ k :: P ∨ n ∈ Q) ↔ (n ∈ P ∨ n ∈ k :: Q) := fun n => by
      simp only [List.mem_cons, or_assoc, or_left_comm]
    rw [List.foldl_cons, hstep, ih (k :: P) hs2
      (fun k' h' => hk k' (List.mem_cons_of_mem _ h'))
      (fun n hn' k' h' hpre hne => (mv n).mpr (hcl n hn' k' (List.mem_cons_of_mem _ h') hpre hne))
      (fun n hn' m => hv n hn' ((mv n).mp m))]
    simp

theorem tokenize_go_spec (fuel : Nat) (s : Bytes) (h : s.length ≤ fuel) :
    untok (tokenize.go fuel s) = s ∧ phOK (tokenize.go fuel s) = true := by
  -- cases: 1 no fuel, 2 end of text, 3 a ':' no name follows, 4 a placeholder, 5 any other byte (3, 5: one literal)
  fun_induction tokenize.go fuel s
  case case1 => exact ⟨(List.eq_nil_of_length_eq_zero (Nat.le_zero.mp h)).symm, rfl⟩
  case case2 => exact ⟨rfl, rfl⟩
  case case4 c cs hc name hn ih =>
    -- a placeholder: the name and what follows it make up the rest of the text
    obtain ⟨i1, i2⟩ := ih (by simp only [List.length_cons, List.length_drop] at h ⊢; omega)
    simp only [untok, phOK, List.flatMap_cons, List.all_cons] at i1 i2 ⊢
    rw [i1, i2, eq_of_beq hc]
    exact ⟨congrArg (58 :: ·) (List.takeWhile_append_drop nameByte cs), by simp [name, hn, List.all_takeWhile]⟩
  all_goals
    rename_i ih
    obtain ⟨i1, i2⟩ := ih (Nat.le_of_succ_le_succ h)
    exact ⟨congrArg (_ :: ·) i1, i2⟩

theorem untok_tokenize (s : Bytes) : untok (tokenize s) = s := (tokenize_go_spec s.length s (Nat.le_refl _)).1
theorem phOK_tokenize (s : Bytes) : phOK (tokenize s) = true := (tokenize_go_spec s.length s (Nat.le_refl _)).2

/-- an unreserved byte is neither `#` nor `?` (where the server ends the path), nor `:` -/
theorem unreserved_not_delim (x : Nat) (h : unreserved x = true) : (x ≠ 35 ∧ x ≠ 63) ∧ x ≠ 58 := by
  refine ⟨⟨?_, ?_⟩, ?_⟩ <;> (intro e; subst e; revert h; decide)

theorem valOf_phValue (reqP clientP : List KV) (n : Bytes) :
    (n ∈ keysOf reqP clientP → phValue reqP clientP n = valOf reqP clientP n ∧
      (match mapGet reqP n with | some v => some v | none => mapGet clientP n) = some (valOf reqP clientP n)) ∧
    (n ∉ keysOf reqP clientP → phValue reqP clientP n = 58 :: n) := by
  have hm : n ∈ keysOf reqP clientP ↔ mapGet reqP n ≠ none ∨ mapGet clientP n ≠ none := by
    simp only [mem_keysOf, List.mem_append, ne_eq, mapGet_eq_none_iff, Classical.not_not]
  rw [hm]
  unfold phValue valOf
  cases mapGet reqP n <;> cases mapGet clientP n <;> simp

theorem expectedURI_eq (uri : Bytes) (reqP clientP : List KV) :
    expectedURI uri reqP clientP = renderS reqP clientP (keysOf reqP clientP) (tokenize uri) := by
  unfold expectedURI renderS
  congr 1; funext t
  cases t with
  | lit c => rfl
  | ph n =>
    by_cases h : n ∈ keysOf reqP clientP
    · simp [h, ((valOf_phValue reqP clientP n).1 h).1]
    · simp [h, (valOf_phValue reqP clientP n).2 h]

theorem valOf_unreserved {uri : Bytes} {reqP clientP : List KV} (hv : unsafePathValue uri reqP clientP = false) {n : Bytes}
    (ht : Tok.ph n ∈ tokenize uri) (hn : n ∈ keysOf reqP clientP) : ∀ x ∈ valOf reqP clientP n, unreserved x = true := by
  have := List.any_eq_false.mp hv _ (List.mem_filterMap.mpr ⟨Tok.ph n, ht, ((valOf_phValue reqP clientP n).1 hn).2⟩)
  simp only [pathValueSafe, Bool.not_eq_true, Bool.not_eq_false', Bool.and_eq_true] at this
  exact List.all_eq_true.mp this.1.1

/-- `replacePathParams` produces the property's reading of the template; Props states it as
    `path_params_substitution_partial` -/
theorem substParams_eq_expected (uri : Bytes) (reqP clientP : List KV)
    (hT : templateOK uri (reqP.map (·.1) ++ clientP.map (·.1)) = true)
    (hv : unsafePathValue uri reqP clientP = false) :
    substParams uri reqP clientP = expectedURI uri reqP clientP := by
  simp only [templateOK, Bool.and_eq_true] at hT
  obtain ⟨⟨hkeys, hadj⟩, hclos⟩ := hT
  have memS : ∀ n, n ∈ sortKeys (keysOf reqP clientP) ↔ n ∈ reqP.map (·.1) ++ clientP.map (·.1) := fun n =>
    (sortKeys_perm _).mem_iff.trans mem_keysOf
  -- the template is its own rendering with no key filled in; every key of the sorted list fills in its placeholders;
  -- with all keys filled in it is the property's reading
  rw [expectedURI_eq, substParams_eq]
  conv => lhs; arg 2; rw [← untok_tokenize uri, show untok (tokenize uri) = renderS reqP clientP [] (tokenize uri) by
    simp [renderS, untok]]
  rw [subst_fold reqP clientP _ (phOK_tokenize uri) hadj (sortKeys _) [] (sortKeys_sorted _)]
  · exact renderS_congr _ _ _ _ (fun n => by rw [Bool.eq_iff_iff]; simpa using (sortKeys_perm _).mem_iff) _
  · intro k hk
    have := List.all_eq_true.mp hkeys k ((memS k).mp hk)
    simpa [List.isEmpty_eq_false_iff] using this
  · intro n hn k hk hpre hne
    have h2 := List.all_eq_true.mp (List.all_eq_true.mp hclos (Tok.ph n) hn) k ((memS k).mp hk)
    have hkn : (k != n) = true := bne_iff_ne.mpr (fun e => hne e.symm)
    simp only [hpre, hkn, Bool.and_self, Bool.not_true, Bool.false_or, List.contains_iff_mem] at h2
    exact .inr ((memS n).mpr h2)
  · intro n hn hmem x hx
    exact (unreserved_not_delim x (valOf_unreserved hv hn (mem_keysOf.mpr ((memS n).mp (hmem.resolve_left nofun))) x hx)).2

theorem sameValuesPerKey_refl (l : List KV) : sameValuesPerKey l l = true := by
  simp [sameValuesPerKey]

theorem split2_clean (s : Bytes) (c : Nat) (h : ∀ x ∈ s, x ≠ c) : (split2 s c).1 = s := by
  simp [split2, splitOn_eq_singleton (List.not_mem_of_forall_ne h)]

/-- every byte of the expected URL comes from the template or from a used value -/
theorem expectedURI_bytes (uri : Bytes) (reqP clientP : List KV) (hv : unsafePathValue uri reqP clientP = false) :
    ∀ x ∈ expectedURI uri reqP clientP, x ∈ uri ∨ unreserved x = true := by
  rw [expectedURI_eq]
  intro x hx
  obtain ⟨t, ht, hxt⟩ := List.mem_flatMap.mp hx
  have lit : ∀ y ∈ untok [t], y ∈ uri := fun y hy =>
    untok_tokenize uri ▸ List.mem_flatMap.mpr ⟨t, ht, by simpa [untok] using hy⟩
  cases t with
  | lit c => exact .inl (lit _ (by simpa [untok] using hxt))
  | ph n =>
    dsimp only at hxt
    split at hxt
    · next h => exact .inr (valOf_unreserved hv ht (by simpa using h) x hxt)
    · exact .inl (lit x (by simpa [untok] using hxt))

theorem hostPath_eq_spec (u : Bytes) (h : ∀ x ∈ u, x ≠ 35 ∧ x ≠ 63) : hostPath u = specHostPath u := by
  unfold hostPath specHostPath
  simp only
  generalize hr : (if hasPrefix u (b "https://") = true then u.drop 8 else u.drop 7) = rest
  have hrest : ∀ x ∈ rest, x ≠ 35 ∧ x ≠ 63 := by
    intro x hx
    apply h
    rw [← hr] at hx
    split at hx <;> exact List.mem_of_mem_drop hx
  rw [split2_clean rest 35 (fun x hx => (hrest x hx).1), split2_clean rest 63 (fun x hx => (hrest x hx).2)]
  cases indexByte rest 47 <;> rfl

/-- the absolute URL template of a configuration (base URL joined, the query split off) -/
def uri0Of (c : Config) : Bytes :=
  if hasProtocol (split2 c.url 63).1 then (split2 c.url 63).1 else c.baseURL ++ (split2 c.url 63).1

/-- the arguments written in the URL itself -/
def urlArgsOf (c : Config) : List KV :=
  (parseArgsNV (split2 (split2 c.url 63).2 35).1).map fun a => (a.key, a.value)

/-- the configurations the assembly theorem speaks about -/
structure AsmDomain (c : Config) : Prop where
  maps : MapsOK c
  clean : ∀ x ∈ uri0Of c, x ≠ 35 ∧ x ≠ 63
  tmpl : templateOK (uri0Of c) (c.request.pathParams.map (·.1) ++ c.client.pathParams.map (·.1)) = true
  safe : unsafePathValue (uri0Of c) c.request.pathParams c.client.pathParams = false
  query : BytesOK (split2 (split2 c.url 63).2 35).1
  cParams : ∀ kv ∈ c.client.params, KVOK kv
  rParams : ∀ kv ∈ c.request.params, KVOK kv
  form : ∀ fs, (effectiveBody c.body = .form fs) → ∀ kv ∈ fs, KVOK kv

theorem map_kv_argOf (l : List KV) : (l.map argOf).map (fun a => (a.key, a.value)) = l :=
  (List.map_map ..).trans (List.map_id l)

theorem cookiesArrive_merge (c : Config) (hm : MapsOK c) :
    cookiesArrive c (mergeCookies c.jar c.client.cookies c.request.cookies) = true := by
  unfold cookiesArrive
  simp only [Bool.and_eq_true, List.all_eq_true, decide_eq_true_eq]
  refine ⟨⟨fun k _ => ?_, fun kv hkv => ?_⟩, mergeCookies_nodup _ _ _⟩
  · -- the clause's nested `match` is `Option.or`
    rw [hm.mapGet_merge k]
    cases mapGet c.request.cookies k <;> cases mapGet c.client.cookies k <;> simp
  · rw [hm.mapGet_merge, Option.isSome_or, Option.isSome_or]
    simp only [List.mem_append] at hkv
    rcases hkv with (h1 | h1) | h1 <;> simp [mapGet_isSome_of_mem h1]

/-- what `parserRequest…` writes when the URL has a protocol -/
def asmOf (c : Config) : Assembled :=
  { method := c.method,
    host := (hostPath (substParams (uri0Of c) c.request.pathParams c.client.pathParams)).1,
    path := (hostPath (substParams (uri0Of c) c.request.pathParams c.client.pathParams)).2,
    rawQuery := renderArgsNV (parseArgsNV (split2 (split2 c.url 63).2 35).1 ++ c.client.params.map argOf ++
                              c.request.params.map argOf),
    headers := c.client.headers ++ c.request.headers,
    userAgent := if c.request.userAgent ≠ [] then c.request.userAgent
                 else if c.client.userAgent ≠ [] then c.client.userAgent else defaultUserAgent,
    referer := if c.request.referer ≠ [] then c.request.referer else c.client.referer,
    cookies := mergeCookies c.jar c.client.cookies c.request.cookies,
    contentType := contentTypeOf (effectiveBody c.body),
    body := effectiveBody c.body,
    timeout := if c.request.timeout > 0 then c.request.timeout else c.client.timeout }

/-- `assemble` is a guard (`ErrURLFormat`) in front of a total function -/
theorem assemble_eq (c : Config) : assemble c = if hasProtocol (uri0Of c) then some (asmOf c) else none := by
  show (if (!hasProtocol (uri0Of c)) = true then none else some (asmOf c)) = _
  cases hasProtocol (uri0Of c) <;> rfl

theorem assemble_some (c : Config) (a : Assembled) (h : assemble c = some a) : a = asmOf c := by
  rw [assemble_eq] at h; split at h <;> cases h; rfl

end C18
