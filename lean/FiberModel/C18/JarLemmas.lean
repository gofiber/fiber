import FiberModel.C18.AsmLemmas
/-
C18 (b) — the cookie jar over pooled objects refines the abstract store: invariants and the
simulation lemmas.

A pooled object is held by a caller or lies in one store: the pool, or the jar's list for a host key (`PInv`).
`AcquireCookie` / `ReleaseCookie` and every step of the jar move objects between the callers and ONE store, so the
two together hold the same objects before and after, up to order: `PInv.move`. A step that rewrites the list of a host
key (the purge of a lookup, the append of `SetByHost`, one `Set-Cookie` of a response) ends by handing the objects it
took and the objects of that key out again, some to the key, the rest to the pool: `settle`.
`PInv` is phrased over a *view* `Bytes → List Ref` (which references the jar holds per host key) so that it also
covers `parseCookiesFromResp`, whose working list lives in a local variable until the final map assignment.
From part (a) only `find_put` (AsmLemmas) is used: the jar's map and the abstract store are association lists with the
same `Set` as the request stores.
-/
namespace C18
open B

def refsOf (st : JarState) (k : Bytes) : List Ref := (jarGet st.jar k).getD []

/-- where a pooled object lies when no caller holds it: in the pool (`none`) or in the jar's list for a host key -/
def store (view : Bytes → List Ref) (pool : List Ref) : Option Bytes → List Ref
  | none => pool
  | some k => view k

/-- ownership discipline of pooled cookie objects: `held` = objects some caller holds (acquired, not yet released),
    `view k` = objects the jar holds for host key `k`, `pool` = released objects. Every object that is anywhere is in
    one place, once, and was allocated. -/
structure PInv (held : List Ref) (view : Bytes → List Ref) (pool : List Ref) (next : Nat) : Prop where
  nd : ∀ s, (store view pool s).Nodup
  hnd : held.Nodup
  one : ∀ s s' r, r ∈ store view pool s → r ∈ store view pool s' → s = s'
  hd : ∀ s r, r ∈ store view pool s → r ∉ held
  lt : ∀ r, (r ∈ held ∨ ∃ s, r ∈ store view pool s) → r < next

theorem PInv.move {held view pool next} (h : PInv held view pool next) (s : Option Bytes) {held' view' pool'}
    (hp : (store view' pool' s ++ held').Perm (store view pool s ++ held))
    (ho : ∀ s', s' ≠ s → store view' pool' s' = store view pool s') : PInv held' view' pool' next := by
  obtain ⟨n1, n2, dj⟩ := List.nodup_append.mp (hp.nodup_iff.mpr (List.nodup_append.mpr
    ⟨h.nd s, h.hnd, fun x hx y hy e => h.hd s x hx (e ▸ hy)⟩))
  have old : ∀ r, (r ∈ store view' pool' s ∨ r ∈ held') → (r ∈ store view pool s ∨ r ∈ held) := fun r hr =>
    List.mem_append.mp (hp.mem_iff.mp (List.mem_append.mpr hr))
  have other : ∀ s' r, s' ≠ s → r ∈ store view pool s' → ¬(r ∈ store view' pool' s ∨ r ∈ held') :=
    fun s' r hs hr hm => (old r hm).elim (fun m => hs (h.one s' s r hr m)) (h.hd s' r hr)
  refine ⟨fun s' => ?_, n2, fun s1 s2 r h1 h2 => ?_, fun s' r hr hm => ?_, fun r hr => ?_⟩
  · by_cases e : s' = s
    · exact e ▸ n1
    · exact ho s' e ▸ h.nd s'
  · by_cases e1 : s1 = s <;> by_cases e2 : s2 = s
    · exact e1.trans e2.symm
    · exact absurd (.inl (e1 ▸ h1)) (other s2 r e2 (ho s2 e2 ▸ h2))
    · exact absurd (.inl (e2 ▸ h2)) (other s1 r e1 (ho s1 e1 ▸ h1))
    · exact h.one s1 s2 r (ho s1 e1 ▸ h1) (ho s2 e2 ▸ h2)
  · by_cases e : s' = s
    · exact dj r (e ▸ hr) r hm rfl
    · exact other s' r e (ho s' e ▸ hr) (.inr hm)
  · apply h.lt
    rcases hr with m | ⟨s', m⟩
    · exact (old r (.inr m)).symm.imp_right fun m => ⟨s, m⟩
    · by_cases e : s' = s
      · exact (old r (.inl (e ▸ m))).symm.imp_right fun m => ⟨s, m⟩
      · exact .inr ⟨s', ho s' e ▸ m⟩

theorem PInv.move_key {held view pool next} (h : PInv held view pool next) (key : Bytes) {held' l : List Ref}
    (hp : (l ++ held').Perm (view key ++ held)) : PInv held' (fun k => if k = key then l else view k) pool next :=
  h.move (some key) (by simpa only [store, if_pos] using hp) fun s' hs => by
    cases s' with
    | none => rfl
    | some k => exact if_neg fun e => hs (congrArg some e)

theorem PInv.move_pool {held view pool next} (h : PInv held view pool next) {held' pool' : List Ref}
    (hp : (pool' ++ held').Perm (pool ++ held)) : PInv held' view pool' next :=
  h.move none hp fun s' hs => by
    cases s' with
    | none => exact absurd rfl hs
    | some k => rfl

theorem PInv.fresh {held view pool next} (h : PInv held view pool next) : PInv (next :: held) view pool (next + 1) :=
  have new : ∀ s, next ∉ store view pool s := fun s hm => Nat.lt_irrefl _ (h.lt _ (.inr ⟨s, hm⟩))
  ⟨h.nd, List.nodup_cons.mpr ⟨fun hm => Nat.lt_irrefl _ (h.lt _ (.inl hm)), h.hnd⟩, h.one,
   fun s r hr hm => (List.mem_cons.mp hm).elim (fun e => new s (e ▸ hr)) (h.hd s r hr),
   fun r hr => hr.elim (fun m => (List.mem_cons.mp m).elim (fun e => e ▸ Nat.lt_succ_self _)
     fun m => Nat.lt_succ_of_lt (h.lt r (.inl m))) fun m => Nat.lt_succ_of_lt (h.lt r (.inr m))⟩

/-- `CookieJar.Release`: the jar forgets its objects -/
theorem PInv.forget {held view pool next} (h : PInv held view pool next) : PInv held (fun _ => []) pool next := by
  have sub : ∀ s r, r ∈ store (fun _ => []) pool s → r ∈ store view pool s := fun s r hr => by
    cases s with
    | none => exact hr
    | some k => cases hr
  refine ⟨fun s => ?_, h.hnd, fun s s' r m m' => h.one s s' r (sub s r m) (sub s' r m'), fun s r m => h.hd s r (sub s r m),
    fun r hr => h.lt r (hr.imp_right fun ⟨s, m⟩ => ⟨s, sub s r m⟩)⟩
  cases s with
  | none => exact h.nd none
  | some k => exact .nil

theorem PInv.perm {held held' : List Ref} {view pool next} (hp : held'.Perm held) (h : PInv held view pool next) :
    PInv held' view pool next :=
  h.move_pool ((List.perm_append_left_iff pool).mpr hp)

theorem PInv.congr {held view view' pool next} (h : PInv held view pool next) (e : ∀ k, view k = view' k) :
    PInv held view' pool next := by
  have : view = view' := funext e
  subst this; exact h

theorem PInv.ne_head {c : Ref} {held view pool next} (h : PInv (c :: held) view pool next) {k : Bytes} {x : Ref}
    (hx : x ∈ view k) : x ≠ c := fun e => h.hd (some k) x hx (e ▸ List.mem_cons_self ..)

theorem acquire_heap (pol : Policy) (st : JarState) : (acquire pol st).2.heap = st.heap := by
  fun_cases acquire pol st <;> rfl

theorem getElem_cons_eraseIdx_perm : ∀ (l : List Ref) (i : Nat) (h : i < l.length), (l[i] :: l.eraseIdx i).Perm l
  | _ :: _, 0, _ => .refl _
  | x :: xs, i + 1, h => (List.Perm.swap ..).trans ((getElem_cons_eraseIdx_perm xs i (by simpa using h)).cons x)

theorem release_jar (st : JarState) (r : Ref) : (release st r).jar = st.jar := rfl

theorem release_heap_ne (st : JarState) (r x : Ref) (h : x ≠ r) : (release st r).heap x = st.heap x := by
  simp [release, setHeap, h]

theorem releaseAll_eq (rs : List Ref) : ∀ st : JarState, releaseAll st rs =
    { st with heap := fun x => if x ∈ rs then blankCookie else st.heap x, pool := rs.reverse ++ st.pool } := by
  induction rs with
  | nil => intro st; simp [releaseAll]
  | cons r rs ih =>
    intro st
    rw [releaseAll, List.foldl_cons, ← releaseAll, ih]
    simp only [release, setHeap, List.reverse_cons, List.append_assoc, List.singleton_append, List.mem_cons]
    congr 1; funext x; by_cases e : x = r <;> simp [e]

theorem releaseAll_jar (rs : List Ref) (st : JarState) : (releaseAll st rs).jar = st.jar := by rw [releaseAll_eq]

theorem releaseAll_heap (rs : List Ref) (st : JarState) (x : Ref) (hx : x ∉ rs) : (releaseAll st rs).heap x = st.heap x := by
  rw [releaseAll_eq]; exact if_neg hx

theorem releaseAll_inv (rs : List Ref) (st : JarState) {held view} (h : PInv (rs ++ held) view st.pool st.next) :
    PInv held view (releaseAll st rs).pool (releaseAll st rs).next := by
  rw [releaseAll_eq]
  exact h.move_pool ((((List.reverse_perm rs).append_right _).trans List.perm_append_comm).append_right held |>.trans
    (by rw [List.append_assoc]))

/-- How a rewrite of a host key's list ends: the objects the caller took for it (`take`) and the objects of the host key
    are handed out again, `l` to the key and `gone` to the pool. Nothing that stays anywhere is written. -/
theorem settle {st : JarState} {take held : List Ref} {view : Bytes → List Ref}
    (hI : PInv (take ++ held) view st.pool st.next) (key : Bytes) {gone l : List Ref}
    (hp : (l ++ gone).Perm (view key ++ take)) :
    PInv held (fun k => if k = key then l else view k) (releaseAll st gone).pool (releaseAll st gone).next ∧
    l.map (releaseAll st gone).heap = l.map st.heap ∧
    (∀ k x, k ≠ key → x ∈ view k → (releaseAll st gone).heap x = st.heap x) := by
  have h1 : PInv (gone ++ held) (fun k => if k = key then l else view k) st.pool st.next :=
    hI.move_key key (by simpa only [List.append_assoc] using hp.append_right held)
  refine ⟨releaseAll_inv gone st h1, List.map_congr_left fun x hx => ?_, fun k x hk hx => ?_⟩
  · exact releaseAll_heap gone st x fun hm => h1.hd (some key) x (by simpa [store] using hx) (List.mem_append_left _ hm)
  · exact releaseAll_heap gone st x fun hm => h1.hd (some k) x (by simpa [store, hk] using hx) (List.mem_append_left _ hm)

/-- `AcquireCookie()` and filling the object in -/
def alloc (pol : Policy) (st : JarState) (v : Cookie) : Ref × JarState :=
  ((acquire pol st).1, { (acquire pol st).2 with heap := setHeap (acquire pol st).2.heap (acquire pol st).1 v })

theorem alloc_spec (pol : Policy) (st : JarState) (v : Cookie) {held view} (h : PInv held view st.pool st.next) :
    PInv ((alloc pol st v).1 :: held) view (alloc pol st v).2.pool (alloc pol st v).2.next ∧
    (alloc pol st v).2.jar = st.jar ∧ (alloc pol st v).2.heap = setHeap st.heap (alloc pol st v).1 v := by
  unfold alloc
  -- a pooled object changes hands; in the other two cases of `acquire` the object is new
  fun_cases acquire pol st
  case case1 i _ hi =>
    exact ⟨h.move_pool (List.perm_middle.trans ((getElem_cons_eraseIdx_perm st.pool i hi).append_right held)), rfl, rfl⟩
  all_goals exact ⟨h.fresh, rfl, rfl⟩

theorem map_setHeap (h : Ref → Cookie) (r : Ref) (c : Cookie) {l : List Ref} (hr : r ∉ l) :
    l.map (setHeap h r c) = l.map h :=
  List.map_congr_left fun y hy => show (if y = r then c else h y) = h y from if_neg fun (e : y = r) => hr (e ▸ hy)

theorem findIdx?_split {p : Ref → Bool} : ∀ {l : List Ref} {i : Nat}, l.findIdx? p = some i →
    ∃ as x bs, l = as ++ x :: bs ∧ (∀ y ∈ as, p y = false) ∧ p x = true ∧ l.getD i 0 = x ∧
      l.eraseIdx i = as ++ bs ∧ ∀ c, setAt l i c = as ++ c :: bs
  | [], _, h => by simp at h
  | y :: ys, i, h => by
    rw [List.findIdx?_cons] at h
    split at h
    · next hy => cases h; exact ⟨[], y, ys, rfl, nofun, hy, rfl, rfl, fun _ => rfl⟩
    · next hy =>
      obtain ⟨j, hj, rfl⟩ := Option.map_eq_some_iff.mp h
      obtain ⟨as, x, bs, rfl, h1, h2, h3, h4, h5⟩ := findIdx?_split hj
      exact ⟨y :: as, x, bs, rfl, List.forall_mem_cons.mpr ⟨by simpa using hy, h1⟩, h2, h3, congrArg (y :: ·) h4,
        fun c => congrArg (y :: ·) (h5 c)⟩

theorem abs_map_split (h : Ref → Cookie) (c : Cookie) {as bs : List Ref} {x : Ref}
    (hn : ∀ y ∈ as, sameCookie (h y) c = false) (hx : sameCookie (h x) c = true) :
    absUpsert ((as ++ x :: bs).map h) c = as.map h ++ c :: bs.map h ∧
    absRemove ((as ++ x :: bs).map h) c = as.map h ++ bs.map h := by
  induction as with
  | nil => simp [absUpsert, absRemove, hx]
  | cons y ys ih =>
    have := ih fun z hz => hn z (List.mem_cons_of_mem _ hz)
    simpa [absUpsert, absRemove, hn y (List.mem_cons_self ..)] using this

theorem abs_map_none (h : Ref → Cookie) (c : Cookie) {l : List Ref} (hn : ∀ y ∈ l, sameCookie (h y) c = false) :
    absUpsert (l.map h) c = l.map h ++ [c] ∧ absRemove (l.map h) c = l.map h := by
  induction l with
  | nil => simp [absUpsert, absRemove]
  | cons y ys ih =>
    have := ih fun z hz => hn z (List.mem_cons_of_mem _ hz)
    simpa [absUpsert, absRemove, hn y (List.mem_cons_self ..)] using this

theorem jarGet_jarPut (j : List (Bytes × List Ref)) (k : Bytes) (v : List Ref) (k' : Bytes) :
    jarGet (jarPut j k v) k' = if k' = k then some v else jarGet j k' :=
  find_put jarPut (fun _ _ => rfl) (fun _ _ _ _ => rfl) j k v k'

theorem absGetHost_absPut (a : AbsJar) (k : Bytes) (v : List Cookie) (k' : Bytes) :
    absGetHost (absPut a k v) k' = if k' = k then v else absGetHost a k' := by
  unfold absGetHost
  rw [find_put absPut (fun _ _ => rfl) (fun _ _ _ _ => rfl)]
  split <;> rfl

theorem absGetHost_absPurgeK (a : AbsJar) (key : Bytes) (now : Nat) (k' : Bytes) :
    absGetHost (absPurgeK a key now) k' =
      if k' = key then (absGetHost a key).filter (fun c => !expiredAt now c) else absGetHost a k' := by
  fun_cases absPurgeK a key now
  case case1 hn =>
    by_cases h : k' = key
    · subst h; simp [absGetHost, hn]
    · simp [h]
  case case2 => rw [absGetHost_absPut]

theorem absGetHost_absSet (a : AbsJar) (host : Bytes) (c : Cookie) (k : Bytes) :
    absGetHost (absSet a host c) k =
      if k = hostKey host then absUpsert (absGetHost a (hostKey host)) c else absGetHost a k := by
  unfold absSet; rw [absGetHost_absPut]

def absRespFold (now : Nat) (cs : List Cookie) (scs : List Cookie) : List Cookie :=
  scs.foldl (fun cs sc => if deadOnArrival now sc then absRemove cs sc else absUpsert cs sc) cs

theorem absGetHost_absResp (a : AbsJar) (host : Bytes) (scs : List Cookie) (now : Nat) (k : Bytes) :
    absGetHost (absResp a host scs now) k =
      if k = hostKey host then absRespFold now (absGetHost a (hostKey host)) scs else absGetHost a k := by
  unfold absResp; rw [absGetHost_absPut]; rfl

/-- the jar state, with callers holding `held`, stands for the abstract store `a` -/
structure Sim (held : List Ref) (st : JarState) (a : AbsJar) : Prop where
  inv : PInv held (refsOf st) st.pool st.next
  ref : ∀ k, absGetHost a k = (refsOf st k).map st.heap

theorem sim_init : Sim [] JarState.init [] := by
  have e : ∀ s, store (refsOf JarState.init) JarState.init.pool s = [] := fun s => by cases s <;> rfl
  refine ⟨⟨fun s => e s ▸ .nil, .nil, fun s _ r h => ?_, fun s r h => ?_, fun r h => ?_⟩, fun k => ?_⟩
  · rw [e] at h; cases h
  · rw [e] at h; cases h
  · obtain h | ⟨s, h⟩ := h
    · cases h
    · rw [e] at h; cases h
  · simp [refsOf, JarState.init, jarGet, absGetHost]

/-- the jar's map gets `L` under `key`; the other keys' objects are untouched -/
theorem refines_put {st st' : JarState} {a a' : AbsJar} {key : Bytes} {L held held' : List Ref} (h : Sim held' st a)
    (hj : st'.jar = jarPut st.jar key L)
    (hI : PInv held (fun k => if k = key then L else refsOf st k) st'.pool st'.next)
    (hh : ∀ k x, k ≠ key → x ∈ refsOf st k → st'.heap x = st.heap x)
    (ha : ∀ k, absGetHost a' k = if k = key then L.map st'.heap else absGetHost a k) : Sim held st' a' := by
  have hview : ∀ k, refsOf st' k = if k = key then L else refsOf st k := fun k => by
    simp only [refsOf, hj, jarGet_jarPut]; split <;> rfl
  refine ⟨hI.congr fun k => (hview k).symm, fun k => ?_⟩
  rw [ha, hview]
  split
  · rfl
  · next hk => rw [h.ref k]; exact (List.map_congr_left fun x hx => hh k x hk hx).symm

/-- the jar's map is as before and no object the jar holds was written -/
theorem Sim.transfer {st st' : JarState} {a : AbsJar} {held held' : List Ref} (h : Sim held st a) (hj : st'.jar = st.jar)
    (hI : PInv held' (refsOf st) st'.pool st'.next)
    (hh : ∀ k x, x ∈ refsOf st k → st'.heap x = st.heap x) : Sim held' st' a := by
  have : refsOf st' = refsOf st := funext fun k => by simp [refsOf, hj]
  refine ⟨this ▸ hI, fun k => ?_⟩
  rw [h.ref k, this]
  exact (List.map_congr_left (hh k)).symm

theorem getCookiesByHost_spec (st : JarState) (key : Bytes) (now : Nat) {held : List Ref} {a : AbsJar} (h : Sim held st a) :
    Sim held (getCookiesByHost st key now).2 (absPurgeK a key now) ∧
    (getCookiesByHost st key now).1 = refsOf (getCookiesByHost st key now).2 key ∧
    (getCookiesByHost st key now).1.map (getCookiesByHost st key now).2.heap =
      (absGetHost a key).filter (fun c => !expiredAt now c) := by
  unfold getCookiesByHost
  split
  · next hg =>
    have hr : refsOf st key = [] := by simp [refsOf, hg]
    refine ⟨⟨h.inv, fun k => ?_⟩, hr.symm, ?_⟩
    · rw [absGetHost_absPurgeK]
      by_cases hk : k = key
      · subst hk; simp [h.ref k, hr]
      · simp [hk, h.ref k]
    · simp [h.ref key, hr]
  · next refs hg =>
    have hr : refsOf st key = refs := by simp [refsOf, hg]
    obtain ⟨s1, s2, s3⟩ := settle (take := []) h.inv key
      (l := refs.filter fun r => !expiredAt now (st.heap r)) (gone := refs.filter fun r => expiredAt now (st.heap r))
      (by rw [hr, List.append_nil]; exact List.perm_append_comm.trans (List.filter_append_perm _ refs))
    have hmap := s2.trans
      (show _ = (absGetHost a key).filter (fun c => !expiredAt now c) by rw [h.ref key, hr, List.filter_map]; rfl)
    exact ⟨refines_put h (congrArg (jarPut · _ _) (releaseAll_jar _ _)) s1 s3 fun k => by rw [absGetHost_absPurgeK, hmap],
      by simp [refsOf, jarGet_jarPut], hmap⟩

theorem getByHostAndPath_spec (st : JarState) (host path : Bytes) (now : Nat) {held : List Ref} {a : AbsJar}
    (h : Sim held st a) :
    Sim held (getByHostAndPath st host path now).2 (absPurge a host now) ∧
    (∀ r, r ∈ (getByHostAndPath st host path now).1 → r ∈ refsOf (getByHostAndPath st host path now).2 (hostKey host)) ∧
    (getByHostAndPath st host path now).1.map (getByHostAndPath st host path now).2.heap = implGet a host path now := by
  obtain ⟨g1, g3, g4⟩ := getCookiesByHost_spec st (hostKey host) now h
  unfold getByHostAndPath
  simp only
  refine ⟨g1, ?_, ?_⟩
  · intro r hr; rw [← g3]; exact (List.mem_filter.mp hr).1
  · unfold implGet
    have : (absGetHost a (hostKey host)).filter (fun c => !expiredAt now c && implPathOK path c.path) =
        ((absGetHost a (hostKey host)).filter (fun c => !expiredAt now c)).filter (fun c => implPathOK path c.path) := by
      rw [List.filter_filter]; congr 1; funext c; exact Bool.and_comm _ _
    rw [this, ← g4, List.filter_map]; rfl

theorem copyOut_spec (pol : Policy) : ∀ (rs : List Ref) (st : JarState) {held : List Ref} {view : Bytes → List Ref},
    PInv held view st.pool st.next → (∀ r, r ∈ rs → ∃ k, r ∈ view k) →
    PInv ((copyOut pol rs st).1 ++ held) view (copyOut pol rs st).2.pool (copyOut pol rs st).2.next ∧
    (copyOut pol rs st).2.jar = st.jar ∧
    (copyOut pol rs st).1.map (copyOut pol rs st).2.heap = rs.map st.heap ∧
    (∀ x, (x ∈ held ∨ ∃ k, x ∈ view k) → (copyOut pol rs st).2.heap x = st.heap x) := by
  intro rs
  induction rs with
  | nil => intro st held view h _; exact ⟨h, rfl, rfl, fun _ _ => rfl⟩
  | cons r rs ih =>
    intro st held view h hrs
    have hco : copyOut pol (r :: rs) st = ((alloc pol st (st.heap r)).1 :: (copyOut pol rs (alloc pol st (st.heap r)).2).1,
        (copyOut pol rs (alloc pol st (st.heap r)).2).2) := by rw [← acquire_heap pol st]; rfl
    obtain ⟨hA, hj, hh⟩ := alloc_spec pol st (st.heap r) h
    rw [hco]
    generalize alloc pol st (st.heap r) = A at hA hj hh ⊢
    obtain ⟨c, st1⟩ := A
    dsimp only at hA hj hh ⊢
    have hrs' : ∀ x, x ∈ rs → ∃ k, x ∈ view k := fun x hx => hrs x (List.mem_cons_of_mem _ hx)
    obtain ⟨i1, i2, i3, i4⟩ := ih st1 hA hrs'
    have hx : ∀ x, (x ∈ held ∨ ∃ k, x ∈ view k) → st1.heap x = st.heap x := fun x hx => by
      have : x ≠ c := hx.elim (fun m e => (List.nodup_cons.mp hA.hnd).1 (e ▸ m)) fun ⟨k, m⟩ => hA.ne_head m
      simp [hh, setHeap, this]
    refine ⟨i1.perm List.perm_middle.symm, i2.trans hj, ?_, fun x m => ?_⟩
    · rw [List.map_cons, List.map_cons, i3, i4 c (.inl (List.mem_cons_self ..)),
        List.map_congr_left fun x m => hx x (.inr (hrs' x m))]
      simp [hh, setHeap]
    · rw [i4 x (m.imp_left (List.mem_cons_of_mem _)), hx x m]

theorem jarGetCopies_spec (pol : Policy) (st : JarState) (host path : Bytes) (now : Nat) {held : List Ref} {a : AbsJar}
    (h : Sim held st a) :
    Sim ((jarGetCopies pol st host path now).1 ++ held) (jarGetCopies pol st host path now).2 (absPurge a host now) ∧
    (jarGetCopies pol st host path now).1.map (jarGetCopies pol st host path now).2.heap = implGet a host path now := by
  obtain ⟨g1, g3, g4⟩ := getByHostAndPath_spec st host path now h
  obtain ⟨c1, c2, c3, c4⟩ := copyOut_spec pol _ _ g1.inv (fun r hr => ⟨_, g3 r hr⟩)
  exact ⟨g1.transfer c2 c1 fun k x hx => c4 x (.inr ⟨k, hx⟩), c3.trans g4⟩

theorem setByHost_spec (pol : Policy) (st : JarState) (host : Bytes) (c : Cookie) {held : List Ref} {a : AbsJar}
    (h : Sim held st a) : Sim held (setByHost pol st host c) (absSet a host c) := by
  unfold setByHost
  simp only
  rw [show (jarGet st.jar (hostKey host)).getD [] = refsOf st (hostKey host) from rfl]
  have ha : ∀ L, L = absUpsert ((refsOf st (hostKey host)).map st.heap) c → ∀ k, absGetHost (absSet a host c) k =
      if k = hostKey host then L else absGetHost a k := fun L e k => by rw [absGetHost_absSet, h.ref, e]
  split
  · next r hf =>
    -- the stored object is overwritten in place
    obtain ⟨hr, as, bs, e, hn⟩ := List.find?_eq_some_iff_append.mp hf
    have hnd := h.inv.nd (some (hostKey host))
    have hm : r ∈ refsOf st (hostKey host) := e ▸ by simp
    refine refines_put h rfl (h.inv.congr fun k => ?_) (fun k x hk hx => ?_) (ha _ ?_)
    · split
      · next e => rw [e]
      · rfl
    · have : x ≠ r := fun e' => hk (Option.some.inj (h.inv.one (some k) (some _) x hx (e' ▸ hm)))
      simp [setHeap, this]
    · simp only [store, e, List.nodup_append, List.nodup_cons] at hnd
      rw [e, (abs_map_split st.heap c (by simpa using hn) hr).1, List.map_append, List.map_cons,
        map_setHeap _ _ _ fun m => hnd.2.2 r m r (List.mem_cons_self ..) rfl, map_setHeap _ _ _ hnd.2.1.1]
      simp [setHeap]
  · next hf =>
    obtain ⟨hA, hj, hh⟩ := alloc_spec pol st c h.inv
    obtain ⟨s1, -, s3⟩ := settle (take := [_]) (gone := []) (l := refsOf st (hostKey host) ++ [(alloc pol st c).1]) hA
      (hostKey host) (by rw [List.append_nil])
    have hx : ∀ k x, x ∈ refsOf st k → (alloc pol st c).2.heap x = st.heap x := fun k x hx => by
      simp [hh, setHeap, hA.ne_head hx]
    refine refines_put (st' := { (alloc pol st c).2 with jar := _ }) h (congrArg (jarPut · _ _) hj) s1 (fun k x _ => hx k x)
      (ha _ ?_)
    rw [(abs_map_none st.heap c (by simpa using hf)).1, List.map_append, List.map_congr_left (hx _)]
    simp [setHeap, alloc]

/-- one `Set-Cookie` in the words of `alloc` and `releaseAll`: which objects stay with the key and which go back -/
theorem respOne_eq (pol : Policy) (now : Nat) (refs : List Ref) (st : JarState) (sc : Cookie) :
    respOne pol now (refs, st) sc =
      match refs.findIdx? (fun r => sameCookie ((alloc pol st sc).2.heap r) sc), deadOnArrival now sc with
      | some i, true => (refs.eraseIdx i, releaseAll (alloc pol st sc).2 [refs.getD i 0, (alloc pol st sc).1])
      | none, true => (refs, releaseAll (alloc pol st sc).2 [(alloc pol st sc).1])
      | some i, false => (setAt refs i (alloc pol st sc).1, releaseAll (alloc pol st sc).2 [refs.getD i 0])
      | none, false => (refs ++ [(alloc pol st sc).1], releaseAll (alloc pol st sc).2 []) := rfl

/-- a step of `parseCookiesFromResp` on host key `key`: from `st`, where the key's objects are `view key`, to the working
    list and state `r`, whose cookies are `L`; the jar's map and the other keys' objects are as before -/
structure RespStep (held : List Ref) (view : Bytes → List Ref) (key : Bytes) (st : JarState) (r : List Ref × JarState)
    (L : List Cookie) : Prop where
  inv : PInv held (fun k => if k = key then r.1 else view k) r.2.pool r.2.next
  val : r.1.map r.2.heap = L
  frame : ∀ k x, k ≠ key → x ∈ view k → r.2.heap x = st.heap x
  jar : r.2.jar = st.jar

theorem respOne_spec (pol : Policy) (now : Nat) (key : Bytes) (st : JarState) (sc : Cookie)
    {held : List Ref} {view : Bytes → List Ref} (hI : PInv held view st.pool st.next) :
    RespStep held view key st (respOne pol now (view key, st) sc)
      (if deadOnArrival now sc then absRemove ((view key).map st.heap) sc else absUpsert ((view key).map st.heap) sc) := by
  rw [respOne_eq]
  obtain ⟨hA, hj, hh⟩ := alloc_spec pol st sc hI
  generalize alloc pol st sc = a at hA hj hh ⊢
  obtain ⟨c, st1⟩ := a
  dsimp only at hA hj hh ⊢
  have hx : ∀ k x, x ∈ view k → st1.heap x = st.heap x := fun k x hx => by simp [hh, setHeap, hA.ne_head hx]
  have hc : st1.heap c = sc := by simp [hh, setHeap]
  rw [← List.map_congr_left (hx key)]
  -- whichever way the step hands the objects out again (`l` to the key, `gone` to the pool), `settle` gives the rest
  have out : ∀ gone l : List Ref, (l ++ gone).Perm (view key ++ [c]) → ∀ L : List Cookie, l.map st1.heap = L →
      RespStep held view key st (l, releaseAll st1 gone) L := fun gone l hp L hL =>
    have ⟨s1, s2, s3⟩ := settle (take := [c]) hA key hp
    ⟨s1, s2.trans hL, fun k x hk hm => (s3 k x hk hm).trans (hx k x hm), (releaseAll_jar ..).trans hj⟩
  -- four cases: the Set-Cookie is alive and no such cookie is stored (append); alive and stored as `x` (`c` takes its
  -- place, `x` goes back); expired and not stored (`c` goes back); expired and stored as `x` (both go back)
  cases hd : deadOnArrival now sc <;> cases hf : List.findIdx? (fun r => sameCookie (st1.heap r) sc) (view key) <;>
    simp only [if_true, Bool.false_eq_true, if_false]
  · have hn := abs_map_none st1.heap sc (List.findIdx?_eq_none_iff.mp hf)
    exact out [] _ (by simp) _ (by rw [hn.1, List.map_append, List.map_singleton, hc])
  · obtain ⟨as, x, bs, e, h1, h2, h3, -, h5⟩ := findIdx?_split hf
    rw [h3, h5, e, (abs_map_split st1.heap sc h1 h2).1]
    refine out [x] _ ?_ _ (by simp [hc])
    -- `x` and `c` change places: the same objects, counted
    rw [e, List.perm_iff_count]; intro a; simp only [List.count_append, List.count_cons, List.count_nil]; omega
  · have hn := abs_map_none st1.heap sc (List.findIdx?_eq_none_iff.mp hf)
    exact out [c] _ (.refl _) _ hn.2.symm
  · obtain ⟨as, x, bs, e, h1, h2, h3, h4, -⟩ := findIdx?_split hf
    rw [h3, h4, e, (abs_map_split st1.heap sc h1 h2).2]
    refine out [x, c] _ ?_ _ (by simp)
    rw [e, List.perm_iff_count]; intro a; simp only [List.count_append, List.count_cons, List.count_nil]; omega

theorem respFold_spec (pol : Policy) (now : Nat) (key : Bytes) (scs : List Cookie) (st : JarState)
    {held : List Ref} {view : Bytes → List Ref} (hI : PInv held view st.pool st.next) :
    RespStep held view key st (scs.foldl (respOne pol now) (view key, st)) (absRespFold now ((view key).map st.heap) scs) := by
  -- the steps compose: `respOne_spec` from where the steps so far have led
  refine List.foldl_rel (r := RespStep held view key st)
    ⟨hI.congr fun k => by by_cases hk : k = key <;> simp [hk], rfl, fun _ _ _ _ => rfl, rfl⟩ fun sc _ r L s => ?_
  obtain ⟨s1, s2, s3, s4⟩ := respOne_spec pol now key r.2 sc s.inv
  simp only [if_true] at s1 s2 s3 s4
  exact ⟨s1.congr fun k => by by_cases hk : k = key <;> simp [hk], s.val ▸ s2,
    fun k x hk hx => (s3 k x hk (by simp [hk, hx])).trans (s.frame k x hk hx), s4.trans s.jar⟩

theorem parseCookiesFromResp_spec (pol : Policy) (st : JarState) (host : Bytes) (scs : List Cookie) (now : Nat)
    {held : List Ref} {a : AbsJar} (h : Sim held st a) :
    Sim held (parseCookiesFromResp pol st host scs now) (absResp a host scs now) := by
  obtain ⟨f1, f2, f3, f4⟩ := respFold_spec pol now (hostKey host) scs st h.inv
  exact refines_put h (congrArg (jarPut · _ _) f4) f1 f3 fun k => by
    rw [absGetHost_absResp, h.ref (hostKey host), ← f2]; rfl

/-- the Response's own cookie objects (`parserResponseCookie`) -/
def holdAll (pol : Policy) (scs : List Cookie) (acc : List Ref × JarState) : List Ref × JarState :=
  scs.foldl (fun (acc : List Ref × JarState) sc =>
      let a := acquire pol acc.2
      (acc.1 ++ [a.1], { a.2 with heap := setHeap a.2.heap a.1 sc })) acc

theorem alloc_sim (pol : Policy) (st : JarState) (c : Cookie) {held : List Ref} {a : AbsJar} (h : Sim held st a) :
    Sim ((alloc pol st c).1 :: held) (alloc pol st c).2 a :=
  have ⟨hA, hj, hh⟩ := alloc_spec pol st c h.inv
  h.transfer hj hA fun k x hx => by simp [hh, setHeap, hA.ne_head hx]

theorem holdAll_spec (pol : Policy) (scs : List Cookie) (acc : List Ref) (st : JarState) {held : List Ref} {a : AbsJar}
    (h : Sim (acc ++ held) st a) : Sim ((holdAll pol scs (acc, st)).1 ++ held) (holdAll pol scs (acc, st)).2 a :=
  List.foldlRecOn (motive := fun r : List Ref × JarState => Sim (r.1 ++ held) r.2 a) scs _ h fun r hr sc _ =>
    have h1 := alloc_sim pol r.2 sc hr
    ⟨h1.inv.perm (by rw [List.append_assoc]; exact List.perm_middle), h1.ref⟩

theorem releaseAll_spec {st : JarState} {rs held : List Ref} {a : AbsJar} (h : Sim (rs ++ held) st a) :
    Sim held (releaseAll st rs) a :=
  h.transfer (releaseAll_jar _ _) (releaseAll_inv _ _ h.inv) fun k x hx =>
    releaseAll_heap _ _ x fun hm => h.inv.hd (some k) x hx (List.mem_append_left _ hm)

theorem step_refines (pol : Policy) (now : Nat) (st : JarState) (op : JarOp) {held : List Ref} {a : AbsJar}
    (h : Sim held st a) :
    (stepJar pol now st op).1 = implObsOf now a op ∧ ∃ held', Sim held' (stepJar pol now st op).2 (absStep now a op) := by
  -- `stepJar` writes `AcquireCookie` + fill (`alloc`), the Response's cookie objects (`holdAll`) and `ReleaseCookie`
  -- (`releaseAll`) inline; each branch below is the operation in those words, up to unfolding
  cases op with
  | releaseJar => exact ⟨rfl, held, h.inv.forget, fun _ => rfl⟩
  | set host c =>
    exact ⟨rfl, _, releaseAll_spec (rs := [_]) (setByHost_spec pol _ host c (alloc_sim pol st c h))⟩
  | setKV host name value =>
    exact ⟨rfl, _, setByHost_spec pol _ host _ (alloc_sim pol st ⟨name, value, [], none⟩ h)⟩
  | get host path =>
    obtain ⟨c1, c3⟩ := jarGetCopies_spec pol st host path now h
    exact ⟨congrArg JarObs.cookies c3, _, c1⟩
  | getRelease host path =>
    obtain ⟨c1, c3⟩ := jarGetCopies_spec pol st host path now h
    exact ⟨congrArg JarObs.cookies c3, _, releaseAll_spec c1⟩
  | resp host reqPath scs =>
    obtain ⟨g1, -, g4⟩ := getByHostAndPath_spec st host reqPath now h
    exact ⟨congrArg (fun l => JarObs.header (renderCookieHeader (cookieHeaderOf l))) g4, _,
      releaseAll_spec (parseCookiesFromResp_spec pol _ host scs now (holdAll_spec pol scs [] _ (held := held) g1))⟩

end C18
