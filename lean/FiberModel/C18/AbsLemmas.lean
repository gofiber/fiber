import FiberModel.C18.JarLemmas
/-
C18 (b) — facts about the abstract store `AbsJar` (host key ↦ cookies): path tests, uniqueness per
(name, path), provenance of stored cookies, independence of host keys; then whole histories: the refinement of the
pooled jar carried along a history (`finalJarT`, `absFinalT`, `run_refines`) and the oracle `specJarT` on the runs of
the specification and of the code's path test.
-/
namespace C18
open B

theorem implGet_eq_specGet (j : AbsJar) (host path : Bytes) (now : Nat)
    (h : ((absGetHost j (hostKey host)).any fun c =>
            !expiredAt now c && (implPathOK path c.path != specPathOK path c.path)) = false) :
    implGet j host path now = specGet j host path now := by
  unfold implGet specGet
  apply List.filter_congr
  intro c hc
  have := (List.any_eq_false.mp h) c hc
  cases he : expiredAt now c <;> simp [he] at this ⊢
  exact this

theorem implObs_eq_specObs (now : Nat) (j : AbsJar) (op : JarOp) (h : Known.k1At now j op = false) :
    implObsOf now j op = specObs now j op := by
  -- `set`, `setKV`, `releaseJar` observe `.done` on both sides (closed by the first `simp only`); the three lookups
  -- differ in the path test only, and `h` says it agrees on what is stored
  cases op <;> simp only [implObsOf, specObs] <;> simp only [Known.k1At, lookupOf] at h <;>
    rw [implGet_eq_specGet _ _ _ _ h]

theorem implRunT_eq_specRunT (hist : List (Nat × JarOp)) (j : AbsJar) (h : Known.K1 j hist = false) :
    implRunT j hist = specRunT j hist := by
  fun_induction Known.K1 j hist
  case case1 => rfl
  case case2 j now op hist ih =>
    rw [Bool.or_eq_false_iff] at h
    rw [implRunT, specRunT, implObs_eq_specObs now j op h.1, ih h.2]

theorem samePath_symm (a c : Bytes) : samePath a c = samePath c a := by
  unfold samePath; rw [BEq.comm, Bool.and_comm]

theorem samePath_trans (a c d : Bytes) (h1 : samePath a c = true) (h2 : samePath c d = true) : samePath a d = true := by
  unfold samePath at *
  simp only [Bool.or_eq_true, Bool.and_eq_true, decide_eq_true_eq, beq_iff_eq] at *
  rcases h1 with h1 | h1 <;> rcases h2 with h2 | h2
  · exact Or.inl ⟨h1.1, h2.2⟩
  · subst h2; exact Or.inl h1
  · subst h1; exact Or.inl h2
  · exact Or.inr (h1.trans h2)

theorem sameCookie_symm (c d : Cookie) : sameCookie c d = sameCookie d c := by
  unfold sameCookie; rw [samePath_symm, BEq.comm]

theorem sameCookie_trans (c d e : Cookie) (h1 : sameCookie c d = true) (h2 : sameCookie d e = true) :
    sameCookie c e = true := by
  unfold sameCookie at *
  simp only [Bool.and_eq_true, beq_iff_eq] at *
  exact ⟨h1.1.trans h2.1, samePath_trans _ _ _ h1.2 h2.2⟩

theorem sameCookie_refl (c : Cookie) : sameCookie c c = true := by
  simp [sameCookie, samePath]

/-- no two stored cookies of a host share (name, path) -/
def UniqList (l : List Cookie) : Prop := l.Pairwise fun c d => sameCookie c d = false

theorem uniqList_cons {x : Cookie} {xs : List Cookie} :
    UniqList (x :: xs) ↔ (∀ d ∈ xs, sameCookie x d = false) ∧ UniqList xs := List.pairwise_cons

theorem UniqList.filter {l : List Cookie} (h : UniqList l) (p : Cookie → Bool) : UniqList (l.filter p) :=
  List.Pairwise.filter p h

theorem mem_absUpsert (l : List Cookie) (c d : Cookie) (h : d ∈ absUpsert l c) : d = c ∨ d ∈ l := by
  fun_induction absUpsert l c
  case case1 => simpa using h
  case case2 => exact (List.mem_cons.mp h).imp_right (List.mem_cons_of_mem _)
  case case3 ih =>
    exact (List.mem_cons.mp h).elim (fun e => .inr (e ▸ List.mem_cons_self)) fun h => (ih h).imp_right (List.mem_cons_of_mem _)

theorem self_mem_absUpsert (l : List Cookie) (c : Cookie) : c ∈ absUpsert l c := by
  fun_induction absUpsert l c
  case case3 ih => exact List.mem_cons_of_mem _ ih
  all_goals exact List.mem_cons_self

theorem absRemove_sublist (l : List Cookie) (c : Cookie) : (absRemove l c).Sublist l := by
  fun_induction absRemove l c
  case case1 => exact .slnil
  case case2 => exact .cons _ (.refl _)
  case case3 ih => exact ih.cons_cons _

theorem uniq_absUpsert (l : List Cookie) (c : Cookie) (h : UniqList l) : UniqList (absUpsert l c) := by
  fun_induction absUpsert l c
  case case1 => exact uniqList_cons.mpr ⟨nofun, h⟩
  case case2 x xs c hx =>
    rw [uniqList_cons] at h
    refine uniqList_cons.mpr ⟨fun d hd => ?_, h.2⟩
    cases hcd : sameCookie c d with
    | false => rfl
    | true =>
      have := sameCookie_trans x c d hx hcd
      rw [h.1 d hd] at this; cases this
  case case3 x xs c hx ih =>
    rw [uniqList_cons] at h
    refine uniqList_cons.mpr ⟨fun d hd => ?_, ih h.2⟩
    rcases mem_absUpsert xs c d hd with e | e
    · subst e; simpa using hx
    · exact h.1 d e

theorem uniq_absRemove (l : List Cookie) (c : Cookie) (h : UniqList l) : UniqList (absRemove l c) :=
  h.sublist (absRemove_sublist l c)

theorem not_sameCookie_of_mem_absRemove (l : List Cookie) (c d : Cookie) (h : UniqList l) (hd : d ∈ absRemove l c) :
    sameCookie d c = false := by
  fun_induction absRemove l c
  case case1 => cases hd
  case case2 x xs c hx =>
    cases hdc : sameCookie d c with
    | false => rfl
    | true =>
      have h1 : sameCookie x d = true := sameCookie_trans x c d hx (by rw [sameCookie_symm]; exact hdc)
      rw [(uniqList_cons.mp h).1 d hd] at h1; cases h1
  case case3 x xs c hx ih =>
    rcases List.mem_cons.mp hd with e | e
    · subst e; simpa using hx
    · exact ih (uniqList_cons.mp h).2 e

theorem uniq_same_eq (l : List Cookie) (h : UniqList l) (c d : Cookie) (hc : c ∈ l) (hd : d ∈ l)
    (hs : sameCookie c d = true) : c = d :=
  (List.pairwise_total h hc hd).elim id fun h' => by rw [sameCookie_symm d c, or_self, hs] at h'; cases h'

theorem uniq_respFold (now : Nat) (scs l : List Cookie) (h : UniqList l) : UniqList (absRespFold now l scs) :=
  List.foldlRecOn scs _ h fun l h sc _ => by
    split
    · exact uniq_absRemove l sc h
    · exact uniq_absUpsert l sc h

theorem mem_absStep_set (now : Nat) (j : AbsJar) (host : Bytes) (c : Cookie) :
    c ∈ absGetHost (absStep now j (.set host c)) (hostKey host) := by
  simp only [absStep]; rw [absGetHost_absSet, if_pos rfl]; exact self_mem_absUpsert _ _

def Uniq (j : AbsJar) : Prop := ∀ k, UniqList (absGetHost j k)

theorem uniq_nil : Uniq [] := by intro k; simp [absGetHost, UniqList]

/-- what an operation does to the list stored under a host key it concerns -/
def keyStep (now : Nat) : JarOp → List Cookie → List Cookie
  | .set _ c, l => absUpsert l c
  | .setKV _ name value, l => absUpsert l { name := name, value := value, path := [], expiry := none }
  | .resp _ _ scs, l => absRespFold now (l.filter fun c => !expiredAt now c) scs
  | .get _ _, l => l.filter fun c => !expiredAt now c
  | .getRelease _ _, l => l.filter fun c => !expiredAt now c
  | .releaseJar, _ => []

theorem absGetHost_absStep (now : Nat) (j : AbsJar) (op : JarOp) (k : Bytes) :
    absGetHost (absStep now j op) k = if concerns k op = true then keyStep now op (absGetHost j k) else absGetHost j k := by
  rcases op with ⟨host, c⟩ | ⟨host, n, v⟩ | ⟨host, p, scs⟩ | ⟨host, p⟩ | ⟨host, p⟩ | _
  case releaseJar => rfl
  all_goals
    simp only [absStep, concerns, opKey, keyStep, absGetHost_absSet, absGetHost_absResp, absPurge, absGetHost_absPurgeK,
      beq_iff_eq]
    by_cases e : hostKey host = k
    · subst e; simp only [if_true]
    · have e' : ¬ k = hostKey host := fun h => e h.symm
      simp only [e, e', if_false]

theorem uniq_keyStep (now : Nat) (op : JarOp) {l : List Cookie} (h : UniqList l) : UniqList (keyStep now op l) := by
  cases op with
  | set | setKV => exact uniq_absUpsert _ _ h
  | resp _ _ scs => exact uniq_respFold now _ _ (h.filter _)
  | get | getRelease => exact h.filter _
  | releaseJar => exact .nil

theorem uniq_step (now : Nat) (j : AbsJar) (op : JarOp) (h : Uniq j) : Uniq (absStep now j op) := by
  intro k
  rw [absGetHost_absStep]
  split
  · exact uniq_keyStep now op (h k)
  · exact h k

theorem mem_absRespFold (now : Nat) (scs l : List Cookie) (d : Cookie) : d ∈ absRespFold now l scs → d ∈ l ∨ d ∈ scs :=
  List.foldlRecOn (motive := fun cs => d ∈ cs → d ∈ l ∨ d ∈ scs) scs _ .inl fun cs ih sc hsc hd => by
    split at hd
    · exact ih ((absRemove_sublist cs sc).mem hd)
    · exact (mem_absUpsert cs sc d hd).elim (fun e => .inr (e ▸ hsc)) ih

theorem mem_keyStep {now : Nat} {op : JarOp} {l : List Cookie} {c : Cookie} (h : c ∈ keyStep now op l) :
    c ∈ l ∨ c ∈ offered op := by
  cases op with
  | set | setKV => exact (mem_absUpsert _ _ _ h).symm.imp_right fun e => by simp [offered, e]
  | resp _ _ scs => exact (mem_absRespFold _ _ _ _ h).imp_left fun e => (List.mem_filter.mp e).1
  | get | getRelease => exact .inl (List.mem_filter.mp h).1
  | releaseJar => cases h

theorem opKey_of_offered {k : Bytes} {op : JarOp} {c : Cookie} (hk : concerns k op = true) (hc : c ∈ offered op) :
    opKey op = some k := by
  cases op with
  | releaseJar => cases hc
  | _ => simpa [concerns, opKey] using hk

theorem implObsOf_congr {now : Nat} {j j' : AbsJar} {op : JarOp} {k : Bytes} (hc : concerns k op = true)
    (h : absGetHost j k = absGetHost j' k) : implObsOf now j op = implObsOf now j' op := by
  cases op <;> simp only [concerns, opKey, beq_iff_eq] at hc <;> simp only [implObsOf, implGet, hc, h]

theorem proj_abs (k : Bytes) : ∀ (hist : List (Nat × JarOp)) (j j' : AbsJar), absGetHost j k = absGetHost j' k →
    projObs k hist (implRunT j hist) = implRunT j' (projHist k hist)
  | [], _, _, _ => rfl
  | (now, op) :: hist, j, j', h => by
    -- two stores that agree under `k` still do after any operation, dropped from the history or not
    have hs : absGetHost (absStep now j op) k = absGetHost (absStep now j' op) k := by
      rw [absGetHost_absStep, absGetHost_absStep, h]
    simp only [implRunT, projObs, projHist, List.filter_cons]
    cases hc : concerns k op
    · rw [absGetHost_absStep now j' op, hc] at hs
      exact proj_abs k hist _ _ hs
    · simp only [if_true, implRunT]
      rw [implObsOf_congr hc h]; exact congrArg _ (proj_abs k hist _ _ hs)

/-- the jar state after a timed history -/
def finalJarT (pol : Policy) : List (Nat × JarOp) → JarState → JarState
  | [], st => st
  | (now, op) :: h, st => finalJarT pol h (stepJar pol now st op).2

/-- the abstract store after a timed history -/
def absFinalT : List (Nat × JarOp) → AbsJar → AbsJar
  | [], j => j
  | (now, op) :: h, j => absFinalT h (absStep now j op)

theorem run_refines (pol : Policy) (hist : List (Nat × JarOp)) (st : JarState) (a : AbsJar) (held : List Ref)
    (h : Sim held st a) :
    runJarT pol hist st = implRunT a hist ∧ ∃ held', Sim held' (finalJarT pol hist st) (absFinalT hist a) := by
  fun_induction finalJarT pol hist st generalizing a held
  case case1 => exact ⟨rfl, held, h⟩
  case case2 now op hist st ih =>
    obtain ⟨s1, held', s2⟩ := step_refines pol now st op h
    obtain ⟨i1, i2⟩ := ih _ held' s2
    exact ⟨by rw [runJarT, implRunT, ← s1, ← i1], i2⟩

theorem implRunT_append (h1 h2 : List (Nat × JarOp)) (j : AbsJar) :
    implRunT j (h1 ++ h2) = implRunT j h1 ++ implRunT (absFinalT h1 j) h2 := by
  fun_induction absFinalT h1 j
  case case1 => rfl
  case case2 now op h1 j ih => rw [List.cons_append, implRunT, implRunT, ih, List.cons_append]

theorem implRunT_last (pre : List (Nat × JarOp)) (now : Nat) (op : JarOp) (j : AbsJar) :
    ((implRunT j (pre ++ [(now, op)])).getLast?).getD .done = implObsOf now (absFinalT pre j) op := by
  rw [implRunT_append]
  simp only [implRunT, List.getLast?_append, List.getLast?_singleton, Option.some_or, Option.getD_some]

/-- the abstract store is a product of per-key machines: the list under a host key after a history is `keyStep`
    folded over the operations that concern the key -/
theorem absGetHost_absFinalT (k : Bytes) : ∀ (hist : List (Nat × JarOp)) (j : AbsJar),
    absGetHost (absFinalT hist j) k = (projHist k hist).foldl (fun l e => keyStep e.1 e.2 l) (absGetHost j k)
  | [], _ => rfl
  | (now, op) :: hist, j => by
    rw [absFinalT, absGetHost_absFinalT k hist, absGetHost_absStep]
    simp only [projHist, List.filter_cons]
    split <;> rfl

theorem mem_foldl_keyStep {c : Cookie} (H : List (Nat × JarOp)) (l0 : List Cookie) :
    c ∈ H.foldl (fun l e => keyStep e.1 e.2 l) l0 → c ∈ l0 ∨ ∃ e ∈ H, c ∈ offered e.2 :=
  List.foldlRecOn (motive := fun l => c ∈ l → c ∈ l0 ∨ ∃ e ∈ H, c ∈ offered e.2) H _ .inl
    fun _ ih e he hc => (mem_keyStep hc).elim ih fun ho => .inr ⟨e, he, ho⟩

theorem uniq_final (hist : List (Nat × JarOp)) (j : AbsJar) (h : Uniq j) : Uniq (absFinalT hist j) := fun k => by
  rw [absGetHost_absFinalT]
  exact List.foldlRecOn _ _ (h k) fun l hl e _ => uniq_keyStep e.1 e.2 hl

theorem runJar_eq_runJarT (pol : Policy) (now : Nat) (ops : List JarOp) (st : JarState) :
    runJar pol now ops st = runJarT pol (ops.map fun op => (now, op)) st := by
  fun_induction runJar pol now ops st
  case case1 => rfl
  case case2 ih => exact congrArg (_ :: ·) ih

theorem specJarT_specRunT (hist : List (Nat × JarOp)) (j : AbsJar) : specJarT j hist (specRunT j hist) = none := by
  fun_induction specRunT j hist
  case case1 => rfl
  case case2 j now op hist ih => simp only [specJarT, if_true, ih]

/-- any failure of the oracle on the abstract run with the code's path test is attributable to K1 -/
theorem specJarT_implRunT (hist : List (Nat × JarOp)) (j : AbsJar) (cl : String) (k : Bool)
    (h : specJarT j hist (implRunT j hist) = some (cl, k)) : k = true ∧ Known.K1 j hist = true := by
  fun_induction implRunT j hist
  case case1 => cases h
  case case2 j now op hist ih =>
    simp only [specJarT] at h
    split at h
    · obtain ⟨h1, h2⟩ := ih h
      exact ⟨h1, by simp [Known.K1, h2]⟩
    · rename_i hne
      simp only [Option.some.injEq, Prod.mk.injEq] at h
      refine ⟨by rw [← h.2]; simp, ?_⟩
      cases hk : Known.k1At now j op with
      | true => simp [Known.K1, hk]
      | false => exact absurd (implObs_eq_specObs now j op hk) hne

end C18
