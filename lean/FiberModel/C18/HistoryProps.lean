import FiberModel.C18.History
/-
C18 (a'') — theorems about request histories through one client.
-/
namespace C18
open B

/-- **Assembly does not write client-level configuration** (the hypothesis under which a request may be judged on its
    own): after any history of requests the client's configuration is the one it was given.
    The tie to /repo is the observation `ccfg=` of every assembly case (the client's path parameters, headers, query
    parameters, cookies and base URL read back after the history) and clause
    `requests-leave-the-client-configuration-alone` of the oracle. -/
theorem assembly_does_not_write_client_configuration (baseURL : Bytes) (jar : List KV) (cl : Level) (rs : List HReq) :
    (runHistoryH baseURL jar cl rs).2 = cl := by
  induction rs with
  | nil => rfl
  | cons r rs ih => simpa [runHistoryH, runHistoryWith, sendOne] using ih

/-- **Every request of a history is a function of the client's configuration and its own only**: what request i sends
    is `assemble` of (the configured client, request i) — whatever the earlier requests of the history set at request
    level (path parameters, query parameters, headers, cookies, user agent, referer, timeout, body). Hence
    `assembly_precedence`, `assembly_deterministic`, `assembly_meets_spec_partial` apply to each request of a history. -/
theorem history_request_judged_alone (baseURL : Bytes) (jar : List KV) (cl : Level) (rs : List HReq) :
    (runHistoryH baseURL jar cl rs).1 = rs.map fun r => assemble (r.config baseURL jar cl) := by
  induction rs with
  | nil => rfl
  | cons r rs ih => simpa [runHistoryH, runHistoryWith, sendOne] using ih

/-- earlier requests do not matter: two histories that end in the same request send the same last request -/
theorem history_last_request_independent_of_earlier (baseURL : Bytes) (jar : List KV) (cl : Level) (pre pre' : List HReq)
    (r : HReq) :
    (runHistoryH baseURL jar cl (pre ++ [r])).1.getLast? = (runHistoryH baseURL jar cl (pre' ++ [r])).1.getLast? := by
  simp [history_request_judged_alone]

def lvl0 : Level := { headers := [], params := [], cookies := [], pathParams := [], userAgent := [], referer := [], timeout := 0 }

/-- the scenario of the witness: client-level name=alice; request 1 sets name=bob, section=profile; request 2 sets nothing -/
def aliceClient : Level := { lvl0 with pathParams := [(b "name", b "alice")] }
def reqBob : HReq := { url := b "/:name/:section", method := b "GET", body := .none,
                       level := { lvl0 with pathParams := [(b "name", b "bob"), (b "section", b "profile")] } }
def reqPlain : HReq := { url := b "/:name/:section", method := b "GET", body := .none, level := lvl0 }

/-- non-vacuity: on the model of the code, request 2 is built from the client's `alice` and the placeholder it has no
    value for stays; the client still holds exactly name=alice -/
example : ((runHistoryH (b "http://a.com") [] aliceClient [reqBob, reqPlain]).1.map fun o => o.map (·.path)) =
            [some (b "/bob/profile"), some (b "/alice/:section")] ∧
          (runHistoryH (b "http://a.com") [] aliceClient [reqBob, reqPlain]).2 = aliceClient := by
  unfold aliceClient reqBob reqPlain; repeat rw [b_ofList]; decide +kernel

/-- witness: with the merge written into the client's own map, request 2 is sent to request 1's `/bob/profile` and the
    client's configuration has changed — both theorems above fail for that step function -/
theorem aliased_merge_leaks_into_later_requests :
    ((runHistoryWith (sendOneAliased (b "http://a.com") []) aliceClient [reqBob, reqPlain]).1.map fun o => o.map (·.path)) =
      [some (b "/bob/profile"), some (b "/bob/profile")] ∧
    (runHistoryWith (sendOneAliased (b "http://a.com") []) aliceClient [reqBob, reqPlain]).2 ≠ aliceClient := by
  unfold aliceClient reqBob reqPlain; repeat rw [b_ofList]; decide +kernel

end C18
