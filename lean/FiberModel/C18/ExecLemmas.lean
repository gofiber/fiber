import FiberModel.C18.Exec
/-
C18 (c) — the invariant of the repaired `execFunc` hand-off and its preservation by every step.

The invariant is stated per request, about the request's own record and the four cells it names (owner and
content of its Response, owner and buffer of its channel): `Loc`. A step of request `i` rewrites `i`'s record and
cells that `i` holds or that are free; every other request that holds a cell holds a different one (`Inv.put`),
so each case of `step` is a check of `Loc` for the acting request alone.
-/
namespace C18

/-- main still owns the Response object (between `AcquireResponse` and `ReleaseResponse`/`Close`) -/
@[reducible] def MPc.holdsResp (m : MPc) : Prop :=
  m = .select ∨ m = .swap ∨ m = .drain ∨ m = .rel ∨ m = .relE ∨ m = .holding

/-- main still owns the error channel (between `acquireErrChan` and the deferred `releaseErrChan`) -/
@[reducible] def MPc.holdsChan (m : MPc) : Prop :=
  m = .select ∨ m = .swap ∨ m = .drain ∨ m = .rel ∨ m = .relE

/-- main has not left the `select` / the drain yet -/
@[reducible] def MPc.waiting (m : MPc) : Prop := m = .select ∨ m = .swap ∨ m = .drain

/-- the request goroutine will still write to the Response and/or the channel -/
@[reducible] def WPc.writing (w : WPc) : Prop := w = .copy ∨ w = .send

/-- what the caller may see for request `i` -/
def ResOK (q : Req) (i : Nat) (o : Outcome) : Prop :=
  (o = .timeout → q.fired = true) ∧ (o = .failed → q.err = true) ∧ (∀ r, o = .response r → r = some i)

/-- the invariant of request `i` with record `q`, where `ro` / `rd` are the owner and the content of the Response
    `q.resp` and `co` / `cb` the owner and the buffer of the channel `q.chan`. The clauses about a cell are guarded
    by a program counter at which the request holds it: a finished request still names cells that others reuse. -/
structure Loc (i : Nat) (q : Req) (ro rd co : Option Nat) (cb : Option (Nat × Bool)) : Prop where
  ownR : q.m.holdsResp → ro = some i
  ownC : q.m.holdsChan → co = some i
  wr : q.w.writing → q.done = true ∧ q.m.waiting ∧ cb = none
  wsend : q.w = .send → q.err = false → rd = some i
  pre : (q.w = .doing ∨ q.w = .cas) → q.done = false → q.m.waiting
  buf : q.m.holdsChan → ∀ s e, cb = some (s, e) →
        s = i ∧ q.w = .exit ∧ q.m.waiting ∧ q.err = e ∧ q.done = true ∧ (e = false → rd = some i)
  hold : q.m = .holding → rd = some i
  res : ∀ o, q.result = some o → q.m = .finished ∧ ResOK q i o
  fire : (q.m = .swap ∨ q.m = .drain ∨ q.m = .rel) → q.fired = true
  errE : q.m = .relE → q.err = true
  prog : q.m.waiting → q.done = true → q.w.writing ∨ (q.w = .exit ∧ cb ≠ none)
  drn : q.m = .drain → q.done = true
  idle : q.m = .idle → q.done = false

theorem MPc.select_waiting {m : MPc} (h : m = .select) : m.waiting := .inl h
theorem MPc.swap_waiting {m : MPc} (h : m = .swap) : m.waiting := .inr (.inl h)
theorem MPc.drain_waiting {m : MPc} (h : m = .drain) : m.waiting := .inr (.inr h)
theorem MPc.rel_holdsChan {m : MPc} (h : m = .rel) : m.holdsChan := .inr (.inr (.inr (.inl h)))
theorem MPc.relE_holdsChan {m : MPc} (h : m = .relE) : m.holdsChan := .inr (.inr (.inr (.inr h)))
theorem MPc.holding_holdsResp {m : MPc} (h : m = .holding) : m.holdsResp := .inr (.inr (.inr (.inr (.inr h))))

theorem MPc.holdsChan.holdsResp {m : MPc} (h : m.holdsChan) : m.holdsResp := by
  rcases h with h | h | h | h | h <;> simp [MPc.holdsResp, h]

theorem MPc.waiting.holdsChan {m : MPc} (h : m.waiting) : m.holdsChan := by
  rcases h with h | h | h <;> simp [MPc.holdsChan, h]

theorem MPc.waiting.holdsResp {m : MPc} (h : m.waiting) : m.holdsResp := by
  rcases h with h | h | h <;> simp [MPc.holdsResp, h]

theorem Loc.frame {i : Nat} {q : Req} {ro rd co ro' rd' co' : Option Nat} {cb cb' : Option (Nat × Bool)}
    (h : Loc i q ro rd co cb) (hR : q.m.holdsResp → ro' = ro ∧ rd' = rd)
    (hC : q.m.holdsChan → co' = co ∧ cb' = cb) : Loc i q ro' rd' co' cb' :=
  { h with
    ownR := fun hm => (hR hm).1 ▸ h.ownR hm
    ownC := fun hm => (hC hm).1 ▸ h.ownC hm
    wr := fun hw => have ⟨a, b, c⟩ := h.wr hw; ⟨a, b, (hC b.holdsChan).2 ▸ c⟩
    wsend := fun hw he => (hR (h.wr (.inr hw)).2.1.holdsResp).2 ▸ h.wsend hw he
    buf := fun hm s e hb =>
      have ⟨a, b, c, d, e', f⟩ := h.buf hm s e ((hC hm).2 ▸ hb)
      ⟨a, b, c, d, e', fun he => (hR c.holdsResp).2 ▸ f he⟩
    hold := fun hm => (hR (MPc.holding_holdsResp hm)).2 ▸ h.hold hm
    prog := fun hm hd => (hC hm.holdsChan).2 ▸ h.prog hm hd }

structure Inv (g : G) : Prop where
  nbad : g.bad = false
  loc : ∀ i, Loc i (g.reqs i) (g.rOwner (g.reqs i).resp) (g.rData (g.reqs i).resp)
          (g.cOwner (g.reqs i).chan) (g.cBuf (g.reqs i).chan)
  pooled : ∀ c, g.cOwner c = none → g.cBuf c = none

theorem inv_init : Inv G.init := by
  refine ⟨rfl, fun i => ?_, fun _ _ => rfl⟩
  constructor <;> simp [G.init, MPc.holdsResp, MPc.holdsChan, MPc.waiting, WPc.writing]

theorem upd_self {α : Type} (f : Nat → α) (i : Nat) : upd f i (f i) = f := by
  funext x; unfold upd; split <;> simp_all

theorem upd_same {α : Type} (f : Nat → α) (i : Nat) (v : α) : upd f i v i = v := if_pos rfl

theorem upd_ne {α : Type} (f : Nat → α) {i x : Nat} (v : α) (h : x ≠ i) : upd f i v x = f x := if_neg h

/-- writing cell `x` (owner `o`, content `v`) does not show in a cell `y` that another request `j` owns, provided
    `x` is left as it is, or is owned by `i`, or is free -/
theorem cell_kept {α : Type} {own : Nat → Option Nat} {f : Nat → α} {i j x y : Nat} {o : Option Nat} {v : α}
    (hj : j ≠ i) (ho : own y = some j) (h : (o = own x ∧ v = f x) ∨ own x = some i ∨ own x = none) :
    upd own x o y = own y ∧ upd f x v y = f y := by
  by_cases e : y = x
  · subst e
    rcases h with h | h | h
    · rw [upd_same, upd_same]; exact h
    · rw [h] at ho; exact absurd (Option.some.inj ho).symm hj
    · rw [h] at ho; cases ho
  · exact ⟨upd_ne _ _ e, upd_ne _ _ e⟩

/-- A step of request `i`: its record becomes `q`, and each cell `q` names is left as it is or is one that `i`
    holds or that is free, so that no other request holding a cell sees it change. The new cell functions are given
    up to an equation (`eR` … `eB`): `rfl` where the step writes the cell, `upd_self _ _` where it leaves it. -/
theorem Inv.put {g : G} (h : Inv g) {i : Nat} {q : Req} {ro rd co : Option Nat} {cb : Option (Nat × Bool)}
    {fR fD fO : Nat → Option Nat} {fB : Nat → Option (Nat × Bool)} {b : Bool}
    (hl : Loc i q ro rd co cb) (hp : co = none → cb = none)
    (hR : (ro = g.rOwner q.resp ∧ rd = g.rData q.resp) ∨ g.rOwner q.resp = some i ∨ g.rOwner q.resp = none)
    (hC : (co = g.cOwner q.chan ∧ cb = g.cBuf q.chan) ∨ g.cOwner q.chan = some i ∨ g.cOwner q.chan = none)
    (hb : b = false)
    (eR : upd g.rOwner q.resp ro = fR) (eD : upd g.rData q.resp rd = fD)
    (eO : upd g.cOwner q.chan co = fO) (eB : upd g.cBuf q.chan cb = fB) :
    Inv { reqs := upd g.reqs i q, rOwner := fR, cOwner := fO, rData := fD, cBuf := fB, bad := b } := by
  subst eR eD eO eB
  refine ⟨hb, fun j => ?_, fun c hc => ?_⟩
  · dsimp only
    by_cases hj : j = i
    · subst hj; simpa only [upd_same] using hl
    · rw [upd_ne _ _ hj]
      exact (h.loc j).frame (fun hm => cell_kept hj ((h.loc j).ownR hm) hR)
        (fun hm => cell_kept hj ((h.loc j).ownC hm) hC)
  · dsimp only at hc ⊢
    by_cases e : c = q.chan
    · subst e; rw [upd_same] at hc ⊢; exact hp hc
    · rw [upd_ne _ _ e] at hc ⊢; exact h.pooled c hc

theorem Inv.put_req {g : G} (h : Inv g) {i : Nat} {q : Req}
    (hl : Loc i q (g.rOwner q.resp) (g.rData q.resp) (g.cOwner q.chan) (g.cBuf q.chan)) :
    Inv { g with reqs := upd g.reqs i q } :=
  h.put hl (h.pooled _) (.inl ⟨rfl, rfl⟩) (.inl ⟨rfl, rfl⟩) h.nbad (upd_self _ _) (upd_self _ _)
    (upd_self _ _) (upd_self _ _)

/-- before main returns there is no result: the clause `res` holds of whatever the step makes of the record -/
theorem Loc.no_result {i : Nat} {q : Req} {ro rd co : Option Nat} {cb : Option (Nat × Bool)}
    (h : Loc i q ro rd co cb) (hm : q.m ≠ .finished) {P : Outcome → Prop} (o : Outcome) (ho : q.result = some o) : P o :=
  absurd (h.res o ho).1 hm

/-- a value in the channel means the goroutine has left and main is still waiting for it -/
theorem Loc.cb_none {i : Nat} {q : Req} {ro rd co : Option Nat} {cb : Option (Nat × Bool)}
    (h : Loc i q ro rd co cb) (hc : q.m.holdsChan) (hn : ¬(q.w = .exit ∧ q.m.waiting)) : cb = none := by
  cases hb : cb with
  | none => rfl
  | some v => exact absurd ⟨(h.buf hc v.1 v.2 hb).2.1, (h.buf hc v.1 v.2 hb).2.2.1⟩ hn

/-- main returns: at `finished` only the clauses about the goroutine and the result are left, whatever the cells hold -/
theorem Loc.finish {i : Nat} {q : Req} {ro rd co ro' rd' co' : Option Nat} {cb cb' : Option (Nat × Bool)}
    (h : Loc i q ro rd co cb) (hm : ¬q.m.waiting) (o : Outcome) (ho : ResOK q i o) :
    Loc i { q with m := .finished, result := some o } ro' rd' co' cb' :=
  have hw : ¬q.w.writing := fun hw => hm (h.wr hw).2.1
  { h with
    ownR := nofun, ownC := nofun, wr := fun x => absurd x hw, wsend := fun x => absurd (.inr x) hw
    pre := fun x hd => absurd (h.pre x hd) hm
    buf := nofun, hold := nofun, res := fun _ e => ⟨rfl, Option.some.inj e ▸ ho⟩
    fire := nofun, errE := nofun, prog := nofun, drn := nofun, idle := nofun }

theorem step_inv (g g' : G) (a : Action) (h : Inv g) (hs : step true g a = some g') : Inv g' := by
  -- the cases are `step`'s own (a disabled action has `none = some g'`; `q := g.reqs i` of `step` is unfolded). Every
  -- enabled case: `Inv.put` / `Inv.put_req` with the acting request's new `Loc` written out clause by clause (`nofun`,
  -- `hw ▸ nofun`: the new program counters rule the premise out)
  revert hs
  fun_cases step true g a <;> intro hs <;> cases hs <;> simp +zetaDelta only at *
  case case1 i r c _ hc =>  -- start
    have hl := h.loc i
    obtain ⟨hm, hr, hc⟩ := hc
    have hd := hl.idle hm
    have hcb := h.pooled c hc
    exact h.put (ro := some i) (rd := none) (co := some i) (cb := g.cBuf c)
      { ownR := fun _ => rfl, ownC := fun _ => rfl, wr := nofun, wsend := nofun
        pre := fun _ _ => .inl rfl, buf := fun _ _ _ => hcb ▸ nofun, hold := nofun, res := hl.no_result (hm ▸ nofun)
        fire := nofun, errE := nofun, prog := fun _ => hd ▸ nofun, drn := nofun, idle := nofun }
      nofun (.inr (.inr hr)) (.inr (.inr hc)) h.nbad rfl rfl rfl (upd_self _ _)
  case case3 i _ hm s hb =>  -- recv, a completion without error in the channel
    have hl := h.loc i
    have hwt := MPc.select_waiting hm
    have hro := hl.ownR hwt.holdsResp
    have hco := hl.ownC hwt.holdsChan
    obtain ⟨rfl, hw, -, -, -, hrd⟩ := hl.buf hwt.holdsChan _ _ hb
    exact h.put (co := none) (cb := none)
      { hl with
        ownR := fun _ => hro, ownC := nofun, wr := hw ▸ nofun, pre := hw ▸ nofun, buf := nofun
        hold := fun _ => hrd rfl, res := hl.no_result (hm ▸ nofun), fire := nofun, errE := nofun, prog := nofun
        drn := nofun, idle := nofun }
      (fun _ => rfl) (.inl ⟨rfl, rfl⟩) (.inr (.inl hco)) (by simp [h.nbad]) (upd_self _ _)
      (upd_self _ _) rfl rfl
  case case4 i _ hm s hb =>  -- recv, an error in the channel
    have hl := h.loc i
    have hwt := MPc.select_waiting hm
    have hro := hl.ownR hwt.holdsResp
    have hco := hl.ownC hwt.holdsChan
    obtain ⟨rfl, hw, -, he, -, -⟩ := hl.buf hwt.holdsChan _ _ hb
    exact h.put (cb := none)
      { hl with
        ownR := fun _ => hro, ownC := fun _ => hco, wr := hw ▸ nofun, pre := hw ▸ nofun
        buf := fun _ _ _ => nofun, hold := nofun, res := hl.no_result (hm ▸ nofun), fire := nofun, errE := fun _ => he
        prog := nofun, drn := nofun, idle := nofun }
      (fun _ => rfl) (.inl ⟨rfl, rfl⟩) (.inr (.inl hco)) (by simp [h.nbad]) (upd_self _ _)
      (upd_self _ _) (upd_self _ _) rfl
  case case7 i _ hm =>  -- timeout
    have hl := h.loc i
    have hwt := MPc.select_waiting hm
    exact h.put_req
      { hl with
        ownR := fun _ => hl.ownR hwt.holdsResp, ownC := fun _ => hl.ownC hwt.holdsChan
        wr := fun hw => ⟨(hl.wr hw).1, MPc.swap_waiting rfl, (hl.wr hw).2.2⟩
        pre := fun _ _ => MPc.swap_waiting rfl
        buf := fun _ s e hb => have ⟨a, b, _, d⟩ := hl.buf hwt.holdsChan s e hb; ⟨a, b, MPc.swap_waiting rfl, d⟩
        hold := nofun, res := hl.no_result (hm ▸ nofun), fire := fun _ => rfl, errE := nofun
        prog := fun _ => hl.prog hwt, drn := nofun, idle := nofun }
  case case9 i _ hm =>  -- main at swap
    have hl := h.loc i
    have hwt := MPc.swap_waiting hm
    have hro := hl.ownR hwt.holdsResp
    have hco := hl.ownC hwt.holdsChan
    have hf := hl.fire (.inl hm)
    refine h.put_req ?_
    cases hd : (g.reqs i).done
    · exact
        { hl with
          ownR := fun _ => hro, ownC := fun _ => hco
          wr := fun hw => by simpa [hd] using (hl.wr hw).1
          pre := fun _ => nofun
          buf := fun _ s e hb => by simpa [hd] using (hl.buf hwt.holdsChan s e hb).2.2.2.2.1
          hold := nofun, res := hl.no_result (hm ▸ nofun), fire := fun _ => hf, errE := nofun, prog := nofun, drn := nofun
          idle := nofun }
    · exact
        { hl with
          ownR := fun _ => hro, ownC := fun _ => hco
          wr := fun hw => ⟨rfl, MPc.drain_waiting rfl, (hl.wr hw).2.2⟩
          pre := fun _ => nofun
          buf := fun _ s e hb =>
            have ⟨a, b, _, d, _, f⟩ := hl.buf hwt.holdsChan s e hb; ⟨a, b, MPc.drain_waiting rfl, d, rfl, f⟩
          hold := nofun, res := hl.no_result (hm ▸ nofun), fire := fun _ => hf, errE := nofun
          prog := fun _ _ => hl.prog hwt hd, drn := fun _ => rfl, idle := nofun }
  case case10 i _ hm s e hb =>  -- main at drain, a value in the channel
    have hl := h.loc i
    have hwt := MPc.drain_waiting hm
    have hco := hl.ownC hwt.holdsChan
    obtain ⟨rfl, hw, -⟩ := hl.buf hwt.holdsChan _ _ hb
    exact h.put (cb := none)
      { hl with
        ownR := fun _ => hl.ownR hwt.holdsResp, ownC := fun _ => hco, wr := hw ▸ nofun
        pre := hw ▸ nofun, buf := fun _ _ _ => nofun, hold := nofun, res := hl.no_result (hm ▸ nofun)
        fire := fun _ => hl.fire (.inr (.inl hm)), errE := nofun, prog := nofun, drn := nofun, idle := nofun }
      (fun _ => rfl) (.inl ⟨rfl, rfl⟩) (.inr (.inl hco)) (by simp [h.nbad]) (upd_self _ _)
      (upd_self _ _) (upd_self _ _) rfl
  case case12 i _ hm =>  -- main at rel
    have hl := h.loc i
    have hc := MPc.rel_holdsChan hm
    have hcb := hl.cb_none hc (fun x => by simpa [hm, MPc.waiting] using x.2)
    exact h.put (ro := none) (rd := none) (co := none)
      (hl.finish (by simp [hm, MPc.waiting]) _ ⟨fun _ => hl.fire (.inr (.inr hm)), nofun, nofun⟩)
      (fun _ => hcb) (.inr (.inl (hl.ownR hc.holdsResp))) (.inr (.inl (hl.ownC hc))) h.nbad rfl rfl
      rfl (upd_self _ _)
  case case13 i _ hm =>  -- main at relE
    have hl := h.loc i
    have hc := MPc.relE_holdsChan hm
    have hcb := hl.cb_none hc (fun x => by simpa [hm, MPc.waiting] using x.2)
    exact h.put (ro := none) (rd := none) (co := none)
      (hl.finish (by simp [hm, MPc.waiting]) _ ⟨nofun, fun _ => hl.errE hm, nofun⟩)
      (fun _ => hcb) (.inr (.inl (hl.ownR hc.holdsResp))) (.inr (.inl (hl.ownC hc))) h.nbad
      rfl rfl rfl (upd_self _ _)
  case case15 i _ hw =>  -- worker at doing
    have hl := h.loc i
    exact h.put_req
      { hl with
        wr := nofun, wsend := nofun, pre := fun _ => hl.pre (.inl hw)
        buf := fun hc s e hb => by simpa [hw] using (hl.buf hc s e hb).2.1
        prog := fun hm hd => by simpa [hw, WPc.writing] using hl.prog hm hd }
  case case16 i _ hw hd =>  -- worker at cas, flag lost
    have hl := h.loc i
    exact h.put_req
      { hl with
        wr := nofun, wsend := nofun, pre := nofun
        buf := fun hc s e hb => by simpa [hw] using (hl.buf hc s e hb).2.1
        prog := fun hm _ => by simpa [hw, WPc.writing] using hl.prog hm hd }
  case case17 i _ hw hd =>  -- worker at cas, flag won
    have hl := h.loc i
    have hd : (g.reqs i).done = false := by simpa using hd
    have hm := hl.pre (.inr hw) hd
    have hcb := hl.cb_none hm.holdsChan (fun x => by simpa [hw] using x.1)
    refine h.put_req ?_
    rcases Bool.eq_false_or_eq_true (g.reqs i).err with he | he
    · rw [if_pos he]
      exact
        { hl with
          wr := fun _ => ⟨rfl, hm, hcb⟩, wsend := fun _ x => absurd (he ▸ x) nofun, pre := nofun
          buf := fun _ _ _ => hcb ▸ nofun, prog := fun _ _ => .inl (.inr rfl), drn := fun _ => rfl
          idle := fun (x : (g.reqs i).m = .idle) => by simp [x, MPc.waiting] at hm }
    · rw [if_neg (by simp [he])]
      exact
        { hl with
          wr := fun _ => ⟨rfl, hm, hcb⟩, wsend := nofun, pre := nofun
          buf := fun _ _ _ => hcb ▸ nofun, prog := fun _ _ => .inl (.inl rfl), drn := fun _ => rfl
          idle := fun (x : (g.reqs i).m = .idle) => by simp [x, MPc.waiting] at hm }
  case case18 i _ hw =>  -- worker at copy
    have hl := h.loc i
    obtain ⟨hd, hm, hcb⟩ := hl.wr (.inl hw)
    have hro := hl.ownR hm.holdsResp
    exact h.put (rd := some i)
      { hl with
        wr := fun _ => ⟨hd, hm, hcb⟩, wsend := fun _ _ => rfl, pre := nofun
        buf := fun _ _ _ => hcb ▸ nofun, hold := fun _ => rfl, prog := fun _ _ => .inl (.inr rfl) }
      (h.pooled _) (.inr (.inl hro)) (.inl ⟨rfl, rfl⟩) (by simp [h.nbad, hro]) (upd_self _ _) rfl
      (upd_self _ _) (upd_self _ _)
  case case20 i _ hw hb =>  -- worker at send, channel empty
    have hl := h.loc i
    obtain ⟨hd, hm, -⟩ := hl.wr (.inr hw)
    have hco := hl.ownC hm.holdsChan
    exact h.put (cb := some (i, (g.reqs i).err))
      { hl with
        wr := nofun, wsend := nofun, pre := nofun
        buf := fun _ s e x => by cases x; exact ⟨rfl, rfl, hm, rfl, hd, hl.wsend hw⟩
        prog := fun _ _ => .inr ⟨rfl, nofun⟩ }
      (by simp [hco]) (.inl ⟨rfl, rfl⟩) (.inr (.inl hco)) (by simp [h.nbad, hco]) (upd_self _ _)
      (upd_self _ _) (upd_self _ _) rfl
  case case22 i _ hw =>  -- fail
    have hl := h.loc i
    exact h.put_req
      { hl with
        wr := nofun, wsend := nofun, pre := fun _ => hl.pre (.inl hw)
        buf := fun hc s e hb => by simpa [hw] using (hl.buf hc s e hb).2.1
        res := fun o ho => ⟨(hl.res o ho).1, (hl.res o ho).2.1, fun _ => rfl, (hl.res o ho).2.2.2⟩
        errE := fun _ => rfl
        prog := fun hm hd => by simpa [hw, WPc.writing] using hl.prog hm hd }
  case case24 i _ hm =>  -- close
    have hl := h.loc i
    have hrd := hl.hold hm
    exact h.put (ro := none) (rd := none)
      (hl.finish (by simp [hm, MPc.waiting]) _ ⟨nofun, nofun, fun r e => Outcome.response.inj e ▸ hrd⟩)
      (h.pooled _) (.inr (.inl (hl.ownR (MPc.holding_holdsResp hm)))) (.inl ⟨rfl, rfl⟩)
      (by simp [h.nbad, hrd]) rfl rfl (upd_self _ _) (upd_self _ _)
theorem run_inv (sched : List Action) (g : G) (h : Inv g) : Inv (run true g sched) := by
  fun_induction run true g sched
  case case1 => exact h
  case case2 g a _ g' hs ih => exact ih (step_inv g g' a h hs)
  case case3 ih => exact ih h

end C18
