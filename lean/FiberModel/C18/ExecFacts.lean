import FiberModel.Generated.C18Facts
import FiberModel.C18.Exec
/-
C18 (c') — regenerated fact about client/core.go `(*core).execFunc` (translator/c18 reads it on every run):
the hand-off statements in source order with their nesting (`Facts.execOrder`). The theorems pin that order and
tie the hand-written transition system of Exec.lean to it: along every branch of the code (completion flag won /
lost, transfer error or not, `errCh` case / `ctx.Done()` case, flag found set by the swap or not) the sequence of
program counters the model's request goroutine / caller goes through is the sequence of statements the code has
on that branch. A reordering (send before `CopyTo`, release before the drain, no drain, `CopyTo` outside the
flag, …) changes `Facts.execOrder` and breaks these theorems.
-/
namespace C18

/-- `execFunc` as repaired (F6): what the model was written against -/
def pinnedExecOrder : List String :=
  ["acquire-response", "acquire-chan", "defer-release-chan", "copy-request",
   "go{", "do", "if-cas-won{", "if-err{", "send-err", "return", "}", "copyto", "send-nil", "}", "}",
   "select{",
     "case-recv{", "if-err{", "release-response", "return-err", "}", "return-resp", "}",
     "case-ctx{", "if-swap-was-set{", "recv", "}", "release-response", "return-timeout", "}",
   "}"]

def blockOpeners : List String :=
  ["go{", "if-cas-won{", "if-err{", "if-swap-was-set{", "if-swap-other{", "select{", "case-recv{", "case-ctx{",
   "case-other{", "case-default{", "if{", "else{", "loop{", "defer{"]

def returnTokens : List String := ["return", "return-resp", "return-err", "return-timeout", "return-other"]

/-- the rest of the token list behind the `}` that closes the block we are in (`d` = nested blocks open) -/
def skipBlock : Nat → List String → List String
  | _, [] => []
  | d, t :: ts =>
    if blockOpeners.contains t then skipBlock (d + 1) ts
    else if t == "}" then (match d with | 0 => ts | d + 1 => skipBlock d ts)
    else skipBlock d ts

/-- the tokens of the block we are in, up to its closing `}` -/
def takeBlock : Nat → List String → List String
  | _, [] => []
  | d, t :: ts =>
    if blockOpeners.contains t then t :: takeBlock (d + 1) ts
    else if t == "}" then (match d with | 0 => [] | d + 1 => t :: takeBlock d ts)
    else t :: takeBlock d ts

/-- conditionals whose condition is itself a hand-off statement (the CAS, the swap): executed whether or not the
    block is entered -/
def effectfulConditions : List String := ["if-cas-won{", "if-swap-was-set{", "if-swap-other{"]

/-- the statements executed on one path: `take t` says whether the block opened by `t` is entered;
    a `return…` ends the path -/
def pathOf (take : String → Bool) : Nat → List String → List String
  | 0, _ => []
  | _, [] => []
  | n + 1, t :: ts =>
    if returnTokens.contains t then [t]
    else if blockOpeners.contains t then
      (if take t then t :: pathOf take n ts
       else (if effectfulConditions.contains t then [t] else []) ++ pathOf take n (skipBlock 0 ts))
    else if t == "}" then pathOf take n ts
    else t :: pathOf take n ts

/-- the body of the request goroutine -/
def goBody (toks : List String) : List String := takeBlock 0 ((toks.dropWhile (· != "go{")).drop 1)

/-- the caller's statements: everything outside the goroutine -/
def callerPath (take : String → Bool) (toks : List String) : List String :=
  pathOf (fun t => t != "go{" && take t) toks.length toks

def workerPath (casWon err : Bool) (toks : List String) : List String :=
  pathOf (fun t => (t == "if-cas-won{" && casWon) || (t == "if-err{" && err)) toks.length (goBody toks)

/-- statement ↦ the program counter of the model's request goroutine that stands for it -/
def workerPc : String → Option WPc
  | "do" => some .doing
  | "if-cas-won{" => some .cas
  | "copyto" => some .copy
  | "send-err" => some .send
  | "send-nil" => some .send
  | _ => none

/-- statement ↦ program counter of the model's caller (`release-response` is `rel` in the `ctx.Done()` case and
    `relE` in the error case; a `return` maps to the state it leaves the caller in) -/
def callerPc (inCtx : Bool) : String → Option MPc
  | "select{" => some .select
  | "if-swap-was-set{" => some .swap
  | "swap" => some .swap
  | "recv" => some .drain
  | "release-response" => some (if inCtx then .rel else .relE)
  | "return-resp" => some .holding
  | "return-err" => some .finished
  | "return-timeout" => some .finished
  | _ => none

/-- the caller's program counters on a path: the conditional around the swap is entered exactly when the swap found
    the flag set -/
def callerPcs (ctxCase errCase flagWasSet : Bool) (toks : List String) : List MPc :=
  let path := callerPath (fun t => t == "select{" || (t == "case-recv{" && !ctxCase) || (t == "case-ctx{" && ctxCase) ||
                                    (t == "if-err{" && errCase) || (t == "if-swap-was-set{" && flagWasSet)) toks
  path.filterMap (callerPc ctxCase)

def workerPcs (casWon err : Bool) (toks : List String) : List WPc := (workerPath casWon err toks).filterMap workerPc

/-- the program counters request 0's goroutine goes through under a schedule (recorded before each of its steps) -/
def wTrace (fixed : Bool) : G → List Action → List WPc
  | _, [] => []
  | g, a :: as =>
    match step fixed g a with
    | some g' =>
      (if a = .worker 0 ∨ a = .fail 0 then [(g.reqs 0).w] else []) ++ wTrace fixed g' as
    | none => wTrace fixed g as

/-- the program counters request 0's caller goes through (recorded before each of its steps), then where it ends -/
def mTrace (fixed : Bool) : G → List Action → List MPc
  | g, [] => [(g.reqs 0).m]
  | g, a :: as =>
    match step fixed g a with
    | some g' =>
      (if a = .recv 0 ∨ a = .timeout 0 ∨ a = .main 0 then [(g.reqs 0).m] else []) ++ mTrace fixed g' as
    | none => mTrace fixed g as

/-! schedules that drive request 0 through each branch -/
def schedOk : List Action := [.start 0 0 0, .worker 0, .worker 0, .worker 0, .worker 0, .recv 0]
def schedErr : List Action := [.start 0 0 0, .fail 0, .worker 0, .worker 0, .recv 0, .main 0]
def schedLost : List Action := [.start 0 0 0, .worker 0, .timeout 0, .main 0, .worker 0, .main 0]
def schedDrain : List Action :=
  [.start 0 0 0, .worker 0, .worker 0, .timeout 0, .main 0, .worker 0, .worker 0, .main 0, .main 0]

/-- REGENERATED FACT: the hand-off statements of `execFunc` in /repo stand in the order (and nesting) the model was
    written against: the completion CAS guards both `CopyTo` and the sends, `CopyTo` precedes `errCh <- nil`, the
    `ctx.Done()` branch swaps, drains when the flag was set, and only then releases the Response -/
theorem execFunc_statement_order : Facts.execOrder = pinnedExecOrder := rfl

/-- the model's request goroutine takes the code's statements in the code's order, on every branch: answer, transfer
    error, completion flag lost to the caller -/
theorem exec_model_worker_follows_code :
    wTrace true G.init schedOk = workerPcs true false Facts.execOrder ∧
    wTrace true G.init schedErr = workerPcs true true Facts.execOrder ∧
    wTrace true G.init schedLost = workerPcs false false Facts.execOrder := by decide +kernel

/-- the model's caller takes the code's statements in the code's order, on every branch: answer, error, context fired
    before completion, context fired after completion (swap, drain, release) -/
theorem exec_model_caller_follows_code :
    mTrace true G.init schedOk = callerPcs false false false Facts.execOrder ∧
    mTrace true G.init schedErr = callerPcs false true false Facts.execOrder ∧
    mTrace true G.init schedLost = callerPcs true false false Facts.execOrder ∧
    mTrace true G.init schedDrain = callerPcs true false true Facts.execOrder := by decide +kernel

/-- non-vacuity: the four schedules really run through the branches (nothing is skipped as disabled) -/
example : wTrace true G.init schedOk = [.doing, .cas, .copy, .send] ∧
          wTrace true G.init schedErr = [.doing, .cas, .send] ∧
          wTrace true G.init schedLost = [.doing, .cas] ∧
          mTrace true G.init schedOk = [.select, .holding] ∧
          mTrace true G.init schedErr = [.select, .relE, .finished] ∧
          mTrace true G.init schedLost = [.select, .swap, .rel, .finished] ∧
          mTrace true G.init schedDrain = [.select, .swap, .drain, .rel, .finished] := by decide +kernel

/-- sensitivity: the code before F6 (no drain) is NOT what the repaired model follows, and a send before `CopyTo`
    is not either -/
example : mTrace true G.init schedDrain ≠ callerPcs true false true (pinnedExecOrder.filter (· != "recv")) := by decide +kernel
example : wTrace true G.init schedOk ≠
    workerPcs true false ["go{", "do", "if-cas-won{", "if-err{", "send-err", "return", "}", "send-nil", "copyto", "}", "}"] := by
  decide +kernel
/-- … and the code before F6 is what the unrepaired model follows -/
example : mTrace false G.init schedDrain = callerPcs true false true (pinnedExecOrder.filter (· != "recv")) := by decide +kernel

end C18
