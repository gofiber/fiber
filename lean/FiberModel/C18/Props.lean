import FiberModel.C18.AbsLemmas
import FiberModel.C18.ExecLemmas
import FiberModel.C18.SubstLemmas
import FiberModel.C18.Pool
/-
C18 — the property theorems, with the histories, schedules and configurations their witnesses and examples speak of.

  (b) cookie jar   : for every pool policy (which object `sync.Pool` hands out), every history of
                     set / SetKeyValue / response / Get / Get+release / Release operations over any
                     hosts, paths and times — the jar over pooled objects answers exactly like the
                     abstract store host ↦ cookies keyed by (name, path).
  (c) execFunc     : for every interleaving of completion, transport error, timeout/cancel and
                     release of any number of requests on one client.
  (a) assembly     : for every configuration whose Go maps have unique keys (`MapsOK`), the clauses of
                     the property on `AsmDomain`; then the pooled `Request` / `Response` objects.
-/
namespace C18
open B C11

/-- **Refinement.** Whatever objects the pool hands out and however they were used before, every
    observation of every history is the one of the abstract store with the code's path test:
    no stale, duplicated, foreign or released cookie is ever observable. -/
theorem jar_refines_abstract (pol : Policy) (hist : List (Nat × JarOp)) :
    runJarT pol hist JarState.init = implRunT [] hist :=
  (run_refines pol hist JarState.init [] [] sim_init).1

example : runJarT lifo [(10, .set (b "a.com") ⟨b "k", b "v", b "/", some 5⟩), (10, .get (b "a.com") (b "/")),
      (10, .set (b "b.com") ⟨b "s", b "secret", b "/", none⟩), (10, .get (b "a.com") (b "/"))] JarState.init =
    [.done, .cookies [], .done, .cookies []] := by repeat rw [b_ofList]; decide +kernel

/-- **The jar returns exactly the matching cookies** — `jar_get_exact`, partial: outside the
    recorded region K1 (a lookup meets a stored unexpired cookie of the host on which the reversed
    path test and the property's prefix test disagree). Full statement:
      `∀ pol hist, runJarT pol hist JarState.init = specRunT [] hist`
    (every lookup returns exactly the unexpired cookies stored for that host whose path is a prefix
    of the request path, each once, in store order; every request carries exactly those). -/
theorem jar_get_exact_partial (pol : Policy) (hist : List (Nat × JarOp)) (h : Known.K1 [] hist = false) :
    runJarT pol hist JarState.init = specRunT [] hist := by
  rw [jar_refines_abstract, implRunT_eq_specRunT hist [] h]

/-- the same through the oracle `specJarT`, the exact, order-preserving form of the driver's `specJarAll` -/
theorem jar_meets_spec_partial (pol : Policy) (hist : List (Nat × JarOp)) (h : Known.K1 [] hist = false) :
    specJarT [] hist (runJarT pol hist JarState.init) = none := by
  rw [jar_get_exact_partial pol hist h]; exact specJarT_specRunT hist []

/-- whenever the oracle rejects the model's answers, the rejection is the one K1 describes (the
    observation is what the reversed test yields on the abstract store) and the history is in the region -/
theorem jar_failures_are_K1 (pol : Policy) (hist : List (Nat × JarOp)) (cl : String) (k : Bool)
    (h : specJarT [] hist (runJarT pol hist JarState.init) = some (cl, k)) :
    k = true ∧ Known.K1 [] hist = true := by
  rw [jar_refines_abstract] at h; exact specJarT_implRunT hist [] cl k h

/-- **Step by step.** Whatever happened before — including lookups inside the K1 region — an
    operation that is itself outside K1 (no stored unexpired cookie of its host on which the two path
    tests disagree) observes exactly what the property demands. -/
theorem jar_get_exact_stepwise (pol : Policy) (pre : List (Nat × JarOp)) (now : Nat) (op : JarOp)
    (h : Known.k1At now (absFinalT pre []) op = false) :
    ((runJarT pol (pre ++ [(now, op)]) JarState.init).getLast?).getD .done = specObs now (absFinalT pre []) op := by
  rw [jar_refines_abstract, implRunT_last]
  exact implObs_eq_specObs now _ op h

/-- constant-time form (`runJar`, `specJar`: every operation at the same instant) -/
theorem jar_meets_spec_const_partial (pol : Policy) (now : Nat) (ops : List JarOp)
    (h : Known.K1 [] (ops.map fun op => (now, op)) = false) :
    specJar now [] ops (runJar pol now ops JarState.init) = none := by
  unfold specJar; rw [runJar_eq_runJarT]; exact jar_meets_spec_partial pol _ h

/-- a history outside K1 with cookies on several hosts and paths, an expiry in between and a deletion -/
def sampleHist : List (Nat × JarOp) :=
  [(10, .set (b "a.com") ⟨b "k", b "1", b "/a", some 50⟩), (10, .set (b "b.com") ⟨b "k", b "2", [], none⟩),
   (20, .get (b "a.com") (b "/a")), (60, .get (b "a.com") (b "/a")),
   (60, .resp (b "b.com") (b "/") [⟨b "k", [], [], some 1⟩]), (61, .get (b "b.com") (b "/"))]

example : Known.K1 [] sampleHist = false ∧
    runJarT lifo sampleHist JarState.init =
      [.done, .done, .cookies [⟨b "k", b "1", b "/a", some 50⟩], .cookies [], .header (b "k=2"), .cookies []] := by
  unfold sampleHist; repeat rw [b_ofList]; decide +kernel

/-- K1 witness: cookie path `/a`, request path `/a/b` — the property demands the cookie, the code
    (and the model) return nothing; and cookie path `/a/b`, request `/a` — returned though it must not be -/
def witnessK1 : List (Nat × JarOp) :=
  [(10, .set (b "a.com") ⟨b "sid", b "5", b "/a", none⟩), (10, .get (b "a.com") (b "/a/b")),
   (10, .set (b "a.com") ⟨b "t", b "6", b "/a/b", none⟩), (10, .get (b "a.com") (b "/a"))]

theorem jar_get_exact_witness_K1 :
    ¬ (runJarT lifo witnessK1 JarState.init = specRunT [] witnessK1) ∧ Known.K1 [] witnessK1 = true := by
  unfold witnessK1; repeat rw [b_ofList]; decide +kernel

/-- **No cookie crosses hosts.** What the operations on one host key observe is a function of the
    operations on that key (and of `Release`) alone: deleting every operation on other hosts from the
    history — and even changing the pool policy — leaves those observations unchanged. -/
theorem jar_no_cross_host (pol pol' : Policy) (hist : List (Nat × JarOp)) (k : Bytes) :
    projObs k hist (runJarT pol hist JarState.init) = runJarT pol' (projHist k hist) JarState.init := by
  rw [jar_refines_abstract, jar_refines_abstract]
  exact proj_abs k hist [] [] rfl

example : projHist (b "a.com") [(1, .set (b "b.com") ⟨b "s", b "x", [], none⟩), (2, .get (b "a.com:80") (b "/"))] =
    [(2, .get (b "a.com:80") (b "/"))] := by repeat rw [b_ofList]; decide +kernel

/-- **Only what was stored for the host comes back**: a cookie returned by the last operation of a
    history was offered (set, SetKeyValue, Set-Cookie) by an earlier operation on the same host key. -/
theorem jar_returns_only_stored_for_host (pol : Policy) (pre : List (Nat × JarOp)) (now : Nat) (op : JarOp) (c : Cookie)
    (hc : c ∈ returned (((runJarT pol (pre ++ [(now, op)]) JarState.init).getLast?).getD .done)) :
    ∃ e, e ∈ pre ∧ opKey e.2 = opKey op ∧ c ∈ offered e.2 := by
  rw [jar_refines_abstract, implRunT_last] at hc
  cases op with
  | get | getRelease =>
    have hm := (List.mem_filter.mp hc).1
    rw [absGetHost_absFinalT] at hm
    obtain h0 | ⟨e, he, ho⟩ := mem_foldl_keyStep _ _ hm
    · cases h0
    · exact ⟨e, (List.mem_filter.mp he).1, opKey_of_offered (List.mem_filter.mp he).2 ho, ho⟩
  | _ => cases hc

/-- **Each once.** No lookup ever returns two cookies with the same (name, path). -/
theorem jar_each_cookie_once (pol : Policy) (pre : List (Nat × JarOp)) (now : Nat) (op : JarOp) :
    (returned (((runJarT pol (pre ++ [(now, op)]) JarState.init).getLast?).getD .done)).Pairwise
      fun c d => sameCookie c d = false := by
  rw [jar_refines_abstract, implRunT_last]
  cases op with
  | get | getRelease => exact (uniq_final pre [] uniq_nil _).filter _
  | _ => exact .nil

/-- **Latest value per (host, name, path).** After storing `c` the host's entry for (name, path) is
    `c` itself — and the only one. This theorem and the next two speak of the abstract store (`absStep`, any store
    with `Uniq`); `jar_refines_abstract` and `uniq_final` carry them to the jar over pooled objects. -/
theorem jar_latest_value_wins (now : Nat) (j : AbsJar) (hu : Uniq j) (host : Bytes) (c d : Cookie)
    (hd : d ∈ absGetHost (absStep now j (.set host c)) (hostKey host)) (hs : sameCookie d c = true) : d = c :=
  uniq_same_eq _ (uniq_step now j (.set host c) hu (hostKey host)) d c hd (mem_absStep_set now j host c) hs

theorem jar_stored_is_returned (now : Nat) (j : AbsJar) (host path : Bytes) (c : Cookie)
    (he : expiredAt now c = false) (hp : specPathOK path c.path = true) :
    c ∈ specGet (absStep now j (.set host c)) host path now :=
  List.mem_filter.mpr ⟨mem_absStep_set now j host c, by simp [he, hp]⟩

/-- **A cookie the server expired is gone**: after a response whose Set-Cookie for (name, path) is
    already expired, no cookie with that (name, path) is stored for the host. -/
theorem jar_server_expired_is_gone (now : Nat) (j : AbsJar) (hu : Uniq j) (host reqPath : Bytes) (sc d : Cookie)
    (hx : deadOnArrival now sc = true)
    (hd : d ∈ absGetHost (absStep now j (.resp host reqPath [sc])) (hostKey host)) : sameCookie d sc = false := by
  rw [absGetHost_absStep, if_pos (by simp [concerns, opKey])] at hd
  simp only [keyStep, absRespFold, List.foldl_cons, List.foldl_nil, if_pos hx] at hd
  exact not_sameCookie_of_mem_absRemove _ sc d ((hu _).filter _) hd

/-- **`Get` hands out copies**: the objects a lookup returns are pairwise distinct, none of them is
    held by the jar for any host and none is in the pool — modifying or releasing them cannot reach the jar. -/
theorem jar_get_returns_copies (pol : Policy) (hist : List (Nat × JarOp)) (host path : Bytes) (now : Nat) :
    let r := jarGetCopies pol (finalJarT pol hist JarState.init) host path now
    r.1.Nodup ∧ ∀ x, x ∈ r.1 → x ∉ r.2.pool ∧ ∀ k, x ∉ refsOf r.2 k := by
  obtain ⟨_, held, hS⟩ := run_refines pol hist JarState.init [] [] sim_init
  obtain ⟨⟨c1, -⟩, -⟩ := jarGetCopies_spec pol _ host path now hS
  exact ⟨(List.nodup_append.mp c1.hnd).1, fun x hx => ⟨fun hm => c1.hd none x hm (List.mem_append_left _ hx),
    fun k hm => c1.hd (some k) x hm (List.mem_append_left _ hx)⟩⟩

/-- **Every response handed back belongs to the request it is returned for.** For every schedule
    (any number of requests on one client, any pool behaviour, any timing of the server's answer, of
    a transport error and of the context firing): a caller that gets a response gets the answer to
    ITS request; an error only if its own transfer failed; a timeout only if its own context fired. -/
theorem response_belongs_to_request (sched : List Action) (i : Nat) (o : Outcome)
    (h : ((run true G.init sched).reqs i).result = some o) :
    match o with
    | .response r => r = some i
    | .failed => ((run true G.init sched).reqs i).err = true
    | .timeout => ((run true G.init sched).reqs i).fired = true := by
  have hr := (((run_inv sched G.init inv_init).loc i).res o h).2
  cases o with
  | timeout => exact hr.1 rfl
  | failed => exact hr.2.1 rfl
  | response r => exact hr.2.2 r rfl

/-- no write ever hits an object that another request owns or that lies in a pool, and no caller
    ever reads a foreign answer (the model's ghost flag never rises) -/
theorem no_foreign_write (sched : List Action) : (run true G.init sched).bad = false :=
  (run_inv sched G.init inv_init).nbad

/-- **Recycled only when no longer writable.** While the request goroutine can still write (it won
    the completion flag and has not finished `CopyTo` + send), its Response and its error channel are
    still owned by its request: neither is in a pool, neither has been handed to another request,
    the channel is empty. -/
theorem recycled_only_when_unwritable (sched : List Action) (i : Nat)
    (hw : ((run true G.init sched).reqs i).w = .copy ∨ ((run true G.init sched).reqs i).w = .send) :
    (run true G.init sched).rOwner ((run true G.init sched).reqs i).resp = some i ∧
    (run true G.init sched).cOwner ((run true G.init sched).reqs i).chan = some i ∧
    (run true G.init sched).cBuf ((run true G.init sched).reqs i).chan = none := by
  have hl := (run_inv sched G.init inv_init).loc i
  obtain ⟨_, hm, hb⟩ := hl.wr hw
  exact ⟨hl.ownR hm.holdsResp, hl.ownC hm.holdsChan, hb⟩

/-- a channel in the pool is empty: the next request never finds a stale completion in it -/
theorem pooled_channel_is_empty (sched : List Action) (c : Nat) (h : (run true G.init sched).cOwner c = none) :
    (run true G.init sched).cBuf c = none :=
  (run_inv sched G.init inv_init).pooled c h

/-- two requests in flight never share a Response object -/
theorem responses_not_shared (sched : List Action) (i j : Nat) (hij : i ≠ j)
    (hi : ((run true G.init sched).reqs i).m.holdsResp) (hj : ((run true G.init sched).reqs j).m.holdsResp) :
    ((run true G.init sched).reqs i).resp ≠ ((run true G.init sched).reqs j).resp := by
  have hI := run_inv sched G.init inv_init
  intro e
  have a := (hI.loc i).ownR hi
  rw [e, (hI.loc j).ownR hj] at a
  exact hij (Option.some.inj a).symm

/-- the wait the repair added cannot hang: a caller waiting in the drain finds the goroutine still
    on its way to the send, or the value already in the channel -/
theorem drain_never_blocks (sched : List Action) (i : Nat) (h : ((run true G.init sched).reqs i).m = .drain) :
    (((run true G.init sched).reqs i).w = .copy ∨ ((run true G.init sched).reqs i).w = .send) ∨
    (((run true G.init sched).reqs i).w = .exit ∧
      (run true G.init sched).cBuf ((run true G.init sched).reqs i).chan ≠ none) := by
  have hl := (run_inv sched G.init inv_init).loc i
  exact hl.prog (MPc.drain_waiting h) (hl.drn h)

/-- the interleaving the repair closed: request 0 wins the completion flag, its context fires before
    the goroutine copies and sends; request 1 then acquires the same Response and channel -/
def racePrefix : List Action :=
  [.start 0 0 0, .worker 0, .worker 0, .timeout 0, .main 0, .main 0, .start 1 0 0,
   .worker 0, .worker 0, .main 0, .main 0, .start 1 0 0, .recv 1, .close 1]

def raceSchedule : List Action :=
  racePrefix ++ [.worker 1, .worker 1, .worker 1, .worker 1, .recv 1, .close 1]

/-- on the code before the repair that schedule hands request 1 the answer to request 0 -/
theorem old_execFunc_hands_over_foreign_response :
    ((run false G.init racePrefix).reqs 1).result = some (.response (some 0)) ∧
    (run false G.init racePrefix).bad = true := by decide +kernel

/-- non-vacuity: on the repaired code the same schedule runs to the end, request 0 times out,
    request 1 reuses Response 0 and channel 0 and gets its own answer -/
example : ((run true G.init raceSchedule).reqs 1).result = some (.response (some 1)) ∧
    ((run true G.init raceSchedule).reqs 0).result = some .timeout ∧
    ((run true G.init raceSchedule).reqs 1).resp = 0 ∧ ((run true G.init raceSchedule).reqs 1).chan = 0 := by
  decide +kernel

/-- non-vacuity: a transport error reaches its own caller, and a goroutine mid-write exists -/
example : ((run true G.init [.start 0 0 0, .fail 0, .worker 0, .worker 0, .recv 0, .main 0]).reqs 0).result =
      some .failed ∧
    ((run true G.init [.start 3 1 2, .worker 3, .worker 3]).reqs 3).w = .copy := by decide +kernel

/-- two configurations that differ only in the order in which the Go maps (path parameters and
    cookies of both levels, the jar's cookies) yield their entries -/
structure SameUpToMapOrder (c c' : Config) : Prop where
  baseURL : c'.baseURL = c.baseURL
  url : c'.url = c.url
  method : c'.method = c.method
  body : c'.body = c.body
  cHeaders : c'.client.headers = c.client.headers
  rHeaders : c'.request.headers = c.request.headers
  cParams : c'.client.params = c.client.params
  rParams : c'.request.params = c.request.params
  cUA : c'.client.userAgent = c.client.userAgent
  rUA : c'.request.userAgent = c.request.userAgent
  cRef : c'.client.referer = c.client.referer
  rRef : c'.request.referer = c.request.referer
  cTO : c'.client.timeout = c.client.timeout
  rTO : c'.request.timeout = c.request.timeout
  cPath : c.client.pathParams.Perm c'.client.pathParams
  rPath : c.request.pathParams.Perm c'.request.pathParams
  cCookies : c.client.cookies.Perm c'.client.cookies
  rCookies : c.request.cookies.Perm c'.request.cookies
  jar : c.jar.Perm c'.jar

/-- **The assembled request is a deterministic function of the configuration**: whatever order the
    maps are iterated in, URL (path parameters substituted longest key first), query, headers, user
    agent, referer, content type, body and timeout are identical and the cookie sets agree. -/
theorem assembly_deterministic (c c' : Config) (hm : MapsOK c) (h : SameUpToMapOrder c c') :
    match assemble c, assemble c' with
    | none, none => True
    | some a, some a' =>
      a'.method = a.method ∧ a'.host = a.host ∧ a'.path = a.path ∧ a'.rawQuery = a.rawQuery ∧
      a'.headers = a.headers ∧ a'.userAgent = a.userAgent ∧ a'.referer = a.referer ∧
      a'.contentType = a.contentType ∧ a'.body = a.body ∧ a'.timeout = a.timeout ∧
      (∀ k, mapGet a'.cookies k = mapGet a.cookies k) ∧ (a'.cookies.map (·.1)).Nodup ∧ (a.cookies.map (·.1)).Nodup
    | _, _ => False := by
  have hsub : ∀ u, substParams u c'.request.pathParams c'.client.pathParams =
      substParams u c.request.pathParams c.client.pathParams :=
    fun u => substParams_perm u _ _ _ _ hm.rPath hm.cPath h.rPath h.cPath
  have hm' : MapsOK c' :=
    ⟨(h.cPath.map _).nodup_iff.mp hm.cPath, (h.rPath.map _).nodup_iff.mp hm.rPath,
     (h.cCookies.map _).nodup_iff.mp hm.cCookies, (h.rCookies.map _).nodup_iff.mp hm.rCookies,
     (h.jar.map _).nodup_iff.mp hm.jar⟩
  have hu : uri0Of c' = uri0Of c := by simp only [uri0Of, h.baseURL, h.url]
  rw [assemble_eq, assemble_eq, hu]
  cases hasProtocol (uri0Of c)
  · simp only [Bool.false_eq_true, if_false]
  · simp only [if_true, asmOf, hu, h.url, h.method, h.body, h.cHeaders, h.rHeaders, h.cParams, h.rParams, h.cUA, h.rUA,
      h.cRef, h.rRef, h.cTO, h.rTO, hsub]
    refine ⟨trivial, trivial, trivial, trivial, trivial, trivial, trivial, trivial, trivial, trivial, ?_,
      mergeCookies_nodup _ _ _, mergeCookies_nodup _ _ _⟩
    intro k
    rw [hm'.mapGet_merge, hm.mapGet_merge,
      mapGet_perm _ _ hm.rCookies h.rCookies k, mapGet_perm _ _ hm.cCookies h.cCookies k, mapGet_perm _ _ hm.jar h.jar k]

/-- the order-dependence the repair removed (keys `id` / `idx`, Go map order) -/
theorem old_substitution_depends_on_map_order :
    substUnordered (b "/x/:idx") [(b "id", b "1"), (b "idx", b "2")] [] ≠
    substUnordered (b "/x/:idx") [(b "idx", b "2"), (b "id", b "1")] [] := by repeat rw [b_ofList]; decide +kernel

def sampleCfg : Config :=
  { baseURL := b "http://example.com", url := b "/x/:idx/:id?q=1", method := b "GET",
    client := { headers := [(b "X-A", b "1")], params := [(b "a", b "c")], cookies := [(b "sid", b "c"), (b "t", b "c")],
                pathParams := [(b "id", b "1"), (b "idx", b "9")], userAgent := b "cua", referer := b "cref", timeout := 500 },
    request := { headers := [(b "X-A", b "2")], params := [(b "a", b "r")], cookies := [(b "sid", b "r")],
                 pathParams := [(b "idx", b "2")], userAgent := [], referer := b "rref", timeout := 0 },
    jar := [(b "j", b "jar"), (b "t", b "jar")], body := .none }

example : (assemble sampleCfg).map (fun a => (a.path, a.rawQuery, a.userAgent, a.referer, a.timeout)) =
    some (b "/x/2/1", b "q=1&a=c&a=r", b "cua", b "rref", 500) := by
  unfold sampleCfg; repeat rw [b_ofList]; decide +kernel

/-- **Precedence and merging.** Request-level user agent, referer, cookies and timeout win over
    client-level ones (cookies: request over client over jar, per name); request-level headers and
    query parameters are sent in addition to the client-level ones (client first), after the
    arguments written in the URL itself. -/
theorem assembly_precedence (c : Config) (a : Assembled) (hm : MapsOK c) (h : assemble c = some a) :
    a.method = c.method ∧
    a.userAgent = (if c.request.userAgent ≠ [] then c.request.userAgent
                   else if c.client.userAgent ≠ [] then c.client.userAgent else defaultUserAgent) ∧
    a.referer = (if c.request.referer ≠ [] then c.request.referer else c.client.referer) ∧
    a.timeout = effectiveTimeout c ∧
    (∀ k, mapGet a.cookies k = ((mapGet c.request.cookies k).or (mapGet c.client.cookies k)).or (mapGet c.jar k)) ∧
    (a.cookies.map (·.1)).Nodup ∧
    a.headers = c.client.headers ++ c.request.headers ∧
    (∀ k, valuesOf a.headers k = valuesOf c.client.headers k ++ valuesOf c.request.headers k) ∧
    a.rawQuery = renderArgsNV (parseArgsNV (split2 (split2 c.url 63).2 35).1 ++ c.client.params.map argOf ++
                               c.request.params.map argOf) ∧
    a.body = effectiveBody c.body := by
  have e := assemble_some c a h
  subst e
  exact ⟨rfl, rfl, rfl, rfl, hm.mapGet_merge,
    mergeCookies_nodup _ _ _, rfl, fun k => valuesOf_append _ _ k, rfl, rfl⟩

example : MapsOK sampleCfg ∧ (assemble sampleCfg).isSome = true := by
  unfold sampleCfg; repeat rw [b_ofList]
  refine ⟨⟨by decide +kernel, by decide +kernel, by decide +kernel, by decide +kernel, by decide +kernel⟩, by decide +kernel⟩

/-- path parameters: request level over client level — a client-level value whose key the request
    also sets has no influence on the URL -/
theorem path_param_request_over_client (uri : Bytes) (reqP clientP : List KV) :
    substParams uri reqP clientP =
      substParams uri reqP (clientP.filter fun kv => (mapGet reqP kv.1).isNone) := by
  refine substParams_congr uri (.of_eq ?_) fun k => ?_
  · simp [keysOf, List.filter_map, List.filter_filter, Function.comp_def]
  · unfold valOf
    cases hk : mapGet reqP k with
    | some v => rfl
    | none => rw [mapGet_filter (fun kv e => by rw [e, hk]; rfl) clientP]

example : substParams (b "/u/:id") [(b "id", b "r")] [(b "id", b "c")] = b "/u/r" := by
  repeat rw [b_ofList]; decide +kernel

/-- **Path parameters arrive** — partial: outside the recorded region K2 (`unsafePathValue`: a
    substituted value is a dot segment or contains a byte that is not unreserved; the EMPTY value is inside the theorem). For every
    template whose placeholder reading is unambiguous for the configured keys (`templateOK`) the
    sequential, longest-key-first `strings.ReplaceAll` of `replacePathParams` produces exactly the
    template with every `:name` replaced by the request-level value, else the client-level value,
    else left alone. Full statement: the same without the hypothesis `hv` (false: K2 witnesses below). -/
theorem path_params_substitution_partial (uri : Bytes) (reqP clientP : List KV)
    (hr : (reqP.map (·.1)).Nodup) (hc : (clientP.map (·.1)).Nodup)
    (hT : templateOK uri (reqP.map (·.1) ++ clientP.map (·.1)) = true)
    (hv : unsafePathValue uri reqP clientP = false) :
    substParams uri reqP clientP = expectedURI uri reqP clientP :=
  substParams_eq_expected uri reqP clientP hT hv

/-- non-vacuity, and the case the longest-key-first order exists for: keys `id` and `idx` -/
example : templateOK (b "http://h/x/:idx/:id.json") [b "id", b "idx"] = true ∧
    unsafePathValue (b "http://h/x/:idx/:id.json") [(b "id", b "1")] [(b "idx", b "2"), (b "id", b "9")] = false ∧
    substParams (b "http://h/x/:idx/:id.json") [(b "id", b "1")] [(b "idx", b "2"), (b "id", b "9")] =
      b "http://h/x/2/1.json" := by repeat rw [b_ofList]; decide +kernel

/-- the empty string is a value like any other: a request that sets `ext` to "" hides the client's ".json"
    (outside K2, inside `templateOK`) -/
example : templateOK (b "http://h/api/v1/items:ext") [b "ext", b "ext"] = true ∧
    unsafePathValue (b "http://h/api/v1/items:ext") [(b "ext", [])] [(b "ext", b ".json")] = false ∧
    substParams (b "http://h/api/v1/items:ext") [(b "ext", [])] [(b "ext", b ".json")] = b "http://h/api/v1/items" ∧
    expectedURI (b "http://h/api/v1/items:ext") [(b "ext", [])] [(b "ext", b ".json")] = b "http://h/api/v1/items" := by
  repeat rw [b_ofList]; decide +kernel

/-- inside K2 the substitution itself goes wrong as well: a value that contains `:name` is substituted again -/
theorem path_param_witness_K2_resubstituted :
    unsafePathValue (b "/u/:id") [(b "id", b ":a"), (b "a", b "X")] [] = true ∧
    substParams (b "/u/:id") [(b "id", b ":a"), (b "a", b "X")] [] ≠
      expectedURI (b "/u/:id") [(b "id", b ":a"), (b "a", b "X")] [] := by repeat rw [b_ofList]; decide +kernel

/-- **Everything configured arrives** — the assembled request meets every assembly clause of the
    property (method, headers of both levels, URL arguments + client + request query parameters,
    user agent / referer / cookies by precedence, body: raw bytes, form fields, multipart fields and
    files, host, path with the path parameters) for every configuration in `AsmDomain`: Go maps with
    unique keys, a template without fragment that is unambiguous for the keys, byte-valued and not
    entirely empty query/form pairs — partial: outside K2 (`AsmDomain.safe`). -/
theorem assembly_meets_spec_partial (c : Config) (a : Assembled) (h : assemble c = some a) (hd : AsmDomain c) :
    specAsm c (uri0Of c) (urlArgsOf c) (arrived a) = none := by
  have hsub := substParams_eq_expected (uri0Of c) c.request.pathParams c.client.pathParams hd.tmpl hd.safe
  have hhp := hostPath_eq_spec _ fun x hx =>
    (expectedURI_bytes (uri0Of c) c.request.pathParams c.client.pathParams hd.safe x hx).elim (hd.clean x) fun hu =>
      (unreserved_not_delim x hu).1
  have hcut : (split2 (uri0Of c) 35).1 = uri0Of c := split2_clean _ 35 (fun x hx => (hd.clean x hx).1)
  have hq := parseArgsNV_renderArgsNV _ (List.forall_mem_append.mpr ⟨List.forall_mem_append.mpr
    ⟨parsed_argOK _ hd.query, map_argOf_OK hd.cParams⟩, map_argOf_OK hd.rParams⟩)
  rw [assemble_some c a h]
  have hrest : specAsmRest c (urlArgsOf c) (arrived (asmOf c)) = none := by
    unfold specAsmRest arrived asmOf
    simp only [hq, List.map_append, map_kv_argOf, urlArgsOf, ne_eq, not_true_eq_false, if_false, sameValuesPerKey_refl,
      Bool.not_true, Bool.false_eq_true, cookiesArrive_merge c hd.maps]
    unfold bodyArrives
    simp only
    cases hb : effectiveBody c.body with
    | none => rfl
    | raw bs => simp
    | form fs =>
      simp only [contentTypeOf, ne_eq, not_true_eq_false, if_false,
        parseArgsNV_renderArgsNV _ (map_argOf_OK (hd.form fs hb)), map_kv_argOf, sameValuesPerKey_refl, Bool.not_true,
        Bool.false_eq_true]
    | files fs fl =>
      simp only [contentTypeOf, ne_eq, not_true_eq_false, if_false, sameValuesPerKey_refl, Bool.not_true,
        Bool.false_eq_true]
  unfold specAsm
  rw [hrest]
  simp only [specAsmURL, arrived, asmOf, hcut, hsub, hhp, ne_eq, not_true_eq_false, if_false]

example : AsmDomain sampleCfg ∧ (assemble sampleCfg).isSome = true := by
  unfold sampleCfg; repeat rw [b_ofList]
  refine ⟨⟨⟨by decide +kernel, by decide +kernel, by decide +kernel, by decide +kernel, by decide +kernel⟩, by decide +kernel,
    by decide +kernel, by decide +kernel, ?_, ?_, ?_, ?_⟩, by decide +kernel⟩
  · unfold BytesOK; decide +kernel
  · unfold KVOK BytesOK; decide +kernel
  · unfold KVOK BytesOK; decide +kernel
  · intro fs h; simp [effectiveBody] at h

/-- K2 witness (known finding: path-parameter values are substituted unescaped): the value `a?b`
    does not arrive — the server's path ends at the `?` -/
def cfgK2 : Config :=
  { baseURL := b "http://example.com", url := b "/users/:id", method := b "GET",
    client := { headers := [], params := [], cookies := [], pathParams := [], userAgent := [], referer := [], timeout := 0 },
    request := { headers := [], params := [], cookies := [], pathParams := [(b "id", b "a?b")], userAgent := [],
                 referer := [], timeout := 0 },
    jar := [], body := .none }

theorem path_param_witness_K2 :
    unsafePathValue (b "http://example.com/users/:id") cfgK2.request.pathParams cfgK2.client.pathParams = true ∧
    (assemble cfgK2).map (fun a => a.path) = some (b "/users/a") ∧
    (assemble cfgK2).map (fun a => specAsm cfgK2 (b "http://example.com/users/:id") [] (arrived a)) =
      some (some "path-parameter-arrives(request-over-client)") := by
  unfold cfgK2; repeat rw [b_ofList]; decide +kernel

/-- **Nothing leaks through a pooled `Request`**: whatever an earlier user configured on the object
    (and whatever that send left in `RawRequest`), after `ReleaseRequest`/`Response.Close` the object
    is the one a brand-new released object is, so the next request built on it is the request built
    on a new object — configuration, body, bound client and all. -/
theorem pooled_request_forgets_everything (prev : ReqObj) : resetReq prev = resetReq newReq := rfl

theorem pooled_request_no_leak (earlier ss : List Setter) (o : ReqObj) :
    configure ss (resetReq (configure earlier o)) = configure ss (resetReq newReq) := rfl

theorem pooled_request_same_assembly (earlier ss : List Setter) (o : ReqObj) (cl : Level) (base : Bytes) (jar : List KV) :
    let r := configure ss (resetReq (configure earlier o))
    let r' := configure ss (resetReq newReq)
    assemble { baseURL := base, url := r.url, method := r.method, client := cl, request := levelOf r, jar := jar,
               body := bodyOf r } =
    assemble { baseURL := base, url := r'.url, method := r'.method, client := cl, request := levelOf r', jar := jar,
               body := bodyOf r' } ∧
    ∀ d, sendsThrough r d = sendsThrough r' d := ⟨rfl, fun _ => rfl⟩

/-- the `Reset` before the repair kept the client: a request that names no client went out through the
    previous request's client instead of the default one -/
theorem old_reset_leaks_client :
    sendsThrough (configure [.setURL (b "http://b/")] (resetReqOld (configure [.setClient 7] newReq))) 0 = 7 ∧
    sendsThrough (configure [.setURL (b "http://b/")] (resetReq (configure [.setClient 7] newReq))) 0 = 0 := by
  repeat rw [b_ofList]; decide +kernel

theorem pooled_response_forgets_everything (prev : RespObj) : resetResp prev = newResp := rfl

example : levelOf (configure [.addHeader (b "X-A") (b "1"), .setHeader (b "X-A") (b "2"), .setCookie (b "c") (b "v")]
    (resetReq (configure [.addHeader (b "X-Leak") (b "x"), .setUserAgent (b "old"), .setClient 3] newReq))) =
    { headers := [(b "X-A", b "2")], params := [], cookies := [(b "c", b "v")], pathParams := [], userAgent := [],
      referer := [], timeout := 0 } := by repeat rw [b_ofList]; decide +kernel

end C18
