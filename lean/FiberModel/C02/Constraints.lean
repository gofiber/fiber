import FiberModel.C02.Observe
/-
C02 — the built-in constraints, concretely.

`checkConstraint custom abs` consults the abstract verdict `abs` only for custom constraints, regex,
datetime, and alpha on a value with a non-ASCII byte. For every other built-in constraint the verdict
is the transcribed decision procedure `checkExact` (`checkConstraint_builtin`), whose meaning per
kind is spelled out below: int / min / max / range through `strconv.Atoi` (`atoi_ok`), bool through
the twelve literals of `strconv.ParseBool`, the length constraints through `len(param)`, float
through `parseFloat32OK` (syntax of `strconv.ParseFloat` transcribed; range error = the correctly
rounded result overflows float32), guid through `uuidParseOK` (google/uuid `Parse`).
-/
namespace C02
open B

/-- the constraint kinds whose verdict never involves the abstract predicate -/
def CType.exact : CType → Bool
  | .regex | .datetime | .alpha => false
  | _ => true

/-- **Every built-in constraint other than regex / datetime (and alpha on non-ASCII input) is decided
    by the transcribed procedure**, whatever the abstract verdict function is — provided no custom
    constraint of that name is registered (custom constraints override built-ins). -/
theorem checkConstraint_builtin (custom : List Bytes) (abs : Constraint → Bytes → Bool) (c : Constraint)
    (v : Bytes) (hc : custom.contains c.name = false)
    (hk : c.id.exact = true ∨ (c.id = .alpha ∧ v.any (· ≥ 128) = false)) :
    checkConstraint custom abs c v = checkExact c v := by
  unfold checkConstraint
  simp only [hc, Bool.false_eq_true, if_false]
  rcases hk with hk | ⟨hk, hv⟩
  · cases hid : c.id <;> rw [hid] at hk <;> simp_all [CType.exact]
  · simp [hk, hv]

def decVal (ds : Bytes) : Nat := ds.foldl (fun a c => a * 10 + (c - 48)) 0

/-- the sign split of `strconv.Atoi` -/
def atoiSplit (s : Bytes) : Bool × Bytes :=
  match s with
  | 43 :: r => (false, r)
  | 45 :: r => (true, r)
  | _ => (false, s)

/-- `strconv.Atoi` behind the sign -/
def atoiCore (neg : Bool) (ds : Bytes) : Int × Bool :=
  if ds.isEmpty || !ds.all isDigit then (0, false)
  else
    if neg then (if decVal ds > 9223372036854775808 then (-9223372036854775808, false) else (-(decVal ds : Int), true))
    else (if decVal ds > 9223372036854775807 then (9223372036854775807, false) else ((decVal ds : Int), true))

theorem atoi_eq (s : Bytes) : atoi s = atoiCore (atoiSplit s).1 (atoiSplit s).2 := by
  unfold atoi atoiSplit atoiCore decVal
  rfl

theorem atoiSplit_cases (v : Bytes) :
    (∃ r, v = 43 :: r ∧ atoiSplit v = (false, r)) ∨ (∃ r, v = 45 :: r ∧ atoiSplit v = (true, r)) ∨
    atoiSplit v = (false, v) := by
  unfold atoiSplit
  split
  · rename_i r; exact Or.inl ⟨r, rfl, rfl⟩
  · rename_i r; exact Or.inr (Or.inl ⟨r, rfl, rfl⟩)
  · exact Or.inr (Or.inr rfl)

theorem atoiCore_ok {neg : Bool} {ds : Bytes} (h : (atoiCore neg ds).2 = true) :
    ds ≠ [] ∧ ds.all isDigit = true ∧
    (atoiCore neg ds).1 = (if neg then -(decVal ds : Int) else (decVal ds : Int)) ∧
    -9223372036854775808 ≤ (atoiCore neg ds).1 ∧ (atoiCore neg ds).1 ≤ 9223372036854775807 := by
  revert h
  fun_cases atoiCore neg ds <;> intro h
  -- only the two branches that report success get through
  case case3 h1 hn h2 | case5 h1 hn h2 =>
    rw [Bool.or_eq_true, not_or, Bool.not_eq_true, List.isEmpty_eq_false_iff, Bool.not_eq_true', Bool.not_eq_false] at h1
    refine ⟨h1.1, h1.2, by simp only [hn, if_true, if_false, Bool.false_eq_true], ?_, ?_⟩ <;> simp only <;> omega
  all_goals cases h

/-- **`strconv.Atoi` succeeds only on optionally signed, non-empty decimal digit strings whose value
    fits int64**, and then returns that value. -/
theorem atoi_ok {v : Bytes} (h : (atoi v).2 = true) :
    ∃ ds : Bytes, ds ≠ [] ∧ ds.all isDigit = true ∧
      (((v = ds ∨ v = 43 :: ds) ∧ (atoi v).1 = (decVal ds : Int)) ∨ (v = 45 :: ds ∧ (atoi v).1 = -(decVal ds : Int))) ∧
      -9223372036854775808 ≤ (atoi v).1 ∧ (atoi v).1 ≤ 9223372036854775807 := by
  rw [atoi_eq] at h ⊢
  obtain ⟨a, b', c, d, e⟩ := atoiCore_ok h
  refine ⟨_, a, b', ?_, d, e⟩
  -- which of the three spellings `v` is: by its sign
  rcases atoiSplit_cases v with ⟨r, hv, hs⟩ | ⟨r, hv, hs⟩ | hs <;> rw [hs] at c ⊢
  · exact Or.inl ⟨Or.inr hv, c⟩
  · exact Or.inr ⟨hv, c⟩
  · exact Or.inl ⟨Or.inl rfl, c⟩

/-! ### what each kind demands (`c.data` as parsed from the pattern; `Atoi` errors on the data are
    ignored by the Go code, the data then counts as 0 / as the clamped value) -/

theorem checkExact_int {c : Constraint} (h : c.id = .int) (v : Bytes) :
    checkExact c v = (atoi v).2 := by unfold checkExact; simp [h]

theorem checkExact_bool {c : Constraint} (h : c.id = .bool) (v : Bytes) :
    checkExact c v = parseBoolOK v := by unfold checkExact; simp [h]

theorem checkExact_float {c : Constraint} (h : c.id = .float) (v : Bytes) :
    checkExact c v = parseFloat32OK v := by unfold checkExact; simp [h]

theorem checkExact_guid {c : Constraint} (h : c.id = .guid) (v : Bytes) :
    checkExact c v = uuidParseOK v := by unfold checkExact; simp [h]

theorem checkExact_alpha {c : Constraint} (h : c.id = .alpha) (v : Bytes) :
    checkExact c v = v.all isAlpha := by unfold checkExact; simp [h]

/-- the "data required" gate in front of a one-datum constraint -/
theorem needOne_and {d : List Bytes} {X : Bool} : (!(d.length == 0) && X) = true ↔ d ≠ [] ∧ X = true := by
  simp only [Bool.and_eq_true, Bool.not_eq_true', beq_eq_false_iff_ne, ne_eq, List.length_eq_zero_iff]

theorem not_lt_true {a b : Int} : (!decide (a < b)) = true ↔ b ≤ a := by
  simp only [Bool.not_eq_true', decide_eq_false_iff_not, Int.not_lt]

/-- gate, then an order test (`>` is `<` read from the right) -/
theorem gate_order {d : List Bytes} {a b : Int} :
    (!(d.length == 0) && !decide (a < b)) = true ↔ d ≠ [] ∧ b ≤ a :=
  needOne_and.trans (and_congr_right' not_lt_true)

/-- gate, then `Atoi` succeeded on the value, then an order test -/
theorem gate_ok_order {d : List Bytes} {ok : Bool} {a b : Int} :
    (!(d.length == 0) && ok && !decide (a < b)) = true ↔ d ≠ [] ∧ ok = true ∧ b ≤ a := by
  rw [Bool.and_assoc]
  exact needOne_and.trans (and_congr_right' (Bool.and_eq_true_iff.trans (and_congr_right' not_lt_true)))

theorem checkExact_minLen {c : Constraint} (h : c.id = .minLen) (v : Bytes) :
    checkExact c v = true ↔ c.data ≠ [] ∧ (atoi (c.data.getD 0 [])).1 ≤ (v.length : Int) := by
  unfold checkExact
  rw [h]
  exact gate_order

theorem checkExact_maxLen {c : Constraint} (h : c.id = .maxLen) (v : Bytes) :
    checkExact c v = true ↔ c.data ≠ [] ∧ (v.length : Int) ≤ (atoi (c.data.getD 0 [])).1 := by
  unfold checkExact
  rw [h]
  exact gate_order

theorem checkExact_len {c : Constraint} (h : c.id = .len) (v : Bytes) :
    checkExact c v = true ↔ c.data ≠ [] ∧ (v.length : Int) = (atoi (c.data.getD 0 [])).1 := by
  unfold checkExact
  rw [h]
  exact needOne_and.trans (and_congr_right' beq_iff_eq)

theorem checkExact_betweenLen {c : Constraint} (h : c.id = .betweenLen) (v : Bytes) :
    checkExact c v = true ↔ c.data.length ≥ 2 ∧ (atoi (c.data.getD 0 [])).1 ≤ (v.length : Int) ∧
      (v.length : Int) ≤ (atoi (c.data.getD 1 [])).1 := by
  unfold checkExact
  simp only [h, Bool.and_eq_true, Bool.not_eq_true', decide_eq_false_iff_not, Nat.not_lt, Bool.or_eq_false_iff,
    Int.not_lt, ge_iff_le]

theorem checkExact_min {c : Constraint} (h : c.id = .min) (v : Bytes) :
    checkExact c v = true ↔ c.data ≠ [] ∧ (atoi v).2 = true ∧ (atoi (c.data.getD 0 [])).1 ≤ (atoi v).1 := by
  unfold checkExact
  rw [h]
  exact gate_ok_order

theorem checkExact_max {c : Constraint} (h : c.id = .max) (v : Bytes) :
    checkExact c v = true ↔ c.data ≠ [] ∧ (atoi v).2 = true ∧ (atoi v).1 ≤ (atoi (c.data.getD 0 [])).1 := by
  unfold checkExact
  rw [h]
  exact gate_ok_order

theorem checkExact_range {c : Constraint} (h : c.id = .range) (v : Bytes) :
    checkExact c v = true ↔ c.data.length ≥ 2 ∧ (atoi v).2 = true ∧ (atoi (c.data.getD 0 [])).1 ≤ (atoi v).1 ∧
      (atoi v).1 ≤ (atoi (c.data.getD 1 [])).1 := by
  unfold checkExact
  simp only [h, Bool.and_eq_true, Bool.not_eq_true', decide_eq_false_iff_not, Nat.not_lt, Bool.or_eq_false_iff,
    Int.not_lt, ge_iff_le, and_assoc]

/-- regex and datetime keep an abstract verdict (`regexp.MatchString`, `time.Parse`); what is
    transcribed is the gate in front of it: without data the constraint rejects everything. -/
theorem checkConstraint_needs_data (custom : List Bytes) (abs : Constraint → Bytes → Bool) (c : Constraint)
    (v : Bytes) (hc : custom.contains c.name = false) (hk : c.id = .regex ∨ c.id = .datetime)
    (hd : c.data = []) : checkConstraint custom abs c v = false := by
  have hm : ¬ c.name ∈ custom := by
    intro hm; rw [List.contains_iff_mem.mpr hm] at hc; cases hc
  unfold checkConstraint checkExact
  rcases hk with hk | hk <;> simp [hm, hk, hd]

end C02
