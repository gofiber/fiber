import FiberModel.C02.Shape
/-
C02 — trailing slashes of the pattern text do not change its parameter segments.

`register` cuts the trailing slashes of the pattern unless StrictRouting, but takes the parameter
names (`Route.Params`) from the uncut text. `parseLoop_append_slashes` shows both parses have the
same parameter segments (names, constraints, flags) — outside the corner `swallows`: a parameter
whose constraint brackets contain a '/' and have no end character behind them takes the whole rest
of the pattern text, trailing slashes included (`/:x</>/` declares the parameter text `:x</>/`).
-/
namespace C02
open B

def Slashes (sl : Bytes) : Prop := ∀ c ∈ sl, c = SLASH

theorem Slashes.not_contains {sl : Bytes} (h : Slashes sl) {ch : Nat} (hch : ch ≠ SLASH) :
    sl.contains ch = false := by
  cases hh : sl.contains ch
  · rfl
  · exact absurd (h ch (List.contains_iff_mem.mp hh)) hch

/-- the bound step shared by the position searches: found one further right in the tail -/
theorem lt_succ_of_map {o : Option Nat} {n m : Nat} (h : o.map (· + 1) = some n)
    (ih : ∀ j, o = some j → j < m) : n < m + 1 := by
  cases o with
  | none => cases h
  | some j => cases h; exact Nat.succ_lt_succ (ih j rfl)

theorem fnneGo_append {cs : List Nat} (hcs : cs.contains SLASH = false) {sl : Bytes} (hsl : Slashes sl) :
    (prev : Option Nat) → (q : Bytes) → fnneGo cs prev (q ++ sl) = fnneGo cs prev q
  | prev, [] => fnneGo_none_of_disjoint prev sl (fun c hc => hsl c hc ▸ hcs)
  | prev, c :: rest => by
    rw [List.cons_append]
    unfold fnneGo
    rw [fnneGo_append hcs hsl (some c) rest]
    cases rest <;> simp [fnneGo]

theorem fnneGo_lt {cs : List Nat} (prev : Option Nat) (q : Bytes) (n : Nat) (h : fnneGo cs prev q = some n) :
    n < q.length := by
  revert n
  -- the branches of `fnneGo`: empty text; an escaped candidate in last position (nothing found in these two); an
  -- escaped candidate, the search goes on; a candidate; no candidate, the search goes on
  fun_induction fnneGo cs prev q <;> intro n h
  iterate 2 cases h
  · rename_i ih; exact lt_succ_of_map h ih
  · cases h; exact Nat.zero_lt_succ _
  · rename_i ih; exact lt_succ_of_map h ih

theorem startChars_noSlash : paramStartChars.contains SLASH = false := by decide

theorem getD_append_lt (q sl : Bytes) {k : Nat} (hk : k < q.length) : (q ++ sl).getD k 0 = q.getD k 0 := by
  simp only [List.getD_eq_getElem?_getD, List.getElem?_append_left hk]

theorem findNextParamPosition_append {sl : Bytes} (hsl : Slashes sl) (q : Bytes) :
    findNextParamPosition (q ++ sl) = findNextParamPosition q := by
  unfold findNextParamPosition fnne
  rw [fnneGo_append startChars_noSlash hsl]
  cases h : fnneGo paramStartChars none q with
  | none => rfl
  | some n =>
    have hn := fnneGo_lt none q n h
    simp only
    rw [getD_append_lt q sl hn, List.drop_append_of_le_length (by omega), fnneGo_append startChars_noSlash hsl]

theorem findNextParamPosition_lt {q : Bytes} {k : Nat} (h : findNextParamPosition q = some k) : k < q.length := by
  revert h
  fun_cases findNextParamPosition q <;> intro h <;> cases h
  · -- the byte behind `n` is a parameter-start byte: it exists
    rename_i hn _ h0
    have := fnneGo_lt none _ 0 (beq_iff_eq.mp h0)
    have := fnneGo_lt none q _ hn
    simp only [List.length_drop] at *
    omega
  · rename_i hn _ _; exact fnneGo_lt none q _ hn
  · rename_i hn _; exact fnneGo_lt none q _ hn

/-- with `\` in the charset nothing is ever skipped as escaped -/
theorem fnneGo_eq_findCharset {cs : List Nat} (hb : cs.contains BSL = true) (prev : Option Nat) (s : Bytes)
    (hp : (prev == some BSL) = false) : fnneGo cs prev s = findCharset s cs := by
  revert hp
  -- the branches as in `fnneGo_lt`; the two with an escaped candidate contradict `hp`
  fun_induction fnneGo cs prev s <;> intro hp
  · rfl
  · rename_i he _; rw [he] at hp; cases hp
  · rename_i he _ _; rw [he] at hp; cases hp
  · rename_i hc _; rw [findCharset, if_pos hc]
  · rename_i c rest hc ih
    -- a byte outside the charset is not `\`
    rw [findCharset, if_neg hc, ih (beq_eq_false_iff_ne.mpr fun e => hc (Option.some.inj e ▸ hb))]

theorem fnne_endChars (s : Bytes) : fnne s paramEndChars = findCharset s paramEndChars :=
  fnneGo_eq_findCharset (by decide) none s rfl

theorem findCharset_lt {cs : List Nat} (s : Bytes) (e : Nat) (h : findCharset s cs = some e) : e < s.length := by
  revert e
  fun_induction findCharset s cs <;> intro e h
  · cases h
  · cases h; exact Nat.zero_lt_succ _
  · rename_i ih; exact lt_succ_of_map h ih

theorem findCharset_append {cs : List Nat} (hcs : cs.contains SLASH = true) {sl : Bytes} (hsl : Slashes sl)
    (hne : sl ≠ []) : (s : Bytes) →
    findCharset (s ++ sl) cs = (match findCharset s cs with | some e => some e | none => some s.length)
  | [] => by
    cases sl with
    | nil => exact absurd rfl hne
    | cons c rest =>
      have hc : c = SLASH := hsl c (List.mem_cons_self ..)
      simp only [List.nil_append, findCharset, hc, hcs, if_true, List.length_nil]
  | c :: rest => by
    rw [List.cons_append]
    unfold findCharset
    split
    · rfl
    · rw [findCharset_append hcs hsl hne rest]
      cases findCharset rest cs <;> simp

theorem fnnecpGo_append {ch : Nat} (hch : ch ≠ SLASH) {sl : Bytes} (hsl : Slashes sl) (prev : Option Nat)
    (s : Bytes) : fnnecpGo ch prev (s ++ sl) = fnnecpGo ch prev s := by
  have hcs : [ch].contains SLASH = false := by
    rw [contains_singleton, beq_eq_false_iff_ne]
    exact fun e => hch e.symm
  rw [fnnecpGo_eq_fnneGo, fnnecpGo_eq_fnneGo, fnneGo_append hcs hsl]

theorem fnnecpGo_lt {ch : Nat} (prev : Option Nat) (s : Bytes) (k : Nat) (h : fnnecpGo ch prev s = some k) :
    k < s.length :=
  fnneGo_lt prev s k (fnnecpGo_eq_fnneGo ch prev s ▸ h)

theorem indexByte_append_ne {ch : Nat} (hch : ch ≠ SLASH) {sl : Bytes} (hsl : Slashes sl) :
    (s : Bytes) → indexByte (s ++ sl) ch = indexByte s ch
  | [] => indexByte_eq_none_iff.mpr (hsl.not_contains hch)
  | c :: rest => by
    rw [List.cons_append]
    unfold indexByte
    rw [indexByte_append_ne hch hsl rest]

theorem indexByte_eq_findCharset (c : Nat) : (s : Bytes) → indexByte s c = findCharset s [c]
  | [] => rfl
  | x :: xs => by
    rw [indexByte, findCharset, contains_singleton, indexByte_eq_findCharset c xs]

theorem indexByte_append_slash {sl : Bytes} (hsl : Slashes sl) (hne : sl ≠ []) (s : Bytes) :
    indexByte (s ++ sl) SLASH = (match indexByte s SLASH with | some k => some k | none => some s.length) := by
  rw [indexByte_eq_findCharset, indexByte_eq_findCharset]
  exact findCharset_append (by decide) hsl hne s

theorem lastIndexByte_none_of_not_mem {ch : Nat} {s : Bytes} (h : s.contains ch = false) :
    lastIndexByte s ch = none := by
  induction s with
  | nil => rfl
  | cons x xs ih =>
    rw [List.contains_cons, Bool.or_eq_false_iff] at h
    rw [lastIndexByte, ih h.2, BEq.comm, h.1]
    rfl

theorem lastIndexByte_append {ch : Nat} (hch : ch ≠ SLASH) {sl : Bytes} (hsl : Slashes sl) :
    (s : Bytes) → lastIndexByte (s ++ sl) ch = lastIndexByte s ch
  | [] => by
    rw [List.nil_append, lastIndexByte_none_of_not_mem (hsl.not_contains hch)]
    rfl
  | c :: rest => by
    rw [List.cons_append]
    unfold lastIndexByte
    rw [lastIndexByte_append hch hsl rest]

theorem lastIndexByte_lt {ch : Nat} (s : Bytes) (k : Nat) (h : lastIndexByte s ch = some k) : k < s.length := by
  revert k
  fun_induction lastIndexByte s ch <;> intro k h <;> cases h
  · rename_i hk ih; exact Nat.succ_lt_succ (ih _ hk)
  · exact Nat.zero_lt_succ _

theorem fccStep_cases (idx : Nat → Option Nat) (Q : Nat → Bool) (o : Option Nat) (ch : Nat) :
    fccStep idx Q o ch = o ∨ ∃ pos, idx ch = some pos ∧ fccStep idx Q o ch = some pos := by
  fun_cases fccStep idx Q o ch
  · exact Or.inl rfl
  · rename_i pos hi _ _; exact Or.inr ⟨pos, hi, rfl⟩
  · exact Or.inl rfl
  · exact Or.inl rfl

/-- every state of the fold is a first-occurrence position -/
theorem fcc_bound {idx : Nat → Option Nat} {Q : Nat → Bool} {m : Nat}
    (h3 : ∀ ch pos, idx ch = some pos → pos < m) :
    (cs : List Nat) → (o : Option Nat) → (∀ x, o = some x → x < m) →
    ∀ x, cs.foldl (fccStep idx Q) o = some x → x < m
  | [], o, ho => by simpa using ho
  | ch :: rest, o, ho => by
    rw [List.foldl_cons]
    apply fcc_bound h3 rest
    intro x hx
    rcases fccStep_cases idx Q o ch with h | ⟨pos, hi, h⟩
    · rw [h] at hx; exact ho x hx
    · rw [h] at hx; cases hx; exact h3 ch _ hi

theorem findCharsetConstraint_lt {s : Bytes} {cs : List Nat} {e : Nat}
    (h : findCharsetConstraint s cs = some e) : e < s.length := by
  rw [findCharsetConstraint_eq] at h
  exact fcc_bound (fun _ _ => indexByte_lt) cs none (fun _ hx => by cases hx) e h

/-- Once the first appended slash (at `m`, behind every first occurrence in `s`) has been looked at,
    the fold on `s ++ slashes` holds `m` where the fold on `s` holds nothing, and the same otherwise. -/
theorem fcc_after {idx idx' : Nat → Option Nat} {Q : Nat → Bool} {m : Nat}
    (h3 : ∀ ch pos, idx ch = some pos → pos < m) : (cs : List Nat) → (∀ ch ∈ cs, idx' ch = idx ch) →
    (o : Option Nat) → (∀ x, o = some x → x < m) →
    cs.foldl (fccStep idx' Q) (some (o.getD m)) = some ((cs.foldl (fccStep idx Q) o).getD m)
  | [], _, _, _ => rfl
  | ch :: rest, h1, o, ho => by
    have hstep : fccStep idx' Q (some (o.getD m)) ch = some ((fccStep idx Q o ch).getD m) := by
      unfold fccStep
      rw [h1 ch (List.mem_cons_self ..)]
      cases hi : idx ch with
      | none => rfl
      | some pos =>
        have := h3 ch pos hi
        cases o with
        | none => cases hq : Q pos <;> simp [this, hq]
        | some x =>
          simp only [Option.getD_some]
          split
          · split <;> rfl
          · rfl
    have hb : ∀ x, fccStep idx Q o ch = some x → x < m := fcc_bound h3 [ch] o ho
    rw [List.foldl_cons, List.foldl_cons, hstep]
    exact fcc_after h3 rest (fun c hc => h1 c (List.mem_cons_of_mem _ hc)) _ hb

theorem qualifies_end {s : Bytes} : qualifies (fnnecp s LT) (fnnecp s GT) s.length = true := by
  unfold qualifies
  have h : ∀ ch, gtPos s.length (fnnecp s ch) = true := by
    intro ch
    unfold gtPos
    cases hh : fnnecp s ch with
    | none => rfl
    | some x => simpa using fnnecpGo_lt none s x hh
  simp [h]

/-- A charset in which '/' occurs once, on `s ++ slashes` where `s` holds no '/' (`idx`, `idx'`: first
    occurrences in `s` and in `s ++ slashes`, `m = s.length`): the characters before '/' see the same first
    occurrences, at '/' the fold takes `m` unless it holds something already, behind it `fcc_after` applies.
    Where '/' stands in the charset does not matter. -/
theorem fcc_append_slash {idx idx' : Nat → Option Nat} {Q : Nat → Bool} {m : Nat}
    (h3 : ∀ ch pos, idx ch = some pos → pos < m) (hQ : Q m = true)
    (hidx : idx SLASH = none) (hidx' : idx' SLASH = some m) (hother : ∀ ch, ch ≠ SLASH → idx' ch = idx ch)
    (pre post : List Nat) (hpre : ∀ ch ∈ pre, ch ≠ SLASH) (hpost : ∀ ch ∈ post, ch ≠ SLASH) :
    (pre ++ SLASH :: post).foldl (fccStep idx' Q) none =
      some (((pre ++ SLASH :: post).foldl (fccStep idx Q) none).getD m) := by
  rw [List.foldl_append, List.foldl_append, fcc_congr pre none (fun ch hch => hother ch (hpre ch hch))]
  generalize hgen : List.foldl (fccStep idx Q) none pre = o
  rw [List.foldl_cons, List.foldl_cons]
  have ho : ∀ x, o = some x → x < m := hgen ▸ fcc_bound h3 _ none (fun _ h => nomatch h)
  have hstep' : fccStep idx' Q o SLASH = some (o.getD m) := by
    unfold fccStep
    rw [hidx']
    cases o with
    | none => simp [hQ]
    | some x => have := ho x rfl; simp only [Option.getD_some]; rw [if_neg (by simpa using Nat.le_of_lt this)]
  have hstep : fccStep idx Q o SLASH = o := by
    unfold fccStep; rw [hidx]
  rw [hstep', hstep, fcc_after h3 post (fun ch hch => hother ch (hpost ch hch)) o ho]

theorem findCharsetConstraint_append {sl : Bytes} (hsl : Slashes sl) (hne : sl ≠ []) (s : Bytes) :
    findCharsetConstraint (s ++ sl) paramEndChars =
      if s.contains SLASH then findCharsetConstraint s paramEndChars
      else (match findCharsetConstraint s paramEndChars with | some e => some e | none => some s.length) := by
  have hq : qualifies (fnnecp (s ++ sl) LT) (fnnecp (s ++ sl) GT) = qualifies (fnnecp s LT) (fnnecp s GT) := by
    unfold fnnecp
    rw [fnnecpGo_append (by decide) hsl, fnnecpGo_append (by decide) hsl]
  rw [findCharsetConstraint_eq, findCharsetConstraint_eq, hq]
  have hother : ∀ ch, ch ≠ SLASH → indexByte (s ++ sl) ch = indexByte s ch :=
    fun ch hch => indexByte_append_ne hch hsl s
  cases hc : s.contains SLASH
  · have hidx : indexByte s SLASH = none := indexByte_eq_none_iff.mpr hc
    rw [if_neg Bool.false_ne_true]
    -- `paramEndChars` is `? : \` then '/' then `- .`
    rw [show paramEndChars = [QMARK, COLON, BSL] ++ SLASH :: [DASH, DOT] from rfl,
      fcc_append_slash (idx := indexByte s) (fun _ _ => indexByte_lt) qualifies_end hidx
        (by rw [indexByte_append_slash hsl hne, hidx]) hother _ _ (by decide) (by decide)]
    cases List.foldl _ none _ <;> rfl
  · simp only [if_true]
    refine fcc_congr _ none (fun ch _ => ?_)
    by_cases hch : ch = SLASH
    · subst hch
      rw [indexByte_append_slash hsl hne]
      cases hi : indexByte s SLASH with
      | some k => rfl
      | none => have := indexByte_eq_none_iff.mp hi; rw [hc] at this; cases this
    · exact hother ch hch

/-- The corner: the parameter text starting at `q` has a '/' that the bracket scan does not accept
    as its end, and no other end character: it takes the whole rest of the pattern. -/
def swallows (q : Bytes) : Bool :=
  q.contains LT && q.contains GT && !(q.headD 0 == STAR) && !(q.headD 0 == PLUS) &&
  (findCharsetConstraint (q.drop 1) paramEndChars).isNone && (q.drop 1).contains SLASH

theorem contains_append_slashes {sl : Bytes} (hsl : Slashes sl) {ch : Nat} (hch : ch ≠ SLASH) (q : Bytes) :
    (q ++ sl).contains ch = q.contains ch := by
  simp only [List.contains_append, hsl.not_contains hch, Bool.or_false]

theorem paramEnd0_lt {c : Nat} {rest : Bytes} {e : Nat} (h : paramEnd0 (c :: rest) = some e) :
    e < rest.length := by
  unfold paramEnd0 at h
  split at h
  · exact findCharsetConstraint_lt h
  · rw [fnne_endChars] at h; exact findCharset_lt rest e h

/-- Outside the corner, appended slashes end a parameter that had no end character, at its end in `q`. -/
theorem paramEnd0_append {sl : Bytes} (hsl : Slashes sl) (hne : sl ≠ []) {c : Nat} {rest : Bytes}
    (hns : swallows (c :: rest) = false) (hstar : (c == STAR || c == PLUS) = false) :
    paramEnd0 (c :: (rest ++ sl)) = some ((paramEnd0 (c :: rest)).getD rest.length) := by
  have hLT : (c :: (rest ++ sl)).contains LT = (c :: rest).contains LT :=
    contains_append_slashes hsl (by decide) (c :: rest)
  have hGT : (c :: (rest ++ sl)).contains GT = (c :: rest).contains GT :=
    contains_append_slashes hsl (by decide) (c :: rest)
  unfold paramEnd0
  simp only [hLT, hGT, List.drop_succ_cons, List.drop_zero]
  split
  · rename_i hb
    rw [findCharsetConstraint_append hsl hne]
    cases hcs : rest.contains SLASH
    · simp only [Bool.false_eq_true, if_false]
      cases findCharsetConstraint rest paramEndChars <;> rfl
    · simp only [if_true]
      cases hf : findCharsetConstraint rest paramEndChars with
      | some e => rfl
      | none =>
        -- a slash inside, no end character accepted: the corner
        simp only [Bool.or_eq_false_iff] at hstar
        have : swallows (c :: rest) = true := by
          unfold swallows
          simp only [List.headD_cons, List.drop_succ_cons, List.drop_zero, hstar.1, hstar.2, hf, hcs,
            Option.isNone_none, Bool.not_false, Bool.and_true]
          exact hb
        rw [hns] at this; cases this
  · rw [fnne_endChars, fnne_endChars, findCharset_append (by decide) hsl hne]
    cases findCharset rest paramEndChars <;> rfl

theorem endOf_lt {c : Nat} {rest : Bytes} {o : Option Nat} (h : ∀ e, o = some e → e < rest.length) :
    endOf (c :: rest) o < rest.length + 1 := by
  cases o with
  | none => exact Nat.lt_succ_self _
  | some e =>
    have := h e rfl
    simp only [endOf]
    split <;> omega

theorem endOf_append {sl : Bytes} (hsl : Slashes sl) (hne : sl ≠ []) {c : Nat} {rest : Bytes} {o : Option Nat}
    (h : ∀ e, o = some e → e < rest.length) :
    endOf (c :: (rest ++ sl)) (some (o.getD rest.length)) = endOf (c :: rest) o := by
  cases o with
  | some e =>
    have := h e rfl
    have hg : (c :: (rest ++ sl)).getD (e + 1) 0 = (c :: rest).getD (e + 1) 0 :=
      getD_append_lt (c :: rest) sl (by simp only [List.length_cons]; omega)
    simp only [Option.getD_some, endOf, hg]
  | none =>
    -- the byte behind the end in `q` is the first appended slash, a delimiter
    cases sl with
    | nil => exact absurd rfl hne
    | cons x xs =>
      have hx : x = SLASH := hsl x (List.mem_cons_self ..)
      simp [endOf, List.getD_eq_getElem?_getD, hx]
      decide

theorem paramEnd_append {sl : Bytes} (hsl : Slashes sl) {q : Bytes} (hq : q ≠ []) (hns : swallows q = false) :
    paramEnd (q ++ sl) = paramEnd q ∧ paramEnd q < q.length := by
  obtain ⟨c, rest, rfl⟩ := List.exists_cons_of_ne_nil hq
  have hlt : paramEnd (c :: rest) < (c :: rest).length := by
    unfold paramEnd
    split
    · exact Nat.zero_lt_succ _
    · exact endOf_lt (fun e he => paramEnd0_lt he)
  refine ⟨?_, hlt⟩
  by_cases hsle : sl = []
  · rw [hsle, List.append_nil]
  · rw [List.cons_append]
    show (if (c == STAR || c == PLUS) then 0 else endOf (c :: (rest ++ sl)) (paramEnd0 (c :: (rest ++ sl)))) =
      if (c == STAR || c == PLUS) then 0 else endOf (c :: rest) (paramEnd0 (c :: rest))
    by_cases hstar : (c == STAR || c == PLUS) = true
    · rw [if_pos hstar, if_pos hstar]
    · rw [if_neg hstar, if_neg hstar, paramEnd0_append hsl hsle hns (by simpa using hstar),
        endOf_append hsl hsle (fun e he => paramEnd0_lt he)]

theorem paramShape_append {sl : Bytes} (hsl : Slashes sl) {q : Bytes} (hq : q ≠ []) (hns : swallows q = false) :
    paramShape (q ++ sl) = paramShape q ∧ (paramShape q).pe < q.length := by
  obtain ⟨hpe, hlt⟩ := paramEnd_append hsl hq hns
  refine ⟨?_, hlt⟩
  rw [paramShape, paramShape, hpe]
  have hhead : (q ++ sl).headD 0 = q.headD 0 := by
    cases q with
    | nil => exact absurd rfl hq
    | cons _ _ => rfl
  rw [hhead, List.take_append_of_le_length (Nat.le_of_lt hlt), List.take_append_of_le_length (by omega),
    getD_append_lt q sl hlt]

theorem shape_bounds (p : Bytes) :
    (∀ s, (paramShape p).cS = some s → s < (paramShape p).pe) ∧
    (∀ e, (paramShape p).cE = some e → e < (paramShape p).pe + 1) := by
  rw [paramShape]
  simp only
  constructor
  · intro s hs
    split at hs
    · have := fnnecpGo_lt none _ s hs
      simp only [List.length_take] at this; omega
    · cases hs
  · intro e he
    split at he
    · have := lastIndexByte_lt _ e he
      simp only [List.length_take] at this; omega
    · cases he

/-- texts cut inside the first `pe + 1` bytes do not see what is appended behind them -/
theorem mkParam_append (sh : Shape) (q sl : Bytes) (wc pc : Nat) (hpe : sh.pe < q.length)
    (hs : ∀ s, sh.cS = some s → s < sh.pe) (he : ∀ e, sh.cE = some e → e < sh.pe + 1) :
    mkParam sh (q ++ sl) (q ++ sl) wc pc = mkParam sh q q wc pc := by
  have hcons : consOf sh (q ++ sl) = consOf sh q := by
    unfold consOf
    split
    · rename_i s e _ h2
      have := he e h2
      rw [List.take_append_of_le_length (by omega)]
    · rfl
  have hname : nameOf sh (q ++ sl) = nameOf sh q := by
    unfold nameOf
    split
    · rename_i s e h1 _
      have := hs s h1
      rw [List.take_append_of_le_length (by omega)]
    · rw [List.take_append_of_le_length (by omega)]
  unfold mkParam
  rw [hcons, hname]

theorem analyseParameterPart_append {sl : Bytes} (hsl : Slashes sl) {q : Bytes} (hq : q ≠ [])
    (hns : swallows q = false) (wc pc : Nat) :
    analyseParameterPart (q ++ sl) wc pc = analyseParameterPart q wc pc ∧
    ∀ n seg wc' pc', analyseParameterPart q wc pc = some (n, seg, wc', pc') → 1 ≤ n ∧ n ≤ q.length := by
  obtain ⟨hsh, hlt⟩ := paramShape_append hsl hq hns
  obtain ⟨hb1, hb2⟩ := shape_bounds q
  constructor
  · rw [analyseParameterPart_eq, analyseParameterPart_eq, hsh]
    exact mkParam_append _ q sl wc pc hlt hb1 hb2
  · intro n seg wc' pc' h
    rw [analyseParameterPart_eq] at h
    unfold mkParam at h
    cases hc : consOf (paramShape q) q with
    | none => rw [hc] at h; cases h
    | some cs =>
      rw [hc] at h
      simp only [Option.some.injEq, Prod.mk.injEq] at h
      omega

theorem parseLoop_noStart {s : Bytes} (h : ∀ c ∈ s, paramStartChars.contains c = false) (fuel wc pc : Nat) :
    (parseLoop fuel s wc pc).map paramSegs = some [] := by
  cases fuel with
  | zero => rfl
  | succ fuel =>
    unfold parseLoop
    split
    · rfl
    · have : findNextParamPosition s = none := by
        unfold findNextParamPosition fnne
        rw [fnneGo_none_of_disjoint none s h]
      rw [this]
      simp only [analyseConstantPart, List.drop_length, parseLoop_nil]
      rfl

/-- no suffix of `q` is in the corner -/
def NoSwallow (q : Bytes) : Prop := ∀ i, swallows (q.drop i) = false

theorem NoSwallow.drop {q : Bytes} (h : NoSwallow q) (k : Nat) : NoSwallow (q.drop k) := by
  intro i
  rw [List.drop_drop]
  exact h _

theorem map_cons_paramSegs (X : Option (List Seg)) (seg : Seg) :
    (X.map (seg :: ·)).map paramSegs =
      (X.map paramSegs).map (fun l => if seg.isParam then seg :: l else l) := by
  cases X with
  | none => rfl
  | some l => exact congrArg some (paramSegs_cons seg l)

/-- a round that consumes at least one byte leaves enough fuel -/
theorem drop_fuel {q : Bytes} {n m f : Nat} (hn : 1 ≤ n) (hq : n ≤ q.length) (h : q.length + m ≤ f + 1) :
    (q.drop n).length + m ≤ f := by
  rw [List.length_drop]; omega

theorem parseLoop_append_slashes {sl : Bytes} (hsl : Slashes sl) : (f2 : Nat) → (f1 : Nat) → (q : Bytes) →
    (wc pc : Nat) → q.length ≤ f2 → q.length + sl.length ≤ f1 → NoSwallow q →
    (parseLoop f1 (q ++ sl) wc pc).map paramSegs = (parseLoop f2 q wc pc).map paramSegs
  | f2, f1, [], wc, pc, _, _, _ => by
    rw [List.nil_append, parseLoop_nil, parseLoop_noStart (fun c hc => hsl c hc ▸ startChars_noSlash)]
    rfl
  | 0, _, _ :: _, _, _, h2, _, _ => by simp at h2
  | f2 + 1, 0, c :: rest, _, _, _, h1, _ => by simp at h1
  | f2 + 1, f1 + 1, c :: rest, wc, pc, h2, h1, hns => by
    have hns0 : swallows (c :: rest) = false := by simpa using hns 0
    unfold parseLoop
    rw [findNextParamPosition_append hsl, if_neg (by simp), if_neg (by simp)]
    cases hp : findNextParamPosition (c :: rest) with
    | none =>
      simp only [analyseConstantPart, List.drop_length, parseLoop_nil, Option.map_some]
      rfl
    | some k =>
      cases k with
      | zero =>
        -- a parameter
        obtain ⟨hap, hn⟩ := analyseParameterPart_append hsl (List.cons_ne_nil c rest) hns0 wc pc
        simp only
        rw [hap]
        cases ha : analyseParameterPart (c :: rest) wc pc with
        | none => rfl
        | some r =>
          obtain ⟨n, seg, wc', pc'⟩ := r
          obtain ⟨hn1, hn2⟩ := hn n seg wc' pc' ha
          simp only
          rw [List.drop_append_of_le_length hn2, map_cons_paramSegs, map_cons_paramSegs,
            parseLoop_append_slashes hsl f2 f1 ((c :: rest).drop n) wc' pc'
              (drop_fuel (m := 0) hn1 hn2 h2) (drop_fuel hn1 hn2 h1) (hns.drop n)]
      | succ k =>
        -- a constant of `k + 1` bytes
        have hk := findNextParamPosition_lt hp
        simp only [analyseConstantPart]
        rw [List.take_append_of_le_length (Nat.le_of_lt hk)]
        have hlen : ((c :: rest).take (k + 1)).length = k + 1 := by
          rw [List.length_take]; omega
        rw [hlen, List.drop_append_of_le_length (Nat.le_of_lt hk), map_cons_paramSegs, map_cons_paramSegs,
          parseLoop_append_slashes hsl f2 f1 ((c :: rest).drop (k + 1)) wc pc
            (drop_fuel (m := 0) (Nat.le_add_left 1 k) (Nat.le_of_lt hk) h2)
            (drop_fuel (Nat.le_add_left 1 k) (Nat.le_of_lt hk) h1) (hns.drop (k + 1))]

end C02
