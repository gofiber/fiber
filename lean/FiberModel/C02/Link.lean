import FiberModel.C02.Trailing
/-
C02 — the link between the pattern as written and the routed pattern, at the level of `register`:

  * `routed_eq_written` (all configurations, all patterns): the parameter segments of the routed
    parser carry the constraints, optional and greedy flags of the parse of `writtenPattern cfg p`
    (the text as written, no case folding, without the trailing slashes the configuration ignores).
  * `written_eq_raw` (outside the `swallows` corner): these are also the parameter segments — names
    included — of the parse of the raw text, which is where `Route.Params` comes from.
-/
namespace C02
open B

/-- what the property reads of a parameter segment -/
def pview (s : Seg) : List Constraint × Bool × Bool := (s.constraints, s.isOptional, s.isGreedy)
/-- the same with the parameter's name (what `Route.Params` adds) -/
def nview (s : Seg) : Bytes × List Constraint × Bool × Bool := (s.paramName, s.constraints, s.isOptional, s.isGreedy)

theorem CoreL.nviews {l l' : List Seg} (h : CoreL l l') :
    (paramSegs l').map nview = (paramSegs l).map nview := by
  induction h with
  | nil => rfl
  | @cons a b as bs hab _ ih =>
    rw [paramSegs_cons, paramSegs_cons, hab.2.1]
    cases a.isParam
    · exact ih
    · simp only [if_true, List.map_cons, ih]
      congr 1
      unfold nview
      rw [hab.2.2.2.2.2.1, hab.2.2.2.2.1, hab.2.2.2.1, hab.2.2.1]

theorem CoreL.paramNames_eq {l l' : List Seg} (h : CoreL l l') : paramNames l' = paramNames l := by
  have hn : ∀ l : List Seg, paramNames l = ((paramSegs l).map nview).map (·.1) := fun l => by rw [List.map_map]; rfl
  rw [hn, hn, h.nviews]

theorem nview_pview {l l' : List Seg} (h : l.map nview = l'.map nview) : l.map pview = l'.map pview := by
  have : ∀ (l : List Seg), l.map pview = (l.map nview).map (fun x => x.2) := by
    intro l; rw [List.map_map]; rfl
  rw [this, this, h]

/-- what the property reads of the parameter segments is a function of the `sview`s -/
theorem pviews_of_sviews (l : List Seg) :
    (paramSegs l).map pview =
      (l.map sview).filterMap (fun v => if v.1 then some (v.2.2.1, v.2.2.2.1, v.2.2.2.2) else none) := by
  induction l with
  | nil => rfl
  | cons a as ih =>
    rw [paramSegs_cons, List.map_cons, List.filterMap_cons, ← ih]
    cases h : a.isParam <;> simp [sview, pview, h]

theorem constsOK_of_sviews (l : List Seg) : constsOK l = (l.map sview).all (fun v => v.1 || !v.2.1) := by
  unfold constsOK
  rw [List.all_map]
  rfl

theorem parseRouteW_fold {f : Nat → Nat} (hf : Neutral f) {t : Bytes} {pp : Parser}
    (h : parseRouteW (t.map f) t = some pp) :
    ∃ wr, parseRoute t = some wr ∧ (paramSegs pp.segs).map pview = (paramSegs wr.segs).map pview := by
  obtain ⟨w', raw, hw, hr, hm, _⟩ := parseRouteW_unfold h
  have hw' : w' = t := hw (by simp)
  subst hw'
  rw [List.length_map] at hr
  have hA := parseLoopW_fold hf w'.length w' 0 0
  rw [hr] at hA
  cases hr' : parseLoop w'.length w' 0 0 with
  | none => rw [hr'] at hA; cases hA
  | some raw' =>
    rw [hr'] at hA
    simp only [Option.map_some, Option.some.injEq] at hA
    have hsome : (addParameterMetaInfo (markLast raw')).isSome = true := by
      rw [finish_isSome, constsOK_of_sviews, ← hA, ← constsOK_of_sviews, ← finish_isSome, hm]; rfl
    cases hm' : addParameterMetaInfo (markLast raw') with
    | none => rw [hm'] at hsome; cases hsome
    | some segs' =>
      refine ⟨{ segs := segs', params := paramNames segs' }, ?_, ?_⟩
      · unfold parseRoute
        rw [hr']
        simp only [hm']
      · have c1 := nview_pview (finish_core hm).nviews
        have c2 := nview_pview (finish_core hm').nviews
        simp only
        rw [c1, c2, pviews_of_sviews, pviews_of_sviews, hA]

/-- the byte map the configuration applies to pattern and detection path -/
def cfgFold (cfg : Config) : Nat → Nat := if cfg.caseSensitive then id else lowerByte

theorem cfgFold_neutral (cfg : Config) : Neutral (cfgFold cfg) := by
  unfold cfgFold
  cases cfg.caseSensitive
  · exact lowerByte_neutral
  · exact neutral_id

theorem cfgFold_map (cfg : Config) (p : Bytes) :
    (if !cfg.caseSensitive then toLower p else p) = p.map (cfgFold cfg) := by
  unfold cfgFold toLower
  cases cfg.caseSensitive <;> simp

theorem prettyPattern_eq (cfg : Config) (p : Bytes) :
    prettyPattern cfg p = (writtenPattern cfg p).map (cfgFold cfg) := by
  -- `prettyPattern` is `rawPattern`, case-folded, then trimmed
  show (let f := if !cfg.caseSensitive then toLower (rawPattern p) else rawPattern p
        if !cfg.strictRouting && f.length > 1 then trimRight f SLASH else f) = _
  unfold writtenPattern
  generalize rawPattern p = raw
  simp only [cfgFold_map, List.length_map]
  cases hc : (!cfg.strictRouting && decide (raw.length > 1))
  · simp only [Bool.false_eq_true, if_false]
  · simp only [if_true]
    exact trimRight_map (fun x => cfgFold_neutral cfg x SLASH (by decide)) raw

theorem rawPattern_split (cfg : Config) (p : Bytes) :
    ∃ sl, Slashes sl ∧ rawPattern p = writtenPattern cfg p ++ sl := by
  unfold writtenPattern
  simp only
  split
  · exact trimRight_split _ SLASH
  · exact ⟨[], ⟨fun _ h => (nomatch h), (List.append_nil _).symm⟩⟩

/-- `pathRaw[:len(pathPretty)]` is the written pattern. -/
theorem writtenPattern_eq_take (cfg : Config) (p : Bytes) :
    (rawPattern p).take (prettyPattern cfg p).length = writtenPattern cfg p := by
  obtain ⟨sl, _, h⟩ := rawPattern_split cfg p
  rw [prettyPattern_eq, List.length_map, h, List.take_left']
  rfl

theorem register_parser {cfg : Config} {use : Bool} {pattern : Bytes} {r : Route}
    (hr : register cfg use pattern = some r) :
    parseRouteW ((writtenPattern cfg pattern).map (cfgFold cfg)) (writtenPattern cfg pattern) = some r.parser := by
  obtain ⟨_, _, _, hpp, _⟩ := register_inv hr
  rwa [writtenPattern_eq_take, prettyPattern_eq] at hpp

/-- **The routed constraints are the constraints as written — every configuration, every pattern.**
    The parameter segments of the parser a registered route matches with carry, in order, exactly
    the constraint lists (same names, same data: same letter case) and the optional / greedy flags
    of the parse of the pattern as written (`writtenPattern`: no case folding; trailing slashes cut
    unless StrictRouting). -/
theorem routed_eq_written {cfg : Config} {use : Bool} {pattern : Bytes} {r : Route}
    (hr : register cfg use pattern = some r) :
    ∃ wr, parseRoute (writtenPattern cfg pattern) = some wr ∧
      (paramSegs r.parser.segs).map pview = (paramSegs wr.segs).map pview :=
  parseRouteW_fold (cfgFold_neutral cfg) (register_parser hr)

/-- The raw text and the written pattern have the same parameter segments (names, constraints,
    flags) — outside the `swallows` corner. -/
theorem written_eq_raw {cfg : Config} {pattern : Bytes} {pr wr : Parser}
    (hns : NoSwallow (writtenPattern cfg pattern))
    (hpr : parseRoute (rawPattern pattern) = some pr) (hwr : parseRoute (writtenPattern cfg pattern) = some wr) :
    (paramSegs pr.segs).map nview = (paramSegs wr.segs).map nview := by
  obtain ⟨sl, hsl, hsplit⟩ := rawPattern_split cfg pattern
  obtain ⟨raw1, hl1, hc1⟩ := parseRoute_core hpr
  obtain ⟨raw2, hl2, hc2⟩ := parseRoute_core hwr
  have hB := parseLoop_append_slashes hsl (writtenPattern cfg pattern).length (rawPattern pattern).length
    (writtenPattern cfg pattern) 0 0 (Nat.le_refl _)
    (by rw [hsplit, List.length_append]; exact Nat.le_refl _) hns
  rw [← hsplit, hl1, hl2] at hB
  simp only [Option.map_some, Option.some.injEq] at hB
  rw [hc1.nviews, hc2.nviews, hB]

/-- `Route.Params` (the names `Params(name)` is looked up in, taken from the raw text) has as many
    entries as the routed parser has parameter segments. -/
theorem params_aligned {cfg : Config} {use : Bool} {pattern : Bytes} {r : Route}
    (hr : register cfg use pattern = some r) (hns : NoSwallow (writtenPattern cfg pattern)) :
    r.params.length = (paramSegs r.parser.segs).length := by
  obtain ⟨pr, hpr, hparams, _⟩ := register_inv hr
  obtain ⟨wr, hwr, hv⟩ := routed_eq_written hr
  have h1 := written_eq_raw hns hpr hwr
  have l1 := congrArg List.length hv
  have l2 := congrArg List.length h1
  simp only [List.length_map] at l1 l2
  rw [hparams, parseRoute_params hpr]
  show ((paramSegs pr.segs).map (·.paramName)).length = _
  rw [List.length_map]
  omega

end C02
