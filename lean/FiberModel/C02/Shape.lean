import FiberModel.C02.Written
import FiberModel.BasicLemmas
/-
C02 — the parameter parser factored into (1) the *shape* of a parameter (offsets and flags, all
decided by comparing bytes with the parser's special characters) and (2) the texts cut at those
offsets. A byte map that respects the special characters (`Neutral`; ASCII lower-casing is one) leaves
the shape alone, hence `parseLoopW_fold`: parsing the case-folded pattern with the written text for
the constraints (what `register` does since commit "constraints keep the letter case they were
written in") yields, segment by segment, the same parameter / optional / greedy flags and literally
the same constraints as parsing the written pattern itself (`sview`; of a constant it records only
whether it is empty).
-/
namespace C02
open B

def specials : List Nat :=
  [STAR, PLUS, COLON, QMARK, BSL, SLASH, DASH, DOT, LT, GT, SEMI, LPAR, RPAR, COMMA]

/-- `f` neither creates nor destroys a special byte (true for ASCII lower-casing). -/
def Neutral (f : Nat → Nat) : Prop := ∀ c s, s ∈ specials → (f c = s ↔ c = s)

theorem neutral_id : Neutral id := fun _ _ _ => Iff.rfl

theorem lowerByte_neutral : Neutral lowerByte := fun c s hs =>
  have h : ∀ s ∈ specials, isUpper s = false ∧ isLower s = false := by decide
  lowerByte_eq_iff c s (h s hs).1 (h s hs).2

section neutral
variable {f : Nat → Nat} (hf : Neutral f)
include hf

theorem Neutral.beq {s : Nat} (hs : s ∈ specials) (c : Nat) : (f c == s) = (c == s) := by
  rw [Bool.eq_iff_iff, beq_iff_eq, beq_iff_eq]
  exact hf c s hs

theorem Neutral.contains {cs : List Nat} (hcs : ∀ s ∈ cs, s ∈ specials) (c : Nat) :
    cs.contains (f c) = cs.contains c := by
  induction cs with
  | nil => rfl
  | cons s rest ih =>
    have h1 := hf.beq (hcs s (List.mem_cons_self ..)) c
    have ih := ih (fun s hs => hcs s (List.mem_cons_of_mem _ hs))
    simp only [List.contains_cons] at ih ⊢
    rw [h1, ih]

theorem Neutral.mapContains {s : Nat} (hs : s ∈ specials) (l : Bytes) :
    (l.map f).contains s = l.contains s :=
  List.contains_map_of_eq_iff (fun c => hf c s hs) l

theorem Neutral.indexByte {s : Nat} (hs : s ∈ specials) (l : Bytes) :
    indexByte (l.map f) s = indexByte l s := by
  induction l with
  | nil => rfl
  | cons x xs ih =>
    simp only [List.map_cons, B.indexByte, hf.beq hs x, ih]

theorem Neutral.lastIndexByte {s : Nat} (hs : s ∈ specials) (l : Bytes) :
    lastIndexByte (l.map f) s = lastIndexByte l s := by
  induction l with
  | nil => rfl
  | cons x xs ih =>
    simp only [List.map_cons, C02.lastIndexByte, hf.beq hs x, ih]

theorem Neutral.prevBSL (prev : Option Nat) : ((prev.map f) == some BSL) = (prev == some BSL) := by
  cases prev with
  | none => rfl
  | some c =>
    simpa using hf.beq (s := BSL) (by simp [specials]) c

theorem Neutral.fnneGo {cs : List Nat} (hcs : ∀ s ∈ cs, s ∈ specials) : (prev : Option Nat) → (l : Bytes) →
    fnneGo cs (prev.map f) (l.map f) = fnneGo cs prev l
  | _, [] => rfl
  | prev, c :: rest => by
    have ih := Neutral.fnneGo hcs (some c) rest
    simp only [Option.map_some] at ih
    simp only [List.map_cons, C02.fnneGo, hf.contains hcs c, hf.prevBSL prev, ih, List.isEmpty_map]

theorem Neutral.fnne {cs : List Nat} (hcs : ∀ s ∈ cs, s ∈ specials) (l : Bytes) :
    fnne (l.map f) cs = fnne l cs := by
  unfold C02.fnne
  exact hf.fnneGo hcs none l

theorem Neutral.fnnecp {ch : Nat} (hs : ch ∈ specials) (l : Bytes) :
    fnnecp (l.map f) ch = fnnecp l ch := by
  unfold C02.fnnecp
  rw [fnnecpGo_eq_fnneGo, fnnecpGo_eq_fnneGo]
  exact hf.fnneGo (fun s h => List.mem_singleton.mp h ▸ hs) none l

omit hf in
/-- a test that `f` respects reads the same at every offset, also beyond the end (default byte 0) -/
theorem getD_map_test {P : Nat → Bool} (hP : ∀ c, P (f c) = P c) (l : Bytes) (k : Nat) :
    P ((l.map f).getD k 0) = P (l.getD k 0) := by
  by_cases hk : k < l.length
  · simp only [List.getD_eq_getElem?_getD, List.getElem?_map, List.getElem?_eq_getElem hk, Option.map_some,
      Option.getD_some, hP]
  · simp only [List.getD_eq_getElem?_getD, List.getElem?_map,
      List.getElem?_eq_none (Nat.le_of_not_lt hk), Option.map_none]

theorem Neutral.getD_beq {s : Nat} (hs : s ∈ specials) (l : Bytes) (k : Nat) :
    ((l.map f).getD k 0 == s) = (l.getD k 0 == s) :=
  getD_map_test (P := (· == s)) (hf.beq hs) l k

theorem Neutral.getD_contains {cs : List Nat} (hcs : ∀ s ∈ cs, s ∈ specials) (l : Bytes) (k : Nat) :
    cs.contains ((l.map f).getD k 0) = cs.contains (l.getD k 0) :=
  getD_map_test (hf.contains hcs) l k

theorem Neutral.headD_beq {s : Nat} (hs : s ∈ specials) (l : Bytes) :
    ((l.map f).headD 0 == s) = (l.headD 0 == s) := by
  cases l with
  | nil => rfl
  | cons x xs => exact hf.beq hs x

end neutral

theorem startChars_special : ∀ s ∈ paramStartChars, s ∈ specials := by decide
theorem endChars_special : ∀ s ∈ paramEndChars, s ∈ specials := by decide
theorem delimChars_special : ∀ s ∈ paramDelimChars, s ∈ specials := by decide

/-- `findCharsetConstraint` (path.go `findNextCharsetPositionConstraint`, `fcc` in the lemma names) as a fold: a position
    `qualifies` when it lies on the same side of the first `<` and the first `>`; `fccStep` is one round for one charset
    byte, over any first-occurrence function `idx` and test `Q` (`findCharsetConstraint_eq`). -/
def qualifies (cs ce : Option Nat) (pos : Nat) : Bool :=
  (gtPos pos cs && gtPos pos ce) || (ltPos pos cs && ltPos pos ce)

def fccStep (idx : Nat → Option Nat) (Q : Nat → Bool) (next : Option Nat) (ch : Nat) : Option Nat :=
  match idx ch with
  | none => next
  | some pos =>
    if (match next with | none => true | some nx => pos < nx) then (if Q pos then some pos else next)
    else next

theorem findCharsetConstraint_eq (s : Bytes) (charset : List Nat) :
    findCharsetConstraint s charset =
      charset.foldl (fccStep (indexByte s) (qualifies (fnnecp s LT) (fnnecp s GT))) none := rfl

theorem fcc_congr {idx idx' : Nat → Option Nat} {Q : Nat → Bool} : (cs : List Nat) → (o : Option Nat) →
    (∀ ch ∈ cs, idx' ch = idx ch) → cs.foldl (fccStep idx' Q) o = cs.foldl (fccStep idx Q) o
  | [], _, _ => rfl
  | ch :: rest, o, h => by
    have : fccStep idx' Q o ch = fccStep idx Q o ch := by
      unfold fccStep; rw [h ch (List.mem_cons_self ..)]
    rw [List.foldl_cons, List.foldl_cons, this]
    exact fcc_congr rest _ (fun c hc => h c (List.mem_cons_of_mem _ hc))

theorem Neutral.findCharsetConstraint {f : Nat → Nat} (hf : Neutral f) {cs : List Nat}
    (hcs : ∀ s ∈ cs, s ∈ specials) (l : Bytes) :
    findCharsetConstraint (l.map f) cs = findCharsetConstraint l cs := by
  rw [findCharsetConstraint_eq, findCharsetConstraint_eq, hf.fnnecp (ch := LT) (by decide),
    hf.fnnecp (ch := GT) (by decide)]
  exact fcc_congr cs none (fun ch hch => hf.indexByte (hcs ch hch) l)

theorem Neutral.findNextParamPosition {f : Nat → Nat} (hf : Neutral f) (p : Bytes) :
    findNextParamPosition (p.map f) = findNextParamPosition p := by
  unfold C02.findNextParamPosition
  rw [hf.fnne startChars_special]
  cases C02.fnne p paramStartChars with
  | none => rfl
  | some n =>
    simp only [bne, hf.getD_beq (s := STAR) (by decide), ← List.map_drop, hf.fnne startChars_special]

/-- Offsets and flags `analyseParameterPart` computes from the pattern bytes. -/
structure Shape where
  pe : Nat
  cS : Option Nat
  cE : Option Nat
  isWild : Bool
  isPlus : Bool
  isOpt : Bool
  deriving DecidableEq, Repr

/-- where `analyseParameterPart` finds the parameter's end character (with both brackets in the
    pattern: by `findNextCharsetPositionConstraint`) -/
def paramEnd0 (p : Bytes) : Option Nat :=
  if p.contains LT && p.contains GT then findCharsetConstraint (p.drop 1) paramEndChars
  else fnne (p.drop 1) paramEndChars

/-- the end offset from the position of the end character, which belongs to the parameter unless
    the byte behind it is a delimiter; without an end character the parameter is the whole text -/
def endOf (p : Bytes) : Option Nat → Nat
  | none => p.length - 1
  | some e => if paramDelimChars.contains (p.getD (e + 1) 0) then e else e + 1

def paramEnd (p : Bytes) : Nat :=
  if p.headD 0 == STAR || p.headD 0 == PLUS then 0 else endOf p (paramEnd0 p)

def paramShape (p : Bytes) : Shape :=
  { pe := paramEnd p,
    cS := if paramEnd p > 0 then fnnecp (p.take (paramEnd p)) LT else none,
    cE := if paramEnd p > 0 then lastIndexByte (p.take (paramEnd p + 1)) GT else none,
    isWild := p.headD 0 == STAR, isPlus := p.headD 0 == PLUS,
    isOpt := p.headD 0 == STAR || p.getD (paramEnd p) 0 == QMARK }

/-- the constraints of a parameter: the text between the brackets of `sh`, cut from `w` -/
def consOf (sh : Shape) (w : Bytes) : Option (List Constraint) :=
  match sh.cS, sh.cE with
  | some s, some e =>
    if e < s + 1 then none
    else (splitNonEscaped ((w.take e).drop (s + 1)) SEMI).mapM parseConstraint
  | _, _ => some []

/-- the name of a parameter, cut from `p` -/
def nameOf (sh : Shape) (p : Bytes) : Bytes :=
  match sh.cS, sh.cE with
  | some s, some _ => removeEscapeChar (getTrimmedParam (p.take s))
  | _, _ => removeEscapeChar (getTrimmedParam (p.take (sh.pe + 1)))

def mkParam (sh : Shape) (p w : Bytes) (wc pc : Nat) : Option (Nat × Seg × Nat × Nat) :=
  match consOf sh w with
  | none => none
  | some cs =>
    let wc' := if sh.isWild then wc + 1 else wc
    let pc' := if !sh.isWild && sh.isPlus then pc + 1 else pc
    let name := nameOf sh p
    let name := if sh.isWild then name ++ natToDec wc' else if sh.isPlus then name ++ natToDec pc' else name
    some (sh.pe + 1, { paramName := name, isParam := true, isOptional := sh.isOpt,
                       isGreedy := sh.isWild || sh.isPlus, constraints := cs }, wc', pc')

theorem analyseParameterPartW_eq (p w : Bytes) (wc pc : Nat) :
    analyseParameterPartW p w wc pc = mkParam (paramShape p) p w wc pc := by
  unfold analyseParameterPartW mkParam consOf nameOf paramShape paramEnd paramEnd0 endOf
  dsimp only
  -- both sides now branch on the same two bracket offsets: name them, whatever they are
  generalize @ite (Option Nat) (_ > 0) (Nat.decLt _ _) (fnnecp _ LT) none = cS
  generalize @ite (Option Nat) (_ > 0) (Nat.decLt _ _) (lastIndexByte _ GT) none = cE
  cases cS with
  | none => rfl
  | some s =>
    cases cE with
    | none => rfl
    | some e =>
      dsimp only
      by_cases hlt : e < s + 1
      · rw [if_pos hlt, if_pos hlt]
      · rw [if_neg hlt, if_neg hlt]
        cases (splitNonEscaped (List.drop (s + 1) (List.take e w)) SEMI).mapM parseConstraint <;> rfl

theorem analyseParameterPart_eq (p : Bytes) (wc pc : Nat) :
    analyseParameterPart p wc pc = mkParam (paramShape p) p p wc pc := by
  rw [← analyseParameterPartW_self, analyseParameterPartW_eq]

theorem Neutral.paramShape {f : Nat → Nat} (hf : Neutral f) (p : Bytes) :
    paramShape (p.map f) = paramShape p := by
  unfold C02.paramShape paramEnd paramEnd0 endOf
  simp only [hf.headD_beq (s := STAR) (by decide), hf.headD_beq (s := PLUS) (by decide),
    hf.mapContains (s := LT) (by decide), hf.mapContains (s := GT) (by decide),
    ← List.map_drop, ← List.map_take, hf.findCharsetConstraint endChars_special, hf.fnne endChars_special,
    List.length_map, hf.getD_contains delimChars_special, hf.fnnecp (ch := LT) (by decide),
    hf.lastIndexByte (s := GT) (by decide), hf.getD_beq (s := QMARK) (by decide)]

/-- what the later parser stages and the property read of a raw segment (everything but the
    spelling of constants and names) -/
def sview (s : Seg) : Bool × Bool × List Constraint × Bool × Bool :=
  (s.isParam, s.const.isEmpty, s.constraints, s.isOptional, s.isGreedy)

theorem map_cons_view {α : Type} (g : Seg → α) (X : Option (List Seg)) (seg : Seg) :
    (X.map (seg :: ·)).map (·.map g) = (X.map (·.map g)).map (g seg :: ·) := by
  cases X <;> rfl

theorem Neutral.removeEscapeChar {f : Nat → Nat} (hf : Neutral f) (l : Bytes) :
    removeEscapeChar (l.map f) = (removeEscapeChar l).map f := by
  unfold C02.removeEscapeChar
  rw [List.filter_map]
  congr 1
  apply List.filter_congr
  intro x _
  simp only [Function.comp, bne, hf.beq (s := BSL) (by decide) x]

theorem mkParam_cases (sh : Shape) (p p' w : Bytes) (wc pc : Nat) :
    (mkParam sh p w wc pc = none ∧ mkParam sh p' w wc pc = none) ∨
    ∃ n seg seg' wc' pc', mkParam sh p w wc pc = some (n, seg, wc', pc') ∧
      mkParam sh p' w wc pc = some (n, seg', wc', pc') ∧ sview seg = sview seg' := by
  unfold mkParam
  cases consOf sh w with
  | none => left; exact ⟨rfl, rfl⟩
  | some cs => right; exact ⟨_, _, _, _, _, rfl, rfl, rfl⟩

theorem mkParam_view (sh : Shape) (p p' w : Bytes) (wc pc : Nat) :
    (mkParam sh p w wc pc).map (fun r => (r.1, sview r.2.1, r.2.2)) =
    (mkParam sh p' w wc pc).map (fun r => (r.1, sview r.2.1, r.2.2)) := by
  rcases mkParam_cases sh p p' w wc pc with ⟨h1, h2⟩ | ⟨n, seg, seg', wc', pc', h1, h2, hv⟩
  · rw [h1, h2]
  · rw [h1, h2, Option.map_some, Option.map_some, hv]

theorem analyseConstantPart_fold {f : Nat → Nat} (hf : Neutral f) (p : Bytes) (np : Option Nat) :
    (analyseConstantPart (p.map f) np).1 = (analyseConstantPart p np).1 ∧
    sview (analyseConstantPart (p.map f) np).2 = sview (analyseConstantPart p np).2 := by
  unfold analyseConstantPart sview
  cases np with
  | none => simp [hf.removeEscapeChar]
  | some k => simp [← List.map_take, hf.removeEscapeChar]

theorem parseLoopW_fold {f : Nat → Nat} (hf : Neutral f) : (fuel : Nat) → (p : Bytes) → (wc pc : Nat) →
    (parseLoopW fuel (p.map f) p wc pc).map (·.map sview) = (parseLoop fuel p wc pc).map (·.map sview)
  | 0, _, _, _ => rfl
  | fuel + 1, p, wc, pc => by
    unfold parseLoopW parseLoop
    rw [List.isEmpty_map, hf.findNextParamPosition]
    split
    · rfl
    · split
      · rw [analyseParameterPartW_eq, analyseParameterPart_eq, hf.paramShape]
        rcases mkParam_cases (paramShape p) (p.map f) p p wc pc with ⟨h1, h2⟩ | ⟨n, seg, seg', wc', pc', h1, h2, hv⟩
        · rw [h1, h2]
        · rw [h1, h2]
          simp only
          rw [map_cons_view, map_cons_view, ← List.map_drop, parseLoopW_fold hf fuel, hv]
      · have hc := analyseConstantPart_fold hf p (findNextParamPosition p)
        simp only
        rw [map_cons_view, map_cons_view, hc.1, hc.2, ← List.map_drop, parseLoopW_fold hf fuel]

end C02
