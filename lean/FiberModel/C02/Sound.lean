import FiberModel.C02.Meta
/-
C02 — the clauses of the property for the values `getMatch` returns. The per-value clauses are read value by
value (`Pointwise`), a `Matched` run pairs the parameter segments with the values (`Matched.pointwise`: the one
induction on `Matched` for them), and the specification's three folds over the pairs say the same (`*_iff`).
-/
namespace C02
open B

/-- `det` is a prefix of the byte-wise image of `path` (lower-casing, then trailing slashes cut). -/
def Aligned (f : Nat → Nat) (det path : Bytes) : Prop := det <+: path.map f

theorem Aligned.nil (f : Nat → Nat) (path : Bytes) : Aligned f [] path := List.nil_prefix

theorem Aligned.length_le {f : Nat → Nat} {det path : Bytes} (h : Aligned f det path) :
    det.length ≤ path.length := by
  simpa using List.IsPrefix.length_le h

theorem Aligned.drop {f : Nat → Nat} {det path : Bytes} (h : Aligned f det path) (i : Nat)
    (hi : i ≤ det.length) : Aligned f (det.drop i) (path.drop i) := by
  obtain ⟨t, ht⟩ := h
  refine ⟨t, ?_⟩
  rw [List.map_drop, ← ht, List.drop_append_of_le_length hi]

theorem Aligned.take {f : Nat → Nat} {det path : Bytes} (h : Aligned f det path) (i : Nat)
    (hi : i ≤ det.length) : (path.take i).map f = det.take i := by
  obtain ⟨t, ht⟩ := h
  rw [List.map_take, ← ht, List.take_append_of_le_length hi]

theorem isPrefixOf_take (det : Bytes) (i : Nat) : (det.take i).isPrefixOf det = true := by
  rw [List.isPrefixOf_iff_prefix]; exact List.take_prefix i det

theorem Matched.substitution {f : Nat → Nat} {chk : Constraint → Bytes → Bool} {pc : Bool}
    {segs : List Seg} {det path : Bytes} {vs : List Bytes} (h : Matched chk pc segs det path vs)
    (hm : MetaOK segs) (hal : Aligned f det path) : renders segs (vs.map (·.map f)) det pc = true := by
  induction h with
  | nil hc => exact hc
  | @slash seg rest det path vs hp ho _ _ hd _ ih =>
    have hmc := hm.1 hp
    unfold renders
    simp only [hp, Bool.false_eq_true, if_false, Bool.or_eq_true, Bool.and_eq_true, beq_iff_eq]
    exact Or.inr ⟨⟨hmc.2 ho, by rw [hd, hmc.1, List.dropLast_eq_take]⟩, ih hm.tail (Aligned.nil f _)⟩
  | @const seg rest det path vs hp hle hd _ ih =>
    unfold renders
    simp only [hp, Bool.false_eq_true, if_false, Bool.or_eq_true, Bool.and_eq_true]
    rw [← (hm.1 hp).1]
    exact Or.inl ⟨by rw [← hd]; exact isPrefixOf_take det _, ih hm.tail (hal.drop _ hle)⟩
  | @param seg rest det path vs hp _ _ _ ih =>
    have hle := paramLen_le det seg rest
    unfold renders
    simp only [hp, if_true, List.map_cons, Bool.and_eq_true]
    rw [hal.take _ hle, List.length_take, Nat.min_eq_left hle]
    exact ⟨isPrefixOf_take det _, ih hm.tail (hal.drop _ hle)⟩

def Pointwise (P : Seg → Bytes → Prop) (ps : List Seg) (vs : List Bytes) : Prop :=
  ∀ j, ∀ h1 : j < ps.length, ∀ h2 : j < vs.length, P ps[j] vs[j]

theorem Pointwise.nil_left {P : Seg → Bytes → Prop} {vs : List Bytes} : Pointwise P [] vs :=
  fun _ h1 => absurd h1 (Nat.not_lt_zero _)

theorem Pointwise.nil_right {P : Seg → Bytes → Prop} {ps : List Seg} : Pointwise P ps [] :=
  fun _ _ h2 => absurd h2 (Nat.not_lt_zero _)

theorem pointwise_cons {P : Seg → Bytes → Prop} {s : Seg} {v : Bytes} {ps : List Seg} {vs : List Bytes} :
    Pointwise P (s :: ps) (v :: vs) ↔ P s v ∧ Pointwise P ps vs :=
  ⟨fun h => ⟨h 0 (Nat.zero_lt_succ _) (Nat.zero_lt_succ _),
      fun j h1 h2 => h (j + 1) (Nat.succ_lt_succ h1) (Nat.succ_lt_succ h2)⟩,
    fun ⟨h0, h⟩ j h1 h2 => by
      cases j with
      | zero => exact h0
      | succ j => exact h j (Nat.lt_of_succ_lt_succ h1) (Nat.lt_of_succ_lt_succ h2)⟩

theorem Pointwise.congr {α : Type} (g : Seg → α) {P : Seg → Bytes → Prop}
    (hP : ∀ {s s' : Seg} {v : Bytes}, g s = g s' → P s v → P s' v) {ps ps' : List Seg} {vs : List Bytes}
    (h : ps.map g = ps'.map g) (hp : Pointwise P ps vs) : Pointwise P ps' vs := fun j h1 h2 => by
  have hl : j < ps.length := by rw [← List.length_map (f := g), h, List.length_map]; exact h1
  have e : g ps[j] = g ps'[j] := by
    have := List.getElem_of_eq h (by rw [List.length_map]; exact hl)
    rwa [List.getElem_map, List.getElem_map] at this
  exact hP e (hp j hl h2)

theorem constraintViolation_iff {chk : Constraint → Bytes → Bool} : (ps : List Seg) → (vs : List Bytes) →
    (constraintViolation chk ps vs = none ↔
      Pointwise (fun s v => (s.isOptional = true ∧ v = []) ∨ ∀ c ∈ s.constraints, chk c v = true) ps vs)
  | [], _ => ⟨fun _ => .nil_left, fun _ => rfl⟩
  | _ :: _, [] => ⟨fun _ => .nil_right, fun _ => rfl⟩
  | s :: ps, v :: vs => by
    rw [pointwise_cons, ← constraintViolation_iff ps vs, constraintViolation]
    by_cases h : (s.isOptional && v.isEmpty) = true
    · rw [if_pos h]
      rw [Bool.and_eq_true, List.isEmpty_iff] at h
      exact ⟨fun hc => ⟨Or.inl h, hc⟩, fun hc => hc.2⟩
    · rw [if_neg h]
      rw [Bool.and_eq_true, List.isEmpty_iff] at h
      cases hf : s.constraints.find? (fun c => !chk c v) with
      | some c =>
        have hc := List.find?_some hf
        have hm := List.mem_of_find?_eq_some hf
        refine ⟨fun e => (nomatch e), fun ⟨hP, _⟩ => ?_⟩
        rcases hP with hP | hP
        · exact absurd hP h
        · rw [hP c hm] at hc; cases hc
      | none =>
        have hall : ∀ c ∈ s.constraints, chk c v = true := fun c hm => by
          simpa using List.find?_eq_none.mp hf c hm
        exact ⟨fun hc => ⟨Or.inr hall, hc⟩, fun hc => hc.2⟩

theorem requiredNonEmpty_iff : (ps : List Seg) → (vs : List Bytes) →
    (requiredNonEmpty ps vs = true ↔ Pointwise (fun s v => s.isOptional = true ∨ v ≠ []) ps vs)
  | [], _ => ⟨fun _ => .nil_left, fun _ => rfl⟩
  | _ :: _, [] => ⟨fun _ => .nil_right, fun _ => rfl⟩
  | s :: ps, v :: vs => by
    rw [pointwise_cons, ← requiredNonEmpty_iff ps vs, requiredNonEmpty, Bool.and_eq_true, Bool.or_eq_true,
      Bool.not_eq_true', List.isEmpty_eq_false_iff]

theorem namedNoSlash_iff : (ps : List Seg) → (vs : List Bytes) →
    (namedNoSlash ps vs = true ↔ Pointwise (fun s v => s.isGreedy = true ∨ v.contains SLASH = false) ps vs)
  | [], _ => ⟨fun _ => .nil_left, fun _ => rfl⟩
  | _ :: _, [] => ⟨fun _ => .nil_right, fun _ => rfl⟩
  | s :: ps, v :: vs => by
    rw [pointwise_cons, ← namedNoSlash_iff ps vs, namedNoSlash, Bool.and_eq_true, Bool.or_eq_true,
      Bool.not_eq_true']

/-- the three per-value clauses of the property for one parameter segment and its value -/
def clausesAt (chk : Constraint → Bytes → Bool) (s : Seg) (v : Bytes) : Prop :=
  ((s.isOptional = true ∧ v = []) ∨ ∀ c ∈ s.constraints, chk c v = true) ∧
  (s.isOptional = true ∨ v ≠ []) ∧
  (s.isGreedy = true ∨ v.contains SLASH = false)

theorem clauses_iff {chk : Constraint → Bytes → Bool} (ps : List Seg) (vs : List Bytes) :
    (constraintViolation chk ps vs = none ∧ requiredNonEmpty ps vs = true ∧ namedNoSlash ps vs = true) ↔
      Pointwise (clausesAt chk) ps vs := by
  rw [constraintViolation_iff, requiredNonEmpty_iff, namedNoSlash_iff]
  exact ⟨fun ⟨a, b, c⟩ j h1 h2 => ⟨a j h1 h2, b j h1 h2, c j h1 h2⟩,
    fun h => ⟨fun j h1 h2 => (h j h1 h2).1, fun j h1 h2 => (h j h1 h2).2.1, fun j h1 h2 => (h j h1 h2).2.2⟩⟩

/-- **A `Matched` run pairs the parameter segments with the values, in order.** `I` is what is known of
    the segments and the two paths before a step (it survives cutting both paths at an offset inside the
    detection path), `P` what a parameter step then gives for its segment and value. -/
theorem Matched.pointwise {chk : Constraint → Bytes → Bool} {pc : Bool}
    {I : List Seg → Bytes → Bytes → Prop} {P : Seg → Bytes → Prop}
    (hI : ∀ {seg rest det path} (i : Nat), I (seg :: rest) det path → i ≤ det.length →
      I rest (det.drop i) (path.drop i))
    (hP : ∀ {seg rest det path vs}, I (seg :: rest) det path → seg.isParam = true →
      (seg.isOptional = true ∨ paramLen det seg rest ≠ 0) →
      (¬ (seg.isOptional = true ∧ paramLen det seg rest = 0) →
        seg.constraints.all (chk · (path.take (paramLen det seg rest))) = true) →
      Matched chk pc rest (det.drop (paramLen det seg rest)) (path.drop (paramLen det seg rest)) vs →
      P seg (path.take (paramLen det seg rest)))
    {segs : List Seg} {det path : Bytes} {vs : List Bytes} (h : Matched chk pc segs det path vs)
    (h0 : I segs det path) : vs.length = (paramSegs segs).length ∧ Pointwise P (paramSegs segs) vs := by
  induction h with
  | nil => exact ⟨rfl, .nil_left⟩
  | @slash seg rest det path vs hp _ _ hlen _ _ ih =>
    -- the detection path is used up: both paths are cut at its length
    have := hI det.length h0 (Nat.le_refl _)
    rw [List.drop_length, hlen] at this
    rw [paramSegs_const _ hp]
    exact ih this
  | const hp hle _ _ ih => rw [paramSegs_const _ hp]; exact ih (hI _ h0 hle)
  | param hp hreq hcs hrec ih =>
    obtain ⟨hl, hpw⟩ := ih (hI _ h0 (paramLen_le _ _ _))
    rw [paramSegs_param _ hp]
    exact ⟨by rw [List.length_cons, List.length_cons, hl], pointwise_cons.mpr ⟨hP h0 hp hreq hcs hrec, hpw⟩⟩

theorem getMatch_length {chk : Constraint → Bytes → Bool} {pc : Bool} (segs : List Seg) (det path : Bytes)
    (vs : List Bytes) (h : getMatch chk segs det path pc = some vs) : vs.length = (paramSegs segs).length :=
  (Matched.pointwise (I := fun _ _ _ => True) (P := fun _ _ => True) (fun _ _ _ => trivial)
    (fun _ _ _ _ _ => trivial) (getMatch_matched segs det path vs h) trivial).1

theorem getMatch_constraints {chk : Constraint → Bytes → Bool} {pc : Bool} :
    (segs : List Seg) → (det path : Bytes) → (vs : List Bytes) →
    getMatch chk segs det path pc = some vs → constraintViolation chk (paramSegs segs) vs = none :=
  fun segs det path vs h => (constraintViolation_iff _ _).mpr
    (Matched.pointwise (I := fun _ _ _ => True) (fun _ _ _ => trivial)
      (fun {seg rest det path _} _ _ _ hcs _ => by
        by_cases hz : seg.isOptional = true ∧ paramLen det seg rest = 0
        · exact Or.inl ⟨hz.1, by rw [hz.2]; rfl⟩
        · exact Or.inr (List.all_eq_true.mp (hcs hz)))
      (getMatch_matched segs det path vs h) trivial).2

theorem Matched.required {f : Nat → Nat} {chk : Constraint → Bytes → Bool} {pc : Bool}
    {segs : List Seg} {det path : Bytes} {vs : List Bytes} (h : Matched chk pc segs det path vs)
    (hal : Aligned f det path) : requiredNonEmpty (paramSegs segs) vs = true :=
  (requiredNonEmpty_iff _ _).mpr
    (Matched.pointwise (I := fun _ det path => Aligned f det path) (fun i hal hi => hal.drop i hi)
      (fun {seg rest det path _} hal _ hreq _ _ => hreq.imp id fun hne hv => by
        -- the value has `paramLen` bytes: the user path is at least as long as the detection path
        have hl := congrArg List.length hv
        rw [List.length_take] at hl
        have := hal.length_le
        have := paramLen_le det seg rest
        exact hne (by simp only [List.length_nil] at hl; omega))
      h hal).2

/-- If the rest of the pattern matches the empty detection path, the next constant segment (if
    any) is `/` (taken through the optional-slash shortcut) or empty. (`det = []` is a hypothesis so
    that the induction can vary `det`.) -/
theorem Matched.nil_cmp {chk : Constraint → Bytes → Bool} {pc : Bool} {rest : List Seg} {det path : Bytes}
    {vs : List Bytes} (h : Matched chk pc rest det path vs) (hd : det = []) (hm : MetaOK rest) :
    nextConstCmp rest = [] ∨ nextConstCmp rest = [SLASH] := by
  induction h with
  | nil => exact Or.inl rfl
  | @slash seg rest det path vs hp ho hpos hlen _ _ _ =>
    -- the path is empty, so the constant has one byte: the optional slash
    have hl := (hm.1 hp).1
    have hs := (hm.1 hp).2 ho
    unfold slashOpt at hs
    simp only [Bool.and_eq_true, beq_iff_eq] at hs
    obtain ⟨x, hx⟩ := List.length_eq_one_iff.mp
      (show seg.const.length = 1 by rw [hd] at hlen; simp at hlen; omega)
    have hx' : x = SLASH := by simpa [hx] using hs.1
    unfold nextConstCmp
    rw [hp, hx, hx']
    exact Or.inr rfl
  | @const seg rest det path vs hp hle _ _ _ =>
    have h0 : seg.const = [] := List.eq_nil_of_length_eq_zero (by
      rw [hd] at hle; rw [← (hm.1 hp).1]; exact Nat.le_zero.mp hle)
    unfold nextConstCmp
    rw [hp, h0]
    exact Or.inl rfl
  | param hp _ _ _ ih =>
    unfold nextConstCmp
    rw [hp]
    exact ih (by rw [hd]; exact List.drop_nil) hm.tail

/-- `findParamLen`'s slash rule: the guard is the conclusion. -/
theorem take_guard_noSlash (det : Bytes) (k : Nat) :
    (det.take (if (det.take k).contains SLASH then 0 else k)).contains SLASH = false := by
  split
  · rfl
  · rename_i hc; simpa using hc

/-- The bytes a non-greedy parameter consumes contain no `/`, provided the rest of the pattern
    goes on to match (that is what rules out the "delimiter not found" fall-through). -/
theorem findParamLen_noSlash {chk : Constraint → Bytes → Bool} {pc : Bool} {seg : Seg} {rest : List Seg}
    {det path' : Bytes} {vs' : List Bytes}
    (hm : MetaOK (seg :: rest)) (hp : seg.isParam = true) (hg : seg.isGreedy = false)
    (hrec : Matched chk pc rest (det.drop (findParamLen det seg)) path' vs') :
    (det.take (findParamLen det seg)).contains SLASH = false := by
  cases hl : seg.isLast
  · cases hlen : (seg.length != 0 && decide (det.length ≥ seg.length))
    · rw [findParamLen_search hl hlen (by rw [hg]; rfl)] at hrec ⊢
      cases hk : indexOf det seg.comparePart with
      | some k =>
        simp only [hg, Bool.not_false, Bool.true_and]
        exact take_guard_noSlash det k
      | none =>
        -- nothing found: the parameter takes everything and the rest matches the empty path, so
        -- the compare part is "" (always found) or "/" (not found: no slash at all)
        rw [hk] at hrec
        rw [hm.2.1 hp] at hk
        simp only [List.take_length]
        rcases hrec.nil_cmp List.drop_length hm.tail with h | h
        · rw [h, show removeEscapeChar [] = [] from rfl, indexOf_nil] at hk; cases hk
        · rw [h, show removeEscapeChar [SLASH] = [SLASH] from rfl, indexOf_singleton] at hk
          exact indexByte_eq_none_iff.mp hk
    · rw [findParamLen_length hl hlen]
      exact take_guard_noSlash det _
  · rw [findParamLen_last hl]
    unfold findParamLenForLastSegment
    simp only [hg, Bool.not_false, if_true]
    split
    · rename_i i hi; exact indexByte_take hi
    · rename_i hi; rw [List.take_length]; exact indexByte_eq_none_iff.mp hi

/-- The same for `findParamLen(s, segment, following)`: when the full constant replaces the compare
    part the path holds it, so the "delimiter not found" fall-through does not arise at all. -/
theorem paramLen_noSlash {chk : Constraint → Bytes → Bool} {pc : Bool} {seg : Seg} {rest : List Seg}
    {det path' : Bytes} {vs' : List Bytes}
    (hm : MetaOK (seg :: rest)) (hp : seg.isParam = true) (hg : seg.isGreedy = false)
    (hrec : Matched chk pc rest (det.drop (paramLen det seg rest)) path' vs') :
    (det.take (paramLen det seg rest)).contains SLASH = false := by
  unfold paramLen at hrec ⊢
  cases hfc : fullConst det seg rest with
  | none => rw [hfc] at hrec; exact findParamLen_noSlash hm hp hg hrec
  | some seg' =>
    obtain ⟨cp, n, rfl, hk, hl, hlen⟩ := fullConst_some hfc
    obtain ⟨k, hk⟩ := Option.isSome_iff_exists.mp hk
    dsimp only
    rw [if_neg (by rw [hg]; exact Bool.false_ne_true),
      findParamLen_search (seg := { seg with comparePart := cp, partCount := n }) hl hlen (by rw [hg]; rfl)]
    simp only [hk, hg, Bool.not_false, Bool.true_and]
    exact take_guard_noSlash det k

theorem Matched.noSlash {f : Nat → Nat} (hf : ∀ c, f c = SLASH ↔ c = SLASH)
    {chk : Constraint → Bytes → Bool} {pc : Bool} {segs : List Seg} {det path : Bytes} {vs : List Bytes}
    (h : Matched chk pc segs det path vs) (hm : MetaOK segs) (hal : Aligned f det path) :
    namedNoSlash (paramSegs segs) vs = true :=
  (namedNoSlash_iff _ _).mpr
    (Matched.pointwise (I := fun segs det path => MetaOK segs ∧ Aligned f det path)
      (fun i h hi => ⟨h.1.tail, h.2.drop i hi⟩)
      (fun {seg rest det path _} h hp _ _ hrec => by
        cases hg : seg.isGreedy
        · right
          have := paramLen_noSlash h.1 hp hg hrec
          rwa [← h.2.take _ (paramLen_le det seg rest), List.contains_map_of_eq_iff hf] at this
        · left; rfl)
      h ⟨hm, hal⟩).2

end C02
