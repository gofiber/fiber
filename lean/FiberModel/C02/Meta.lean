import FiberModel.C02.Match
/-
C02 — the invariant of `addParameterMetaInfo`'s output that the soundness proofs use (`MetaOK`),
and the proof that every parsed pattern satisfies it.
-/
namespace C02
open B

/-- Invariant of a segment list after `addParameterMetaInfo`:
    * a constant's `Length` is the length of its text;
    * `HasOptionalSlash` only on a constant that ends in `/` and is last or followed by an optional
      parameter (`slashOpt`, the spec's reading of "the pattern makes the slash optional");
    * a parameter's `ComparePart` is the (escape-free) search text the next constant segment hands
      back (`nextConstCmp`). -/
def MetaOK : List Seg → Prop
  | [] => True
  | s :: rest =>
    (s.isParam = false → s.length = s.const.length ∧ (s.hasOptionalSlash = true → slashOpt s rest = true)) ∧
    (s.isParam = true → s.comparePart = removeEscapeChar (nextConstCmp rest)) ∧
    MetaOK rest

theorem MetaOK.tail {s : Seg} {rest : List Seg} (h : MetaOK (s :: rest)) : MetaOK rest := h.2.2

theorem finish_metaOK : (raw : List Seg) → (∀ s ∈ raw, RawOK s) → MetaOK (mapSuf finishSeg raw)
  | [], _ => trivial
  | s :: rest, h => by
    have hs := h s (List.mem_cons_self ..)
    have hcore := mapSuf_core finishSeg_core rest
    rw [mapSuf_cons]
    refine ⟨fun hp => ?_, fun hp => ?_, finish_metaOK rest (fun x hx => h x (List.mem_cons_of_mem _ hx))⟩
    · have hp' : s.isParam = false := (finishSeg_core s rest).2.1 ▸ hp
      rw [finishSeg_const rest hp']
      unfold slashOpt
      dsimp only
      rw [hs.1, hs.2.1, Bool.false_or, Bool.false_or]
      refine ⟨(hs.2.2.1 hp').1, fun ho => ?_⟩
      rw [Bool.and_eq_true, beq_iff_eq] at ho
      rw [ho.1, beq_self_eq_true, Bool.true_and]
      cases hcore with
      | nil => rfl
      | @cons a b' as bs hab _ =>
        have hopt : a.isOptional = true := ho.2
        -- raw constants are not optional, so the next segment is a parameter
        have hap : a.isParam = true := by
          cases hq : a.isParam
          · have := ((h a (List.mem_cons_of_mem _ (List.mem_cons_self ..))).2.2.1 hq).2
            rw [hopt] at this; cases this
          · rfl
        exact Bool.and_eq_true_iff.mpr ⟨hab.2.1.trans hap, hab.2.2.2.1.trans hopt⟩
    · have hp' : s.isParam = true := (finishSeg_core s rest).2.1 ▸ hp
      rw [finishSeg_param rest hp', hcore.nextConstCmp_eq]

theorem parseRouteW_metaOK {p w : Bytes} {pp : Parser} (h : parseRouteW p w = some pp) : MetaOK pp.segs := by
  obtain ⟨w', raw, _, hr, hm, _⟩ := parseRouteW_unfold h
  exact finish_some hm ▸ finish_metaOK raw (parseLoopW_raw _ _ _ _ _ raw hr)

theorem parseRoute_metaOK {p : Bytes} {pp : Parser} (h : parseRoute p = some pp) : MetaOK pp.segs :=
  parseRouteW_metaOK (parseRouteW_of_parseRoute h)

/-- What the matcher proofs need from the segment list. -/
def SegOK (s : Seg) : Prop :=
  s.isParam = false → s.length = s.const.length ∧ (s.hasOptionalSlash = true → s.const.getLast? = some SLASH)

def SegsOK (l : List Seg) : Prop := ∀ s ∈ l, SegOK s

theorem MetaOK.segsOK : (l : List Seg) → MetaOK l → SegsOK l
  | [], _ => fun _ hs => nomatch hs
  | s :: rest, hm => by
    intro x hx
    rcases List.mem_cons.mp hx with rfl | hx
    · intro hp
      refine ⟨(hm.1 hp).1, fun h => ?_⟩
      have hs := (hm.1 hp).2 h
      unfold slashOpt at hs
      simp only [Bool.and_eq_true, beq_iff_eq] at hs
      exact hs.1
    · exact MetaOK.segsOK rest hm.tail x hx

theorem parseRouteW_segsOK {p w : Bytes} {pp : Parser} (h : parseRouteW p w = some pp) : SegsOK pp.segs :=
  MetaOK.segsOK _ (parseRouteW_metaOK h)

theorem parseRoute_segsOK {p : Bytes} {pp : Parser} (h : parseRoute p = some pp) : SegsOK pp.segs :=
  parseRouteW_segsOK (parseRouteW_of_parseRoute h)

end C02
