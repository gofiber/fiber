import FiberModel.C02.Meta
/-
C02 — `parseRouteW` (path.go `parseRouteWritten`) on a pattern without `<`: there is no constraint
text to read, so the result is the plain parser's whatever `written` is (`parseRouteW_noLT`).
Also what else the users of the parser outside this directory need and the model alone gives: searches
that find nothing, the parse of the empty text and of `/*`.
-/
namespace C02
open B

theorem contains_singleton (c x : Nat) : [c].contains x = (x == c) := by
  rw [List.contains_cons, List.contains_nil, Bool.or_false]

/-- The search for one byte is the search for a one-byte charset: where the two loops differ (an escaped
    candidate in last position), both find nothing. -/
theorem fnnecpGo_eq_fnneGo (ch : Nat) : (prev : Option Nat) → (s : Bytes) → fnnecpGo ch prev s = fnneGo [ch] prev s
  | _, [] => rfl
  | prev, c :: rest => by
    rw [fnnecpGo, fnneGo, contains_singleton, bne, fnnecpGo_eq_fnneGo ch (some c) rest]
    cases c == ch <;> cases prev == some BSL <;> cases rest <;> rfl

theorem fnneGo_none_of_disjoint {cs : List Nat} : (prev : Option Nat) → (s : Bytes) →
    (∀ c ∈ s, cs.contains c = false) → fnneGo cs prev s = none
  | _, [], _ => rfl
  | prev, c :: rest, h => by
    unfold fnneGo
    rw [h c (List.mem_cons_self ..)]
    simp [fnneGo_none_of_disjoint (some c) rest (fun x hx => h x (List.mem_cons_of_mem _ hx))]

theorem fnnecpGo_none_of_not_mem (ch : Nat) (prev : Option Nat) (s : Bytes) (h : s.contains ch = false) :
    fnnecpGo ch prev s = none := by
  rw [fnnecpGo_eq_fnneGo]
  refine fnneGo_none_of_disjoint prev s fun c hc => ?_
  rw [contains_singleton, beq_eq_false_iff_ne]
  exact fun e => absurd (List.contains_iff_mem.mpr (e ▸ hc)) (by rw [h]; exact Bool.false_ne_true)

theorem contains_false_of_subset {a s : Bytes} {c : Nat} (hs : a ⊆ s) (h : s.contains c = false) :
    a.contains c = false :=
  Bool.eq_false_iff.mpr fun hh => Bool.eq_false_iff.mp h
    (List.contains_iff_mem.mpr (hs (List.contains_iff_mem.mp hh)))

theorem analyseParameterPartW_noLT {p : Bytes} (w : Bytes) (wc pc : Nat) (h : p.contains LT = false) :
    analyseParameterPartW p w wc pc = analyseParameterPart p wc pc := by
  -- the two analysers differ in the one text the constraints are cut from (`analyseParameterPartW_eq` in Shape.lean,
  -- which imports this file, isolates it): without `<` nothing is cut
  unfold analyseParameterPartW analyseParameterPart
  have hcs : ∀ k, fnnecp (p.take k) LT = none := fun k =>
    fnnecpGo_none_of_not_mem LT none _ (contains_false_of_subset (List.take_subset k p) h)
  simp only [hcs, h, Bool.false_and, Bool.false_eq_true, if_false, ite_self]

theorem parseLoopW_noLT : (fuel : Nat) → (p w : Bytes) → (wc pc : Nat) → p.contains LT = false →
    parseLoopW fuel p w wc pc = parseLoop fuel p wc pc
  | 0, _, _, _, _, _ => rfl
  | fuel + 1, p, w, wc, pc, h => by
    unfold parseLoopW parseLoop
    simp only [analyseParameterPartW_noLT w wc pc h,
      parseLoopW_noLT fuel _ _ _ _ (contains_false_of_subset (List.drop_subset _ p) h)]

theorem parseRouteW_noLT {p : Bytes} (w : Bytes) (h : p.contains LT = false) :
    parseRouteW p w = parseRoute p := by
  unfold parseRouteW parseRoute
  simp only [parseLoopW_noLT _ _ _ _ _ h]

theorem parseLoop_nil (fuel : Nat) (wc pc : Nat) : parseLoop fuel [] wc pc = some [] := by
  cases fuel <;> rfl

def starSegs : List Seg :=
  [{ const := [SLASH], length := 1, hasOptionalSlash := true },
   { paramName := [STAR, 49], isParam := true, isGreedy := true, isOptional := true, isLast := true }]

theorem parseRoute_star : parseRoute [SLASH, STAR] = some { segs := starSegs, params := [[STAR, 49]] } := by
  decide +kernel

theorem rawPattern_of_head {p : Bytes} (h : p.head? = some SLASH) : rawPattern p = p := by
  match p, h with
  | _ :: _, h => cases h; rfl

end C02
