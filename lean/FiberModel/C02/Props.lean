import FiberModel.C02.Sound
import FiberModel.C02.Locality
import FiberModel.C02.Shortcuts
import FiberModel.C02.Constraints
import FiberModel.C02.Known
/-
C02 — the property theorems. The matcher theorems quantify over every segment list satisfying
`MetaOK` (which `parseRouteW_metaOK` / `parseRoute_metaOK` prove for every parsed pattern), every
detection path / user path pair related as `configDependentPaths` relates them (`Aligned`), every constraint verdict
function `chk` (so also over every regex / datetime / custom constraint), and both match modes
(`partialCheck` = middleware). The route-level theorems quantify over every configuration, every
pattern `register` accepts, and every request path.
-/
namespace C02
open B

theorem configDependentPaths_aligned (cfg : Config) (orig : Bytes) :
    Aligned (cfgFold cfg) (configDependentPaths cfg orig).2 (configDependentPaths cfg orig).1 := by
  unfold configDependentPaths Aligned
  simp only [cfgFold_map]
  generalize (if cfg.unescapePath then unquote orig else orig) = path
  split
  · exact trimRight_prefix _ _
  · exact List.prefix_refl _

theorem configDependentPaths_norm (cfg : Config) (orig : Bytes) :
    (configDependentPaths cfg orig).2 = normPath cfg (configDependentPaths cfg orig).1 := by
  unfold normPath configDependentPaths
  simp

theorem substVals_cfgFold (cfg : Config) (vs : List Bytes) :
    vs.map (·.map (cfgFold cfg)) = (if cfg.caseSensitive then vs else vs.map toLower) := by
  unfold cfgFold
  cases cfg.caseSensitive
  · simp [toLower]
  · simp

/-- **getMatch soundness (clause 1).** If `getMatch` succeeds with values `vs`, then substituting
    the (case-folded) values into the segments reproduces the detection path — a prefix of it for a
    middleware (partial) match — where a constant's final slash may be missing only if the pattern
    makes it optional (`slashOpt`) and the path ends there. The values are the slices of the user
    path at the offsets found on the detection path (`Aligned`). -/
theorem getMatch_sound (f : Nat → Nat) {chk : Constraint → Bytes → Bool} {pc : Bool}
    {segs : List Seg} {det path : Bytes} {vs : List Bytes}
    (hm : MetaOK segs) (hal : Aligned f det path)
    (h : getMatch chk segs det path pc = some vs) :
    renders segs (vs.map (·.map f)) det pc = true :=
  (getMatch_matched _ _ _ _ h).substitution hm hal

example : (match parseRoute (b "/api/:x/b/:y?") with
    | some p => getMatch (fun _ _ => true) p.segs (b "/api/v/b") (b "/api/V/b") false == some [b "V", []] &&
                renders p.segs [b "v", []] (b "/api/v/b") false
    | none => false) = true := by
  repeat (conv in b _ => rw [b_ofList])
  decide +kernel

/-- **Constraints are enforced (clause 2).** Every value `getMatch` reports satisfies every
    constraint of its segment (an optional parameter that captured nothing is not checked). -/
theorem getMatch_constraints_enforced {chk : Constraint → Bytes → Bool} {pc : Bool}
    {segs : List Seg} {det path : Bytes} {vs : List Bytes}
    (h : getMatch chk segs det path pc = some vs) :
    constraintViolation chk (paramSegs segs) vs = none :=
  getMatch_constraints segs det path vs h

theorem getMatch_mono {chk : Constraint → Bytes → Bool} {pc : Bool} :
    (segs : List Seg) → (det path : Bytes) → (vs : List Bytes) →
    getMatch chk segs det path pc = some vs → getMatch (fun _ _ => true) segs det path pc = some vs :=
  fun segs det path vs h => (getMatch_matched segs det path vs h).mono.getMatch

/-- **A value that violates a constraint gets the not-found handling (clause 5).** The matcher's
    choice of values does not depend on the constraints; if the values it would report violate a
    constraint, the route does not match at all. -/
theorem constraint_violation_rejects {chk : Constraint → Bytes → Bool} {pc : Bool}
    {segs : List Seg} {det path : Bytes} {vs : List Bytes}
    (h : getMatch (fun _ _ => true) segs det path pc = some vs)
    (hv : (constraintViolation chk (paramSegs segs) vs).isSome = true) :
    getMatch chk segs det path pc = none := by
  cases hc : getMatch chk segs det path pc with
  | none => rfl
  | some vs' =>
    have h1 := getMatch_mono segs det path vs' hc
    rw [h] at h1
    cases h1
    rw [getMatch_constraints segs det path vs hc] at hv
    cases hv

example : (match parseRoute (b "/u/:id<int>") with
    | some p => getMatch (fun _ _ => true) p.segs (b "/u/:id<int>") (b "/u/:id<int>") false == some [b ":id<int>"] &&
                (constraintViolation (checkConstraint [] (fun _ _ => true)) (paramSegs p.segs) [b ":id<int>"]).isSome &&
                getMatch (checkConstraint [] (fun _ _ => true)) p.segs (b "/u/:id<int>") (b "/u/:id<int>") false == none &&
                getMatch (checkConstraint [] (fun _ _ => true)) p.segs (b "/u/42") (b "/u/42") false == some [b "42"]
    | none => false) = true := by
  repeat (conv in b _ => rw [b_ofList])
  decide +kernel

/-- **Required parameters are non-empty (clause 3).** -/
theorem getMatch_required_nonempty (f : Nat → Nat) {chk : Constraint → Bytes → Bool} {pc : Bool}
    {segs : List Seg} {det path : Bytes} {vs : List Bytes}
    (hal : Aligned f det path) (h : getMatch chk segs det path pc = some vs) :
    requiredNonEmpty (paramSegs segs) vs = true :=
  (getMatch_matched _ _ _ _ h).required hal

/-- **Named parameters never span a `/` (clause 4).** Holds for the repaired `findParamLen`
    (commit "named route parameters never span a slash"); before it, `/flights/:from-:to` matched
    `/flights/a/b-c` with `from = "a/b"`. -/
theorem named_no_slash (f : Nat → Nat) (hf : ∀ c, f c = SLASH ↔ c = SLASH)
    {chk : Constraint → Bytes → Bool} {pc : Bool}
    {segs : List Seg} {det path : Bytes} {vs : List Bytes}
    (hm : MetaOK segs) (hal : Aligned f det path) (h : getMatch chk segs det path pc = some vs) :
    namedNoSlash (paramSegs segs) vs = true :=
  (getMatch_matched _ _ _ _ h).noSlash hf hm hal

example : (match parseRoute (b "/flights/:from-:to") with
    | some p => getMatch (fun _ _ => true) p.segs (b "/flights/a/b-c") (b "/flights/a/b-c") false == none &&
                getMatch (fun _ _ => true) p.segs (b "/flights/ab-c") (b "/flights/ab-c") false == some [b "ab", b "c"]
    | none => false) = true := by
  repeat (conv in b _ => rw [b_ofList])
  decide +kernel

example : (match parseRoute (b "/ab/:a:b") with
    | some p => getMatch (fun _ _ => true) p.segs (b "/ab//x") (b "/ab//x") false == none &&
                getMatch (fun _ _ => true) p.segs (b "/ab/xyz") (b "/ab/xyz") false == some [b "x", b "yz"]
    | none => false) = true := by
  repeat (conv in b _ => rw [b_ofList])
  decide +kernel

/-- **C02 for a registered parameterised route.** For every configuration, every pattern
    `register` accepts (GET or `Use`), every request path: if `Route.match` succeeds on the paths
    `configDependentPaths` derives from the request, then, for the values written to `c.values`,
    (1) substituting them into the routed pattern reproduces `Path()` (a prefix for middleware)
        modulo the configured case folding and the trailing slashes the pattern / configuration make
        optional,
    (2) every value satisfies every constraint of its segment,
    (3) named parameters and `+` are non-empty unless optional,
    (4) named parameters contain no `/`. -/
theorem route_sound {chk : Constraint → Bytes → Bool} {cfg : Config} {use : Bool} {pattern : Bytes}
    {r : Route} (hr : register cfg use pattern = some r)
    (hp : r.params.length > 0) (hstar : r.star = false) (hroot : r.root = false)
    (orig : Bytes) {vs : List Bytes}
    (h : routeMatch chk r (configDependentPaths cfg orig).2 (configDependentPaths cfg orig).1 = some vs) :
    substitutionOK cfg use r.parser.segs vs (configDependentPaths cfg orig).1 = true ∧
    constraintViolation chk (paramSegs r.parser.segs) vs = none ∧
    requiredNonEmpty (paramSegs r.parser.segs) vs = true ∧
    namedNoSlash (paramSegs r.parser.segs) vs = true := by
  rw [route_match_requires_getMatch hp hstar hroot] at h
  obtain ⟨_, _, _, hpp, hu, _⟩ := register_inv hr
  have hm : MetaOK r.parser.segs := parseRouteW_metaOK hpp
  have hal := configDependentPaths_aligned cfg orig
  refine ⟨?_, getMatch_constraints _ _ _ _ h, getMatch_required_nonempty _ hal h,
    named_no_slash _ (fun c => cfgFold_neutral cfg c SLASH (by decide)) hm hal h⟩
  -- `renders` on the detection path is the first alternative of `substitutionOK`
  have := getMatch_sound (cfgFold cfg) hm hal h
  rw [substVals_cfgFold, hu, configDependentPaths_norm] at this
  exact Bool.or_eq_true_iff.mpr (Or.inl this)

/-- The catch-all shortcut of `Route.match`: `params[0] = path[1:]`. -/
theorem star_route_value {chk : Constraint → Bytes → Bool} {r : Route} {det path : Bytes} {vs : List Bytes}
    (hstar : r.star = true) (hnr : ¬ (r.root = true ∧ det = [SLASH]))
    (h : routeMatch chk r det path = some vs) : vs = [path.drop 1] := by
  rw [routeMatch_star hstar hnr] at h
  exact (Option.some.inj h).symm

/-- **With CaseSensitive and StrictRouting the routed pattern is the declared pattern**, so the
    constraints `route_sound` speaks about are the declared ones. (For the other configurations the
    routed pattern is the lower-cased / slash-trimmed text; the declared constraints survive this by
    `routed_eq_written`.) -/
theorem declared_eq_routed {cfg : Config} (hcs : cfg.caseSensitive = true) (hst : cfg.strictRouting = true)
    (pattern : Bytes) : prettyPattern cfg pattern = rawPattern pattern := by
  unfold prettyPattern rawPattern
  simp [hcs, hst]

theorem unquote_head {orig : Bytes} (ho : orig.head? = some SLASH) : (unquote orig).head? = some SLASH := by
  cases orig with
  | nil => cases ho
  | cons c rest =>
    have hc : c = SLASH := by simpa using ho
    subst hc
    unfold unquote
    have h1 : (SLASH == PCT) = false := by decide
    have h2 : (SLASH == PLUS) = false := by decide
    simp only [h1, h2, Bool.false_eq_true, if_false, List.head?_cons]

theorem configDependentPaths_head (cfg : Config) {orig : Bytes} (ho : orig.head? = some SLASH) :
    (configDependentPaths cfg orig).1.head? = some SLASH := by
  unfold configDependentPaths
  simp only
  split
  · exact unquote_head ho
  · exact ho

/-- The four clauses for the segments the route matches with — every branch of `Route.match`:
    the root shortcut (impossible for a route that declares parameters), the catch-all shortcut, and
    the parameter matcher. -/
theorem route_sound_routed {chk : Constraint → Bytes → Bool} {cfg : Config} {use : Bool} {pattern : Bytes}
    {r : Route} (hr : register cfg use pattern = some r) (hp : r.params.length > 0)
    (orig : Bytes) (ho : orig.head? = some SLASH) {vs : List Bytes}
    (h : routeMatch chk r (configDependentPaths cfg orig).2 (configDependentPaths cfg orig).1 = some vs) :
    vs.length = (paramSegs r.parser.segs).length ∧
    substitutionOK cfg use r.parser.segs vs (configDependentPaths cfg orig).1 = true ∧
    constraintViolation chk (paramSegs r.parser.segs) vs = none ∧
    requiredNonEmpty (paramSegs r.parser.segs) vs = true ∧
    namedNoSlash (paramSegs r.parser.segs) vs = true := by
  have hroot : r.root = false := by
    cases hrt : r.root
    · rfl
    · have := root_no_params hr hrt
      rw [this] at hp; simp at hp
  cases hst : r.star
  · have hgm := h
    rw [route_match_requires_getMatch hp hst hroot] at hgm
    exact ⟨getMatch_length _ _ _ _ hgm, route_sound hr hp hst hroot orig h⟩
  · obtain ⟨hsegs, _⟩ := star_parser hr hst
    have hv := star_route_value (chk := chk) hst (by rw [hroot]; simp) h
    subst hv
    rw [hsegs]
    exact ⟨rfl, star_sound cfg use _ (configDependentPaths_head cfg ho)⟩

/-- **C02 against the pattern as written — every configuration, every registered route that declares
    parameters, every request path.** If `Route.match` succeeds, then for the values it wrote:
    (1) substituting them into the routed pattern reproduces `Path()` (a prefix for middleware) modulo
        the configured case folding and the trailing slashes the pattern / configuration make optional;
    (2) every value satisfies every constraint **as written in the pattern** (same names, same data,
        same letter case — `routed_eq_written`; for any verdict function of regex / datetime / custom
        constraints), an optional parameter that captured nothing excepted;
    (3) parameters not marked optional in the written pattern are non-empty;
    (4) parameters not greedy in the written pattern contain no '/'.
    `wr` is the parse of `writtenPattern cfg pattern`: the text passed to `Get`/`Use`, no case folding,
    minus the trailing slashes the configuration ignores. -/
theorem route_sound_written {chk : Constraint → Bytes → Bool} {cfg : Config} {use : Bool} {pattern : Bytes}
    {r : Route} (hr : register cfg use pattern = some r) (hp : r.params.length > 0)
    (orig : Bytes) (ho : orig.head? = some SLASH) {vs : List Bytes}
    (h : routeMatch chk r (configDependentPaths cfg orig).2 (configDependentPaths cfg orig).1 = some vs) :
    ∃ wr, parseRoute (writtenPattern cfg pattern) = some wr ∧
      vs.length = (paramSegs wr.segs).length ∧
      substitutionOK cfg use r.parser.segs vs (configDependentPaths cfg orig).1 = true ∧
      constraintViolation chk (paramSegs wr.segs) vs = none ∧
      requiredNonEmpty (paramSegs wr.segs) vs = true ∧
      namedNoSlash (paramSegs wr.segs) vs = true := by
  obtain ⟨wr, hwr, hv⟩ := routed_eq_written hr
  obtain ⟨hl, h1, h234⟩ := route_sound_routed hr hp orig ho h
  have hl' := congrArg List.length hv
  rw [List.length_map, List.length_map] at hl'
  exact ⟨wr, hwr, hl.trans hl', h1, (clauses_iff _ vs).mpr (clauses_congr hv ((clauses_iff _ vs).mp h234))⟩

example : (match register {} false (b "/Shop/:id<regex(^[A-Z]+$)>/:rest?/"), parseRoute (writtenPattern {} (b "/Shop/:id<regex(^[A-Z]+$)>/:rest?/")) with
    | some r, some wr =>
      decide (r.params.length > 0) &&
      routeMatch (fun _ _ => true) r (b "/shop/abc") (b "/SHOP/ABC") == some [b "ABC", []] &&
      (paramSegs wr.segs).map (·.constraints) ==
        [[{ id := .regex, name := b "regex", data := [b "^[A-Z]+$"] }], []]
    | _, _ => false) = true := by
  repeat (conv in b _ => rw [b_ofList])
  decide +kernel

/-- **What `Params(key)` reports.** For any key, `Params(key)` is "" or the value of the first
    declared name `j` that answers to the key (same length; equal, or equal under ASCII case folding
    unless CaseSensitive; the keys `*` / `+` stand for `*1` / `+1`), and that value meets the
    per-value clauses of the property for the `j`-th parameter of the pattern as written.
    (`NoSwallow`: outside the corner where the raw text and the written pattern disagree about where
    the last parameter ends; there `Route.Params` is only tied to the route by the correspondence
    check.) -/
theorem params_observed_sound {chk : Constraint → Bytes → Bool} {cfg : Config} {use : Bool} {pattern : Bytes}
    {r : Route} (hr : register cfg use pattern = some r) (hp : r.params.length > 0)
    (hns : NoSwallow (writtenPattern cfg pattern))
    (orig : Bytes) (ho : orig.head? = some SLASH) {vs : List Bytes}
    (h : routeMatch chk r (configDependentPaths cfg orig).2 (configDependentPaths cfg orig).1 = some vs)
    (key : Bytes) :
    ∃ wr, parseRoute (writtenPattern cfg pattern) = some wr ∧
      (paramsGet cfg r.params vs key = [] ∨
       ∃ j, ∃ _ : j < r.params.length, ∃ _ : j < (paramSegs wr.segs).length, ∃ _ : j < vs.length,
         keyMatch cfg r.params[j] (paramsKey key) = true ∧
         (∀ i, ∀ _ : i < r.params.length, i < j → keyMatch cfg r.params[i] (paramsKey key) = false) ∧
         paramsGet cfg r.params vs key = vs[j] ∧
         clausesAt chk (paramSegs wr.segs)[j] vs[j]) := by
  obtain ⟨wr, hwr, hl, _, h2, h3, h4⟩ := route_sound_written hr hp orig ho h
  refine ⟨wr, hwr, ?_⟩
  have hal := params_aligned hr hns
  have hl2 := (route_sound_routed hr hp orig ho h).1
  unfold paramsGet
  rw [paramsLookup_eq]
  rcases lookupRec_first cfg (paramsKey key) r.params vs with ⟨h0, _⟩ | ⟨j, hj, hm, hfirst, hval⟩
  · left; exact h0
  · right
    have hjv : j < vs.length := by omega
    have hjs : j < (paramSegs wr.segs).length := by omega
    refine ⟨j, hj, hjs, hjv, hm, hfirst, ?_, (clauses_iff _ _).mp ⟨h2, h3, h4⟩ j hjs hjv⟩
    rw [hval]
    simp [List.getD_eq_getElem?_getD, List.getElem?_eq_getElem hjv]

/-- **With distinct declared names, `Params(name)` reports exactly the values `Route.match` wrote**, so
    the clauses of `route_sound_written` hold for what the handler reads through `Params`. -/
theorem params_positional {chk : Constraint → Bytes → Bool} {cfg : Config} {use : Bool} {pattern : Bytes}
    {r : Route} (hr : register cfg use pattern = some r) (hp : r.params.length > 0)
    (hns : NoSwallow (writtenPattern cfg pattern)) (hd : namesDistinct cfg r.params = true)
    (orig : Bytes) (ho : orig.head? = some SLASH) {vs : List Bytes}
    (h : routeMatch chk r (configDependentPaths cfg orig).2 (configDependentPaths cfg orig).1 = some vs) :
    r.params.map (paramsLookup cfg r.params vs) = vs := by
  have hal := params_aligned hr hns
  have hl2 := (route_sound_routed hr hp orig ho h).1
  have : r.params.map (paramsLookup cfg r.params vs) = r.params.map (lookupRec cfg r.params vs) := by
    apply List.map_congr_left
    intro n _
    exact paramsLookup_eq cfg r.params vs n
  rw [this]
  exact lookupRec_positional cfg r.params vs hd (by omega)

example : (match register {} false (b "/a/:Id/*") with
    | some r =>
      namesDistinct {} r.params &&
      routeMatch (fun _ _ => true) r (b "/a/x/y/z") (b "/a/X/y/Z") == some [b "X", b "y/Z"] &&
      paramsGet {} r.params [b "X", b "y/Z"] (b "ID") == b "X" &&
      paramsGet {} r.params [b "X", b "y/Z"] (b "*") == b "y/Z"
    | none => false) = true := by
  repeat (conv in b _ => rw [b_ofList])
  decide +kernel

/-- **The built-in constraints, end to end.** With `CheckConstraint` as the constraint check (any
    registered custom constraints `custom`, any verdicts `abs` for regex / datetime / custom): whenever
    a registered route matches, every value written for a parameter of the pattern as written passes
    the transcribed decision procedure of each of its built-in constraints int, bool, float, guid,
    minLen, maxLen, len, betweenLen, min, max, range — and alpha when the value is ASCII — that no
    custom constraint overrides (an optional parameter that captured nothing excepted). What the
    procedures demand is spelled out by `checkExact_int … checkExact_range`, `atoi_ok`. -/
theorem builtin_constraints_enforced {custom : List Bytes} {abs : Constraint → Bytes → Bool}
    {cfg : Config} {use : Bool} {pattern : Bytes}
    {r : Route} (hr : register cfg use pattern = some r) (hp : r.params.length > 0)
    (orig : Bytes) (ho : orig.head? = some SLASH) {vs : List Bytes}
    (h : routeMatch (checkConstraint custom abs) r (configDependentPaths cfg orig).2
      (configDependentPaths cfg orig).1 = some vs) :
    ∃ wr, parseRoute (writtenPattern cfg pattern) = some wr ∧
      ∀ j, ∀ hj : j < (paramSegs wr.segs).length, ∀ hv : j < vs.length,
        ∀ c ∈ ((paramSegs wr.segs)[j]).constraints, custom.contains c.name = false →
          (c.id.exact = true ∨ (c.id = .alpha ∧ vs[j].any (· ≥ 128) = false)) →
          (((paramSegs wr.segs)[j]).isOptional = true ∧ vs[j] = []) ∨ checkExact c vs[j] = true := by
  obtain ⟨wr, hwr, _, _, h2, h3, h4⟩ := route_sound_written hr hp orig ho h
  refine ⟨wr, hwr, ?_⟩
  intro j hj hv c hc hcust hk
  rcases ((clauses_iff _ _).mp ⟨h2, h3, h4⟩ j hj hv).1 with hopt | hall
  · exact Or.inl hopt
  · right
    rw [← checkConstraint_builtin custom abs c _ hcust hk]
    exact hall c hc

example : (match register {} false (b "/U/:id<range(5,10)>/:f<float>/:g<guid>?") with
    | some r =>
      let chk := checkConstraint [] (fun _ _ => false)
      routeMatch chk r (b "/u/7/1.5") (b "/U/7/1.5") == some [b "7", b "1.5", []] &&
      routeMatch chk r (b "/u/11/1.5") (b "/u/11/1.5") == none &&
      routeMatch chk r (b "/u/7/1e39") (b "/u/7/1e39") == none &&
      routeMatch chk r (b "/u/7/0x1p-2/123e4567-e89b-12d3-a456-426614174000") (b "/u/7/0x1p-2/123E4567-e89b-12d3-a456-426614174000")
        == some [b "7", b "0x1p-2", b "123E4567-e89b-12d3-a456-426614174000"] &&
      routeMatch chk r (b "/u/7/1.5/123e4567") (b "/u/7/1.5/123e4567") == none
    | none => false) = true := by
  repeat (conv in b _ => rw [b_ofList])
  decide +kernel

theorem dispatch1_some {chk : Constraint → Bytes → Bool} {r : Route} {det path : Bytes} {vs : List Bytes}
    (h : dispatch1 chk r det path = some vs) : routeMatch chk r det path = some vs := by
  unfold dispatch1 at h
  split at h
  · exact h
  · cases h

/-- **The model's observation meets the specification — the exact predicate the oracle evaluates on
    the implementation's observations.** For every configuration, `Get` or `Use`, every pattern that
    registers, every request path starting with '/', every constraint verdict function: the
    observation the model produces (handler ran or 404; `Route().Params`; `Params(name)` for every
    declared name; `Params(k)` for the extra keys `*`, `+`, the first name in upper and lower case;
    `Path()`) has no failing clause: declared names, arity, substitution, constraints as written,
    required non-empty, named without '/', `Params` lookup rule, not-found handling.
    Hypotheses: distinct declared names (the documented assumption under which `Params(name)` is the
    positional value) and `NoSwallow` (the raw text and the written pattern agree on where the last
    parameter ends). -/
theorem model_meets_spec {chk : Constraint → Bytes → Bool} {cfg : Config} {use : Bool} {pattern reqPath : Bytes}
    {decl wr : Parser} {r : Route}
    (hd : parseRoute (rawPattern pattern) = some decl) (hw : parseRoute (writtenPattern cfg pattern) = some wr)
    (hr : register cfg use pattern = some r)
    (ho : reqPath.head? = some SLASH) (hns : NoSwallow (writtenPattern cfg pattern))
    (hdist : namesDistinct cfg r.params = true) :
    specViolation cfg use decl.segs wr.segs r.parser.segs chk (modelObs chk cfg use pattern reqPath) = none := by
  obtain ⟨pr, hpr, hparams, -⟩ := register_inv hr
  obtain rfl : decl = pr := Option.some.inj (hd.symm.trans hpr)
  have hnames : r.params = (paramSegs decl.segs).map (·.paramName) := hparams.trans (parseRoute_params hd)
  have hdl : (paramSegs decl.segs).length = (paramSegs wr.segs).length := by
    simpa using congrArg List.length (written_eq_raw hns hd hw)
  unfold modelObs
  rw [hr]
  dsimp only
  cases hm : dispatch1 chk r (configDependentPaths cfg reqPath).2 (configDependentPaths cfg reqPath).1 with
  | none => rfl
  | some vs =>
    have hm := dispatch1_some hm
    unfold specViolation
    dsimp only
    by_cases hp : r.params.length > 0
    · obtain ⟨wr', hw', hlen, hsub, hcv, hreq, hnos⟩ := route_sound_written hr hp reqPath ho hm
      rw [hw] at hw'
      cases hw'
      have hrl := (route_sound_routed hr hp reqPath ho hm).1.symm.trans hlen
      -- `Params(name)` reports the values written; then clause by clause: names, arity (three lengths),
      -- substitution, constraints, required, no slash, lookup
      simp [params_positional hr hp hns hdist reqPath ho hm, ← hnames, hlen, hrl, hdl, hsub, hcv, hreq, hnos,
        paramsGet_eq_specLookup]
    · -- no declared parameter: the property is silent
      have h0 : paramSegs decl.segs = [] := by
        rw [hnames] at hp
        exact List.eq_nil_of_length_eq_zero (by simpa using hp)
      have h1 : paramSegs wr.segs = [] := List.eq_nil_of_length_eq_zero (by rw [← hdl, h0]; rfl)
      simp [h0, h1]

example : (match parseRoute (rawPattern (b "/A/:Id")), parseRoute (writtenPattern {} (b "/A/:Id")),
      register {} false (b "/A/:Id") with
    | some decl, some wr, some r =>
      namesDistinct {} r.params &&
      (modelObs (fun _ _ => true) {} false (b "/A/:Id") (b "/a/X")).vals == [b "X"] &&
      (modelObs (fun _ _ => true) {} false (b "/A/:Id") (b "/a/X")).extra == [[], [], b "X", b "X"] &&
      specViolation {} false decl.segs wr.segs r.parser.segs (fun _ _ => true)
        (modelObs (fun _ _ => true) {} false (b "/A/:Id") (b "/a/X")) == none
    | _, _, _ => false) = true := by
  repeat (conv in b _ => rw [b_ofList])
  decide +kernel

/-- **Statelessness, named.** In the model the observation of the i-th request of a history does not
    depend on the requests before or after it: it is the observation of that request served alone.
    The differential check holds the implementation to this (history cases: one app, 2-4 requests on
    a reused fasthttp.RequestCtx, parameter values of equal length with different verdicts); every
    per-request theorem above (`route_sound_written`, `model_meets_spec`, …) therefore applies to each
    request of a history. -/
theorem history_stateless (chk : Constraint → Bytes → Bool) (cfg : Config) (use : Bool) (pattern : Bytes)
    (before after : List Bytes) (req : Bytes) :
    (historyObs chk cfg use pattern (before ++ req :: after))[before.length]? =
      some (modelObs chk cfg use pattern req) := by
  unfold historyObs
  simp

example : (historyObs (fun _ _ => true) {} false (b "/a/:x") [b "/a/b", b "/a", b "/a/c"]).map (·.ran) = [1, 0, 1] := by
  repeat (conv in b _ => rw [b_ofList])
  decide +kernel

/-- Former known finding K1, on the repaired code: default configuration (case-insensitive routing),
    `GET /:x<regex(^[A-Z]+$)>`. The routed parser carries the regex as written, so with the documented
    meaning of that regex the request `/abc` is rejected and `/ABC` is served with x = "ABC" (the
    pre-repair router compiled `^[a-z]+$`, served `/abc` and rejected `/ABC`). -/
theorem K1_repaired :
    (match register {} false (b "/:x<regex(^[A-Z]+$)>") with
     | some r =>
       let declared : Constraint → Bytes → Bool := fun c v => c.data == [b "^[A-Z]+$"] && v == b "ABC"
       (paramSegs r.parser.segs).map (·.constraints) ==
         [[{ id := .regex, name := b "regex", data := [b "^[A-Z]+$"] }]] &&
       routeMatch (checkConstraint [] declared) r (b "/abc") (b "/abc") == none &&
       routeMatch (checkConstraint [] declared) r (b "/abc") (b "/ABC") == some [b "ABC"]
     | none => false) = true := by
  repeat (conv in b _ => rw [b_ofList])
  decide +kernel

end C02
