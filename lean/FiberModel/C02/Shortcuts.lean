import FiberModel.C02.Observe
/-
C02 — the two shortcuts at the top of `Route.match` (router.go):
  * `r.root && detectionPath == "/"` returns true without writing a value — `root_no_params`: a root
    route declares no parameters, so the property is silent about it;
  * `r.star` (the routed pattern is exactly `/*`) writes `params[0] = path[1:]` — `star_parser`: its
    parser is the parse of `/*`, and `star_sound` proves the four clauses for that value.
Behind them a route that declares parameters goes to `getMatch` alone (`route_match_requires_getMatch`).
-/
namespace C02
open B

/-- **A route with parameters matches only through `getMatch`** (no literal / prefix fallback;
    repaired by commit "a route with parameters matches only through its parser"). -/
theorem route_match_requires_getMatch {chk : Constraint → Bytes → Bool} {r : Route} {det path : Bytes}
    (hp : r.params.length > 0) (hstar : r.star = false) (hroot : r.root = false) :
    routeMatch chk r det path = getMatch chk r.parser.segs det path r.use := by
  unfold routeMatch
  simp [hp, hstar, hroot]

/-- The catch-all shortcut of `Route.match`, unless the root shortcut comes first: `params[0] = path[1:]`. -/
theorem routeMatch_star {chk : Constraint → Bytes → Bool} {r : Route} (hstar : r.star = true) {det : Bytes}
    (hnr : ¬ (r.root = true ∧ det = [SLASH])) (path : Bytes) : routeMatch chk r det path = some [path.drop 1] := by
  rw [routeMatch, if_neg (by rw [Bool.and_eq_true, beq_iff_eq]; exact hnr), if_pos hstar]

theorem parseRoute_noStart {s : Bytes} (h : ∀ c ∈ s, paramStartChars.contains c = false) {pp : Parser}
    (hp : parseRoute s = some pp) : pp.params = [] := by
  obtain ⟨raw, hr, hc⟩ := parseRoute_core hp
  have h0 := parseLoop_noStart h s.length 0 0
  rw [hr] at h0
  rw [parseRoute_params hp, hc.paramNames_eq]
  exact congrArg (List.map (·.paramName)) (Option.some.inj h0)

theorem map_eq_of_neutral {f : Nat → Nat} (hf : Neutral f) : (l t : Bytes) → (∀ c ∈ t, c ∈ specials) →
    l.map f = t → l = t
  | [], [], _, _ => rfl
  | [], _ :: _, _, h => by cases h
  | _ :: _, [], _, h => by cases h
  | x :: xs, y :: ys, hs, h => by
    simp only [List.map_cons, List.cons.injEq] at h
    have hx : x = y := (hf x y (hs y (List.mem_cons_self ..))).mp h.1
    rw [hx, map_eq_of_neutral hf xs ys (fun c hc => hs c (List.mem_cons_of_mem _ hc)) h.2]

/-- **A root route declares no parameters.** (`root` = the escape-free prettified pattern is "/".) -/
theorem root_no_params {cfg : Config} {use : Bool} {pattern : Bytes} {r : Route}
    (hr : register cfg use pattern = some r) (hroot : r.root = true) : r.params = [] := by
  obtain ⟨pr, hpr, hparams, _, _, _, _, _, hrt⟩ := register_inv hr
  rw [hparams]
  apply parseRoute_noStart _ hpr
  rw [hrt, beq_iff_eq, prettyPattern_eq, (cfgFold_neutral cfg).removeEscapeChar] at hroot
  -- without its backslashes the written pattern is "/": every byte of the raw text is '\\' or '/'
  have hw := map_eq_of_neutral (cfgFold_neutral cfg) _ _ (by decide) hroot
  obtain ⟨sl, hsl, hsplit⟩ := rawPattern_split cfg pattern
  intro c hc
  rw [hsplit, List.mem_append] at hc
  rcases hc with hc | hc
  · by_cases hb : c = BSL
    · rw [hb]; decide
    · have : c ∈ removeEscapeChar (writtenPattern cfg pattern) :=
        List.mem_filter.mpr ⟨hc, by simpa using hb⟩
      rw [hw, List.mem_singleton] at this
      rw [this]; decide
  · rw [hsl c hc]; decide

theorem star_parser {cfg : Config} {use : Bool} {pattern : Bytes} {r : Route}
    (hr : register cfg use pattern = some r) (hstar : r.star = true) :
    r.parser.segs = starSegs ∧ r.root = false := by
  obtain ⟨_, _, _, hpp, _, _, _, hst, hrt⟩ := register_inv hr
  rw [hst, beq_iff_eq] at hstar
  have hw : writtenPattern cfg pattern = [SLASH, STAR] := by
    rw [prettyPattern_eq] at hstar
    exact map_eq_of_neutral (cfgFold_neutral cfg) _ _ (by decide) hstar
  rw [writtenPattern_eq_take, hstar, hw, parseRouteW_self, parseRoute_star] at hpp
  constructor
  · simp only [Option.some.injEq] at hpp
    rw [← hpp]
  · rw [hrt, hstar]; rfl

/-- **The catch-all value meets the property**: for a path starting with '/', the value
    `path[1:]` substituted into `/*` gives back the path (modulo the configured normalisation), it
    has no constraint to meet, `*` is optional and greedy. -/
theorem star_sound {chk : Constraint → Bytes → Bool} (cfg : Config) (use : Bool) (path : Bytes)
    (hp : path.head? = some SLASH) :
    substitutionOK cfg use starSegs [path.drop 1] path = true ∧
    constraintViolation chk (paramSegs starSegs) [path.drop 1] = none ∧
    requiredNonEmpty (paramSegs starSegs) [path.drop 1] = true ∧
    namedNoSlash (paramSegs starSegs) [path.drop 1] = true := by
  obtain ⟨rest, rfl⟩ : ∃ rest, path = SLASH :: rest := by
    cases path with
    | nil => cases hp
    | cons c rest => simp at hp; exact ⟨rest, by rw [hp]⟩
  refine ⟨?_, by simp [paramSegs, starSegs, constraintViolation], by simp [paramSegs, starSegs, requiredNonEmpty],
    by simp [paramSegs, starSegs, namedNoSlash]⟩
  unfold substitutionOK
  simp only [Bool.or_eq_true]
  right
  have hplain : ∀ v : Bytes, plainRender starSegs [v] = SLASH :: v := by
    intro v; simp [plainRender, starSegs]
  have hnorm : normPath cfg (plainRender starSegs (if cfg.caseSensitive then [List.drop 1 (SLASH :: rest)]
      else List.map toLower [List.drop 1 (SLASH :: rest)])) = normPath cfg (SLASH :: rest) := by
    cases hcs : cfg.caseSensitive
    · simp only [Bool.false_eq_true, if_false, List.map_cons, List.map_nil, hplain, List.drop_succ_cons,
        List.drop_zero]
      unfold normPath configDependentPaths
      simp only [hcs, Bool.false_eq_true, if_false, Bool.not_false, if_true]
      rw [show SLASH :: toLower rest = toLower (SLASH :: rest) from rfl, toLower_idem]
    · simp only [if_true, hplain, List.drop_succ_cons, List.drop_zero]
  rw [hnorm]
  cases use
  · simp
  · simp only [if_true]
    rw [List.isPrefixOf_iff_prefix]
    exact List.prefix_refl _

theorem toLower_drop_one (p : Bytes) : toLower (p.drop 1) = (toLower p).drop 1 := by
  unfold toLower; rw [List.map_drop]

end C02
