import FiberModel.C02.Link
import FiberModel.C02.Sound
/-
C02 — what a handler observes: `Params(key)` (ctx.go) over the values `Route.match` wrote is the
value of the first declared name answering to the key, which is also the documented lookup of the
specification (`specLookup`); the clause predicates of the specification depend on a parameter segment
only through what the property reads of it (`clauses_congr`).
-/
namespace C02
open B

/-- `Params` as a recursion over the declared names. -/
def lookupRec (cfg : Config) : List Bytes → List Bytes → Bytes → Bytes
  | [], _, _ => []
  | n :: ns, vals, key => if keyMatch cfg n key then vals.headD [] else lookupRec cfg ns vals.tail key

theorem lookup_find (cfg : Config) (key : Bytes) : (names vals : List Bytes) → (k : Nat) → names.length ≤ k →
    (match (names.zip (vals ++ List.replicate k [])).find? (fun nv => keyMatch cfg nv.1 key) with
      | some nv => nv.2
      | none => []) = lookupRec cfg names vals key
  | [], _, _, _ => rfl
  | n :: ns, [], k + 1, hk => by
    have ih := lookup_find cfg key ns [] k (Nat.le_of_succ_le_succ hk)
    rw [List.nil_append] at ih
    rw [List.nil_append, List.replicate_succ, List.zip_cons_cons, List.find?_cons, lookupRec]
    cases keyMatch cfg n key
    · exact ih
    · rfl
  | n :: ns, v :: vs, k, hk => by
    have ih := lookup_find cfg key ns vs k (Nat.le_of_succ_le hk)
    rw [List.cons_append, List.zip_cons_cons, List.find?_cons, lookupRec]
    cases keyMatch cfg n key
    · exact ih
    · rfl

theorem paramsLookup_eq (cfg : Config) (names vals : List Bytes) (key : Bytes) :
    paramsLookup cfg names vals key = lookupRec cfg names vals key := by
  unfold paramsLookup
  exact lookup_find cfg key names vals names.length (Nat.le_refl _)

/-- **`Params(key)` reports the value of the first declared name that answers to the key** (or ""
    when there is none, or when that value is empty). -/
theorem lookupRec_first (cfg : Config) (key : Bytes) (names vals : List Bytes) :
    (lookupRec cfg names vals key = [] ∧ ∀ n ∈ names, keyMatch cfg n key = false) ∨
    ∃ j, ∃ hj : j < names.length, keyMatch cfg names[j] key = true ∧
      (∀ i, ∀ hi : i < names.length, i < j → keyMatch cfg names[i] key = false) ∧
      lookupRec cfg names vals key = vals.getD j [] := by
  fun_induction lookupRec cfg names vals key
  · exact Or.inl ⟨rfl, fun _ h => nomatch h⟩
  · rename_i vals _ hm
    exact Or.inr ⟨0, Nat.zero_lt_succ _, hm, fun i _ hi => absurd hi (Nat.not_lt_zero _), by cases vals <;> rfl⟩
  · rename_i n ns vals key hm ih
    rw [Bool.not_eq_true] at hm
    rcases ih with ⟨h1, h2⟩ | ⟨j, hj, h1, h2, h3⟩
    · exact Or.inl ⟨h1, List.forall_mem_cons.mpr ⟨hm, h2⟩⟩
    · refine Or.inr ⟨j + 1, Nat.succ_lt_succ hj, h1, ?_, by rw [h3]; cases vals <;> rfl⟩
      intro i hi hlt
      cases i with
      | zero => exact hm
      | succ i => exact h2 i (Nat.lt_of_succ_lt_succ hi) (Nat.lt_of_succ_lt_succ hlt)

/-- declared names pairwise do not answer to each other (distinct, also case-insensitively unless
    CaseSensitive) -/
def namesDistinct (cfg : Config) : List Bytes → Bool
  | [] => true
  | n :: ns => ns.all (fun m => !keyMatch cfg n m) && namesDistinct cfg ns

/-- **With distinct declared names, `Params(name)` reports the positional values.** -/
theorem lookupRec_positional (cfg : Config) : (names vals : List Bytes) → namesDistinct cfg names = true →
    vals.length = names.length → names.map (lookupRec cfg names vals) = vals
  | [], [], _, _ => rfl
  | [], _ :: _, _, h => by simp at h
  | _ :: _, [], _, h => by simp at h
  | n :: ns, v :: vs, hd, hl => by
    unfold namesDistinct at hd
    simp only [Bool.and_eq_true, List.all_eq_true, Bool.not_eq_true'] at hd
    have ih := lookupRec_positional cfg ns vs hd.2 (by simpa using hl)
    simp only [List.map_cons]
    congr 1
    · -- a name answers to itself: `keyMatch cfg n n`
      unfold lookupRec
      simp [keyMatch]
    · rw [← ih]
      apply List.map_congr_left
      intro m hm
      conv => lhs; unfold lookupRec
      simp only [hd.1 m hm, Bool.false_eq_true, if_false, List.tail_cons]
      rw [ih]

theorem clauses_congr {chk : Constraint → Bytes → Bool} {ps ps' : List Seg} {vs : List Bytes}
    (h : ps.map pview = ps'.map pview) (hp : Pointwise (clausesAt chk) ps vs) : Pointwise (clausesAt chk) ps' vs :=
  Pointwise.congr pview (fun {s s' v} e => by
    rw [pview, pview, Prod.mk.injEq, Prod.mk.injEq] at e
    rw [clausesAt, clausesAt, e.1, e.2.1, e.2.2]; exact id) h hp

/-- the local `same` of `specLookup` (Spec.lean), named so that `range_find` can speak of it; `specKey_eq` is the
    key rewriting in front of it -/
def sameName (cfg : Config) (a c : Bytes) : Bool :=
  if cfg.caseSensitive then a == c else toLower a == toLower c

theorem keyMatch_eq_sameName (cfg : Config) (n key : Bytes) : keyMatch cfg n key = sameName cfg n key := by
  unfold keyMatch sameName equalFold
  cases hcs : cfg.caseSensitive
  · -- equal foldings have equal lengths; different foldings come from different names
    by_cases hf : toLower n = toLower key
    · have hl : n.length = key.length := by simpa [toLower_length] using congrArg List.length hf
      simp [hf, hl]
    · have e1 : (toLower n == toLower key) = false := beq_eq_false_iff_ne.mpr hf
      have e2 : (n == key) = false := beq_eq_false_iff_ne.mpr fun h => hf (by rw [h])
      simp [e1, e2]
  · by_cases h : n = key <;> simp [h]

theorem specKey_eq (key : Bytes) :
    (if key == [STAR] then [STAR, 49] else if key == [PLUS] then [PLUS, 49] else key) = paramsKey key := by
  unfold paramsKey
  by_cases h1 : key = [STAR]
  · subst h1; decide
  · by_cases h2 : key = [PLUS]
    · subst h2; decide
    · simp [h1, h2]

theorem range_find (cfg : Config) (key : Bytes) (names vals : List Bytes) :
    (match (List.range names.length).find? (fun i => sameName cfg (names.getD i []) key) with
      | some i => vals.getD i []
      | none => []) = lookupRec cfg names vals key := by
  fun_induction lookupRec cfg names vals key
  · rfl
  · rename_i n ns vals key hm
    rw [List.length_cons, List.range_succ_eq_map, List.find?_cons,
      show (n :: ns).getD 0 [] = n from rfl, ← keyMatch_eq_sameName, hm]
    cases vals <;> rfl
  · rename_i n ns vals key hm ih
    rw [Bool.not_eq_true] at hm
    rw [List.length_cons, List.range_succ_eq_map, List.find?_cons,
      show (n :: ns).getD 0 [] = n from rfl, ← keyMatch_eq_sameName, hm, List.find?_map, ← ih]
    show (match Option.map Nat.succ ((List.range ns.length).find? (fun i => sameName cfg (ns.getD i []) key)) with
      | some i => vals.getD i [] | none => []) = _
    cases (List.range ns.length).find? (fun i => sameName cfg (ns.getD i []) key) with
    | none => rfl
    | some i => cases vals <;> rfl

theorem paramsGet_eq_specLookup (cfg : Config) (names vals : List Bytes) (key : Bytes) :
    paramsGet cfg names vals key = specLookup cfg names vals key := by
  unfold paramsGet specLookup
  rw [paramsLookup_eq, specKey_eq]
  exact (range_find cfg (paramsKey key) names vals).symm

end C02
