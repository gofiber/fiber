import FiberModel.C02.Spec
import FiberModel.BasicLemmas
/-
C02 — what the parser pipeline preserves (the "core" fields of a segment), what the metadata passes
behind the parse loop compute (`finish_eq`) and the well-formedness of parser output. Everything is
proved for `parseRouteW` (path.go `parseRouteWritten`); `parseRoute p` is the case `written = p`
(`parseRouteW_self`).
A lemma named after the function it speaks of (`CoreL.constsOK`, `Matched.getMatch`, `Neutral.fnne`, ...) shadows that
function inside its own proof and in every later lemma of its namespace: there the function is written with its
namespace (`C02.constsOK`).
-/
namespace C02
open B

/-- `b` is `a` up to the metadata the later parser stages fill in. -/
def Seg.Core (a b : Seg) : Prop :=
  b.const = a.const ∧ b.isParam = a.isParam ∧ b.isGreedy = a.isGreedy ∧ b.isOptional = a.isOptional ∧
  b.constraints = a.constraints ∧ b.paramName = a.paramName ∧
  (a.isParam = false → b.length = a.length) ∧
  (b.hasOptionalSlash = true → a.hasOptionalSlash = true ∨ (a.isParam = false ∧ a.const.getLast? = some SLASH))

theorem Seg.Core.refl (a : Seg) : Seg.Core a a :=
  ⟨rfl, rfl, rfl, rfl, rfl, rfl, fun _ => rfl, Or.inl⟩

theorem Seg.Core.trans {a b c : Seg} (h1 : Seg.Core a b) (h2 : Seg.Core b c) : Seg.Core a c := by
  obtain ⟨a1, a2, a3, a4, a5, a6, a7, a8⟩ := h1
  obtain ⟨b1, b2, b3, b4, b5, b6, b7, b8⟩ := h2
  refine ⟨b1.trans a1, b2.trans a2, b3.trans a3, b4.trans a4, b5.trans a5, b6.trans a6,
    fun h => (b7 (a2.trans h)).trans (a7 h), fun h => ?_⟩
  rcases b8 h with h | ⟨h, h'⟩
  · exact a8 h
  · exact Or.inr ⟨a2 ▸ h, a1 ▸ h'⟩

inductive CoreL : List Seg → List Seg → Prop
  | nil : CoreL [] []
  | cons {a b : Seg} {as bs : List Seg} : Seg.Core a b → CoreL as bs → CoreL (a :: as) (b :: bs)

theorem CoreL.refl : (l : List Seg) → CoreL l l
  | [] => .nil
  | a :: as => .cons (Seg.Core.refl a) (CoreL.refl as)

theorem CoreL.length_eq {l l' : List Seg} (h : CoreL l l') : l'.length = l.length := by
  induction h with
  | nil => rfl
  | cons _ _ ih => simp [ih]

/-! ### what the three metadata passes compute

Each pass rewrites every segment looking only at the segments behind it (`mapSuf`), and reads of those
only what no pass changes; so the passes compose into one such rewriting of the raw list (`finish_eq`).
`finish` in the lemma names stands for `addParameterMetaInfo ∘ markLast`, what `parseRoute` does behind its loop. -/

/-- The `comparePart` variable of `addParameterMetaInfo` at the head of a list: what the first constant
    segment hands back (`cmpOfConst`: its constant minus trailing slashes when longer than one byte, one
    slash kept when it has no other byte); empty if there is no constant segment. -/
def nextConstCmp : List Seg → Bytes
  | [] => []
  | s :: rest =>
    if s.isParam then nextConstCmp rest
    else cmpOfConst s.const

theorem cmpOfConst_prefix (c : Bytes) : cmpOfConst c <+: c := by
  unfold cmpOfConst
  split
  · split
    · -- slashes only, and at least two of them
      rename_i hl he
      obtain ⟨sl, hsl, hs⟩ := trimRight_split c SLASH
      rw [List.isEmpty_iff.mp he, List.nil_append] at hs
      match c, hl, hs with
      | x :: t, _, hs => rw [hsl x (hs ▸ List.mem_cons_self)]; exact ⟨t, rfl⟩
    · exact trimRight_prefix c SLASH
  · exact List.prefix_refl c

theorem cmpOfConst_ne_nil {c : Bytes} (hc : c ≠ []) : cmpOfConst c ≠ [] := by
  unfold cmpOfConst
  split
  · split
    · exact List.cons_ne_nil _ _
    · rename_i h; exact fun hh => h (by rw [hh]; rfl)
  · exact hc

/-- `metaForward` panics exactly on an empty constant -/
def constsOK (l : List Seg) : Bool := l.all (fun s => s.isParam || !s.const.isEmpty)

theorem CoreL.nextConstCmp_eq {l l' : List Seg} (h : CoreL l l') : nextConstCmp l' = nextConstCmp l := by
  induction h with
  | nil => rfl
  | cons hab _ ih =>
    unfold nextConstCmp
    rw [hab.1, hab.2.1, ih]

theorem CoreL.constsOK {l l' : List Seg} (h : CoreL l l') : constsOK l' = constsOK l := by
  unfold C02.constsOK
  induction h with
  | nil => rfl
  | cons hab _ ih =>
    rw [List.all_cons, List.all_cons, ih, hab.1, hab.2.1]

theorem CoreL.nextOptional_eq {l l' : List Seg} (h : CoreL l l') : nextOptional l' = nextOptional l := by
  cases h with
  | nil => rfl
  | cons hab _ => exact hab.2.2.2.1

theorem CoreL.nextNonGreedyParam_eq {l l' : List Seg} (h : CoreL l l') :
    nextNonGreedyParam l' = nextNonGreedyParam l := by
  cases h with
  | nil => rfl
  | cons hab _ => simp only [nextNonGreedyParam, hab.2.1, hab.2.2.1]

theorem CoreL.partCountOf_eq (cp : Bytes) {l l' : List Seg} (h : CoreL l l') :
    partCountOf cp l' = partCountOf cp l := by
  induction h with
  | nil => rfl
  | cons hab _ ih => unfold partCountOf; rw [hab.1, hab.2.1, ih]

/-- `markLast` on `s`, followed by `rest` -/
def markSeg (s : Seg) (rest : List Seg) : Seg := if rest.isEmpty then { s with isLast := true } else s

/-- the backward loop of `addParameterMetaInfo` on `s`, followed by `rest` -/
def cmpSeg (s : Seg) (rest : List Seg) : Seg :=
  if s.isParam then { s with comparePart := removeEscapeChar (nextConstCmp rest) } else s

/-- the forward loop of `addParameterMetaInfo` on `s`, followed by `rest` (`metaForward_cons`) -/
def fwdSeg (s : Seg) (rest : List Seg) : Seg :=
  if s.isParam then
    { s with
        length := if (!s.isGreedy && nextNonGreedyParam rest) = true then 1 else s.length,
        partCount := if s.comparePart.isEmpty = true then s.partCount
                     else s.partCount + partCountOf s.comparePart rest }
  else if s.const.getLast? == some SLASH && (s.isLast || nextOptional rest) then { s with hasOptionalSlash := true }
  else s

/-- what the three passes together make of the raw segment `s`, followed by the raw segments `rest` -/
def finishSeg (s : Seg) (rest : List Seg) : Seg := fwdSeg (cmpSeg (markSeg s rest) rest) rest

def mapSuf (g : Seg → List Seg → Seg) : List Seg → List Seg
  | [] => []
  | s :: rest => g s rest :: mapSuf g rest

theorem mapSuf_cons (g : Seg → List Seg → Seg) (s : Seg) (rest : List Seg) :
    mapSuf g (s :: rest) = g s rest :: mapSuf g rest := rfl

theorem mapSuf_core {g : Seg → List Seg → Seg} (hg : ∀ s rest, Seg.Core s (g s rest)) :
    (l : List Seg) → CoreL l (mapSuf g l)
  | [] => .nil
  | s :: rest => .cons (hg s rest) (mapSuf_core hg rest)

/-- Two passes in a row are one pass, when the second reads of the segments behind only what the
    first leaves alone. -/
theorem mapSuf_comp {g₁ g₂ : Seg → List Seg → Seg} (h1 : ∀ s rest, Seg.Core s (g₁ s rest))
    (h2 : ∀ s {rest rest'}, CoreL rest rest' → g₂ s rest' = g₂ s rest) :
    (l : List Seg) → mapSuf g₂ (mapSuf g₁ l) = mapSuf (fun s rest => g₂ (g₁ s rest) rest) l
  | [] => rfl
  | s :: rest => by
    rw [mapSuf_cons, mapSuf_cons, mapSuf_cons, h2 _ (mapSuf_core h1 rest), mapSuf_comp h1 h2 rest]

theorem markLast_eq : (l : List Seg) → markLast l = mapSuf markSeg l
  | [] => rfl
  | [_] => rfl
  | s :: t :: rest => by
    have ih := markLast_eq (t :: rest)
    unfold markLast
    rw [ih]
    rfl

theorem setCompareParts_snd : (l : List Seg) → (setCompareParts l).2 = nextConstCmp l
  | [] => rfl
  | s :: rest => by
    rw [setCompareParts, nextConstCmp, ← setCompareParts_snd rest]
    cases s.isParam <;> rfl

theorem setCompareParts_eq : (l : List Seg) → (setCompareParts l).1 = mapSuf cmpSeg l
  | [] => rfl
  | s :: rest => by
    rw [mapSuf_cons, ← setCompareParts_eq rest, cmpSeg, ← setCompareParts_snd rest, setCompareParts]
    cases s.isParam <;> rfl

theorem metaForward_cons (s : Seg) (rest : List Seg) :
    metaForward (s :: rest) = (metaForward rest).bind fun rest' =>
      if s.isParam || !s.const.isEmpty then some (fwdSeg s rest :: rest') else none := by
  rw [metaForward]
  cases metaForward rest with
  | none => rfl
  | some rest' =>
    simp only [Option.bind_some]
    rcases Bool.eq_false_or_eq_true s.isParam with hp | hp
    · rw [if_pos hp, fwdSeg, if_pos hp, if_pos (show (s.isParam || !s.const.isEmpty) = true by rw [hp]; rfl)]
      by_cases h1 : (!s.isGreedy && nextNonGreedyParam rest) = true <;>
        by_cases h2 : s.comparePart.isEmpty = true <;>
        simp only [h1, h2, if_true, if_false, Bool.false_eq_true]
    · have hn : ¬ s.isParam = true := by rw [hp]; exact Bool.false_ne_true
      rw [if_neg hn, fwdSeg, if_neg hn, show (s.isParam || !s.const.isEmpty) = !s.const.isEmpty by rw [hp]; rfl]
      cases hl : s.const.getLast? with
      | none => rw [List.getLast?_eq_none_iff.mp hl]; rfl
      | some l =>
        have hne : s.const.isEmpty = false := by
          cases hs : s.const with
          | nil => rw [hs] at hl; cases hl
          | cons _ _ => rfl
        rw [hne, Option.some_beq_some, if_pos (show (!false) = true from rfl)]
        dsimp only
        split <;> rfl

theorem metaForward_eq : (l : List Seg) → metaForward l = if constsOK l then some (mapSuf fwdSeg l) else none
  | [] => rfl
  | s :: rest => by
    have hc : constsOK (s :: rest) = ((s.isParam || !s.const.isEmpty) && constsOK rest) := rfl
    rw [hc, metaForward_cons, metaForward_eq rest, mapSuf_cons]
    cases constsOK rest <;> cases (s.isParam || !s.const.isEmpty) <;> rfl

theorem markSeg_core (s : Seg) (rest : List Seg) : Seg.Core s (markSeg s rest) := by
  unfold markSeg; split
  · exact ⟨rfl, rfl, rfl, rfl, rfl, rfl, fun _ => rfl, Or.inl⟩
  · exact Seg.Core.refl s

theorem cmpSeg_core (s : Seg) (rest : List Seg) : Seg.Core s (cmpSeg s rest) := by
  unfold cmpSeg; split
  · exact ⟨rfl, rfl, rfl, rfl, rfl, rfl, fun _ => rfl, Or.inl⟩
  · exact Seg.Core.refl s

theorem fwdSeg_core (s : Seg) (rest : List Seg) : Seg.Core s (fwdSeg s rest) := by
  unfold fwdSeg
  split
  · rename_i hp
    exact ⟨rfl, rfl, rfl, rfl, rfl, rfl, fun hh => Bool.noConfusion (hp.symm.trans hh), Or.inl⟩
  · rename_i hp
    split
    · rename_i hc
      rw [Bool.and_eq_true, beq_iff_eq] at hc
      exact ⟨rfl, rfl, rfl, rfl, rfl, rfl, fun _ => rfl, fun _ => Or.inr ⟨Bool.eq_false_iff.mpr hp, hc.1⟩⟩
    · exact Seg.Core.refl s

theorem finishSeg_core (s : Seg) (rest : List Seg) : Seg.Core s (finishSeg s rest) :=
  ((markSeg_core s rest).trans (cmpSeg_core _ rest)).trans (fwdSeg_core _ rest)

theorem finish_eq (raw : List Seg) :
    addParameterMetaInfo (markLast raw) = if constsOK raw then some (mapSuf finishSeg raw) else none := by
  have h12 := fun s rest => (markSeg_core s rest).trans (cmpSeg_core _ rest)
  rw [addParameterMetaInfo, metaForward_eq, setCompareParts_eq, markLast_eq,
    mapSuf_comp markSeg_core (fun s _ _ h => by rw [cmpSeg, cmpSeg, h.nextConstCmp_eq]),
    (mapSuf_core h12 raw).constsOK,
    mapSuf_comp h12 (fun s _ _ h => by
      rw [fwdSeg, fwdSeg, h.nextNonGreedyParam_eq, h.partCountOf_eq, h.nextOptional_eq])]
  rfl

theorem finish_some {raw segs : List Seg} (h : addParameterMetaInfo (markLast raw) = some segs) :
    segs = mapSuf finishSeg raw := by
  rw [finish_eq] at h
  split at h
  · exact (Option.some.inj h).symm
  · cases h

theorem finish_core {raw segs : List Seg} (h : addParameterMetaInfo (markLast raw) = some segs) :
    CoreL raw segs :=
  finish_some h ▸ mapSuf_core finishSeg_core raw

theorem finish_isSome (raw : List Seg) : (addParameterMetaInfo (markLast raw)).isSome = constsOK raw := by
  rw [finish_eq]; cases constsOK raw <;> rfl

theorem finishSeg_param {s : Seg} (rest : List Seg) (hp : s.isParam = true) :
    finishSeg s rest =
      { s with
          isLast := s.isLast || rest.isEmpty,
          comparePart := removeEscapeChar (nextConstCmp rest),
          length := if (!s.isGreedy && nextNonGreedyParam rest) = true then 1 else s.length,
          partCount := if (removeEscapeChar (nextConstCmp rest)).isEmpty = true then s.partCount
                       else s.partCount + partCountOf (removeEscapeChar (nextConstCmp rest)) rest } := by
  have hm : (markSeg s rest).isParam = true := (markSeg_core s rest).2.1.trans hp
  rw [finishSeg, cmpSeg, if_pos hm, fwdSeg, if_pos hm, markSeg]
  cases rest.isEmpty
  · rw [if_neg Bool.false_ne_true, Bool.or_false]
  · rw [if_pos rfl, Bool.or_true]

theorem finishSeg_const {s : Seg} (rest : List Seg) (hp : s.isParam = false) :
    finishSeg s rest =
      { s with
          isLast := s.isLast || rest.isEmpty,
          hasOptionalSlash := s.hasOptionalSlash ||
            (s.const.getLast? == some SLASH && (s.isLast || rest.isEmpty || nextOptional rest)) } := by
  have hm : ¬ (markSeg s rest).isParam = true := by
    rw [(markSeg_core s rest).2.1, hp]; exact Bool.false_ne_true
  rw [finishSeg, cmpSeg, if_neg hm, fwdSeg, if_neg hm, markSeg]
  cases rest.isEmpty
  · rw [if_neg Bool.false_ne_true, Bool.or_false]
    split
    · rename_i h; rw [h, Bool.or_true]
    · rename_i h; rw [Bool.not_eq_true] at h; rw [h, Bool.or_false]
  · rw [if_pos rfl, Bool.or_true]
    dsimp only
    split
    · rename_i h; rw [h, Bool.or_true]
    · rename_i h; rw [Bool.not_eq_true] at h; rw [h, Bool.or_false]

theorem finishSeg_isLast (s : Seg) (rest : List Seg) : (finishSeg s rest).isLast = (s.isLast || rest.isEmpty) := by
  cases hp : s.isParam
  · rw [finishSeg_const rest hp]
  · rw [finishSeg_param rest hp]

/-- raw segments (before markLast / meta info) -/
def RawOK (s : Seg) : Prop :=
  s.hasOptionalSlash = false ∧ s.isLast = false ∧
  (s.isParam = false → s.length = s.const.length ∧ s.isOptional = false) ∧
  (s.isParam = true → s.const = [])

theorem CoreL.param_const {l l' : List Seg} (h : CoreL l l') (hraw : ∀ s ∈ l, RawOK s) :
    ∀ s ∈ l', s.isParam = true → s.const = [] := by
  induction h with
  | nil => intro s hs; cases hs
  | @cons a b as bs hab _ ih =>
    intro s hs hp
    rcases List.mem_cons.mp hs with rfl | hs
    · rw [hab.1]; exact (hraw a (List.mem_cons_self ..)).2.2.2 (hab.2.1 ▸ hp)
    · exact ih (fun s hs => hraw s (List.mem_cons_of_mem _ hs)) s hs hp

theorem analyseParameterPartW_raw {p w : Bytes} {wc pc n : Nat} {seg : Seg} {wc' pc' : Nat}
    (h : analyseParameterPartW p w wc pc = some (n, seg, wc', pc')) :
    seg.isParam = true ∧ RawOK seg := by
  revert h
  fun_cases analyseParameterPartW p w wc pc <;> intro h
  · cases h
  · rw [← (Prod.mk.inj (Prod.mk.inj (Option.some.inj h)).2).1]
    exact ⟨rfl, rfl, rfl, fun h => Bool.noConfusion h, fun _ => rfl⟩

theorem analyseParameterPartW_self (p : Bytes) (wc pc : Nat) :
    analyseParameterPartW p p wc pc = analyseParameterPart p wc pc := rfl

theorem parseLoopW_self : (fuel : Nat) → (p : Bytes) → (wc pc : Nat) →
    parseLoopW fuel p p wc pc = parseLoop fuel p wc pc
  | 0, _, _, _ => rfl
  | fuel + 1, p, wc, pc => by
    unfold parseLoopW parseLoop
    simp only [analyseParameterPartW_self, parseLoopW_self fuel]

theorem parseRouteW_self (p : Bytes) : parseRouteW p p = parseRoute p := by
  unfold parseRouteW parseRoute
  simp [parseLoopW_self]

theorem parseLoopW_cons {fuel : Nat} {p w : Bytes} {wc pc : Nat} {s : Seg} {rest : List Seg}
    (h : parseLoopW fuel p w wc pc = some (s :: rest)) :
    ∃ fuel' n wc' pc', parseLoopW fuel' (p.drop n) (w.drop n) wc' pc' = some rest ∧
      (analyseParameterPartW p w wc pc = some (n, s, wc', pc') ∨
       s = (analyseConstantPart p (findNextParamPosition p)).2) := by
  revert h
  -- the branches of `parseLoopW`: no fuel, empty text, the parameter part panics (nothing parsed in these three);
  -- a parameter; a constant
  fun_cases parseLoopW fuel p w wc pc <;> intro h
  iterate 3 cases h
  · rename_i fuel n seg wc' pc' _ _ ha
    obtain ⟨r, hr, e⟩ := Option.map_eq_some_iff.mp h
    cases e
    exact ⟨fuel, n, wc', pc', hr, Or.inl ha⟩
  · rename_i fuel n seg _ _ hc
    obtain ⟨r, hr, e⟩ := Option.map_eq_some_iff.mp h
    cases e
    exact ⟨fuel, n, wc, pc, hr, Or.inr (by rw [hc])⟩

theorem parseLoopW_raw : (fuel : Nat) → (p w : Bytes) → (wc pc : Nat) → (raw : List Seg) →
    parseLoopW fuel p w wc pc = some raw → ∀ s ∈ raw, RawOK s
  | _, _, _, _, _, [], _ => fun _ hs => nomatch hs
  | _, _, _, _, _, s0 :: rest, h => by
    obtain ⟨fuel', n, wc', pc', hr, hs0⟩ := parseLoopW_cons h
    intro s hs
    rcases List.mem_cons.mp hs with rfl | hs
    · rcases hs0 with ha | rfl
      · exact (analyseParameterPartW_raw ha).2
      · exact ⟨rfl, rfl, fun _ => ⟨rfl, rfl⟩, fun h => nomatch h⟩
    · exact parseLoopW_raw fuel' _ _ _ _ rest hr s hs

theorem parseRouteW_unfold {p w : Bytes} {pp : Parser} (h : parseRouteW p w = some pp) :
    ∃ w' raw, (w.length = p.length → w' = w) ∧ parseLoopW p.length p w' 0 0 = some raw ∧
      addParameterMetaInfo (markLast raw) = some pp.segs ∧ pp.params = paramNames pp.segs := by
  revert h
  fun_cases parseRouteW p w <;> intro h <;> cases h
  rename_i w' raw hr segs hm
  exact ⟨w', raw, fun e => by simp [w', e], hr, hm, rfl⟩

theorem parseRouteW_core {p w : Bytes} {pp : Parser} (h : parseRouteW p w = some pp) :
    ∃ w' raw, (w.length = p.length → w' = w) ∧ parseLoopW p.length p w' 0 0 = some raw ∧
      CoreL raw pp.segs := by
  obtain ⟨w', raw, hw, hr, hm, _⟩ := parseRouteW_unfold h
  exact ⟨w', raw, hw, hr, finish_core hm⟩

theorem parseRouteW_of_parseRoute {p : Bytes} {pp : Parser} (h : parseRoute p = some pp) :
    parseRouteW p p = some pp := parseRouteW_self p ▸ h

theorem parseRoute_core {p : Bytes} {pp : Parser} (h : parseRoute p = some pp) :
    ∃ raw, parseLoop p.length p 0 0 = some raw ∧ CoreL raw pp.segs := by
  obtain ⟨w', raw, hw, hr, hc⟩ := parseRouteW_core (parseRouteW_of_parseRoute h)
  rw [hw rfl, parseLoopW_self] at hr
  exact ⟨raw, hr, hc⟩

theorem parseRouteW_param_const {p w : Bytes} {pp : Parser} (h : parseRouteW p w = some pp) :
    ∀ s ∈ pp.segs, s.isParam = true → s.const = [] := by
  obtain ⟨w', raw, _, hr, hc⟩ := parseRouteW_core h
  exact hc.param_const (parseLoopW_raw _ _ _ _ _ raw hr)

theorem parseRoute_param_const {p : Bytes} {pp : Parser} (h : parseRoute p = some pp) :
    ∀ s ∈ pp.segs, s.isParam = true → s.const = [] :=
  parseRouteW_param_const (parseRouteW_of_parseRoute h)

theorem parseRouteW_params {p w : Bytes} {pp : Parser} (h : parseRouteW p w = some pp) :
    pp.params = paramNames pp.segs := by
  obtain ⟨_, _, _, _, _, hp⟩ := parseRouteW_unfold h
  exact hp

theorem parseRoute_params {p : Bytes} {pp : Parser} (h : parseRoute p = some pp) :
    pp.params = paramNames pp.segs :=
  parseRouteW_params (parseRouteW_of_parseRoute h)

theorem parseLoopW_head_const {fuel : Nat} {p w : Bytes} {wc pc : Nat} {s0 : Seg} {rest : List Seg}
    (h : parseLoopW fuel p w wc pc = some (s0 :: rest)) (hc : s0.isParam = false) :
    s0.const <+: removeEscapeChar p := by
  obtain ⟨_, _, _, _, _, ha | rfl⟩ := parseLoopW_cons h
  · rw [(analyseParameterPartW_raw ha).1] at hc; cases hc
  · unfold analyseConstantPart
    cases findNextParamPosition p with
    | none => exact List.prefix_refl _
    | some k => exact (List.take_prefix k p).filter _

theorem parseRouteW_head_const {p w : Bytes} {pp : Parser} {s0 : Seg} {rest : List Seg}
    (h : parseRouteW p w = some pp) (hs : pp.segs = s0 :: rest) (hc : s0.isParam = false) :
    s0.const <+: removeEscapeChar p := by
  obtain ⟨w', raw, _, hr, hcore⟩ := parseRouteW_core h
  rw [hs] at hcore
  cases hcore with
  | cons hab _ =>
    rw [hab.1]
    exact parseLoopW_head_const hr (hab.2.1 ▸ hc)

theorem parseRoute_head_const {p : Bytes} {pp : Parser} {s0 : Seg} {rest : List Seg}
    (h : parseRoute p = some pp) (hs : pp.segs = s0 :: rest) (hc : s0.isParam = false) :
    s0.const <+: removeEscapeChar p :=
  parseRouteW_head_const (parseRouteW_of_parseRoute h) hs hc

theorem register_inv {cfg : Config} {use : Bool} {pattern : Bytes} {r : Route}
    (hr : register cfg use pattern = some r) :
    ∃ pr, parseRoute (rawPattern pattern) = some pr ∧ r.params = pr.params ∧
      parseRouteW (prettyPattern cfg pattern) ((rawPattern pattern).take (prettyPattern cfg pattern).length)
        = some r.parser ∧
      r.use = use ∧ r.pathRaw = rawPattern pattern ∧
      r.path = removeEscapeChar (prettyPattern cfg pattern) ∧
      r.star = (prettyPattern cfg pattern == [SLASH, STAR]) ∧
      r.root = (removeEscapeChar (prettyPattern cfg pattern) == [SLASH]) := by
  revert hr
  fun_cases register cfg use pattern <;> intro hr <;> cases hr
  rename_i pr pp hpp hpr
  exact ⟨pr, hpr, rfl, hpp, rfl, rfl, rfl, rfl, rfl⟩

theorem paramSegs_cons (s : Seg) (rest : List Seg) :
    paramSegs (s :: rest) = if s.isParam then s :: paramSegs rest else paramSegs rest := by
  unfold paramSegs
  cases h : s.isParam <;> simp [List.filter, h]

theorem paramSegs_const {s : Seg} (rest : List Seg) (h : s.isParam = false) :
    paramSegs (s :: rest) = paramSegs rest := by
  rw [paramSegs_cons, h]; rfl

theorem paramSegs_param {s : Seg} (rest : List Seg) (h : s.isParam = true) :
    paramSegs (s :: rest) = s :: paramSegs rest := by
  rw [paramSegs_cons, h]; rfl

end C02
