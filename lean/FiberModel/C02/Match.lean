import FiberModel.C02.Lemmas
import FiberModel.BasicLemmas
/-
C02 — the matcher: `findParamLen` branch by branch, the equations of `getMatch`
and how a successful match is made up (`Matched`).
-/
namespace C02
open B

theorem findGreedyLoop_le (cp : Bytes) (i sc : Nat) (s : Bytes) : (findGreedyLoop cp i sc s).length ≤ s.length := by
  fun_induction findGreedyLoop cp i sc s
  iterate 3 exact Nat.le_refl _
  · rename_i ih
    exact Nat.le_trans ih (List.length_take_le' _ _)

theorem findParamLenForLastSegment_le (s : Bytes) (seg : Seg) : findParamLenForLastSegment s seg ≤ s.length := by
  unfold findParamLenForLastSegment
  split
  · split
    · rename_i i hi; exact Nat.le_of_lt (indexByte_lt hi)
    · exact Nat.le_refl _
  · exact Nat.le_refl _

theorem findParamLen_last {s : Bytes} {seg : Seg} (hl : seg.isLast = true) :
    findParamLen s seg = findParamLenForLastSegment s seg := by
  unfold findParamLen
  rw [if_pos hl]

/-- the `Length` rule (a non-greedy parameter directly followed by another non-greedy one takes one byte) -/
theorem findParamLen_length {s : Bytes} {seg : Seg} (hl : seg.isLast = false)
    (hlen : (seg.length != 0 && decide (s.length ≥ seg.length)) = true) :
    findParamLen s seg = if (s.take seg.length).contains SLASH then 0 else seg.length := by
  unfold findParamLen
  rw [if_neg (by rw [hl]; exact Bool.false_ne_true), if_pos hlen]

theorem findParamLen_greedy {s : Bytes} {seg : Seg} (hl : seg.isLast = false)
    (hlen : (seg.length != 0 && decide (s.length ≥ seg.length)) = false)
    (hg : (seg.isGreedy && decide (count s seg.comparePart > 1)) = true) :
    findParamLen s seg = findGreedyParamLen s (count s seg.comparePart) seg := by
  unfold findParamLen
  rw [if_neg (by rw [hl]; exact Bool.false_ne_true), if_neg (by rw [hlen]; exact Bool.false_ne_true), if_pos hg]

/-- Behind the three early exits `findParamLen` searches for `ComparePart` (a one-byte `ComparePart`
    with `IndexByte`, which finds the same offset). -/
theorem findParamLen_search {s : Bytes} {seg : Seg} (hl : seg.isLast = false)
    (hlen : (seg.length != 0 && decide (s.length ≥ seg.length)) = false)
    (hg : (seg.isGreedy && decide (count s seg.comparePart > 1)) = false) :
    findParamLen s seg =
      match indexOf s seg.comparePart with
      | some k => if !seg.isGreedy && (s.take k).contains SLASH then 0 else k
      | none => s.length := by
  unfold findParamLen
  rw [if_neg (by rw [hl]; exact Bool.false_ne_true), if_neg (by rw [hlen]; exact Bool.false_ne_true),
    if_neg (by rw [hg]; exact Bool.false_ne_true)]
  split
  · rename_i h1
    obtain ⟨c, hc⟩ := List.length_eq_one_iff.mp (beq_iff_eq.mp h1)
    rw [hc, indexOf_singleton]
    rfl
  · rfl

theorem findParamLen_le (s : Bytes) (seg : Seg) : findParamLen s seg ≤ s.length := by
  cases hl : seg.isLast
  · cases hlen : (seg.length != 0 && decide (s.length ≥ seg.length))
    · cases hg : (seg.isGreedy && decide (count s seg.comparePart > 1))
      · rw [findParamLen_search hl hlen hg]
        split
        · rename_i k hk
          split
          · exact Nat.zero_le _
          · exact Nat.le_of_add_right_le (indexOf_le hk)
        · exact Nat.le_refl _
      · rw [findParamLen_greedy hl hlen hg]
        exact findGreedyLoop_le _ _ _ _
    · rw [findParamLen_length hl hlen]
      simp only [Bool.and_eq_true, decide_eq_true_eq] at hlen
      split
      · exact Nat.zero_le _
      · exact hlen.2
  · rw [findParamLen_last hl]
    exact findParamLenForLastSegment_le s seg

theorem fullConst_some {s : Bytes} {seg seg' : Seg} {following : List Seg}
    (h : fullConst s seg following = some seg') :
    ∃ cp n, seg' = { seg with comparePart := cp, partCount := n } ∧ (indexOf s cp).isSome = true ∧
      seg.isLast = false ∧ (seg.length != 0 && decide (s.length ≥ seg.length)) = false := by
  revert h
  fun_cases fullConst s seg following <;> intro h <;> cases h
  rename_i hguard _ _ hc
  rw [Bool.and_eq_true] at hc
  rw [Bool.not_eq_true, Bool.or_eq_false_iff] at hguard
  exact ⟨_, _, rfl, hc.2, hguard.1, hguard.2⟩

theorem fullConst_fields {s : Bytes} {seg seg' : Seg} {following : List Seg}
    (h : fullConst s seg following = some seg') :
    seg'.isLast = seg.isLast ∧ seg'.length = seg.length ∧ seg'.isGreedy = seg.isGreedy ∧
    seg'.isOptional = seg.isOptional ∧ seg'.isParam = seg.isParam ∧ seg'.constraints = seg.constraints := by
  obtain ⟨_, _, rfl, _⟩ := fullConst_some h
  exact ⟨rfl, rfl, rfl, rfl, rfl, rfl⟩

theorem paramLen_le (s : Bytes) (seg : Seg) (following : List Seg) : paramLen s seg following ≤ s.length := by
  unfold paramLen
  split
  · exact findParamLen_le s seg
  · split
    · unfold findGreedyParamLen; exact findGreedyLoop_le _ _ _ _
    · exact findParamLen_le s _

/-- the two early returns of `findParamLen` come before the locals are set -/
theorem paramLen_guard {s : Bytes} {seg : Seg} (following : List Seg)
    (hg : seg.isLast = true ∨ (seg.length ≠ 0 ∧ s.length ≥ seg.length)) :
    paramLen s seg following = findParamLen s seg := by
  have hgb : (seg.isLast || (seg.length != 0 && decide (s.length ≥ seg.length))) = true := by
    simpa only [Bool.or_eq_true, Bool.and_eq_true, bne_iff_ne, ne_eq, decide_eq_true_eq] using hg
  rw [paramLen, fullConst.eq_def, if_pos hgb]

theorem paramLen_nil (s : Bytes) (seg : Seg) : paramLen s seg [] = findParamLen s seg := by
  rw [paramLen, fullConst.eq_def, ite_self]

theorem paramLen_cons {s : Bytes} {seg n : Seg} {rest : List Seg}
    (hg : ¬ (seg.isLast = true ∨ (seg.length ≠ 0 ∧ s.length ≥ seg.length))) :
    paramLen s seg (n :: rest) =
      if n.const.length > seg.comparePart.length ∧ (indexOf s n.const).isSome = true then
        (if seg.isGreedy then
          findGreedyParamLen s (count s n.const)
            { seg with comparePart := n.const, partCount := partCountOf n.const (n :: rest) }
         else findParamLen s { seg with comparePart := n.const, partCount := partCountOf n.const (n :: rest) })
      else findParamLen s seg := by
  have hgb : ¬ (seg.isLast || (seg.length != 0 && decide (s.length ≥ seg.length))) = true := by
    simpa only [Bool.or_eq_true, Bool.and_eq_true, bne_iff_ne, ne_eq, decide_eq_true_eq] using hg
  have hb : (decide (n.const.length > seg.comparePart.length) && (indexOf s n.const).isSome) = true ↔
      n.const.length > seg.comparePart.length ∧ (indexOf s n.const).isSome = true := by
    rw [Bool.and_eq_true, decide_eq_true_eq]
  rw [paramLen, fullConst.eq_def, if_neg hgb]
  dsimp only
  by_cases h : n.const.length > seg.comparePart.length ∧ (indexOf s n.const).isSome = true
  · rw [if_pos h, if_pos (hb.mpr h)]
  · rw [if_neg h, if_neg (mt hb.mp h)]

/-! ### one step of `getMatch`

The Go loop slices `detectionPath[i:]` only when `partLen > 0`; with `partLen = 0` the offset is 0
as well, so the two equations below always slice. -/

theorem getMatch_const {chk : Constraint → Bytes → Bool} {seg : Seg} {rest : List Seg}
    {det path : Bytes} {pc : Bool} (hc : seg.isParam = false) :
    getMatch chk (seg :: rest) det path pc =
      if seg.hasOptionalSlash && seg.length > 0 && det.length == seg.length - 1 &&
          det == seg.const.take (seg.length - 1)
      then getMatch chk rest [] (path.drop (seg.length - 1)) pc
      else if seg.length ≤ det.length && det.take seg.length == seg.const
      then getMatch chk rest (det.drop seg.length) (path.drop seg.length) pc
      else none := by
  rw [getMatch, if_pos (by rw [hc]; rfl)]
  dsimp only
  split
  · rename_i hb
    simp only [Bool.and_eq_true, decide_eq_true_eq, beq_iff_eq] at hb
    split
    · rw [List.drop_eq_nil_of_le (by omega)]
    · obtain rfl : det = [] := List.eq_nil_of_length_eq_zero (by omega)
      rw [show seg.length - 1 = 0 from hb.1.2.symm]
      rfl
  · split
    · rename_i hb
      simp only [Bool.and_eq_true, decide_eq_true_eq] at hb
      split
      · rfl
      · rw [show seg.length = 0 by omega]; rfl
    · rfl

theorem getMatch_param {chk : Constraint → Bytes → Bool} {seg : Seg} {rest : List Seg}
    {det path : Bytes} {pc : Bool} (hp : seg.isParam = true) :
    getMatch chk (seg :: rest) det path pc =
      if !seg.isOptional && paramLen det seg rest == 0 then none
      else if !(seg.isOptional && paramLen det seg rest == 0) &&
          !(seg.constraints.all (chk · (path.take (paramLen det seg rest)))) then none
      else (getMatch chk rest (det.drop (paramLen det seg rest)) (path.drop (paramLen det seg rest)) pc).map
        (path.take (paramLen det seg rest) :: ·) := by
  rw [getMatch, if_neg (by rw [hp]; exact Bool.false_ne_true)]
  dsimp only
  split
  · rfl
  · split
    · rfl
    · split
      · rfl
      · -- an empty detection path leaves no room: the parameter is empty and nothing is sliced
        have : paramLen det seg rest = 0 := by have := paramLen_le det seg rest; omega
        rw [this]; rfl

/-- How a successful `getMatch` is made up, segment by segment. -/
inductive Matched (chk : Constraint → Bytes → Bool) (pc : Bool) : List Seg → Bytes → Bytes → List Bytes → Prop
  | nil {det path : Bytes} : (det.isEmpty || pc) = true → Matched chk pc [] det path []
  /-- the path ends one byte before the end of a constant whose last slash is optional -/
  | slash {seg : Seg} {rest : List Seg} {det path : Bytes} {vs : List Bytes} :
      seg.isParam = false → seg.hasOptionalSlash = true → seg.length > 0 → det.length = seg.length - 1 →
      det = seg.const.take (seg.length - 1) → Matched chk pc rest [] (path.drop (seg.length - 1)) vs →
      Matched chk pc (seg :: rest) det path vs
  | const {seg : Seg} {rest : List Seg} {det path : Bytes} {vs : List Bytes} :
      seg.isParam = false → seg.length ≤ det.length → det.take seg.length = seg.const →
      Matched chk pc rest (det.drop seg.length) (path.drop seg.length) vs →
      Matched chk pc (seg :: rest) det path vs
  | param {seg : Seg} {rest : List Seg} {det path : Bytes} {vs : List Bytes} :
      seg.isParam = true → (seg.isOptional = true ∨ paramLen det seg rest ≠ 0) →
      (¬ (seg.isOptional = true ∧ paramLen det seg rest = 0) →
        seg.constraints.all (chk · (path.take (paramLen det seg rest))) = true) →
      Matched chk pc rest (det.drop (paramLen det seg rest)) (path.drop (paramLen det seg rest)) vs →
      Matched chk pc (seg :: rest) det path (path.take (paramLen det seg rest) :: vs)

theorem getMatch_matched {chk : Constraint → Bytes → Bool} {pc : Bool} :
    (segs : List Seg) → (det path : Bytes) → (vs : List Bytes) →
    getMatch chk segs det path pc = some vs → Matched chk pc segs det path vs
  | [], det, path, vs, h => by
    unfold getMatch at h
    split at h
    · cases h
    · rename_i hc
      cases h
      exact .nil (by cases hd : det.isEmpty <;> cases hp : pc <;> simp_all)
  | seg :: rest, det, path, vs, h => by
    cases hp : seg.isParam
    · rw [getMatch_const hp] at h
      split at h
      · rename_i hb
        simp only [Bool.and_eq_true, decide_eq_true_eq, beq_iff_eq] at hb
        exact .slash hp hb.1.1.1 hb.1.1.2 hb.1.2 hb.2 (getMatch_matched rest _ _ vs h)
      · split at h
        · rename_i hb
          simp only [Bool.and_eq_true, decide_eq_true_eq, beq_iff_eq] at hb
          exact .const hp hb.1 hb.2 (getMatch_matched rest _ _ vs h)
        · cases h
    · rw [getMatch_param hp] at h
      split at h
      · cases h
      · rename_i h1
        split at h
        · cases h
        · rename_i h2
          obtain ⟨vs', hr, rfl⟩ := Option.map_eq_some_iff.mp h
          refine .param hp ?_ (fun hne => ?_) (getMatch_matched rest _ _ vs' hr)
          · cases ho : seg.isOptional
            · right; intro h0; simp [ho, h0] at h1
            · left; rfl
          · cases hall : seg.constraints.all (chk · (path.take (paramLen det seg rest)))
            · exact absurd (by simpa [hall] using h2) hne
            · rfl

theorem Matched.getMatch {chk : Constraint → Bytes → Bool} {pc : Bool} {segs : List Seg} {det path : Bytes}
    {vs : List Bytes} (h : Matched chk pc segs det path vs) : getMatch chk segs det path pc = some vs := by
  induction h with
  | @nil det path hc =>
    unfold C02.getMatch
    rw [if_neg]
    cases hd : det.isEmpty <;> cases hp : pc <;> simp_all
  | slash hp ho hpos hlen hd _ ih =>
    rw [getMatch_const hp, if_pos, ih]
    simp only [Bool.and_eq_true, decide_eq_true_eq, beq_iff_eq]
    exact ⟨⟨⟨ho, hpos⟩, hlen⟩, hd⟩
  | const hp hle hd _ ih =>
    -- the path holds the whole constant, so it does not end one byte short of it
    rw [getMatch_const hp, if_neg, if_pos, ih]
    · simp only [Bool.and_eq_true, decide_eq_true_eq, beq_iff_eq]; exact ⟨hle, hd⟩
    · simp only [Bool.and_eq_true, decide_eq_true_eq, beq_iff_eq]; omega
  | @param seg rest det path vs hp hreq hcs _ ih =>
    have h1 : (!seg.isOptional && paramLen det seg rest == 0) = false := by
      rcases hreq with h | h <;> simp [h]
    have h2 : (!(seg.isOptional && paramLen det seg rest == 0) &&
        !(seg.constraints.all (chk · (path.take (paramLen det seg rest))))) = false := by
      by_cases h : seg.isOptional = true ∧ paramLen det seg rest = 0
      · simp [h.1, h.2]
      · simp [hcs h]
    rw [getMatch_param hp, h1, h2, ih]
    rfl

theorem Matched.mono {chk : Constraint → Bytes → Bool} {pc : Bool} {segs : List Seg} {det path : Bytes}
    {vs : List Bytes} (h : Matched chk pc segs det path vs) : Matched (fun _ _ => true) pc segs det path vs := by
  induction h with
  | nil hc => exact .nil hc
  | slash hp ho hpos hlen hd _ ih => exact .slash hp ho hpos hlen hd ih
  | const hp hle hd _ ih => exact .const hp hle hd ih
  | param hp hreq _ _ ih => exact .param hp hreq (fun _ => List.all_eq_true.mpr fun _ _ => rfl) ih

end C02
