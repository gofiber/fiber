import FiberModel.C02.Written
/-
C02 — locality of `Route.match` with respect to the 3-byte route-tree key (what C01 assumes of its
abstract matcher as `LocalR`): a route whose first segment is a constant of ≥ 3 bytes can only match
detection paths that carry the same first 3 bytes.

The statement holds for every branch of `Route.match` (root, star, parameters via `getMatch`,
use-prefix, literal) **except** when the constant has exactly 3 bytes and `HasOptionalSlash` is set
(`/a/:x?`, `/a/*`): then the optional-slash shortcut of `getMatch` accepts the 2-byte
path `/a`. That is the decidable side condition; the witness is `match_locality_witness`. (Strict `/a/`
carries the flag too and falls under the side condition, although, declaring no parameter, it is
compared literally and does not match `/a`.)
-/
namespace C02
open B

theorem getMatch_locality {chk : Constraint → Bytes → Bool} {s0 : Seg} {rest : List Seg}
    {det path : Bytes} {pc : Bool} {vs : List Bytes}
    (h : getMatch chk (s0 :: rest) det path pc = some vs) (hc : s0.isParam = false)
    (hl : s0.length = s0.const.length) (h3 : s0.const.length ≥ 3)
    (hno : ¬ (s0.const.length = 3 ∧ s0.hasOptionalSlash = true)) :
    det.length ≥ 3 ∧ det.take 3 = s0.const.take 3 := by
  cases getMatch_matched _ _ _ _ h with
  | slash _ ho _ hlen hd _ =>
    have h4 : s0.const.length > 3 := Nat.lt_of_le_of_ne h3 (fun e => hno ⟨e.symm, ho⟩)
    refine ⟨by omega, ?_⟩
    rw [hd, List.take_take, hl]
    congr 1; omega
  | const _ hle hd _ =>
    refine ⟨by omega, ?_⟩
    rw [← hd, List.take_take]
    congr 1; omega
  | param hp _ _ _ => rw [hc] at hp; cases hp

/-- Locality for the model of `Route.match`, for any route whose `path` starts with the first
    constant (true for every registered route, see `match_locality`). -/
theorem routeMatch_locality {chk : Constraint → Bytes → Bool} {r : Route} {s0 : Seg} {rest : List Seg}
    {det path : Bytes} {vs : List Bytes}
    (hm : routeMatch chk r det path = some vs)
    (hs : r.parser.segs = s0 :: rest) (hc : s0.isParam = false)
    (hl : s0.length = s0.const.length) (hpre : s0.const <+: r.path)
    (hroot : r.root = true → r.path = [SLASH]) (hstar : r.star = true → r.path = [SLASH, STAR])
    (h3 : s0.const.length ≥ 3)
    (hno : ¬ (s0.const.length = 3 ∧ s0.hasOptionalSlash = true)) :
    det.length ≥ 3 ∧ det.take 3 = s0.const.take 3 := by
  have hplen : s0.const.length ≤ r.path.length := hpre.length_le
  have hroot' : r.root = false := by
    cases hr : r.root
    · rfl
    · rw [hroot hr] at hplen; simp at hplen; omega
  have hstar' : r.star = false := by
    cases hr : r.star
    · rfl
    · rw [hstar hr] at hplen; simp at hplen; omega
  -- the use-prefix and the literal branch both say that the route's path is a prefix of `det`
  have key : r.path <+: det → det.length ≥ 3 ∧ det.take 3 = s0.const.take 3 := by
    rintro ⟨t, rfl⟩
    obtain ⟨u, hu⟩ := hpre
    rw [← hu, List.append_assoc]
    exact ⟨by simp only [List.length_append]; omega, List.take_append_of_le_length h3⟩
  unfold routeMatch at hm
  rw [hroot', hstar'] at hm
  simp only [Bool.false_and, Bool.false_eq_true, if_false] at hm
  by_cases hp : r.params.length > 0
  · rw [if_pos hp, hs] at hm
    exact getMatch_locality hm hc hl h3 hno
  · rw [if_neg hp] at hm
    by_cases hu : r.use = true
    · rw [if_pos hu] at hm
      split at hm
      · rename_i hb
        simp only [Bool.and_eq_true, beq_iff_eq] at hb
        exact key (List.prefix_iff_eq_take.mpr hb.2.symm)
      · cases hm
    · rw [if_neg hu] at hm
      split at hm
      · rename_i hb
        exact key (beq_iff_eq.mp hb ▸ List.prefix_refl _)
      · cases hm

/-- C01's `LocalR` for the real matcher. For every route produced by `register` (any configuration,
    `Use` or method route): if the first segment of the routed pattern is a constant with ≥ 3 bytes — and not
    a 3-byte constant with an optional slash — then `Route.match` succeeding on a detection path
    implies that path has ≥ 3 bytes and its first 3 bytes are the constant's first 3 bytes
    (= the route's tree key). -/
theorem match_locality {chk : Constraint → Bytes → Bool} {cfg : Config} {use : Bool} {pattern : Bytes}
    {r : Route} (hr : register cfg use pattern = some r)
    {s0 : Seg} {rest : List Seg} (hs : r.parser.segs = s0 :: rest) (hc : s0.isParam = false)
    (h3 : s0.const.length ≥ 3) (hno : ¬ (s0.const.length = 3 ∧ s0.hasOptionalSlash = true))
    {det path : Bytes} {vs : List Bytes} (hm : routeMatch chk r det path = some vs) :
    det.length ≥ 3 ∧ det.take 3 = s0.const.take 3 := by
  obtain ⟨_, _, _, hpp, _, _, hpath, hstar, hroot⟩ := register_inv hr
  have hok := parseRouteW_segsOK hpp s0 (by rw [hs]; exact List.mem_cons_self ..) hc
  exact routeMatch_locality hm hs hc hok.1 (hpath ▸ parseRouteW_head_const hpp hs hc)
    (fun h => by rw [hroot, beq_iff_eq] at h; rw [hpath, h])
    (fun h => by rw [hstar, beq_iff_eq] at h; rw [hpath, h]; rfl) h3 hno

theorem routeTreeKey_cons {r : Route} {s0 : Seg} {rest : List Seg} (hs : r.parser.segs = s0 :: rest) :
    routeTreeKey r =
      if s0.const.length ≥ 3 ∧ ¬ (s0.const.length = 3 ∧ s0.hasOptionalSlash = true) then s0.const.take 3 else [] := by
  rw [routeTreeKey, hs]
  exact ite_congr (propext (by cases s0.hasOptionalSlash <;> simp <;> omega)) (fun _ => rfl) (fun _ => rfl)

/-- The tree key the router computes equals the first 3 bytes of the detection path under the same
    hypotheses: the request is looked up in the route's own bucket. -/
theorem match_same_bucket {chk : Constraint → Bytes → Bool} {cfg : Config} {use : Bool} {pattern : Bytes}
    {r : Route} (hr : register cfg use pattern = some r)
    {s0 : Seg} {rest : List Seg} (hs : r.parser.segs = s0 :: rest) (hc : s0.isParam = false)
    (h3 : s0.const.length ≥ 3) (hno : ¬ (s0.const.length = 3 ∧ s0.hasOptionalSlash = true))
    {det path : Bytes} {vs : List Bytes} (hm : routeMatch chk r det path = some vs) :
    routeTreeKey r = reqTreeKey det := by
  have := match_locality hr hs hc h3 hno hm
  rw [routeTreeKey_cons hs, if_pos ⟨h3, hno⟩, reqTreeKey, if_pos this.1, this.2]

/-- Locality as a statement about the key alone (the router's view: a route filed under a 3-byte key
    only matches requests that are looked up under that key). -/
theorem match_bucket_of_key {chk : Constraint → Bytes → Bool} {cfg : Config} {use : Bool} {pattern : Bytes}
    {r : Route} (hr : register cfg use pattern = some r) (hk : routeTreeKey r ≠ [])
    {det path : Bytes} {vs : List Bytes} (hm : routeMatch chk r det path = some vs) :
    routeTreeKey r = reqTreeKey det := by
  obtain ⟨_, _, _, hpp, _⟩ := register_inv hr
  cases hs : r.parser.segs with
  | nil => exact absurd (by rw [routeTreeKey, hs]) hk
  | cons s0 rest =>
    rw [routeTreeKey_cons hs] at hk
    split at hk
    · rename_i hc
      -- a parameter segment has no constant
      have hparam : s0.isParam = false := by
        cases hip : s0.isParam
        · rfl
        · rw [parseRouteW_param_const hpp s0 (hs ▸ List.mem_cons_self) hip] at hc
          exact absurd hc.1 (by decide)
      exact match_same_bucket hr hs hparam hc.1 hc.2 hm
    · exact absurd rfl hk

/-- The side condition is necessary: `GET /a/:x?` (default configuration) matches the detection
    path `/a` (2 bytes) although its first constant `/a/` has 3 bytes — which is why `routeTreeKey`
    files such a route in the global bucket, where the request `/a` is looked up. -/
def localityWitness (pattern det : Bytes) : Bool :=
  match register {} false pattern with
  | some r =>
    (match r.parser.segs with
     | s0 :: _ => !s0.isParam && s0.const.length == 3 && s0.hasOptionalSlash
     | [] => false) &&
    (routeMatch (fun _ _ => true) r det det).isSome && decide (det.length < 3)
  | none => false

theorem match_locality_witness : localityWitness (b "/a/:x?") (b "/a") = true := by
  repeat (conv in b _ => rw [b_ofList])
  decide +kernel

/-- Non-vacuity of `match_locality`: `GET /api/:x?` matches `/api` and the hypotheses hold. -/
example :
    (match register {} false (b "/api/:x?") with
     | some r =>
       (match r.parser.segs with
        | s0 :: _ => !s0.isParam && decide (s0.const.length ≥ 3) &&
                     !(s0.const.length == 3 && s0.hasOptionalSlash)
        | [] => false) &&
       routeMatch (fun _ _ => true) r (b "/api") (b "/api") == some [[]]
     | none => false) = true := by
  repeat (conv in b _ => rw [b_ofList])
  decide +kernel

end C02
