/-
Conc — generic interleaving semantics (DESIGN.md §5 / Appendix A), used by C13 and C17.

A system is a global state `G` and a partial step function over labels `A` (a label is a thread id
taking its next atomic step, or an environment action such as a clock tick): `step g a = none`
means the action is disabled (a thread waiting for a mutex, a finished thread …). A schedule is a
`List A`; running a schedule skips disabled actions (the scheduler picked a thread that cannot move:
nothing happens), so *every* list is a schedule and the reachable states are exactly the states
after some schedule. Invariants are proved for `init` and one step and lifted to every schedule by
induction (`inv_run`, `inv_reach`); a property of the single steps taken from reachable states is obtained
from an invariant by `step_of_reach`.
-/
namespace Conc

structure System (G : Type) (A : Type) where
  step : G → A → Option G

variable {G A : Type}

def System.next (S : System G A) (g : G) (a : A) : G :=
  match S.step g a with
  | some g' => g'
  | none => g

def System.run (S : System G A) : G → List A → G
  | g, [] => g
  | g, a :: as => S.run (S.next g a) as

def System.Reach (S : System G A) (g0 g : G) : Prop := ∃ as, S.run g0 as = g

@[simp] theorem run_nil (S : System G A) (g : G) : S.run g [] = g := rfl
@[simp] theorem run_cons (S : System G A) (g : G) (a : A) (as : List A) :
    S.run g (a :: as) = S.run (S.next g a) as := rfl

theorem run_append (S : System G A) (g : G) (as bs : List A) :
    S.run g (as ++ bs) = S.run (S.run g as) bs := by
  induction as generalizing g with
  | nil => rfl
  | cons a as ih => simp [ih]

theorem reach_refl (S : System G A) (g : G) : S.Reach g g := ⟨[], rfl⟩

theorem reach_step (S : System G A) {g0 g g' : G} {a : A} (h : S.Reach g0 g) (hs : S.step g a = some g') :
    S.Reach g0 g' := by
  obtain ⟨as, rfl⟩ := h
  refine ⟨as ++ [a], ?_⟩
  simp [run_append, System.next, hs]

theorem inv_run (S : System G A) (Inv : G → Prop)
    (hstep : ∀ g a g', Inv g → S.step g a = some g' → Inv g')
    {g0 : G} (h0 : Inv g0) (as : List A) : Inv (S.run g0 as) := by
  induction as generalizing g0 with
  | nil => exact h0
  | cons a as ih =>
    apply ih
    unfold System.next
    cases hs : S.step g0 a with
    | none => exact h0
    | some g' => exact hstep g0 a g' h0 hs

theorem inv_reach (S : System G A) (Inv : G → Prop)
    (hstep : ∀ g a g', Inv g → S.step g a = some g' → Inv g')
    {g0 g : G} (h0 : Inv g0) (hr : S.Reach g0 g) : Inv g := by
  obtain ⟨as, rfl⟩ := hr
  exact inv_run S Inv hstep h0 as

theorem step_of_reach (S : System G A) (Inv : G → Prop) (P : G → A → G → Prop)
    (hinv : ∀ g a g', Inv g → S.step g a = some g' → Inv g')
    (hP : ∀ g a g', Inv g → S.step g a = some g' → P g a g')
    {g0 g g' : G} {a : A} (h0 : Inv g0) (hr : S.Reach g0 g) (hs : S.step g a = some g') : P g a g' :=
  hP g a g' (inv_reach S Inv hinv h0 hr) hs

end Conc
