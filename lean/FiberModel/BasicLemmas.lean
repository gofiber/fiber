import FiberModel.Basic
import FiberModel.ListLemmas
/-
What the vocabulary of `Basic.lean` does, as the models use it: `lowerByte` moves no byte that is not a
letter; `indexByte` and `indexOf` return the offset of the first occurrence; `trimRight` returns the longest
prefix that does not end in the byte, and `trim` leaves alone a text that neither starts nor ends in it;
`splitOn` and `join` are core's `List.splitOn` and `List.intercalate`, whose lemmas then apply (it cuts at a
separator and nowhere else, so it undoes `join`); `natToDec` is injective. Proofs only: nothing here
is linked into a driver.
-/
namespace B

theorem lowerByte_eq_iff (x c : Nat) (hc : isUpper c = false) (hl : isLower c = false) :
    lowerByte x = c ↔ x = c := by
  unfold lowerByte
  constructor
  · intro h
    split at h
    · rename_i hu
      simp only [isUpper, isLower, Bool.and_eq_true, Bool.and_eq_false_iff, decide_eq_true_eq,
        decide_eq_false_iff_not] at hu hl
      omega
    · exact h
  · intro h; subst h; rw [hc]; rfl

theorem toLower_contains (a : Bytes) (x : Nat) (hc : isUpper x = false) (hl : isLower x = false) :
    (toLower a).contains x = a.contains x :=
  List.contains_map_of_eq_iff (fun c => lowerByte_eq_iff c x hc hl) a

theorem toLower_id (t : Bytes) (h : ∀ c ∈ t, lowerByte c = c) : toLower t = t :=
  (List.map_congr_left h).trans (List.map_id t)

theorem lowerByte_upperByte (c : Nat) : lowerByte (upperByte c) = lowerByte c := by
  simp only [lowerByte, upperByte, isUpper, isLower, Bool.and_eq_true, decide_eq_true_eq]
  split <;> split <;> (try split) <;> omega

theorem indexByte_cons_eq_some {x c i : Nat} {xs : Bytes} :
    indexByte (x :: xs) c = some i ↔ x = c ∧ i = 0 ∨ x ≠ c ∧ ∃ k, indexByte xs c = some k ∧ k + 1 = i := by
  rw [indexByte]
  by_cases hx : x = c
  · simp [hx, eq_comm]
  · simp [hx]

theorem indexByte_lt {s : Bytes} {c i : Nat} (h : indexByte s c = some i) : i < s.length := by
  induction s generalizing i with
  | nil => cases h
  | cons x xs ih =>
    rcases indexByte_cons_eq_some.mp h with ⟨_, rfl⟩ | ⟨_, k, hk, rfl⟩
    · exact Nat.zero_lt_succ _
    · exact Nat.succ_lt_succ (ih hk)

theorem indexByte_isSome (s : Bytes) (c : Nat) : (indexByte s c).isSome = s.contains c := by
  induction s with
  | nil => rfl
  | cons x xs ih =>
    rw [indexByte, List.contains_cons, ← ih, Bool.beq_comm]
    cases c == x <;> cases indexByte xs c <;> rfl

theorem indexByte_eq_none_iff {s : Bytes} {c : Nat} : indexByte s c = none ↔ s.contains c = false := by
  rw [← indexByte_isSome]
  cases indexByte s c <;> simp

theorem indexByte_take {s : Bytes} {c k : Nat} (h : indexByte s c = some k) : (s.take k).contains c = false := by
  induction s generalizing k with
  | nil => cases h
  | cons x xs ih =>
    rcases indexByte_cons_eq_some.mp h with ⟨_, rfl⟩ | ⟨hx, j, hj, rfl⟩
    · rfl
    · rw [List.take_succ_cons, List.contains_cons, ih hj, Bool.or_false]
      exact beq_eq_false_iff_ne.mpr (Ne.symm hx)

theorem indexOf_prefix (pat r : Bytes) : indexOf (pat ++ r) pat = some 0 := by
  cases h : pat ++ r with
  | nil => rw [indexOf, (List.append_eq_nil_iff.mp h).1]; rfl
  | cons x xs =>
    rw [indexOf, if_pos]
    rw [← h, List.isPrefixOf_iff_prefix]
    exact List.prefix_append pat r

theorem indexOf_nil (s : Bytes) : indexOf s [] = some 0 :=
  indexOf_prefix [] s

theorem indexOf_singleton (s : Bytes) (c : Nat) : indexOf s [c] = indexByte s c := by
  induction s with
  | nil => rfl
  | cons x xs ih =>
    rw [indexOf, indexByte, ih, List.isPrefixOf, List.isPrefixOf, Bool.and_true, Bool.beq_comm]

/-- `strings.Index` finds an occurrence: the text splits around the pattern at the returned offset. -/
theorem indexOf_split {s pat : Bytes} {i : Nat} (h : indexOf s pat = some i) :
    ∃ p r, s = p ++ pat ++ r ∧ p.length = i := by
  induction s generalizing i with
  | nil =>
    rw [indexOf] at h
    split at h
    · rename_i he
      cases h
      exact ⟨[], [], by rw [List.isEmpty_iff.mp he]; rfl, rfl⟩
    · cases h
  | cons x xs ih =>
    rw [indexOf] at h
    split at h
    · rename_i hp
      cases h
      obtain ⟨r, hr⟩ := List.isPrefixOf_iff_prefix.mp hp
      exact ⟨[], r, hr.symm, rfl⟩
    · obtain ⟨k, hk, rfl⟩ := Option.map_eq_some_iff.mp h
      obtain ⟨p, r, hs, hl⟩ := ih hk
      exact ⟨x :: p, r, by rw [hs]; rfl, by rw [List.length_cons, hl]⟩

/-- … and it is the first one: an occurrence after `p` bounds the result by `p.length`. -/
theorem indexOf_le_of_split (p pat r : Bytes) : ∃ j, indexOf (p ++ pat ++ r) pat = some j ∧ j ≤ p.length := by
  induction p with
  | nil => exact ⟨0, indexOf_prefix pat r, Nat.le_refl _⟩
  | cons a p ih =>
    obtain ⟨j, hj, hle⟩ := ih
    rw [List.cons_append, List.cons_append, indexOf]
    split
    · exact ⟨0, rfl, Nat.zero_le _⟩
    · exact ⟨j + 1, by rw [hj]; rfl, Nat.succ_le_succ hle⟩

/-- The pattern is a variable and only its first byte is named, so that a literal (`b "://"`) can be passed as it
    stands. -/
theorem indexOf_append_of_not_mem {a pat : Bytes} {c : Nat} (r : Bytes) (hp : pat.head? = some c) (h : c ∉ a) :
    indexOf (a ++ r) pat = (indexOf r pat).map (· + a.length) := by
  obtain ⟨p', rfl⟩ : ∃ p', pat = c :: p' := by
    cases pat with
    | nil => cases hp
    | cons d p' => exact ⟨p', by rw [Option.some.inj hp]⟩
  induction a with
  | nil => rw [List.nil_append]; cases indexOf r (c :: p') <;> rfl
  | cons x xs ih =>
    have hx : (c == x) = false := beq_eq_false_iff_ne.mpr fun e => h (e ▸ List.mem_cons_self)
    simp only [List.cons_append, indexOf, List.isPrefixOf, hx, Bool.false_and, Bool.false_eq_true, if_false]
    rw [ih fun m => h (List.mem_cons_of_mem _ m)]
    cases indexOf r (c :: p') <;> simp [Nat.add_assoc]

theorem indexOf_append_append_of_not_mem {a pat : Bytes} {c : Nat} (r : Bytes) (hp : pat.head? = some c) (h : c ∉ a) :
    indexOf (a ++ pat ++ r) pat = some a.length := by
  rw [List.append_assoc, indexOf_append_of_not_mem _ hp h, indexOf_prefix, Option.map_some, Nat.zero_add]

theorem indexOf_le {s pat : Bytes} {i : Nat} (h : indexOf s pat = some i) : i + pat.length ≤ s.length := by
  obtain ⟨p, r, rfl, rfl⟩ := indexOf_split h
  simp only [List.length_append]
  omega

theorem indexOf_take_drop {s pat : Bytes} {i : Nat} (h : indexOf s pat = some i) :
    s = s.take i ++ (pat ++ s.drop (i + pat.length)) := by
  obtain ⟨p, r, rfl, rfl⟩ := indexOf_split h
  simp

theorem indexOf_isSome_of_infix {s pat : Bytes} (h : pat <:+: s) : (indexOf s pat).isSome = true := by
  obtain ⟨p, r, rfl⟩ := h
  obtain ⟨j, hj, _⟩ := indexOf_le_of_split p pat r
  rw [hj]; rfl

theorem indexOf_eq_none_of_not_mem {s pat : Bytes} {c : Nat} (hp : pat.head? = some c) (h : c ∉ s) :
    indexOf s pat = none := by
  cases hi : indexOf s pat with
  | none => rfl
  | some i =>
    obtain ⟨p, r, rfl, _⟩ := indexOf_split hi
    cases pat with
    | nil => cases hp
    | cons d p' => exact absurd (by rw [Option.some.inj hp]; simp) h

theorem indexByte_eq_none_of_not_mem {s : Bytes} {c : Nat} (h : c ∉ s) : indexByte s c = none :=
  indexByte_eq_none_iff.mpr (List.contains_eq_false_of_not_mem h)

theorem indexByte_append_cons_of_not_mem {a : Bytes} {c : Nat} (r : Bytes) (h : c ∉ a) :
    indexByte (a ++ c :: r) c = some a.length := by
  rw [← indexOf_singleton, ← List.singleton_append, ← List.append_assoc, indexOf_append_append_of_not_mem r rfl h]

theorem indexByte_append_ge {a : Bytes} {c p : Nat} (r : Bytes) (ha : c ∉ a) (h : indexByte (a ++ r) c = some p) :
    a.length ≤ p := by
  rw [← indexOf_singleton, indexOf_append_of_not_mem r rfl ha] at h
  obtain ⟨q, _, rfl⟩ := Option.map_eq_some_iff.mp h
  exact Nat.le_add_left _ _

theorem trimRight_prefix (s : Bytes) (c : Nat) : trimRight s c <+: s :=
  List.reverse_dropWhile_reverse_prefix _ s

theorem trimRight_of_getLast_ne (s : Bytes) (c : Nat) (h : s.getLast? ≠ some c) : trimRight s c = s :=
  List.reverse_dropWhile_reverse_of_getLast fun _ e => beq_eq_false_iff_ne.2 fun ac => h (ac ▸ e)

theorem trimRight_getLast (s : Bytes) (c : Nat) : (trimRight s c).getLast? ≠ some c := by
  unfold trimRight
  rw [List.getLast?_reverse]
  intro h
  have := List.head?_dropWhile_not (· == c) s.reverse
  rw [h] at this
  simp at this

theorem trimRight_idem (s : Bytes) (c : Nat) : trimRight (trimRight s c) c = trimRight s c :=
  trimRight_of_getLast_ne _ _ (trimRight_getLast s c)

theorem trimRight_split (s : Bytes) (c : Nat) : ∃ sl, (∀ x ∈ sl, x = c) ∧ s = trimRight s c ++ sl := by
  refine ⟨(s.reverse.takeWhile (· == c)).reverse, fun x hx => ?_, ?_⟩
  · exact eq_of_beq (List.mem_takeWhile (p := (· == c)) (List.mem_reverse.mp hx))
  · unfold trimRight
    rw [← List.reverse_append, List.takeWhile_append_dropWhile, List.reverse_reverse]

/-- `hf` is what `lowerByte_eq_iff` says of case folding at a byte that is no letter: with it, folding the case of a
    path and trimming its slashes are swapped. -/
theorem trimRight_map {f : Nat → Nat} {c : Nat} (hf : ∀ x, f x = c ↔ x = c) (s : Bytes) :
    trimRight (s.map f) c = (trimRight s c).map f := by
  have : ((· == c) ∘ f) = (· == c) := funext fun x => Bool.eq_iff_iff.mpr (by simp [hf x])
  unfold trimRight
  rw [← List.map_reverse, List.dropWhile_map, this, List.map_reverse]

theorem trimRight_append (a l : Bytes) (c : Nat) :
    trimRight (a ++ l) c = if (trimRight l c).isEmpty then trimRight a c else a ++ trimRight l c := by
  unfold trimRight
  rw [List.reverse_append, List.dropWhile_append]
  by_cases h : (List.dropWhile (· == c) l.reverse).isEmpty = true
  · simp [h]
  · simp [h]

theorem trimRight_append_replicate (s : Bytes) (c : Nat) (n : Nat) :
    trimRight (s ++ List.replicate n c) c = trimRight s c := by
  unfold trimRight
  rw [List.reverse_append, List.reverse_replicate]
  congr 1
  induction n with
  | zero => simp
  | succ n ih => simp [List.replicate_succ, ih]

theorem trim_id (s : Bytes) (c : Nat) (h1 : s.head? ≠ some c) (h2 : s.getLast? ≠ some c) : trim s c = s := by
  rw [trim, trimLeft, List.dropWhile_beq_eq_self_of_head?_ne h1, trimRight_of_getLast_ne s c h2]

theorem trim_replicate (c n m : Nat) (X : Bytes) (h0 : X ≠ []) (h : c ∉ X) :
    trim (List.replicate n c ++ X ++ List.replicate m c) c = X := by
  have rep (k : Nat) : ∀ x ∈ List.replicate k c, (x == c) = true :=
    fun x hx => by rw [(List.mem_replicate.mp hx).2]; exact beq_self_eq_true c
  have stop (y : Nat) (hy : y ∈ X) : (y == c) = false := beq_false_of_ne fun e => h (e ▸ hy)
  have hr (y : Nat) (hy : X.reverse.head? = some y) : (y == c) = false :=
    stop y (List.mem_reverse.mp (List.mem_of_head? hy))
  obtain ⟨a, t, rfl⟩ := List.exists_cons_of_ne_nil h0
  -- the left run is dropped up to the first byte of `X`; reversed, the right run comes first and is dropped up to the last
  rw [trim, trimLeft, trimRight, List.append_assoc, List.cons_append,
    List.dropWhile_append_cons_stop _ (rep n) (stop a List.mem_cons_self), ← List.cons_append, List.reverse_append,
    List.reverse_replicate, List.dropWhile_append_stop (rep m) hr, List.reverse_reverse]

theorem splitOn_go_eq (c : Nat) (s acc : Bytes) : splitOn.go c s acc = List.splitOnPPrepend (· == c) s acc := by
  induction s generalizing acc with
  | nil => rfl
  | cons x xs ih => rw [splitOn.go, List.splitOnPPrepend, ih, ih]

theorem splitOn_eq (s : Bytes) (c : Nat) : splitOn s c = s.splitOn c :=
  splitOn_go_eq c s []

theorem join_eq (parts : List Bytes) (sep : Bytes) : join parts sep = sep.intercalate parts := by
  induction parts with
  | nil => rfl
  | cons p ps ih =>
    cases ps with
    | nil => simp [join]
    | cons q qs => rw [List.intercalate_cons_cons, ← ih]; rfl

theorem mem_splitOn_infix {s p : Bytes} {c : Nat} (h : p ∈ splitOn s c) : p <:+: s :=
  List.mem_splitOn_infix (splitOn_eq s c ▸ h)

theorem splitOn_append_cons_of_not_mem {a : Bytes} {c : Nat} (rest : Bytes) (ha : c ∉ a) :
    splitOn (a ++ c :: rest) c = a :: splitOn rest c := by
  rw [splitOn_eq, splitOn_eq, List.splitOn_append_cons_self_of_not_mem ha]

theorem splitOn_eq_singleton {a : Bytes} {c : Nat} (ha : c ∉ a) : splitOn a c = [a] := by
  rw [splitOn_eq, List.splitOn_eq_singleton ha]

theorem splitOn_join (c : Nat) (segs : List Bytes) (hne : segs ≠ []) (hs : ∀ s ∈ segs, c ∉ s) :
    splitOn (join segs [c]) c = segs := by
  rw [splitOn_eq, join_eq, List.splitOn_intercalate c hs hne]

/-- a separator with padding behind it (`"; "`) is the bare separator between pieces that carry the padding in front -/
theorem join_cons_pad (c : Nat) (pad s : Bytes) (rest : List Bytes) :
    join (s :: rest) (c :: pad) = join (s :: rest.map (pad ++ ·)) [c] := by
  induction rest generalizing s with
  | nil => rfl
  | cons t ts ih =>
    have e (u v : Bytes) (l : List Bytes) (sep : Bytes) : join (u :: v :: l) sep = u ++ sep ++ join (v :: l) sep := rfl
    have e' (l : List Bytes) : join ((pad ++ t) :: l) [c] = pad ++ join (t :: l) [c] := by cases l <;> simp [join]
    rw [List.map_cons, e, e, e', ih t]
    simp

theorem splitOn_join_pad (c : Nat) {pad : Bytes} (hpad : c ∉ pad) {s : Bytes} {rest : List Bytes}
    (hs : c ∉ s) (hrest : ∀ t ∈ rest, c ∉ t) :
    splitOn (join (s :: rest) (c :: pad)) c = s :: rest.map (pad ++ ·) := by
  rw [join_cons_pad, splitOn_join c _ (List.cons_ne_nil _ _)]
  exact List.forall_mem_cons.mpr ⟨hs, List.forall_mem_map.mpr fun t ht =>
    fun m => (List.mem_append.mp m).elim hpad (hrest t ht)⟩

theorem natToDec_inj {n m : Nat} (h : natToDec n = natToDec m) : n = m := by
  unfold natToDec at h
  have hd (k : Nat) : (toString k).toList = Nat.toDigits 10 k := Nat.toList_repr
  rw [hd, hd] at h
  have h2 : Nat.toDigits 10 n = Nat.toDigits 10 m :=
    (List.map_inj_right fun _ _ hab => Char.toNat_inj.mp hab).mp h
  have := Nat.ofDigitChars_toDigits (b := 10) (n := n) (by omega) (by omega)
  rw [h2, Nat.ofDigitChars_toDigits (by omega) (by omega)] at this
  exact this.symm

end B
