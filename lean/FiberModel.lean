-- Root of the `FiberModel` library: shared vocabulary only. Property modules are built by name.
import FiberModel.Basic
import FiberModel.ListLemmas
import FiberModel.BasicLemmas
import FiberModel.AssocLemmas
import FiberModel.DriverUtil
